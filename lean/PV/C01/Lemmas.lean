/-
C01: ascending lists (`Sorted`: two with the same members are equal; dropWhile/takeWhile are filters), counting
over an interval (`cnt`), and the generic merge `Spec.merge2` (each step decides its head).
-/
import PV.C01.Spec
import PV.Common.Asc
namespace PV.C01
open Spec

theorem sorted_tail {a : Nat} {l : List Nat} (h : Sorted (a :: l)) : Sorted l := by
  cases l with
  | nil => trivial
  | cons b t => exact h.2

theorem sorted_lt {a : Nat} {l : List Nat} (h : Sorted (a :: l)) : ∀ x ∈ l, a < x := by
  induction l generalizing a with
  | nil => intro x hx; cases hx
  | cons b t ih =>
    intro x hx
    have h1 : a < b := h.1
    rcases List.mem_cons.mp hx with rfl | hx
    · exact h1
    · exact Nat.lt_trans h1 (ih h.2 x hx)

theorem sorted_cons {a : Nat} {l : List Nat} (hl : Sorted l) (h : ∀ x ∈ l, a < x) : Sorted (a :: l) := by
  cases l with
  | nil => trivial
  | cons b t => exact ⟨h b (by simp), hl⟩

theorem sorted_cons_iff {a : Nat} {l : List Nat} : Sorted (a :: l) ↔ (∀ x ∈ l, a < x) ∧ Sorted l :=
  ⟨fun h => ⟨sorted_lt h, sorted_tail h⟩, fun h => sorted_cons h.2 h.1⟩

theorem sorted_not_mem_head {a : Nat} {l : List Nat} (h : Sorted (a :: l)) : a ∉ l := by
  intro hm; exact Nat.lt_irrefl a (sorted_lt h a hm)

theorem sorted_iff {l : List Nat} : Sorted l ↔ l.Pairwise (· < ·) := by
  induction l with
  | nil => exact ⟨fun _ => .nil, fun _ => trivial⟩
  | cons a t ih => rw [sorted_cons_iff, List.pairwise_cons, ih]

theorem sorted_append {l₁ l₂ : List Nat} (h1 : Sorted l₁) (h2 : Sorted l₂)
    (h : ∀ x ∈ l₁, ∀ y ∈ l₂, x < y) : Sorted (l₁ ++ l₂) :=
  sorted_iff.mpr (List.pairwise_append.mpr ⟨sorted_iff.mp h1, sorted_iff.mp h2, h⟩)

theorem sorted_filter {l : List Nat} (p : Nat → Bool) (h : Sorted l) : Sorted (l.filter p) :=
  sorted_iff.mpr ((sorted_iff.mp h).filter p)

theorem decide_mem_filter (p : Nat → Bool) (l : List Nat) (v : Nat) :
    decide (v ∈ l.filter p) = (decide (v ∈ l) && p v) := by
  rw [Bool.eq_iff_iff, Bool.and_eq_true, decide_eq_true_eq, decide_eq_true_eq, List.mem_filter]

theorem sorted_range' (s n : Nat) : Sorted (List.range' s n) := sorted_iff.mpr List.pairwise_lt_range'

theorem sorted_map_add {l : List Nat} (k : Nat) (h : Sorted l) : Sorted (l.map (k + ·)) :=
  sorted_iff.mpr ((sorted_iff.mp h).map _ fun _ _ hab => Nat.add_lt_add_left hab k)

/-- on an ascending list, `takeWhile` / `dropWhile` of a predicate that holds on a prefix are filters. -/
theorem sorted_takeWhile_dropWhile {p : Nat → Bool} {l : List Nat} (hs : Sorted l)
    (hp : ∀ x ∈ l, ∀ y ∈ l, x < y → p y = true → p x = true) :
    l.takeWhile p = l.filter p ∧ l.dropWhile p = l.filter (fun x => !p x) := by
  induction l with
  | nil => exact ⟨rfl, rfl⟩
  | cons a t ih =>
    have iht := ih (sorted_tail hs) (fun x hx y hy => hp x (by simp [hx]) y (by simp [hy]))
    rw [List.takeWhile_cons, List.dropWhile_cons, List.filter_cons, List.filter_cons]
    cases ha : p a
    · have hno : ∀ y ∈ t, p y = false := fun y hy => by
        cases hy' : p y
        · rfl
        · rw [hp a (by simp) y (by simp [hy]) (sorted_lt hs y hy) hy'] at ha; cases ha
      have h1 : t.filter p = [] := List.filter_eq_nil_iff.mpr (fun y hy => by simp [hno y hy])
      have h2 : t.filter (fun x => !p x) = t := List.filter_eq_self.mpr (fun y hy => by simp [hno y hy])
      simp [h1, h2]
    · simp [iht.1, iht.2]

theorem sorted_dropWhile_lt {l : List Nat} (h : Sorted l) (s : Nat) :
    l.dropWhile (· < s) = l.filter (fun v => decide (s ≤ v)) := by
  rw [(sorted_takeWhile_dropWhile (p := (· < s)) h (fun x _ y _ hxy hy => by
    simp only [decide_eq_true_eq] at hy ⊢; omega)).2]
  exact List.filter_congr (fun v _ => by rw [← decide_not, decide_eq_decide, Nat.not_lt])

theorem sorted_takeWhile_lt {l : List Nat} (h : Sorted l) (e : Nat) :
    l.takeWhile (· < e) = l.filter (fun v => decide (v < e)) :=
  (sorted_takeWhile_dropWhile h (fun x _ y _ hxy hy => by simp only [decide_eq_true_eq] at hy ⊢; omega)).1

theorem sorted_ext {l₁ l₂ : List Nat} (h1 : Sorted l₁) (h2 : Sorted l₂)
    (h : ∀ v, v ∈ l₁ ↔ v ∈ l₂) : l₁ = l₂ :=
  Common.Asc.ext (sorted_iff.mp h1) (sorted_iff.mp h2) h

theorem cnt_eq_zero_of_le {p : Nat → Bool} {s e : Nat} (h : e ≤ s) : cnt p s e = 0 := by
  unfold cnt; rw [Nat.sub_eq_zero_of_le h]; rfl

theorem cnt_translate (p : Nat → Bool) (B a b : Nat) :
    cnt p (B + a) (B + b) = cnt (fun w => p (B + w)) a b := by
  unfold cnt
  have h1 : B + b - (B + a) = b - a := by omega
  rw [h1, ← List.map_add_range', List.countP_map]
  rfl

theorem cnt_split (p : Nat → Bool) {s m e : Nat} (h1 : s ≤ m) (h2 : m ≤ e) :
    cnt p s e = cnt p s m + cnt p m e := by
  unfold cnt
  have : e - s = (m - s) + (e - m) := by omega
  rw [this, ← List.range'_append, List.countP_append]
  congr 3
  omega

theorem cnt_succ_left (p : Nat → Bool) {s e : Nat} (h : s < e) :
    cnt p s e = (if p s then 1 else 0) + cnt p (s + 1) e := by
  unfold cnt
  have : e - s = (e - (s + 1)) + 1 := by omega
  rw [this, List.range'_succ, List.countP_cons]
  omega

theorem cnt_congr {p q : Nat → Bool} {s e : Nat} (h : ∀ v, s ≤ v → v < e → p v = q v) :
    cnt p s e = cnt q s e := by
  unfold cnt
  apply List.countP_congr
  intro x hx
  rcases List.mem_range'.mp hx with ⟨i, hi, rfl⟩
  rw [h (s + 1 * i) (by omega) (by omega)]

theorem cnt_false {p : Nat → Bool} {s e : Nat} (h : ∀ v, s ≤ v → v < e → p v = false) :
    cnt p s e = 0 := by
  unfold cnt
  rw [List.countP_eq_zero]
  intro x hx
  rcases List.mem_range'.mp hx with ⟨i, hi, rfl⟩
  rw [h (s + 1 * i) (by omega) (by omega)]; simp

theorem cnt_true {p : Nat → Bool} {s e : Nat} (h : ∀ v, s ≤ v → v < e → p v = true) :
    cnt p s e = e - s := by
  unfold cnt
  have : List.countP p (List.range' s (e - s)) = (List.range' s (e - s)).length := by
    rw [List.countP_eq_length]
    intro x hx
    rcases List.mem_range'.mp hx with ⟨i, hi, rfl⟩
    exact h (s + 1 * i) (by omega) (by omega)
  rw [this, List.length_range']

theorem cnt_interval (a b s e : Nat) (hab : a ≤ b) :
    cnt (fun v => decide (a ≤ v ∧ v ≤ b)) s e = min (b + 1) e - max a s := by
  by_cases h : max a s ≤ min (b + 1) e
  · -- `[s, e)` falls into a part below the interval, the part inside it, and a part above it
    have h1 : s ≤ max a s := Nat.le_max_right ..
    have h3 : min (b + 1) e ≤ e := Nat.min_le_right ..
    rw [cnt_split _ h1 (Nat.le_trans h h3), cnt_split _ h h3,
      cnt_false (fun v _ hv => decide_eq_false (by omega)),
      cnt_true (fun v hv1 hv2 => decide_eq_true (by omega)),
      cnt_false (fun v hv _ => decide_eq_false (by omega)), Nat.zero_add, Nat.add_zero]
  · rw [cnt_false (fun v hv1 hv2 => decide_eq_false (by omega))]
    omega

theorem cnt_or_disjoint (p q : Nat → Bool) (s e : Nat)
    (h : ∀ v, s ≤ v → v < e → ¬ (p v = true ∧ q v = true)) :
    cnt (fun v => p v || q v) s e = cnt p s e + cnt q s e := by
  have key : ∀ l : List Nat, (∀ x ∈ l, ¬ (p x = true ∧ q x = true)) →
      l.countP (fun v => p v || q v) = l.countP p + l.countP q := by
    intro l
    induction l with
    | nil => intro _; rfl
    | cons a t ih =>
      intro hl
      have ha := hl a (List.mem_cons_self ..)
      rw [List.countP_cons, List.countP_cons, List.countP_cons, ih (fun x hx => hl x (List.mem_cons_of_mem _ hx))]
      cases hp : p a <;> cases hq : q a
      · rfl
      · rfl
      · show _ + _ + 1 = _ + 1 + (_ + 0); omega
      · exact absurd ⟨hp, hq⟩ ha
  apply key
  intro x hx
  rcases List.mem_range'.mp hx with ⟨i, hi, rfl⟩
  exact h _ (by omega) (by omega)

theorem length_eq_of_mem {l₁ l₂ : List Nat} (h1 : Sorted l₁) (h2 : Sorted l₂) (h : ∀ v, v ∈ l₁ ↔ v ∈ l₂) :
    l₁.length = l₂.length := by rw [sorted_ext h1 h2 h]

theorem filter_mem_comm {a b : List Nat} (ha : Sorted a) (hb : Sorted b) :
    a.filter (fun v => decide (v ∈ b)) = b.filter (fun v => decide (v ∈ a)) :=
  sorted_ext (sorted_filter _ ha) (sorted_filter _ hb) (fun v => by
    rw [List.mem_filter, List.mem_filter, decide_eq_true_eq, decide_eq_true_eq, And.comm])

/-- `|x ∩ y|`, the form in which every `intersectionCount` kernel is specified. -/
def interLen (x y : List Nat) : Nat := (x.filter (fun v => decide (v ∈ y))).length

theorem interLen_comm {x y : List Nat} (hx : Sorted x) (hy : Sorted y) : interLen x y = interLen y x :=
  congrArg List.length (filter_mem_comm hx hy)

theorem interLen_of_subset {x y : List Nat} (h : ∀ v ∈ x, v ∈ y) : interLen x y = x.length := by
  unfold interLen
  rw [List.filter_eq_self.mpr (fun v hv => decide_eq_true (h v hv))]

/-- `cntList` of an ascending list is `cnt` of its membership predicate: both count `xs ∩ [s, e)`. -/
theorem cntList_eq_cnt {xs : List Nat} (h : Sorted xs) (s e : Nat) :
    cntList xs s e = cnt (fun v => decide (v ∈ xs)) s e := by
  unfold cntList cnt
  rw [List.countP_eq_length_filter, filter_mem_comm (sorted_range' s (e - s)) h]
  refine congrArg List.length (List.filter_congr (fun v _ => ?_))
  rw [← Bool.decide_and, decide_eq_decide, List.mem_range'_1]
  omega

theorem length_eq_cnt {l : List Nat} {m : Nat} (hs : Sorted l) (hlt : ∀ v ∈ l, v < m) :
    l.length = cnt (fun v => decide (v ∈ l)) 0 m := by
  rw [← cntList_eq_cnt hs]
  exact (congrArg List.length (List.filter_eq_self.mpr (fun v hv => by
    rw [decide_eq_true (Nat.zero_le v), decide_eq_true (hlt v hv)]; rfl))).symm

theorem cnt_mono {p q : Nat → Bool} (h : ∀ v, p v = true → q v = true) (s e : Nat) : cnt p s e ≤ cnt q s e := by
  unfold cnt
  exact List.countP_mono_left (fun v _ => h v)

theorem sorted_subset_length_le {l₁ l₂ : List Nat} {m : Nat} (h1 : Sorted l₁) (h2 : Sorted l₂)
    (hlt : ∀ v ∈ l₂, v < m) (hsub : ∀ v ∈ l₁, v ∈ l₂) : l₁.length ≤ l₂.length := by
  rw [length_eq_cnt h1 (fun v hv => hlt v (hsub v hv)), length_eq_cnt h2 hlt]
  exact cnt_mono (fun v hv => decide_eq_true (hsub v (of_decide_eq_true hv))) 0 m

/-- With enough fuel `Spec.merge2` is the fuel-free merge; its members and order are read off there. -/
theorem merge2_eq_merge (f : Bool → Bool → Bool) : ∀ (fuel : Nat) (a b : List Nat), a.length + b.length ≤ fuel →
    merge2 f fuel a b = Common.Asc.merge f a b := by
  have nil_right (a : List Nat) : Common.Asc.merge f a [] = if f true false then a else [] := by
    cases a <;> simp [Common.Asc.merge]
  intro fuel a b
  fun_induction merge2 f fuel a b with
  | case1 a b =>
    intro h
    obtain rfl : a = [] := List.length_eq_zero_iff.mp (by omega)
    obtain rfl : b = [] := List.length_eq_zero_iff.mp (by omega)
    simp [Common.Asc.merge]
  | case2 => simp [Common.Asc.merge]
  | case3 fuel a as h ih | case4 fuel a as h ih =>
    intro hl; rw [ih (by simp at hl ⊢; omega), nil_right, nil_right]; simp [h]
  | case5 fuel b bs h ih | case6 fuel b bs h ih =>
    intro hl; rw [ih (by simp at hl ⊢; omega)]; simp [Common.Asc.merge, h]
  | case7 fuel a as b bs h1 h2 ih | case8 fuel a as b bs h1 h2 ih =>
    intro hl; rw [ih (by simp at hl ⊢; omega)]; simp [Common.Asc.merge, Common.Asc.keep, h1, h2]
  | case9 fuel a as b bs h1 h2 h3 ih | case10 fuel a as b bs h1 h2 h3 ih | case11 fuel a as b bs h1 h2 h3 ih
  | case12 fuel a as b bs h1 h2 h3 ih =>
    intro hl; rw [ih (by simp at hl ⊢; omega)]; simp [Common.Asc.merge, Common.Asc.keep, h1, h2, h3]

theorem merge2_mem (f : Bool → Bool → Bool) (hf : f false false = false) (fuel : Nat) (a b : List Nat)
    (ha : Sorted a) (hb : Sorted b) (hl : a.length + b.length ≤ fuel) (v : Nat) :
    v ∈ merge2 f fuel a b ↔ f (decide (v ∈ a)) (decide (v ∈ b)) = true :=
  merge2_eq_merge f fuel a b hl ▸ Common.Asc.mem_merge hf (sorted_iff.mp ha) (sorted_iff.mp hb) v

theorem merge2_sorted (f : Bool → Bool → Bool) (fuel : Nat) (a b : List Nat) (ha : Sorted a) (hb : Sorted b)
    (hl : a.length + b.length ≤ fuel) : Sorted (merge2 f fuel a b) :=
  merge2_eq_merge f fuel a b hl ▸ sorted_iff.mpr (Common.Asc.asc_merge f (sorted_iff.mp ha) (sorted_iff.mp hb))

end PV.C01
