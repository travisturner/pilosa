/-
C01: the array x array kernels.  Each list kernel is the generic merge `Spec.merge2` for its Boolean function
(`…_eq_merge2`: the kernel never consults `f false false`, so any `f` with the other three values gives it);
the count kernel counts `a ∩ b` walking the shorter side.
-/
import PV.C01.Model
import PV.C01.Lemmas
namespace PV.C01
open Spec

theorem merge2_nil_right_drop (f : Bool → Bool → Bool) (h10 : f true false = false) :
    ∀ (fuel : Nat) (a : List Nat), merge2 f fuel a [] = [] := by
  intro fuel
  induction fuel with
  | zero => intro a; simp [merge2]
  | succ fuel ih =>
    intro a
    cases a with
    | nil => simp [merge2]
    | cons x as => simp [merge2, h10, ih]

theorem merge2_nil_left_drop (f : Bool → Bool → Bool) (h01 : f false true = false) :
    ∀ (fuel : Nat) (b : List Nat), merge2 f fuel [] b = [] := by
  intro fuel
  induction fuel with
  | zero => intro b; simp [merge2]
  | succ fuel ih =>
    intro b
    cases b with
    | nil => simp [merge2]
    | cons y bs => simp [merge2, h01, ih]

theorem intersectArrayArray_eq_merge2 (f : Bool → Bool → Bool)
    (h10 : f true false = false) (h01 : f false true = false) (h11 : f true true = true) :
    ∀ (fuel : Nat) (a b : List Nat), intersectArrayArray fuel a b = merge2 f fuel a b := by
  intro fuel
  induction fuel with
  | zero => intro a b; simp [merge2, intersectArrayArray]
  | succ fuel ih =>
    intro a b
    match a, b with
    | [], [] => simp [merge2, intersectArrayArray]
    | x :: as, [] =>
      simp [merge2, intersectArrayArray, h10, merge2_nil_right_drop f h10]
    | [], y :: bs =>
      simp [merge2, intersectArrayArray, h01, merge2_nil_left_drop f h01]
    | x :: as, y :: bs =>
      simp only [merge2, intersectArrayArray, ih, h10, h01, h11]
      by_cases hxy : x < y
      · simp [hxy]
      · by_cases hyx : y < x
        · simp [hxy, hyx]
        · simp [hxy, hyx]

theorem unionArrayArray_eq_merge2 (f : Bool → Bool → Bool)
    (h10 : f true false = true) (h01 : f false true = true) (h11 : f true true = true) :
    ∀ (fuel : Nat) (a b : List Nat), unionArrayArray fuel a b = merge2 f fuel a b := by
  intro fuel
  induction fuel with
  | zero => intro a b; simp [merge2, unionArrayArray]
  | succ fuel ih =>
    intro a b
    match a, b with
    | [], [] => simp [merge2, unionArrayArray]
    | x :: as, [] => simp [merge2, unionArrayArray, h10, ih]
    | [], y :: bs => simp [merge2, unionArrayArray, h01, ih]
    | x :: as, y :: bs =>
      simp only [merge2, unionArrayArray, ih, h10, h01, h11]
      by_cases hxy : x < y
      · simp [hxy]
      · by_cases hyx : y < x
        · simp [hxy, hyx]
        · simp [hxy, hyx]

theorem differenceArrayArrayL_eq_merge2 (f : Bool → Bool → Bool)
    (h10 : f true false = true) (h01 : f false true = false) (h11 : f true true = false) :
    ∀ (fuel : Nat) (a b : List Nat), differenceArrayArrayL fuel a b = merge2 f fuel a b := by
  intro fuel
  induction fuel with
  | zero => intro a b; simp [merge2, differenceArrayArrayL]
  | succ fuel ih =>
    intro a b
    match a, b with
    | [], [] => simp [merge2, differenceArrayArrayL]
    | x :: as, [] => simp [merge2, differenceArrayArrayL, h10, ih]
    | [], y :: bs =>
      simp [merge2, differenceArrayArrayL, h01, merge2_nil_left_drop f h01]
    | x :: as, y :: bs =>
      simp only [merge2, differenceArrayArrayL, ih, h10, h01, h11]
      by_cases hxy : x < y
      · simp [hxy]
      · by_cases hyx : y < x
        · simp [hxy, hyx]
        · simp [hxy, hyx]

theorem xorArrayArray_eq_merge2 (f : Bool → Bool → Bool)
    (h10 : f true false = true) (h01 : f false true = true) (h11 : f true true = false) :
    ∀ (fuel : Nat) (a b : List Nat), xorArrayArray fuel a b = merge2 f fuel a b := by
  intro fuel
  induction fuel with
  | zero => intro a b; simp [merge2, xorArrayArray]
  | succ fuel ih =>
    intro a b
    match a, b with
    | [], [] => simp [merge2, xorArrayArray]
    | x :: as, [] => simp [merge2, xorArrayArray, h10, ih]
    | [], y :: bs => simp [merge2, xorArrayArray, h01, ih]
    | x :: as, y :: bs =>
      simp only [merge2, xorArrayArray, ih, h10, h01, h11]
      by_cases hxy : x < y
      · simp [hxy]
      · by_cases hyx : y < x
        · simp [hxy, hyx]
        · simp [hxy, hyx]

theorem intersectArrayArray_spec (fuel : Nat) (a b : List Nat) (ha : Sorted a) (hb : Sorted b)
    (hf : a.length + b.length ≤ fuel) :
    Sorted (intersectArrayArray fuel a b) ∧ ∀ v, v ∈ intersectArrayArray fuel a b ↔ (v ∈ a ∧ v ∈ b) := by
  rw [intersectArrayArray_eq_merge2 (fun x y => x && y) rfl rfl rfl]
  refine ⟨merge2_sorted _ fuel a b ha hb hf, fun v => ?_⟩
  rw [merge2_mem _ rfl fuel a b ha hb hf v]
  simp

theorem unionArrayArray_spec (fuel : Nat) (a b : List Nat) (ha : Sorted a) (hb : Sorted b)
    (hf : a.length + b.length ≤ fuel) :
    Sorted (unionArrayArray fuel a b) ∧ ∀ v, v ∈ unionArrayArray fuel a b ↔ (v ∈ a ∨ v ∈ b) := by
  rw [unionArrayArray_eq_merge2 (fun x y => x || y) rfl rfl rfl]
  refine ⟨merge2_sorted _ fuel a b ha hb hf, fun v => ?_⟩
  rw [merge2_mem _ rfl fuel a b ha hb hf v]
  simp

theorem differenceArrayArrayL_spec (fuel : Nat) (a b : List Nat) (ha : Sorted a) (hb : Sorted b)
    (hf : a.length + b.length ≤ fuel) :
    Sorted (differenceArrayArrayL fuel a b) ∧ ∀ v, v ∈ differenceArrayArrayL fuel a b ↔ (v ∈ a ∧ v ∉ b) := by
  rw [differenceArrayArrayL_eq_merge2 (fun x y => x && !y) rfl rfl rfl]
  refine ⟨merge2_sorted _ fuel a b ha hb hf, fun v => ?_⟩
  rw [merge2_mem _ rfl fuel a b ha hb hf v]
  simp

theorem xorArrayArray_spec (fuel : Nat) (a b : List Nat) (ha : Sorted a) (hb : Sorted b)
    (hf : a.length + b.length ≤ fuel) :
    Sorted (xorArrayArray fuel a b) ∧ ∀ v, v ∈ xorArrayArray fuel a b ↔ ((v ∈ a ∧ v ∉ b) ∨ (v ∉ a ∧ v ∈ b)) := by
  rw [xorArrayArray_eq_merge2 (fun x y => x != y) rfl rfl rfl]
  refine ⟨merge2_sorted _ fuel a b ha hb hf, fun v => ?_⟩
  rw [merge2_mem _ rfl fuel a b ha hb hf v]
  by_cases h1 : v ∈ a <;> by_cases h2 : v ∈ b <;> simp [h1, h2]

theorem icAALoop_eq : ∀ (ca cb : List Nat) (n : Nat), Sorted ca → Sorted cb →
    icAALoop ca cb n = n + (ca.filter (fun v => decide (v ∈ cb))).length := by
  intro ca
  induction ca with
  | nil => intro cb n _ _; simp [icAALoop]
  | cons va ca ih =>
    intro cb n ha hb
    -- skipping the values of `cb` below `va` loses nothing that `va :: ca` could meet
    have hcong : (va :: ca).filter (fun v => decide (v ∈ cb))
        = (va :: ca).filter (fun v => decide (v ∈ cb.dropWhile (· < va))) := by
      apply List.filter_congr
      intro x hx
      have hle : va ≤ x := by
        rcases List.mem_cons.mp hx with e | hx
        · omega
        · exact Nat.le_of_lt (sorted_lt ha x hx)
      rw [sorted_dropWhile_lt hb, decide_eq_decide, List.mem_filter, decide_eq_true_eq]
      exact ⟨fun h => ⟨h, hle⟩, fun h => h.1⟩
    have hsd : Sorted (cb.dropWhile (· < va)) := by rw [sorted_dropWhile_lt hb]; exact sorted_filter _ hb
    have hge : ∀ x ∈ cb.dropWhile (· < va), va ≤ x := by
      rw [sorted_dropWhile_lt hb]; exact fun x hx => of_decide_eq_true (List.mem_filter.mp hx).2
    rw [hcong]
    simp only [icAALoop]
    generalize cb.dropWhile (· < va) = d at hsd hge
    match d with
    | [] => simp
    | vb :: cb' =>
      simp only []
      rw [ih _ _ (sorted_tail ha) hsd, List.filter_cons]
      have hle := hge vb (List.mem_cons_self ..)
      by_cases e : vb = va
      · rw [if_pos e, if_pos (by rw [e]; simp), List.length_cons]; omega
      · rw [if_neg e, if_neg]
        simp only [decide_eq_true_eq, List.mem_cons]
        rintro (h | h)
        · exact e h.symm
        · have := sorted_lt hsd va h; omega

theorem intersectionCountArrayArray_spec (a b : List Nat) (ha : Sorted a) (hb : Sorted b) :
    intersectionCountArrayArray a b = interLen a b := by
  unfold intersectionCountArrayArray interLen
  split
  · rw [icAALoop_eq b a 0 hb ha, filter_mem_comm hb ha]; omega
  · rw [icAALoop_eq a b 0 ha hb]; omega

end PV.C01
