/-
C01: the array x run kernels.  intersect and difference filter the array by membership in the runs (the
count kernel is the length of the intersect walk); union and xor emit an interval sequence for `appendAll`;
`differenceRunArray` cuts every run at the array values (`draInner`).
-/
import PV.C01.LemmasRR
namespace PV.C01
open Spec

theorem inRuns_cons_of_gt {vb : Iv} {rb : List Iv} {v : Nat} (h : vb.last < v) :
    inRuns (vb :: rb) v = inRuns rb v := by
  rw [inRuns_cons, (inIv_false_iff vb v).mpr (by omega), Bool.false_or]

theorem inRuns_cons_of_mem {vb : Iv} {rb : List Iv} {v : Nat} (h1 : vb.start ≤ v) (h2 : v ≤ vb.last) :
    inRuns (vb :: rb) v = true := by
  rw [inRuns_cons, (inIv_iff vb v).mpr ⟨h1, h2⟩]; rfl

theorem inRuns_cons_of_sorted_gt {va : Nat} {as : List Nat} {vb : Iv} {rb : List Iv} (ha : Sorted (va :: as))
    (h : vb.last < va) : ∀ x ∈ va :: as, inRuns (vb :: rb) x = inRuns rb x := by
  intro x hx
  apply inRuns_cons_of_gt
  rcases List.mem_cons.mp hx with e | hx
  · omega
  · have := sorted_lt ha x hx; omega

theorem intersectArrayRun_eq_filter : ∀ (fuel : Nat) (a : List Nat) (rb : List Iv), Sorted a → RunsWF rb →
    a.length + rb.length ≤ fuel → intersectArrayRun fuel a rb = a.filter (fun v => inRuns rb v) := by
  intro fuel
  induction fuel with
  | zero =>
    intro a rb _ _ hf
    have ha : a = [] := List.length_eq_zero_iff.mp (by omega)
    subst ha
    simp [intersectArrayRun]
  | succ f ih =>
    intro a rb ha hb hf
    match a, rb with
    | [], _ => simp [intersectArrayRun]
    | va :: as, [] => simp [intersectArrayRun]
    | va :: as, vb :: rb =>
      simp only [intersectArrayRun]
      simp only [List.length_cons] at hf
      by_cases h1 : va < vb.start
      · rw [if_pos h1, ih as (vb :: rb) (sorted_tail ha) hb (by simp only [List.length_cons]; omega),
          List.filter_cons, if_neg (by rw [(RunsWF.above_head hb).not_below h1]; simp)]
      · rw [if_neg h1]
        by_cases h2 : va > vb.last
        · rw [if_pos h2, ih (va :: as) rb ha (RunsWF.tail hb) (by simp only [List.length_cons]; omega)]
          exact List.filter_congr (fun x hx => (inRuns_cons_of_sorted_gt ha h2 x hx).symm)
        · rw [if_neg h2, ih as (vb :: rb) (sorted_tail ha) hb (by simp only [List.length_cons]; omega),
            List.filter_cons, if_pos (inRuns_cons_of_mem (by omega) (by omega))]

/-- the count kernel walks like the intersect kernel and counts what that one keeps. -/
theorem intersectionCountArrayRun_eq_length : ∀ (fuel : Nat) (a : List Nat) (rb : List Iv),
    intersectionCountArrayRun fuel a rb = (intersectArrayRun fuel a rb).length := by
  intro fuel
  induction fuel with
  | zero => intro a rb; rfl
  | succ f ih =>
    intro a rb
    match a, rb with
    | [], _ => simp [intersectionCountArrayRun, intersectArrayRun]
    | va :: as, [] => simp [intersectionCountArrayRun, intersectArrayRun]
    | va :: as, vb :: rb =>
      simp only [intersectionCountArrayRun, intersectArrayRun]
      by_cases h1 : va < vb.start
      · rw [if_pos h1, if_pos h1, ih]
      · rw [if_neg h1, if_neg h1]
        by_cases h2 : va > vb.last
        · rw [if_pos h2, if_neg (by omega), ih]
        · rw [if_neg h2, if_pos (by omega), ih, List.length_cons, Nat.add_comm]

theorem differenceArrayRun_eq_filter : ∀ (fuel : Nat) (a : List Nat) (rb : List Iv), Sorted a → RunsWF rb →
    a.length + rb.length ≤ fuel → differenceArrayRun fuel a rb = a.filter (fun v => !inRuns rb v) := by
  intro fuel
  induction fuel with
  | zero =>
    intro a rb _ _ hf
    have ha : a = [] := List.length_eq_zero_iff.mp (by omega)
    subst ha
    simp [differenceArrayRun]
  | succ f ih =>
    intro a rb ha hb hf
    match a, rb with
    | [], _ => simp [differenceArrayRun]
    | va :: as, [] =>
      have : (va :: as).filter (fun v => !inRuns [] v) = va :: as := by
        rw [List.filter_eq_self]; intro x _; simp
      rw [this]; simp [differenceArrayRun]
    | va :: as, vb :: rb =>
      simp only [differenceArrayRun]
      simp only [List.length_cons] at hf
      by_cases h1 : va < vb.start
      · rw [if_pos h1, ih as (vb :: rb) (sorted_tail ha) hb (by simp only [List.length_cons]; omega),
          List.filter_cons, if_pos (by rw [(RunsWF.above_head hb).not_below h1]; rfl)]
      · rw [if_neg h1]
        by_cases h2 : va ≥ vb.start ∧ va ≤ vb.last
        · rw [if_pos h2, ih as (vb :: rb) (sorted_tail ha) hb (by simp only [List.length_cons]; omega),
            List.filter_cons, if_neg (by rw [inRuns_cons_of_mem h2.1 h2.2]; simp)]
        · rw [if_neg h2, ih (va :: as) rb ha (RunsWF.tail hb) (by simp only [List.length_cons]; omega)]
          exact List.filter_congr (fun x hx => by rw [inRuns_cons_of_sorted_gt ha (by omega) x hx])

/-! ### unionArrayRunEmit: the run x run merge on the array read as one-point runs -/

theorem runsWF_map_single {a : List Nat} (ha : Sorted a) (hlt : ∀ v ∈ a, v < 65536) :
    RunsWF (a.map (fun v => (⟨v, v⟩ : Iv))) := by
  rw [runsWF_iff, List.pairwise_map]
  refine ⟨fun b hb => ?_, sorted_iff.mp ha⟩
  obtain ⟨v, hv, rfl⟩ := List.mem_map.mp hb
  exact ⟨Nat.le_refl _, Nat.le_of_lt_succ (hlt v hv)⟩

theorem inRuns_map_single (a : List Nat) (v : Nat) :
    inRuns (a.map (fun v => (⟨v, v⟩ : Iv))) v = decide (v ∈ a) := by
  induction a with
  | nil => rfl
  | cons x t ih => rw [List.map_cons, inRuns_cons, ih, decide_mem_cons_eq]

theorem unionArrayRunEmit_eq (fuel : Nat) (a : List Nat) (rb : List Iv) :
    unionArrayRunEmit fuel a rb = unionRunRunEmit fuel (a.map (fun v => ⟨v, v⟩)) rb := by
  induction fuel generalizing a rb with
  | zero => rfl
  | succ f ih =>
    match a, rb with
    | [], [] => rfl
    | va :: as, [] => simp only [unionArrayRunEmit, unionRunRunEmit, List.map_cons, ih]
    | [], vb :: rb => simp only [unionArrayRunEmit, unionRunRunEmit, List.map_nil, ih]
    | va :: as, vb :: rb => simp only [unionArrayRunEmit, unionRunRunEmit, List.map_cons, ih]

theorem unionArrayRunEmit_spec (fuel : Nat) (a : List Nat) (rb : List Iv) (ha : Sorted a)
    (hlt : ∀ v ∈ a, v < 65536) (hb : RunsWF rb) (hf : a.length + rb.length ≤ fuel) :
    Emits (unionArrayRunEmit fuel a rb) (fun v => decide (v ∈ a) || inRuns rb v) := by
  rw [unionArrayRunEmit_eq]
  exact (unionRunRunEmit_spec fuel _ rb (runsWF_map_single ha hlt) hb (by rw [List.length_map]; exact hf)).congr
    (fun v => by rw [inRuns_map_single])

theorem inRuns_true_gt {vb : Iv} {rb : List Iv} {v : Nat} (hw : RunsWF (vb :: rb))
    (h : inRuns rb v = true) : vb.last < v := RunsWF.above_tail hw v h

/-- close a semantic goal whose only non-arithmetic atoms are `decide (v ∈ as)` (all of `as` above `va`)
and `inRuns rb v` (all of `rb` after `vb`). -/
macro "xor_sem " hgt:term:max hw:term:max v:term:max as:term:max rb:term:max : tactic => `(tactic|
  (by_cases hm : $v ∈ $as
   · have hm1 := $hgt $v hm
     rw [decide_eq_true hm]
     cases eQ : inRuns $rb $v
     · iv_omega
     · have hq := inRuns_true_gt $hw eQ
       iv_omega
   · rw [decide_eq_false hm]
     cases eQ : inRuns $rb $v
     · iv_omega
     · have hq := inRuns_true_gt $hw eQ
       iv_omega))

/-- `va` lies in the current run: the part of the run below `va` is emitted, the part above it goes on
(the overflow guard says the same as an empty rest, as `vb` ends below 65536). -/
theorem xorArrayRunEmit_in (f va : Nat) (as : List Nat) (vb : Iv) (rb : List Iv) (hvb : vb.last ≤ 65535)
    (h1 : ¬ va < vb.start) (h2 : ¬ va > vb.last) :
    xorArrayRunEmit (f + 1) (va :: as) (some vb) rb =
      (if vb.start < va then [⟨vb.start, va - 1⟩] else []) ++ xorArrayRunEmit f as (ivOpt (va + 1) vb.last) rb := by
  rw [xorArrayRunEmit, if_neg h1, if_neg h2]
  by_cases h3 : va > vb.start
  · rw [if_pos h3, if_pos h3, List.singleton_append]
    by_cases h4 : va < vb.last
    · rw [if_pos h4, ivOpt_pos (by omega)]
    · have e : va = vb.last := by omega
      rw [if_neg h4, ivOpt_neg (by omega), e]
  · have e : va = vb.start := by omega
    rw [if_neg h3, if_neg h3, List.nil_append, e]
    by_cases h5 : vb.start = 65535
    · rw [if_pos h5, ivOpt_neg (by omega)]
    · rw [if_neg h5]
      by_cases h6 : vb.start + 1 > vb.last
      · rw [if_pos h6, ivOpt_neg (by omega)]
      · rw [if_neg h6, ivOpt_pos (by omega)]

/-- fuel: a step loads a run (`osz` becomes 1), or drops an array value or the loaded run. -/
theorem xorArrayRunEmit_gen : ∀ (fuel : Nat) (a : List Nat) (cur : Option Iv) (rb : List Iv),
    Sorted a → (∀ v ∈ a, v < 65536) → RunsWF (optRuns cur rb) →
    2 * a.length + 2 * rb.length + osz cur ≤ fuel →
    Emits (xorArrayRunEmit fuel a cur rb) (fun v => decide (v ∈ a) != inRuns (optRuns cur rb) v) := by
  intro fuel
  induction fuel with
  | zero =>
    intro a cur rb _ _ _ hf
    have ha : a = [] := List.length_eq_zero_iff.mp (by omega)
    have hb : rb = [] := List.length_eq_zero_iff.mp (by omega)
    subst ha hb
    cases cur with
    | some vb => simp only [osz] at hf; omega
    | none => exact Emits.nil (fun v => by simp [optRuns])
  | succ f ih =>
    intro a cur rb ha hlt hw hf
    match a, cur, rb with
    | aa, none, vb :: rb =>
      simp only [xorArrayRunEmit]
      exact ih aa (some vb) rb ha hlt hw (by simp only [osz, List.length_cons] at hf ⊢; omega)
    | [], none, [] => exact Emits.nil (fun v => by simp [optRuns])
    | va :: as, none, [] =>
      have hva := hlt va (by simp)
      exact (ih as none [] (sorted_tail ha) (fun v hv => hlt v (by simp [hv])) trivial
          (by simp only [osz, List.length_cons, List.length_nil] at hf ⊢; omega)).cons (by simp only; omega)
        (((sorted_above_tail ha).mono (Nat.le_succ _)).op _ rfl (above_nil _))
        (fun v => by rw [decide_mem_cons_eq]; simp only [optRuns, inRuns_nil, Bool.bne_false])
    | [], some vb, rb =>
      have hw' : RunsWF (vb :: rb) := hw
      exact (ih [] none rb trivial (fun _ h => nomatch h) (RunsWF.tail hw')
          (by simp only [osz, List.length_nil] at hf ⊢; omega)).cons (RunsWF.head hw')
        ((above_mem_nil _).op _ rfl ((RunsWF.above_tail hw').mono (Nat.le_succ_of_le (RunsWF.head hw').1)))
        (fun v => by simp [optRuns])
    | va :: as, some vb, rb =>
      have hw' : RunsWF (vb :: rb) := hw
      have hgt := sorted_lt ha
      have hva := hlt va (by simp)
      have hvb := RunsWF.head hw'
      have hlt' : ∀ v ∈ as, v < 65536 := fun v hv => hlt v (by simp [hv])
      simp only [osz, List.length_cons] at hf
      by_cases h1 : va < vb.start
      · -- the point `va` lies below `as` and below `vb :: rb`
        rw [xorArrayRunEmit, if_pos h1]
        exact (ih as (some vb) rb (sorted_tail ha) hlt' hw (by simp only [osz]; omega)).cons (by simp only; omega)
          (((sorted_above_tail ha).mono (Nat.le_succ _)).op _ rfl ((RunsWF.above_head hw').mono (Nat.le_of_lt h1)))
          (fun v => by
            rw [decide_mem_cons_eq]
            exact (or_bne_of_disjoint ((sorted_above_tail ha).inIv_and (a := ⟨va, va⟩) v)
              (((RunsWF.above_head hw').mono (Nat.succ_le_of_lt h1)).inIv_and (a := ⟨va, va⟩) v)).symm)
      · by_cases h2 : va > vb.last
        · -- `vb` lies below `va :: as` and below `rb`
          rw [xorArrayRunEmit, if_neg h1, if_pos h2]
          exact (ih (va :: as) none rb ha hlt (RunsWF.tail hw') (by simp only [osz, List.length_cons]; omega)).cons hvb
            (((sorted_above_head ha).mono (by omega)).op _ rfl ((RunsWF.above_tail hw').mono (by omega)))
            (fun v => by
              show _ = (inIv vb v || (decide (v ∈ va :: as) != inRuns rb v))
              rw [optRuns, inRuns_cons, bne_comm (a := decide (v ∈ va :: as)), bne_comm (a := decide (v ∈ va :: as))]
              exact (or_bne_of_disjoint ((RunsWF.above_tail hw').inIv_and v)
                (((sorted_above_head ha).mono (Nat.succ_le_of_lt h2)).inIv_and v)).symm)
        · rw [xorArrayRunEmit_in f va as vb rb hvb.2 h1 h2]
          have RB := optRuns_rem_wf (w := ivOpt (va + 1) vb.last) hw'
            (fun w e => by obtain ⟨h, rfl⟩ := ivOpt_eq_some e; dsimp only; omega)
          exact (ih as (ivOpt (va + 1) vb.last) rb (sorted_tail ha) hlt' RB.1
              (by have := osz_le (ivOpt (va + 1) vb.last); omega)).prefix (by omega)
            (((sorted_above_tail ha).mono (by omega)).op _ rfl RB.2)
            (fun v => by
              rw [inRuns_optRuns (ivOpt (va + 1) vb.last), inIvO_ivOpt, decide_mem_cons_eq]
              simp only [optRuns, inRuns_cons]
              xor_sem hgt hw' v as rb)

theorem xorArrayRunEmit_spec (a : List Nat) (rb : List Iv) (ha : Sorted a)
    (hlt : ∀ v ∈ a, v < 65536) (hb : RunsWF rb) (fuel : Nat) (hf : 2 * (a.length + rb.length) + 2 ≤ fuel) :
    Emits (xorArrayRunEmit fuel a none rb) (fun v => decide (v ∈ a) != inRuns rb v) :=
  xorArrayRunEmit_gen fuel a none rb ha hlt hb (by simp only [osz]; omega)

abbrev unread : Option (Nat × List Nat) → List Nat
  | none => []
  | some (vb, ab) => vb :: ab

def stateOf : List Nat → Option (Nat × List Nat)
  | [] => none
  | vb :: ab => some (vb, ab)

theorem unread_stateOf (l : List Nat) : unread (stateOf l) = l := by
  cases l <;> rfl

theorem unread_draSkip (s : Nat) {st : Option (Nat × List Nat)} (h : Sorted (unread st)) :
    unread (draSkip s st) = (unread st).filter (fun v => decide (s ≤ v)) := by
  rw [← sorted_dropWhile_lt h]
  match st with
  | none => rfl
  | some (vb, ab) =>
    simp only [draSkip, unread]
    rw [List.dropWhile_cons]
    by_cases h : vb < s
    · rw [if_pos h, if_pos (by simp [h])]
      cases hd : List.dropWhile (fun x => decide (x < s)) ab with
      | nil => rfl
      | cons x t => rfl
    · rw [if_neg h, if_neg (by simp [h])]

/-- the run `[s, l]`, if it is not empty, as a run list. -/
theorem Runs.single {s l : Nat} (hl : l ≤ 65535) : Runs (if s ≤ l then [⟨s, l⟩] else []) (inIv ⟨s, l⟩) := by
  by_cases h : s ≤ l
  · rw [if_pos h]; exact ⟨⟨h, hl⟩, fun v => by rw [inRuns_cons, inRuns_nil, Bool.or_false]⟩
  · rw [if_neg h]; exact Runs.nil (fun v => (inIv_false_iff _ v).mpr (by simp only; omega))

/-- semantic goals of `draInner`: the only non-arithmetic atom is `decide (v ∈ ab)`. -/
macro "dra_sem " hgt:term:max hlt:term:max v:term:max ab:term:max : tactic => `(tactic|
  (by_cases hm : $v ∈ $ab
   · have hm1 := $hgt $v hm
     have hm2 := $hlt $v hm
     rw [decide_eq_true hm]
     iv_omega
   · rw [decide_eq_false hm]
     iv_omega))

/-- what one pass of `draInner` over the run `[start, last]` returns when `l` is the unread part of the
array: the values of the run that are not in `l`, as runs; afterwards the part of `l` above the run is
unread, unless the loops were left because the run ends at 65535. -/
def DraPost (start last : Nat) (l : List Nat) (r : List Iv × Option (Nat × List Nat) × Bool) : Prop :=
  Runs r.1 (fun v => inIv ⟨start, last⟩ v && !decide (v ∈ l)) ∧
  (r.2.2 = true → last = 65535) ∧ (r.2.2 = false → unread r.2.1 = l.filter (fun v => decide (last < v)))

/-- nothing of the array is left inside the run: the whole of `[start, last]` (if any) is appended. -/
theorem draPost_whole {start last : Nat} (st : Option (Nat × List Nat)) (hl : last ≤ 65535)
    (hgt : ∀ x ∈ unread st, last < x) :
    DraPost start last (unread st) (if start ≤ last then [⟨start, last⟩] else [], st, false) := by
  refine ⟨(Runs.single hl).congr (fun v => ?_), fun h => (nomatch h), fun _ => ?_⟩
  · by_cases hm : v ∈ unread st
    · have := hgt v hm
      rw [decide_eq_true hm, Bool.not_true, Bool.and_false, eq_comm, inIv_false_iff]; simp only; omega
    · rw [decide_eq_false hm, Bool.not_false, Bool.and_true]
  · symm
    rw [List.filter_eq_self]
    intro x hx
    exact decide_eq_true (hgt x hx)

/-- the stretch in front of the array value `vb`, which lies in the run; `vb` itself is not in the result. -/
theorem dra_cut {start last vb : Nat} {ab : List Nat} (h1 : start ≤ vb) (h2 : vb ≤ last) (hgt : ∀ x ∈ ab, vb < x)
    (v : Nat) : (inIv ⟨start, last⟩ v && !decide (v ∈ vb :: ab)) =
      (decide (start ≤ v ∧ v < vb) || inIv ⟨vb + 1, last⟩ v && !decide (v ∈ ab)) := by
  rw [decide_mem_cons_eq]
  by_cases hm : v ∈ ab
  · have := hgt v hm
    rw [decide_eq_true hm]
    iv_omega
  · rw [decide_eq_false hm]
    iv_omega

/-- the array value `vb` lies in the run: the stretch in front of it is appended, the pass goes on above it. -/
theorem draPost_step {start last vb : Nat} {ab : List Nat} {r : List Iv × Option (Nat × List Nat) × Bool}
    (h1 : start ≤ vb) (h2 : vb ≤ last) (hl : last ≤ 65535) (hgt : ∀ x ∈ ab, vb < x)
    (R : DraPost (vb + 1) last ab r) :
    DraPost start last (vb :: ab) ((if start < vb then [⟨start, vb - 1⟩] else []) ++ r.1, r.2.1, r.2.2) := by
  obtain ⟨r1, r3, r4⟩ := R
  refine ⟨r1.prefix (by omega) (((above_inIv _).mono (by simp only; omega)).and_left _) (dra_cut h1 h2 hgt),
    r3, fun hb => ?_⟩
  rw [r4 hb, List.filter_cons, if_neg (by simp only [decide_eq_true_eq]; omega)]

theorem draInner_out (f start last vb : Nat) (ab : List Nat) (h : ¬ (vb ≥ start ∧ vb ≤ last)) :
    draInner (f + 1) start last (some (vb, ab)) =
      (if start ≤ last then [⟨start, last⟩] else [], some (vb, ab), false) := by
  simp only [draInner]
  rw [if_neg h]

theorem draInner_brk (f start last vb : Nat) (ab : List Nat) (h1 : start ≤ vb) (h2 : vb ≤ last)
    (e : vb = 65535) :
    draInner (f + 1) start last (some (vb, ab)) =
      (if start < vb then [⟨start, vb - 1⟩] else [], some (vb, ab), true) := by
  simp only [draInner]
  rw [if_pos ⟨h1, h2⟩]
  by_cases e' : vb = start
  · rw [if_pos e', if_pos e, if_neg (show ¬ start < vb by omega)]
  · rw [if_neg e', if_pos e, if_pos (show start < vb by omega)]

/-- the two in-range branches of `draInner` (`vb` at the start of what is left of the run, or inside it)
do the same thing; so do "array exhausted" and "read the next value", given fuel for one more step. -/
theorem draInner_in (f start last vb : Nat) (ab : List Nat) (h1 : start ≤ vb) (h2 : vb ≤ last)
    (hne : vb ≠ 65535) :
    draInner (f + 2) start last (some (vb, ab)) =
      ((if start < vb then [⟨start, vb - 1⟩] else []) ++ (draInner (f + 1) (vb + 1) last (stateOf ab)).1,
        (draInner (f + 1) (vb + 1) last (stateOf ab)).2.1, (draInner (f + 1) (vb + 1) last (stateOf ab)).2.2) := by
  conv => lhs; simp only [draInner]
  rw [if_pos ⟨h1, h2⟩, if_neg hne, if_neg hne]
  by_cases e : vb = start
  · rw [if_pos e, if_neg (show ¬ start < vb by omega), e]
    cases ab <;> rfl
  · rw [if_neg e, if_pos (show start < vb by omega)]
    cases ab <;> rfl

theorem draInner_spec : ∀ (fuel start last : Nat) (st : Option (Nat × List Nat)),
    Sorted (unread st) → (∀ x ∈ unread st, start ≤ x) → last ≤ 65535 →
    (unread st).length + 1 ≤ fuel → DraPost start last (unread st) (draInner fuel start last st) := by
  intro fuel
  induction fuel with
  | zero => intro _ _ _ _ _ _ hf; omega
  | succ f ih =>
    intro start last st hs hL hl hf
    match st with
    | none => exact draPost_whole none hl (fun _ h => by cases h)
    | some (vb, ab) =>
      have hgt : ∀ x ∈ ab, vb < x := sorted_lt hs
      have hvb : start ≤ vb := hL vb (by simp)
      by_cases hr : vb ≥ start ∧ vb ≤ last
      · by_cases h2 : vb = 65535
        · rw [draInner_brk f start last vb ab hvb hr.2 h2]
          have e : last = 65535 := by omega
          have R : Runs ((if start < vb then [⟨start, vb - 1⟩] else []) ++ [])
              (fun v => inIv ⟨start, last⟩ v && !decide (v ∈ vb :: ab)) :=
            (Runs.nil (P := fun _ => false) (fun _ => rfl)).prefix (by omega) (fun _ h => nomatch h) (fun v => by
              rw [dra_cut hvb hr.2 hgt v, (inIv_false_iff ⟨vb + 1, last⟩ v).mpr (by simp only; omega), Bool.false_and])
          rw [List.append_nil] at R
          exact ⟨R, fun _ => e, fun h => nomatch h⟩
        · match f, hf with
          | f + 1, hf =>
            rw [draInner_in f start last vb ab hvb hr.2 h2]
            have R := ih (vb + 1) last (stateOf ab) (by rw [unread_stateOf]; exact sorted_tail hs)
              (by rw [unread_stateOf]; exact fun x hx => hgt x hx) hl
              (by rw [unread_stateOf]; simp only [unread, List.length_cons] at hf; omega)
            rw [unread_stateOf] at R
            exact draPost_step hvb hr.2 hl hgt R
      · rw [draInner_out f start last vb ab hr]
        refine draPost_whole (some (vb, ab)) hl (fun x hx => ?_)
        rcases List.mem_cons.mp hx with e | hx
        · omega
        · have := hgt x hx; omega

def draFuel (run : Iv) (st1 : Option (Nat × List Nat)) : Nat :=
  run.last - run.start + 2 + (match st1 with | some (_, ab) => ab.length | none => 0)

theorem draFuel_ge (run : Iv) (st1 : Option (Nat × List Nat)) : (unread st1).length + 1 ≤ draFuel run st1 := by
  match st1 with
  | none => simp only [draFuel, unread, List.length_nil]; omega
  | some (vb, ab) => simp only [draFuel, unread, List.length_cons]; omega

theorem differenceRunArrayLoop_cons (run : Iv) (ra : List Iv) (st : Option (Nat × List Nat)) :
    differenceRunArrayLoop (run :: ra) st =
      if (draInner (draFuel run (draSkip run.start st)) run.start run.last (draSkip run.start st)).2.2 = true
      then (draInner (draFuel run (draSkip run.start st)) run.start run.last (draSkip run.start st)).1
      else (draInner (draFuel run (draSkip run.start st)) run.start run.last (draSkip run.start st)).1 ++
        differenceRunArrayLoop ra
          (draInner (draFuel run (draSkip run.start st)) run.start run.last (draSkip run.start st)).2.1 := rfl

theorem differenceRunArrayLoop_gen : ∀ (ra : List Iv) (st : Option (Nat × List Nat)), RunsWF ra →
    Sorted (unread st) →
    Runs (differenceRunArrayLoop ra st) (fun v => inRuns ra v && !decide (v ∈ unread st)) := by
  intro ra
  induction ra with
  | nil => exact fun _ _ _ => Runs.nil (fun _ => rfl)
  | cons run ra ih =>
    intro st hw hs
    have hrun := RunsWF.head hw
    have hskip := unread_draSkip run.start hs
    have hpost := draInner_spec (draFuel run (draSkip run.start st)) run.start run.last
      (draSkip run.start st) (by rw [hskip]; exact sorted_filter _ hs)
      (by rw [hskip]; exact fun x hx => of_decide_eq_true (List.mem_filter.mp hx).2) hrun.2 (draFuel_ge _ _)
    rw [differenceRunArrayLoop_cons]
    generalize draInner (draFuel run (draSkip run.start st)) run.start run.last (draSkip run.start st) = r
      at hpost ⊢
    rw [hskip] at hpost
    obtain ⟨⟨p1, p2⟩, p3, p4⟩ := hpost
    have hsem1 : ∀ v, inRuns r.1 v = (inIv run v && !(decide (v ∈ unread st) && decide (run.start ≤ v))) := by
      intro v
      rw [p2 v]
      dsimp only
      rw [decide_mem_filter]
    cases hbrk : r.2.2 with
    | true =>
      rw [if_pos rfl]
      refine ⟨p1, fun v => ?_⟩
      have hra : inRuns ra v = false := by
        cases hq : inRuns ra v with
        | false => rfl
        | true =>
          have := RunsWF.above_tail hw v hq
          have := inRuns_lt65536 (RunsWF.tail hw) hq
          have := p3 hbrk
          omega
      show _ = (inRuns (run :: ra) v && !decide (v ∈ unread st))
      rw [hsem1 v, inRuns_cons, hra]
      cases decide (v ∈ unread st)
      · iv_omega
      · iv_omega
    | false =>
      rw [if_neg (by simp)]
      have hst' := p4 hbrk
      have ih' := ih r.2.1 (RunsWF.tail hw) (by rw [hst']; exact sorted_filter _ (sorted_filter _ hs))
      have ih2 : ∀ v, inRuns (differenceRunArrayLoop ra r.2.1) v = (inRuns ra v && !decide (v ∈ unread r.2.1)) := ih'.2
      refine ⟨RunsWF.append_sem p1 ih'.1 (fun v w hv hw' => ?_), fun v => ?_⟩
      · rw [hsem1 v, Bool.and_eq_true, inIv_iff] at hv
        rw [ih2 w, Bool.and_eq_true] at hw'
        have := RunsWF.above_tail hw w hw'.1
        omega
      · show _ = (inRuns (run :: ra) v && !decide (v ∈ unread st))
        rw [inRuns_append, hsem1 v, ih2 v, hst', decide_mem_filter, decide_mem_filter, inRuns_cons]
        cases hq : inRuns ra v with
        | false =>
          cases decide (v ∈ unread st)
          · iv_omega
          · iv_omega
        | true =>
          have := RunsWF.above_tail hw v hq
          cases decide (v ∈ unread st)
          · iv_omega
          · iv_omega

end PV.C01
