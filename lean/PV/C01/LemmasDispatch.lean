/-
C01: the kernels with a bitmap operand (modelled through the set operation they implement, plus the Go code's
decisions about `n` and the encoding) and the container-level dispatchers for every pairing of encodings.
-/
import PV.C01.LemmasKernels
namespace PV.C01
open Spec

section bitmapPairs
variable {xs bits abits : List Nat} {n an bn : Nat} {rb ra : List Iv}

/-- `n + (|vs| - |bits|)` is `|vs|` when `n = |bits|` and `bits ⊆ vs`. -/
theorem grown_n {n : Nat} {bits vs : List Nat} (hn : n = bits.length) (hb : Sorted bits) (hv : Sorted vs)
    (hlt : ∀ v ∈ vs, v < 65536) (hsub : ∀ v ∈ bits, v ∈ vs) : n + (vs.length - bits.length) = vs.length := by
  have := sorted_subset_length_le hb hv hlt hsub
  omega

/-- `n - (|bits| - |vs|)` is `|vs|` when `n = |bits|` and `vs ⊆ bits`. -/
theorem shrunk_n {n : Nat} {bits vs : List Nat} (hn : n = bits.length) (hb : Sorted bits) (hv : Sorted vs)
    (hlt : ∀ v ∈ bits, v < 65536) (hsub : ∀ v ∈ vs, v ∈ bits) : n - (bits.length - vs.length) = vs.length := by
  have := sorted_subset_length_le hv hb hlt hsub
  omega

theorem intersectArrayBitmap_denotes (ha : (Container.array xs).WF) (hb : (Container.bitmap n bits).WF) :
    Denotes (intersectArrayBitmap xs bits) (fun v => v ∈ xs ∧ v ∈ bits) :=
  denotes_array (sorted_inter ha.1 hb.1) (mem_inter ha.1 hb.1) (fun v h => ha.2 v h.1)

theorem intersectBitmapRun_denotes (ha : (Container.bitmap an abits).WF) (hb : (Container.run bn rb).WF) :
    Denotes (intersectBitmapRun an abits bn rb) (fun v => v ∈ abits ∧ v ∈ runValues rb) := by
  have hs := sorted_inter ha.1 (runValues_sorted hb.1)
  have hm := mem_inter ha.1 (runValues_sorted hb.1)
  exact (denotes_array hs hm (fun v h => ha.2.1 v h.1)).ite (denotes_bitmap hs hm (fun v h => ha.2.1 v h.1) rfl)

theorem intersectBitmapBitmap_denotes (ha : (Container.bitmap an abits).WF) (hb : (Container.bitmap n bits).WF) :
    Denotes (intersectBitmapBitmap abits bits) (fun v => v ∈ abits ∧ v ∈ bits) :=
  denotes_bitmap (sorted_inter ha.1 hb.1) (mem_inter ha.1 hb.1) (fun v h => ha.2.1 v h.1) rfl

theorem unionArrayBitmap_denotes (ha : (Container.array xs).WF) (hb : (Container.bitmap n bits).WF) :
    Denotes (unionArrayBitmap xs n bits) (fun v => v ∈ xs ∨ v ∈ bits) := by
  have hs := sorted_union ha.1 hb.1
  have hm := mem_union ha.1 hb.1
  exact denotes_bitmap hs hm (fun v h => h.elim (ha.2 v) (hb.2.1 v))
    (grown_n hb.2.2 hb.1 hs (union_lt ha.2 hb.2.1) (fun v hv => (hm v).mpr (Or.inr hv)))

theorem unionBitmapRun_denotes (ha : (Container.bitmap an abits).WF) (hb : (Container.run bn rb).WF) :
    Denotes (unionBitmapRun an abits rb) (fun v => v ∈ abits ∨ v ∈ runValues rb) := by
  have hs := sorted_union ha.1 (runValues_sorted hb.1)
  have hm := mem_union ha.1 (runValues_sorted hb.1)
  exact denotes_bitmap hs hm (fun v h => h.elim (ha.2.1 v) (runValues_lt hb.1 v))
    (grown_n ha.2.2 ha.1 hs (union_lt ha.2.1 (runValues_lt hb.1)) (fun v hv => (hm v).mpr (Or.inl hv)))

theorem unionBitmapBitmap_denotes (ha : (Container.bitmap an abits).WF) (hb : (Container.bitmap n bits).WF) :
    Denotes (unionBitmapBitmap abits bits) (fun v => v ∈ abits ∨ v ∈ bits) :=
  denotes_bitmap (sorted_union ha.1 hb.1) (mem_union ha.1 hb.1) (fun v h => h.elim (ha.2.1 v) (hb.2.1 v)) rfl

theorem differenceArrayBitmap_denotes (ha : (Container.array xs).WF) (hb : (Container.bitmap n bits).WF) :
    Denotes (differenceArrayBitmap xs bits) (fun v => v ∈ xs ∧ v ∉ bits) :=
  denotes_array (sorted_diff ha.1 hb.1) (mem_diff ha.1 hb.1) (fun v h => ha.2 v h.1)

theorem differenceBitmapArray_denotes (ha : (Container.bitmap an abits).WF) (hb : (Container.array xs).WF) :
    Denotes (differenceBitmapArray an abits xs) (fun v => v ∈ abits ∧ v ∉ xs) := by
  have hs := sorted_diff ha.1 hb.1
  have hm := mem_diff ha.1 hb.1
  have hn := shrunk_n ha.2.2 ha.1 hs ha.2.1 (fun v hv => ((hm v).mp hv).1)
  exact (denotes_bitmapToArray hs hm (fun v h => ha.2.1 v h.1) hn).ite
    (denotes_bitmap hs hm (fun v h => ha.2.1 v h.1) hn)

theorem differenceBitmapRun_denotes (ha : (Container.bitmap an abits).WF) (hb : (Container.run bn rb).WF) :
    Denotes (differenceBitmapRun an abits rb) (fun v => v ∈ abits ∧ v ∉ runValues rb) := by
  have hs := sorted_diff ha.1 (runValues_sorted hb.1)
  have hm := mem_diff ha.1 (runValues_sorted hb.1)
  exact denotes_bitmap hs hm (fun v h => ha.2.1 v h.1)
    (shrunk_n ha.2.2 ha.1 hs ha.2.1 (fun v hv => ((hm v).mp hv).1))

theorem differenceBitmapBitmap_denotes (ha : (Container.bitmap an abits).WF) (hb : (Container.bitmap n bits).WF) :
    Denotes (differenceBitmapBitmap abits bits) (fun v => v ∈ abits ∧ v ∉ bits) := by
  have hs := sorted_diff ha.1 hb.1
  have hm := mem_diff ha.1 hb.1
  exact (denotes_bitmapToArray hs hm (fun v h => ha.2.1 v h.1) rfl).ite
    (denotes_bitmap hs hm (fun v h => ha.2.1 v h.1) rfl)

theorem differenceRunBitmapRuns_spec (bits : List Nat) (hb : Sorted bits) :
    ∀ (ra : List Iv), RunsWF ra →
      RunsWF (differenceRunBitmapRuns bits ra) ∧
      ∀ w, inRuns (differenceRunBitmapRuns bits ra) w = (inRuns ra w && !decide (w ∈ bits)) := by
  intro ra
  induction ra with
  | nil => intro _; simp [differenceRunBitmapRuns, RunsWF]
  | cons a t ih =>
    intro h
    have ha := RunsWF.head h
    have iht := ih (RunsWF.tail h)
    have hrs : Sorted (rangeIncl a.start a.last) := sorted_range' _ _
    have hm : ∀ w, decide (w ∈ Spec.diff (rangeIncl a.start a.last) bits) = (inIv a w && !decide (w ∈ bits)) := by
      intro w
      rw [Bool.eq_iff_iff]
      simp only [decide_eq_true_eq, Bool.and_eq_true, Bool.not_eq_true', decide_eq_false_iff_not, inIv_iff]
      rw [mem_diff hrs hb, mem_rangeIncl]
    have S := arrayToRunIvs_spec _ (sorted_diff hrs hb) (fun v hv => by
      have := ((mem_diff hrs hb v).mp hv).1
      rw [mem_rangeIncl] at this; omega)
    simp only [differenceRunBitmapRuns]
    refine ⟨RunsWF.append_sem S.1 iht.1 (fun v w hv hw => ?_), fun w => ?_⟩
    · rw [S.2.1 v, hm v, Bool.and_eq_true, inIv_iff] at hv
      rw [iht.2 w, Bool.and_eq_true] at hw
      have := RunsWF.above_tail h w hw.1
      omega
    · rw [inRuns_append, S.2.1 w, hm w, iht.2 w, inRuns_cons, Bool.and_or_distrib_right]

theorem compl_spec {bits : List Nat} (hb : Sorted bits) (n : Nat) :
    Sorted (Spec.diff (List.range' 0 n) bits) ∧ (∀ v ∈ Spec.diff (List.range' 0 n) bits, v < n) ∧
    ∀ v, v ∈ Spec.diff (List.range' 0 n) bits ↔ (v < n ∧ v ∉ bits) := by
  have hr : Sorted (List.range' 0 n) := sorted_range' _ _
  refine ⟨sorted_diff hr hb, fun v hv => ?_, fun v => ?_⟩
  · have := ((mem_diff hr hb v).mp hv).1
    rcases List.mem_range'.mp this with ⟨i, hi, rfl⟩; omega
  · rw [mem_diff hr hb, List.mem_range']
    constructor
    · rintro ⟨⟨i, hi, rfl⟩, h2⟩; exact ⟨by omega, h2⟩
    · rintro ⟨h1, h2⟩; exact ⟨⟨v, h1, by omega⟩, h2⟩

theorem compl16_spec {bits : List Nat} (hb : Sorted bits) :
    Sorted (Spec.compl16 bits) ∧ (∀ v ∈ Spec.compl16 bits, v < 65536) ∧
    ∀ v, v ∈ Spec.compl16 bits ↔ (v < 65536 ∧ v ∉ bits) := compl_spec hb 65536

attribute [local irreducible] Spec.compl16 in
theorem flipBitmap_spec {bits : List Nat} (hb : Sorted bits) :
    (flipBitmap bits).WF ∧ ∀ v, v ∈ (flipBitmap bits).values ↔ (v < 65536 ∧ v ∉ bits) := by
  have C := compl16_spec hb
  have hfb : flipBitmap bits = Container.bitmap (Spec.compl16 bits).length (Spec.compl16 bits) := by
    unfold flipBitmap; rfl
  rw [hfb]
  refine ⟨⟨C.1, C.2.1, rfl⟩, fun v => ?_⟩
  show v ∈ Spec.compl16 bits ↔ _
  exact C.2.2 v

/-- `differenceRunBitmap`: a full run flips the bitmap; otherwise each run is cut up by the bitmap. -/
theorem differenceRunBitmap_denotes (ha : (Container.run an ra).WF) (hb : (Container.bitmap n bits).WF) :
    Denotes (differenceRunBitmap ra bits) (fun v => v ∈ runValues ra ∧ v ∉ bits) := by
  unfold differenceRunBitmap
  split
  · refine Denotes.congr (flipBitmap_spec hb.1) (fun v => ⟨fun h => ⟨?_, h.2⟩, fun h => ⟨runValues_lt ha.1 v h.1, h.2⟩⟩)
    rw [mem_runValues, inRuns_cons, (inIv_iff _ v).mpr ⟨Nat.zero_le _, by show v ≤ 65535; omega⟩]
    rfl
  · have S := differenceRunBitmapRuns_spec bits hb.1 ra ha.1
    have E := runs_enc S.1 rfl
    exact (E.1.ite (E.2.1.ite E.2.2)).congr
      (fun w => by rw [S.2 w, Bool.and_eq_true, Bool.not_eq_true', decide_eq_false_iff_not, mem_runValues])

theorem xorArrayBitmap_denotes (ha : (Container.array xs).WF) (hb : (Container.bitmap n bits).WF) :
    DenotesO (xorArrayBitmap xs bits) (fun v => (v ∈ xs ∧ v ∉ bits) ∨ (v ∉ xs ∧ v ∈ bits)) := by
  have hs := sorted_xor ha.1 hb.1
  have hm := mem_xor ha.1 hb.1
  have hl : ∀ v, ((v ∈ xs ∧ v ∉ bits) ∨ (v ∉ xs ∧ v ∈ bits)) → v < 65536 :=
    fun v h => h.elim (fun h => ha.2 v h.1) (fun h => hb.2.1 v h.2)
  unfold xorArrayBitmap
  simp only []
  split
  · rename_i h0
    refine ⟨trivial, fun v => ?_⟩
    show v ∈ ([] : List Nat) ↔ _
    rw [← List.length_eq_zero_iff.mp h0]
    exact hm v
  · split
    · exact denotes_array hs hm hl
    · exact denotes_bitmap hs hm hl rfl

theorem xorBitmapRun_denotes (ha : (Container.bitmap an abits).WF) (hb : (Container.run bn rb).WF) :
    Denotes (xorBitmapRun an abits rb)
      (fun v => (v ∈ abits ∧ v ∉ runValues rb) ∨ (v ∉ abits ∧ v ∈ runValues rb)) := by
  have hr := runValues_sorted hb.1
  refine denotes_bitmap (sorted_xor ha.1 hr) (mem_xor ha.1 hr)
    (fun v h => h.elim (fun h => ha.2.1 v h.1) (fun h => runValues_lt hb.1 v h.2)) ?_
  have := ha.2.2
  omega

theorem xorBitmapBitmap_denotes (ha : (Container.bitmap an abits).WF) (hb : (Container.bitmap n bits).WF) :
    Denotes (xorBitmapBitmap abits bits) (fun v => (v ∈ abits ∧ v ∉ bits) ∨ (v ∉ abits ∧ v ∈ bits)) := by
  have hs := sorted_xor ha.1 hb.1
  have hm := mem_xor ha.1 hb.1
  have hl : ∀ v, ((v ∈ abits ∧ v ∉ bits) ∨ (v ∉ abits ∧ v ∈ bits)) → v < 65536 :=
    fun v h => h.elim (fun h => ha.2.1 v h.1) (fun h => hb.2.1 v h.2)
  exact (denotes_bitmapToArray hs hm hl rfl).ite (denotes_bitmap hs hm hl rfl)

end bitmapPairs

/-! ### the dispatchers: shortcuts for full and empty operands, then the nine pairings -/

theorem intersect_spec {a b : Container} (ha : a.WF) (hb : b.WF) :
    DenotesO (intersect a b) (fun v => v ∈ a.values ∧ v ∈ b.values) := by
  unfold intersect
  by_cases h1 : a.n = 65536
  · rw [if_pos h1]
    exact ⟨hb, fun v => ⟨fun hv => ⟨full_mem ha h1 v (Container.values_lt hb v hv), hv⟩, fun hv => hv.2⟩⟩
  · rw [if_neg h1]
    by_cases h2 : b.n = 65536
    · rw [if_pos h2]
      exact ⟨ha, fun v => ⟨fun hv => ⟨hv, full_mem hb h2 v (Container.values_lt ha v hv)⟩, fun hv => hv.1⟩⟩
    · rw [if_neg h2]
      by_cases h3 : a.n = 0 ∨ b.n = 0
      · rw [if_pos h3]
        refine ⟨trivial, fun v => ?_⟩
        rcases h3 with h3 | h3
        · simp [valuesO, empty_values ha h3]
        · simp [valuesO, empty_values hb h3]
      · rw [if_neg h3]
        cases a with
        | array xa =>
          cases b with
          | array xb => exact (intersectArrayArray_denotes ha hb).some
          | run nb rb => exact (intersectArrayRun_denotes ha hb).some
          | bitmap nb bb => exact (intersectArrayBitmap_denotes ha hb).some
        | run na ra =>
          cases b with
          | array xb => exact (intersectArrayRun_denotes hb ha).some.congr (fun _ => And.comm)
          | run nb rb => exact (intersectRunRun_denotes ha hb).some
          | bitmap nb bb => exact (intersectBitmapRun_denotes hb ha).some.congr (fun _ => And.comm)
        | bitmap na ba =>
          cases b with
          | array xb => exact (intersectArrayBitmap_denotes hb ha).some.congr (fun _ => And.comm)
          | run nb rb => exact (intersectBitmapRun_denotes ha hb).some
          | bitmap nb bb => exact (intersectBitmapBitmap_denotes ha hb).some

theorem fullContainer_spec : fullContainer.WF ∧ ∀ v, v ∈ fullContainer.values ↔ v < 65536 := by
  refine ⟨⟨⟨Nat.zero_le _, Nat.le_refl _⟩, rfl⟩, fun v => ?_⟩
  show v ∈ runValues [⟨0, 65535⟩] ↔ _
  rw [mem_runValues]; simp [inIv]; omega

theorem union_spec {a b : Container} (ha : a.WF) (hb : b.WF) :
    Denotes (union a b) (fun v => v ∈ a.values ∨ v ∈ b.values) := by
  unfold union
  by_cases h1 : a.n = 65536 ∨ b.n = 65536
  · rw [if_pos h1]
    refine Denotes.congr fullContainer_spec (fun v => ⟨fun hv => ?_, fun hv => ?_⟩)
    · rcases h1 with h1 | h1
      · exact Or.inl (full_mem ha h1 v hv)
      · exact Or.inr (full_mem hb h1 v hv)
    · exact hv.elim (Container.values_lt ha v) (Container.values_lt hb v)
  · rw [if_neg h1]
    cases a with
    | array xa =>
      cases b with
      | array xb => exact unionArrayArray_denotes ha hb
      | run nb rb => exact unionArrayRun_denotes ha hb
      | bitmap nb bb => exact unionArrayBitmap_denotes ha hb
    | run na ra =>
      cases b with
      | array xb => exact (unionArrayRun_denotes hb ha).congr (fun _ => Or.comm)
      | run nb rb => exact unionRunRun_denotes ha hb
      | bitmap nb bb => exact (unionBitmapRun_denotes hb ha).congr (fun _ => Or.comm)
    | bitmap na ba =>
      cases b with
      | array xb => exact (unionArrayBitmap_denotes hb ha).congr (fun _ => Or.comm)
      | run nb rb => exact unionBitmapRun_denotes ha hb
      | bitmap nb bb => exact unionBitmapBitmap_denotes ha hb

theorem difference_spec {a b : Container} (ha : a.WF) (hb : b.WF) :
    DenotesO (difference a b) (fun v => v ∈ a.values ∧ v ∉ b.values) := by
  unfold difference
  by_cases h1 : a.n = 0 ∨ b.n = 65536
  · rw [if_pos h1]
    refine ⟨trivial, fun v => ?_⟩
    rcases h1 with h1 | h1
    · simp [valuesO, empty_values ha h1]
    · exact ⟨fun h => absurd h List.not_mem_nil,
        fun h => absurd (full_mem hb h1 v (Container.values_lt ha v h.1)) h.2⟩
  · rw [if_neg h1]
    by_cases h2 : b.n = 0
    · rw [if_pos h2]
      refine ⟨ha, fun v => ?_⟩
      simp [valuesO, empty_values hb h2]
    · rw [if_neg h2]
      cases a with
      | array xa =>
        cases b with
        | array xb => exact (differenceArrayArray_denotes ha hb).some
        | run nb rb => exact (differenceArrayRun_denotes ha hb).some
        | bitmap nb bb => exact (differenceArrayBitmap_denotes ha hb).some
      | run na ra =>
        cases b with
        | array xb => exact differenceRunArray_denotes ha hb
        | run nb rb => exact (differenceRunRun_denotes ha hb).some
        | bitmap nb bb => exact (differenceRunBitmap_denotes ha hb).some
      | bitmap na ba =>
        cases b with
        | array xb => exact (differenceBitmapArray_denotes ha hb).some
        | run nb rb => exact (differenceBitmapRun_denotes ha hb).some
        | bitmap nb bb => exact (differenceBitmapBitmap_denotes ha hb).some

theorem xor_prop_comm {p q : Prop} : ((p ∧ ¬ q) ∨ (¬ p ∧ q)) ↔ ((q ∧ ¬ p) ∨ (¬ q ∧ p)) :=
  ⟨fun h => h.elim (fun h => Or.inr ⟨h.2, h.1⟩) (fun h => Or.inl ⟨h.2, h.1⟩),
   fun h => h.elim (fun h => Or.inr ⟨h.2, h.1⟩) (fun h => Or.inl ⟨h.2, h.1⟩)⟩

theorem xor_spec {a b : Container} (ha : a.WF) (hb : b.WF) :
    DenotesO (xor a b) (fun v => (v ∈ a.values ∧ v ∉ b.values) ∨ (v ∉ a.values ∧ v ∈ b.values)) := by
  unfold xor
  by_cases h1 : a.n = 0
  · rw [if_pos h1]
    refine ⟨hb, fun v => ?_⟩
    simp [valuesO, empty_values ha h1]
  · rw [if_neg h1]
    by_cases h2 : b.n = 0
    · rw [if_pos h2]
      refine ⟨ha, fun v => ?_⟩
      simp [valuesO, empty_values hb h2]
    · rw [if_neg h2]
      cases a with
      | array xa =>
        cases b with
        | array xb => exact (xorArrayArray_denotes ha hb).some
        | run nb rb => exact (xorArrayRun_denotes ha hb).some
        | bitmap nb bb => exact xorArrayBitmap_denotes ha hb
      | run na ra =>
        cases b with
        | array xb => exact (xorArrayRun_denotes hb ha).some.congr (fun _ => xor_prop_comm)
        | run nb rb => exact (xorRunRun_denotes ha hb).some
        | bitmap nb bb => exact (xorBitmapRun_denotes hb ha).some.congr (fun _ => xor_prop_comm)
      | bitmap na ba =>
        cases b with
        | array xb => exact (xorArrayBitmap_denotes hb ha).congr (fun _ => xor_prop_comm)
        | run nb rb => exact (xorBitmapRun_denotes ha hb).some
        | bitmap nb bb => exact (xorBitmapBitmap_denotes ha hb).some

theorem kernelOK_intersect : KernelOK intersect (fun p q => p && q) :=
  kernelOK_of_values (fun _ _ hx hy => ⟨(intersect_spec hx hy).1, fun v => by
    rw [(intersect_spec hx hy).2 v, Bool.and_eq_true, decide_eq_true_eq, decide_eq_true_eq]⟩)

theorem kernelOK_union : KernelOK (fun x y => some (union x y)) (fun p q => p || q) :=
  kernelOK_of_values (fun x y hx hy => ⟨(union_spec hx hy).1, fun v => by
    show v ∈ (union x y).values ↔ _
    rw [(union_spec hx hy).2 v, Bool.or_eq_true, decide_eq_true_eq, decide_eq_true_eq]⟩)

theorem kernelOK_difference : KernelOK difference (fun p q => p && !q) :=
  kernelOK_of_values (fun _ _ hx hy => ⟨(difference_spec hx hy).1, fun v => by
    rw [(difference_spec hx hy).2 v, Bool.and_eq_true, Bool.not_eq_true', decide_eq_true_eq, decide_eq_false_iff_not]⟩)

theorem kernelOK_xor : KernelOK xor (fun p q => p != q) :=
  kernelOK_of_values (fun _ _ hx hy => ⟨(xor_spec hx hy).1, fun v => by
    rw [(xor_spec hx hy).2 v]
    exact (bne_eq_true_iff_xor _ _ _ _ decide_eq_true_iff decide_eq_true_iff).symm⟩)

/-- the bitmap kernels count through the executable intersection. -/
theorem inter_length {x y : List Nat} (hx : Sorted x) (hy : Sorted y) : (Spec.inter x y).length = interLen x y := by
  rw [sorted_ext (sorted_inter hx hy) (sorted_filter (fun v => decide (v ∈ y)) hx)
    (fun v => by rw [mem_inter hx hy, List.mem_filter, decide_eq_true_eq])]
  rfl

theorem intersectionCountArrayRun_interLen {xa : List Nat} {rb : List Iv} (ha : Sorted xa) (hb : RunsWF rb) :
    intersectionCountArrayRun (xa.length + rb.length + 1) xa rb = interLen xa (runValues rb) := by
  rw [intersectionCountArrayRun_eq_length, intersectArrayRun_eq_filter _ xa rb ha hb (by omega)]
  exact congrArg List.length (List.filter_congr (fun v _ => (decide_mem_runValues rb v).symm))

theorem intersectionCountRunRun_interLen {ra rb : List Iv} (ha : RunsWF ra) (hb : RunsWF rb) :
    intersectionCountRunRun (ra.length + rb.length + 1) ra rb = interLen (runValues ra) (runValues rb) := by
  rw [intersectionCountRunRun_spec _ ra rb ha hb (by omega), interLen,
    length_eq_cnt (sorted_filter _ (runValues_sorted ha)) (fun v hv => runValues_lt ha v (List.mem_filter.mp hv).1)]
  exact cnt_congr (fun v _ _ => by rw [decide_mem_filter, decide_mem_runValues, decide_mem_runValues])

/-- `intersectionCountBitmapRun` adds up `bitmapCountRange` over the runs. -/
theorem intersectionCountBitmapRun_interLen (bits : List Nat) (hb : Sorted bits) :
    ∀ (runs : List Iv), intersectionCountBitmapRun bits runs = interLen (runValues runs) bits := by
  intro runs
  induction runs with
  | nil => rfl
  | cons a t ih =>
    simp only [intersectionCountBitmapRun, runValues]
    unfold interLen at ih ⊢
    rw [List.filter_append, List.length_append, ih, filter_mem_comm (a := rangeIncl a.start a.last) (sorted_range' _ _) hb]
    refine congrArg (· + _) (congrArg List.length (List.filter_congr (fun v _ => ?_)))
    rw [← Bool.decide_and, decide_eq_decide, mem_rangeIncl]
    omega

theorem intersectionCount_spec {a b : Container} (ha : a.WF) (hb : b.WF) :
    intersectionCount a b = interLen a.values b.values := by
  have hsa := Container.values_sorted ha
  have hsb := Container.values_sorted hb
  unfold intersectionCount
  by_cases h1 : a.n = 65536
  · rw [if_pos h1, interLen_comm hsa hsb, interLen_of_subset (fun v hv => full_mem ha h1 v (Container.values_lt hb v hv))]
    exact (Container.values_length hb).symm
  · rw [if_neg h1]
    by_cases h2 : b.n = 65536
    · rw [if_pos h2, interLen_of_subset (fun v hv => full_mem hb h2 v (Container.values_lt ha v hv))]
      exact (Container.values_length ha).symm
    · rw [if_neg h2]
      by_cases h3 : a.n = 0 ∨ b.n = 0
      · rw [if_pos h3]
        rcases h3 with h3 | h3
        · simp [interLen, empty_values ha h3]
        · rw [interLen_comm hsa hsb]; simp [interLen, empty_values hb h3]
      · rw [if_neg h3]
        cases a with
        | array xa =>
          cases b with
          | array xb => exact intersectionCountArrayArray_spec xa xb ha.1 hb.1
          | run nb rb => exact intersectionCountArrayRun_interLen ha.1 hb.1
          | bitmap nb bb => exact inter_length ha.1 hb.1
        | run na ra =>
          cases b with
          | array xb => exact (intersectionCountArrayRun_interLen hb.1 ha.1).trans (interLen_comm hb.1 hsa)
          | run nb rb => exact intersectionCountRunRun_interLen ha.1 hb.1
          | bitmap nb bb => exact intersectionCountBitmapRun_interLen bb hb.1 ra
        | bitmap na ba =>
          cases b with
          | array xb => exact (inter_length hb.1 ha.1).trans (interLen_comm hb.1 ha.1)
          | run nb rb => exact (intersectionCountBitmapRun_interLen ba ha.1 rb).trans (interLen_comm hsb ha.1)
          | bitmap nb bb => exact inter_length ha.1 hb.1

end PV.C01
