/-
C01: what the result of a kernel denotes.  `Denotes c p` says that `c` is well formed and holds exactly the
values with `p`; the choice of the result's encoding never matters (`Denotes.ite`).  One `…_denotes` per
array / run kernel here, those with a bitmap operand in `LemmasDispatch`, which puts the pairings together.
-/
import PV.C01.LemmasAA
import PV.C01.LemmasAR
import PV.C01.LemmasSem
namespace PV.C01
open Spec

def Denotes (c : Container) (p : Nat → Prop) : Prop := c.WF ∧ ∀ v, v ∈ c.values ↔ p v

/-- the same for a result that may be nil. -/
def DenotesO (c : Option Container) (p : Nat → Prop) : Prop := WFO c ∧ ∀ v, v ∈ valuesO c ↔ p v

theorem Denotes.congr {c : Container} {p q : Nat → Prop} (h : Denotes c p) (hpq : ∀ v, p v ↔ q v) :
    Denotes c q := ⟨h.1, fun v => (h.2 v).trans (hpq v)⟩

theorem DenotesO.congr {c : Option Container} {p q : Nat → Prop} (h : DenotesO c p) (hpq : ∀ v, p v ↔ q v) :
    DenotesO c q := ⟨h.1, fun v => (h.2 v).trans (hpq v)⟩

/-- `WFO (some c)` is `c.WF` and `valuesO (some c)` is `c.values` by definition. -/
theorem Denotes.some {c : Container} {p : Nat → Prop} (h : Denotes c p) : DenotesO (some c) p := h

/-- which encoding a kernel picks for its result does not matter. -/
theorem Denotes.ite {c : Prop} [Decidable c] {x y : Container} {p : Nat → Prop} (hx : Denotes x p)
    (hy : Denotes y p) : Denotes (if c then x else y) p := by
  split
  · exact hx
  · exact hy

theorem denotes_array {l : List Nat} {p : Nat → Prop} (hs : Sorted l) (hm : ∀ v, v ∈ l ↔ p v)
    (hlt : ∀ v, p v → v < 65536) : Denotes (.array l) p :=
  ⟨⟨hs, fun v hv => hlt v ((hm v).mp hv)⟩, hm⟩

theorem denotes_bitmap {n : Nat} {l : List Nat} {p : Nat → Prop} (hs : Sorted l) (hm : ∀ v, v ∈ l ↔ p v)
    (hlt : ∀ v, p v → v < 65536) (hn : n = l.length) : Denotes (.bitmap n l) p :=
  ⟨⟨hs, fun v hv => hlt v ((hm v).mp hv), hn⟩, hm⟩

theorem bitmapToArray_spec {n : Nat} {bits : List Nat} (h : (Container.bitmap n bits).WF) :
    (bitmapToArray n bits).WF ∧ (bitmapToArray n bits).values = bits := by
  unfold bitmapToArray
  by_cases h0 : n = 0
  · rw [if_pos h0]
    have : bits = [] := by
      have := h.2.2; rw [h0] at this
      exact List.length_eq_zero_iff.mp this.symm
    subst this
    exact ⟨⟨trivial, by simp⟩, rfl⟩
  · rw [if_neg h0]
    exact ⟨⟨h.1, h.2.1⟩, rfl⟩

theorem denotes_bitmapToArray {n : Nat} {l : List Nat} {p : Nat → Prop} (hs : Sorted l) (hm : ∀ v, v ∈ l ↔ p v)
    (hlt : ∀ v, p v → v < 65536) (hn : n = l.length) : Denotes (bitmapToArray n l) p := by
  have B := bitmapToArray_spec (denotes_bitmap hs hm hlt hn).1
  exact ⟨B.1, fun v => by rw [B.2]; exact hm v⟩

theorem runs_nil_of_card_zero {n : Nat} {ivs : List Iv} (hn : n = runsCard ivs) (h0 : n = 0) : ivs = [] := by
  cases ivs with
  | nil => rfl
  | cons a t => simp only [runsCard] at hn; omega

theorem runToArray_spec {n : Nat} {ivs : List Iv} (h : RunsWF ivs) (hn : n = runsCard ivs) :
    (runToArray n ivs).WF ∧ (runToArray n ivs).values = runValues ivs := by
  unfold runToArray
  by_cases h0 : n = 0
  · rw [if_pos h0]
    have := runs_nil_of_card_zero hn h0
    subst this
    exact ⟨⟨trivial, by simp⟩, rfl⟩
  · rw [if_neg h0]
    exact ⟨⟨runValues_sorted h, runValues_lt h⟩, rfl⟩

theorem runToBitmap_spec {n : Nat} {ivs : List Iv} (h : RunsWF ivs) (hn : n = runsCard ivs) :
    (runToBitmap n ivs).WF ∧ (runToBitmap n ivs).values = runValues ivs := by
  unfold runToBitmap
  by_cases h0 : n = 0
  · rw [if_pos h0]
    have := runs_nil_of_card_zero hn h0
    subst this
    exact ⟨⟨trivial, by simp, rfl⟩, rfl⟩
  · rw [if_neg h0]
    refine ⟨⟨runValues_sorted h, runValues_lt h, ?_⟩, rfl⟩
    rw [hn, runValues_length (fun iv hiv => (RunsWF.valid h iv hiv).1)]

theorem inRuns_iff_values {n : Nat} {ivs : List Iv} (w : Nat) :
    inRuns ivs w = true ↔ w ∈ (Container.run n ivs).values := (mem_runValues ivs w).symm

/-- the three encodings a run kernel may pick for its run list. -/
theorem runs_enc {n : Nat} {ivs : List Iv} (h : RunsWF ivs) (hn : n = runsCard ivs) :
    Denotes (runToArray n ivs) (fun w => inRuns ivs w = true) ∧
    Denotes (runToBitmap n ivs) (fun w => inRuns ivs w = true) ∧
    Denotes (Container.run n ivs) (fun w => inRuns ivs w = true) := by
  have A := runToArray_spec h hn
  have B := runToBitmap_spec h hn
  refine ⟨⟨A.1, fun w => ?_⟩, ⟨B.1, fun w => ?_⟩, ⟨⟨h, hn⟩, mem_runValues ivs⟩⟩
  · rw [A.2]; exact mem_runValues ivs w
  · rw [B.2]; exact mem_runValues ivs w

theorem appendAll_enc {emit : List Iv} (h : EmitOK emit) :
    Denotes (runToArray (appendAll emit).2 (appendAll emit).1) (fun w => inRuns emit w = true) ∧
    Denotes (runToBitmap (appendAll emit).2 (appendAll emit).1) (fun w => inRuns emit w = true) ∧
    Denotes (Container.run (appendAll emit).2 (appendAll emit).1) (fun w => inRuns emit w = true) := by
  have S := appendAll_spec h
  have E := runs_enc S.1 S.2.1
  have hp : ∀ w, inRuns (appendAll emit).1 w = true ↔ inRuns emit w = true := fun w => by rw [S.2.2 w]
  exact ⟨E.1.congr hp, E.2.1.congr hp, E.2.2.congr hp⟩

/-- a kernel that appends its emitted sequence and then picks one of the three encodings. -/
theorem appendAll_denotes {emit : List Iv} {p : Nat → Prop} (h : EmitOK emit)
    (hp : ∀ w, inRuns emit w = true ↔ p w) (c1 c2 : Prop) [Decidable c1] [Decidable c2] :
    Denotes (if c1 then runToArray (appendAll emit).2 (appendAll emit).1
      else if c2 then runToBitmap (appendAll emit).2 (appendAll emit).1
      else Container.run (appendAll emit).2 (appendAll emit).1) p :=
  ((appendAll_enc h).1.ite ((appendAll_enc h).2.1.ite (appendAll_enc h).2.2)).congr hp

theorem denotes_arrayToRun {n : Nat} {xs : List Nat} (hs : Sorted xs) (hlt : ∀ v ∈ xs, v < 65536)
    (hn : n = xs.length) : Denotes (.run n (arrayToRunIvs xs)) (· ∈ xs) := by
  have S := arrayToRunIvs_spec xs hs hlt
  exact (runs_enc S.1 (hn.trans S.2.2.symm)).2.2.congr (fun w => by rw [S.2.1 w, decide_eq_true_eq])

/-- `optimize` re-encodes (or drops an empty container): whichever encoding it picks denotes the same set. -/
theorem Container.optimize_spec {c : Container} (h : c.WF) :
    WFO c.optimize ∧ ∀ w, w ∈ valuesO c.optimize ↔ w ∈ c.values := by
  unfold Container.optimize
  by_cases h0 : c.n = 0
  · rw [if_pos h0]
    exact ⟨trivial, fun w => by rw [empty_values h h0]; rfl⟩
  · rw [if_neg h0]
    have hc : Denotes c (· ∈ c.values) := ⟨h, fun _ => Iff.rfl⟩
    cases c with
    | array xs =>
      exact (denotes_bitmap h.1 (fun _ => Iff.rfl) h.2 rfl).ite ((denotes_arrayToRun h.1 h.2 rfl).ite hc)
    | bitmap n bits =>
      refine Denotes.ite ?_ (Denotes.ite ?_ hc)
      · exact denotes_bitmapToArray h.1 (fun _ => Iff.rfl) h.2.1 h.2.2
      · unfold bitmapToRun; rw [if_neg (show ¬ n = 0 from h0)]; exact denotes_arrayToRun h.1 h.2.1 h.2.2
    | run n ivs =>
      have E := runs_enc h.1 h.2
      exact ((E.2.1.ite (E.1.ite E.2.2)) : Denotes _ _).congr (fun w => (mem_runValues ivs w).symm)

section pairs
variable {xa xb : List Nat} {ra rb : List Iv} {na nb : Nat} {ba bb : List Nat}

theorem intersectArrayArray_denotes (ha : (Container.array xa).WF) (hb : (Container.array xb).WF) :
    Denotes (.array (intersectArrayArray (xa.length + xb.length + 1) xa xb)) (fun v => v ∈ xa ∧ v ∈ xb) := by
  have S := intersectArrayArray_spec (xa.length + xb.length + 1) xa xb ha.1 hb.1 (by omega)
  exact denotes_array S.1 S.2 (fun v h => ha.2 v h.1)

theorem unionArrayArray_denotes (ha : (Container.array xa).WF) (hb : (Container.array xb).WF) :
    Denotes (.array (unionArrayArray (xa.length + xb.length + 1) xa xb)) (fun v => v ∈ xa ∨ v ∈ xb) := by
  have S := unionArrayArray_spec (xa.length + xb.length + 1) xa xb ha.1 hb.1 (by omega)
  exact denotes_array S.1 S.2 (fun v h => h.elim (ha.2 v) (hb.2 v))

theorem differenceArrayArray_denotes (ha : (Container.array xa).WF) (hb : (Container.array xb).WF) :
    Denotes (differenceArrayArray xa xb) (fun v => v ∈ xa ∧ v ∉ xb) := by
  have S := differenceArrayArrayL_spec (xa.length + xb.length + 1) xa xb ha.1 hb.1 (by omega)
  exact (denotes_array S.1 S.2 (fun v h => ha.2 v h.1)).ite (denotes_bitmap S.1 S.2 (fun v h => ha.2 v h.1) rfl)

theorem xorArrayArray_denotes (ha : (Container.array xa).WF) (hb : (Container.array xb).WF) :
    Denotes (.array (xorArrayArray (xa.length + xb.length + 1) xa xb))
      (fun v => (v ∈ xa ∧ v ∉ xb) ∨ (v ∉ xa ∧ v ∈ xb)) := by
  have S := xorArrayArray_spec (xa.length + xb.length + 1) xa xb ha.1 hb.1 (by omega)
  exact denotes_array S.1 S.2 (fun v h => h.elim (fun h => ha.2 v h.1) (fun h => hb.2 v h.2))

theorem intersectArrayRun_denotes (ha : (Container.array xa).WF) (hb : (Container.run nb rb).WF) :
    Denotes (.array (intersectArrayRun (xa.length + rb.length + 1) xa rb))
      (fun v => v ∈ xa ∧ v ∈ runValues rb) := by
  rw [intersectArrayRun_eq_filter _ xa rb ha.1 hb.1 (by omega)]
  exact denotes_array (sorted_filter _ ha.1) (fun v => by rw [List.mem_filter, mem_runValues]) (fun v h => ha.2 v h.1)

theorem unionArrayRun_denotes (ha : (Container.array xa).WF) (hb : (Container.run nb rb).WF) :
    Denotes (unionArrayRun xa rb) (fun v => v ∈ xa ∨ v ∈ runValues rb) := by
  have S := unionArrayRunEmit_spec (xa.length + rb.length + 1) xa rb ha.1 ha.2 hb.1 (by omega)
  exact appendAll_denotes S.1
    (fun w => by rw [S.2 w, Bool.or_eq_true, decide_eq_true_eq, mem_runValues]) _ _

theorem differenceArrayRun_denotes (ha : (Container.array xa).WF) (hb : (Container.run nb rb).WF) :
    Denotes (.array (differenceArrayRun (xa.length + rb.length + 1) xa rb))
      (fun v => v ∈ xa ∧ v ∉ runValues rb) := by
  rw [differenceArrayRun_eq_filter _ xa rb ha.1 hb.1 (by omega)]
  exact denotes_array (sorted_filter _ ha.1)
    (fun v => by rw [List.mem_filter, not_mem_runValues, Bool.not_eq_true']) (fun v h => ha.2 v h.1)

/-- the result goes through `optimize`, so it is nil when nothing is left. -/
theorem differenceRunArray_denotes (ha : (Container.run na ra).WF) (hb : (Container.array xb).WF) :
    DenotesO (differenceRunArray ra xb) (fun v => v ∈ runValues ra ∧ v ∉ xb) := by
  cases xb with
  | nil =>
    have O := Container.optimize_spec (c := .run (runsCard ra) ra) ⟨ha.1, rfl⟩
    exact ⟨O.1, fun v => (O.2 v).trans ⟨fun h => ⟨h, List.not_mem_nil⟩, fun h => h.1⟩⟩
  | cons vb ab =>
    have S := differenceRunArrayLoop_gen ra (some (vb, ab)) ha.1 hb.1
    have O := Container.optimize_spec (c := .run _ _) ⟨S.1, rfl⟩
    refine ⟨O.1, fun v => ?_⟩
    unfold differenceRunArray
    simp only []
    rw [O.2 v]
    show v ∈ runValues _ ↔ _
    rw [mem_runValues, S.2 v, mem_runValues]; simp

theorem xorArrayRun_denotes (ha : (Container.array xa).WF) (hb : (Container.run nb rb).WF) :
    Denotes (xorArrayRun xa rb) (fun v => (v ∈ xa ∧ v ∉ runValues rb) ∨ (v ∉ xa ∧ v ∈ runValues rb)) := by
  have S := xorArrayRunEmit_spec xa rb ha.1 ha.2 hb.1 (2 * (xa.length + rb.length) + 2) (Nat.le_refl _)
  exact appendAll_denotes S.1
    (fun w => by rw [S.2 w]; exact bne_eq_true_iff_xor _ _ _ _ decide_eq_true_iff (mem_runValues rb w).symm) _ _

theorem intersectRunRun_denotes (ha : (Container.run na ra).WF) (hb : (Container.run nb rb).WF) :
    Denotes (intersectRunRun ra rb) (fun v => v ∈ runValues ra ∧ v ∈ runValues rb) := by
  have S := intersectRunRunEmit_wf (ra.length + rb.length + 1) ra rb ha.1 hb.1 (by omega)
  exact appendAll_denotes (RunsWF.emitOK S.1)
    (fun w => by rw [S.2 w, Bool.and_eq_true, mem_runValues, mem_runValues]) _ _

theorem unionRunRun_denotes (ha : (Container.run na ra).WF) (hb : (Container.run nb rb).WF) :
    Denotes (unionRunRun ra rb) (fun v => v ∈ runValues ra ∨ v ∈ runValues rb) := by
  have S := unionRunRunEmit_spec (ra.length + rb.length + 1) ra rb ha.1 hb.1 (by omega)
  have E := appendAll_enc S.1
  exact (E.2.1.ite E.2.2).congr
    (fun w => by rw [S.2 w, Bool.or_eq_true, mem_runValues, mem_runValues])

theorem differenceRunRun_denotes (ha : (Container.run na ra).WF) (hb : (Container.run nb rb).WF) :
    Denotes (differenceRunRun ra rb) (fun v => v ∈ runValues ra ∧ v ∉ runValues rb) := by
  cases ra with
  | nil => exact ⟨⟨trivial, rfl⟩, fun v => by simp [differenceRunRun, Container.values, runValues]⟩
  | cons x ra' =>
    have S := differenceRunRunLoop_spec x ra' rb ha.1 hb.1 (2 * ((x :: ra').length + rb.length) + 2)
      (by simp only [List.length_cons]; omega)
    exact (runs_enc S.1 rfl).2.2.congr
      (fun w => by rw [S.2 w, Bool.and_eq_true, Bool.not_eq_true', mem_runValues, not_mem_runValues])

theorem xorRunRun_denotes (ha : (Container.run na ra).WF) (hb : (Container.run nb rb).WF) :
    Denotes (xorRunRun ra rb)
      (fun v => (v ∈ runValues ra ∧ v ∉ runValues rb) ∨ (v ∉ runValues ra ∧ v ∈ runValues rb)) := by
  have S := xorRunRunEmit_spec ra rb ha.1 hb.1 (4 * (ra.length + rb.length) + 4) (Nat.le_refl _)
  exact appendAll_denotes S.1
    (fun w => by
      rw [S.2 w]; exact bne_eq_true_iff_xor _ _ _ _ (mem_runValues ra w).symm (mem_runValues rb w).symm) _ _

end pairs

end PV.C01
