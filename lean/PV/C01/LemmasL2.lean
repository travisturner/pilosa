/-
C01 lemmas, Bitmap level: the set a bitmap denotes.  A bitmap is a list of (key, container) with
ascending keys, and `v` is a member iff the container stored under `highbits v` holds `lowbits v`
(`holds`, `Bitmap.mem_values_holds`).  `Asc P m l` is the invariant every loop over such a list
carries: keys ascending from `m` on and inside the key space, payloads satisfying `P`.
-/
import PV.C01.Bitmap
import PV.C01.LemmasSem
namespace PV.C01
open Spec

theorem hl_eq (v : Nat) : highbits v * 65536 + lowbits v = v := by
  unfold highbits lowbits; omega

theorem lowbits_lt (v : Nat) : lowbits v < 65536 := by
  unfold lowbits; omega

theorem highbits_mk {w : Nat} (h : w < 65536) (k : Nat) : highbits (k * 65536 + w) = k := by
  unfold highbits; omega

theorem lowbits_mk {w : Nat} (h : w < 65536) (k : Nat) : lowbits (k * 65536 + w) = w := by
  unfold lowbits; omega

theorem hl_split (v : Nat) : ∃ K w, w < 65536 ∧ v = K * 65536 + w :=
  ⟨highbits v, lowbits v, lowbits_lt v, (hl_eq v).symm⟩

theorem highbits_mul (k : Nat) : highbits (k * 65536) = k := by
  unfold highbits; omega

theorem pow64_eq : (2:Nat) ^ 64 = 18446744073709551616 := by decide
theorem maxKey_eq : maxContainerKey = 281474976710655 := by decide

theorem lt_pow64_iff (v : Nat) : v < 2 ^ 64 ↔ highbits v ≤ maxContainerKey := by
  rw [pow64_eq, maxKey_eq]; unfold highbits; omega

theorem rangeIncl_cons {s l : Nat} (h : s ≤ l) : rangeIncl s l = s :: rangeIncl (s + 1) l := by
  unfold rangeIncl
  have : l + 1 - s = (l + 1 - (s + 1)) + 1 := by omega
  rw [this, List.range'_succ]

theorem rangeIncl_nil {s l : Nat} (h : l < s) : rangeIncl s l = [] := by
  unfold rangeIncl
  have : l + 1 - s = 0 := by omega
  rw [this]; rfl

def valuesL (l : List (Nat × Container)) : List Nat := l.flatMap (fun e => valuesOf e.1 e.2)

theorem Bitmap.values_eq (b : Bitmap) : b.values = valuesL b.live := rfl

@[simp] theorem valuesL_nil : valuesL [] = [] := rfl
@[simp] theorem valuesL_cons (e : Nat × Container) (l : List (Nat × Container)) :
    valuesL (e :: l) = valuesOf e.1 e.2 ++ valuesL l := by simp [valuesL]

theorem valuesL_append (a b : List (Nat × Container)) : valuesL (a ++ b) = valuesL a ++ valuesL b := by
  simp [valuesL, List.flatMap_append]

theorem mem_valuesOf {k : Nat} {c : Container} (h : c.WF) (v : Nat) :
    v ∈ valuesOf k c ↔ (highbits v = k ∧ lowbits v ∈ c.values) := by
  unfold valuesOf
  rw [List.mem_map]
  constructor
  · rintro ⟨w, hw, rfl⟩
    have hlt := Container.values_lt h w hw
    rw [highbits_mk hlt, lowbits_mk hlt]; exact ⟨rfl, hw⟩
  · rintro ⟨rfl, h2⟩
    exact ⟨lowbits v, h2, hl_eq v⟩

theorem valuesOf_sorted {k : Nat} {c : Container} (h : c.WF) : Sorted (valuesOf k c) :=
  sorted_map_add (k * 65536) (Container.values_sorted h)

def Asc {α : Type} (P : α → Prop) : Nat → List (Nat × α) → Prop
  | _, [] => True
  | m, e :: l => m ≤ e.1 ∧ e.1 ≤ maxContainerKey ∧ P e.2 ∧ Asc P (e.1 + 1) l

section asc
variable {α β : Type} {P : α → Prop} {Q : β → Prop} {m : Nat} {l : List (Nat × α)}

theorem Asc.mono (h : Asc P m l) {m' : Nat} (hm : m' ≤ m) : Asc P m' l := by
  cases l with
  | nil => trivial
  | cons e t => exact ⟨Nat.le_trans hm h.1, h.2⟩

theorem Asc.mem (h : Asc P m l) : ∀ e ∈ l, m ≤ e.1 ∧ e.1 ≤ maxContainerKey ∧ P e.2 := by
  induction l generalizing m with
  | nil => intro e he; cases he
  | cons a t ih =>
    intro e he
    rcases List.mem_cons.mp he with rfl | he
    · exact ⟨h.1, h.2.1, h.2.2.1⟩
    · have := ih h.2.2.2 e he
      exact ⟨by have := h.1; omega, this.2⟩

theorem Asc.raise (h : Asc P m l) {k : Nat} (hk : ∀ e ∈ l, k ≤ e.1) : Asc P k l := by
  cases l with
  | nil => trivial
  | cons e t => exact ⟨hk e (by simp), h.2⟩

theorem Asc.map (f : α → β) (hf : ∀ x, P x → Q (f x)) (h : Asc P m l) :
    Asc Q m (l.map (fun e => (e.1, f e.2))) := by
  induction l generalizing m with
  | nil => trivial
  | cons a t ih => exact ⟨h.1, h.2.1, hf _ h.2.2.1, ih h.2.2.2⟩

theorem Asc.filter (p : Nat × α → Bool) (h : Asc P m l) : Asc P m (l.filter p) := by
  induction l generalizing m with
  | nil => trivial
  | cons a t ih =>
    rw [List.filter_cons]
    split
    · exact ⟨h.1, h.2.1, h.2.2.1, ih h.2.2.2⟩
    · exact (ih h.2.2.2).mono (by have := h.1; omega)

theorem Asc.consIf (c : Prop) [Decidable c] {e : Nat × α} (h1 : m ≤ e.1) (h2 : e.1 ≤ maxContainerKey)
    (hp : P e.2) (h : Asc P (e.1 + 1) l) : Asc P m ((if c then [e] else []) ++ l) := by
  split
  · exact ⟨h1, h2, hp, h⟩
  · exact h.mono (by omega)

end asc

theorem KeysAsc.tail {e : Entry} {cs : List Entry} (h : KeysAsc (e :: cs)) : KeysAsc cs := by
  cases cs with
  | nil => trivial
  | cons b t => exact h.2

theorem KeysAsc.lt {e : Entry} {cs : List Entry} (h : KeysAsc (e :: cs)) : ∀ x ∈ cs, e.1 < x.1 := by
  induction cs generalizing e with
  | nil => intro x hx; cases hx
  | cons b t ih =>
    intro x hx
    rcases List.mem_cons.mp hx with rfl | hx
    · exact h.1
    · exact Nat.lt_trans h.1 (ih h.2 x hx)

theorem KeysAsc.le_max {cs : List Entry} (h : KeysAsc cs) : ∀ x ∈ cs, x.1 ≤ maxContainerKey := by
  induction cs with
  | nil => intro x hx; cases hx
  | cons a t ih =>
    intro x hx
    cases t with
    | nil => simp at hx; subst hx; exact h
    | cons b u =>
      rcases List.mem_cons.mp hx with rfl | hx
      · have := ih h.2 b (by simp); have := h.1; omega
      · exact ih h.2 x hx

section entries
variable {P : Option Container → Prop} {m : Nat} {cs : List Entry}

theorem Asc.keysAsc (h : Asc P m cs) : KeysAsc cs := by
  induction cs generalizing m with
  | nil => trivial
  | cons a t ih =>
    cases t with
    | nil => exact h.2.1
    | cons b u => exact ⟨h.2.2.2.1, ih h.2.2.2⟩

theorem Asc.of_keysAsc (hk : KeysAsc cs) (hp : ∀ e ∈ cs, m ≤ e.1 ∧ P e.2) : Asc P m cs := by
  induction cs generalizing m with
  | nil => trivial
  | cons a t ih =>
    exact ⟨(hp a (by simp)).1, KeysAsc.le_max hk a (by simp), (hp a (by simp)).2,
      ih (KeysAsc.tail hk) (fun e he => ⟨KeysAsc.lt hk e he, (hp e (by simp [he])).2⟩)⟩

end entries

theorem Bitmap.WF.asc {b : Bitmap} (h : b.WF) : Asc WFO 0 b.cs :=
  Asc.of_keysAsc h.1 (fun e he => ⟨Nat.zero_le _, h.2.1 e he⟩)

theorem Asc.wf' {m : Nat} {R : List Entry} {bt : Bool} (h : Asc WFO m R)
    (hb : bt = true → ∀ e ∈ R, e.2 ≠ none) : (Bitmap.mk bt R).WF :=
  ⟨h.keysAsc, fun e he => (h.mem e he).2.2, hb⟩

theorem Asc.wf {m : Nat} {R : List Entry} (h : Asc WFO m R) : (Bitmap.mk false R).WF :=
  h.wf' (fun hb => by cases hb)

theorem mem_liveL {cs : List Entry} {k : Nat} {c : Container} : (k, c) ∈ liveL cs ↔ (k, some c) ∈ cs := by
  induction cs with
  | nil => simp [liveL]
  | cons e t ih =>
    rcases e with ⟨k', oc⟩
    cases oc with
    | none => simp [liveL, ih]
    | some c' =>
      simp only [liveL, List.mem_cons, ih, Prod.mk.injEq, Option.some.injEq]

theorem liveL_append (a b : List Entry) : liveL (a ++ b) = liveL a ++ liveL b := by
  induction a with
  | nil => rfl
  | cons e t ih =>
    rcases e with ⟨k, _ | c⟩
    · exact ih
    · exact congrArg _ ih

theorem liveL_length_le (cs : List Entry) : (liveL cs).length ≤ cs.length := by
  induction cs with
  | nil => exact Nat.le_refl _
  | cons e t ih =>
    rcases e with ⟨k, _ | c⟩
    · exact Nat.le_succ_of_le ih
    · exact Nat.succ_le_succ ih

theorem liveL_filter (cs : List Entry) (k : Nat) :
    liveL (cs.filter (fun e => e.1 ≥ k)) = (liveL cs).filter (fun e => e.1 ≥ k) := by
  induction cs with
  | nil => rfl
  | cons e t ih =>
    rcases e with ⟨k', _ | c⟩ <;> by_cases hk : k' ≥ k <;> simp [liveL, hk, ih]

theorem Asc.live {m : Nat} {cs : List Entry} (h : Asc WFO m cs) : Asc Container.WF m (liveL cs) := by
  induction cs generalizing m with
  | nil => trivial
  | cons e t ih =>
    rcases e with ⟨k, _ | c⟩
    · exact (ih h.2.2.2).mono (by have := h.1; omega)
    · exact ⟨h.1, h.2.1, h.2.2.1, ih h.2.2.2⟩

theorem Bitmap.WF.live {b : Bitmap} (h : b.WF) : Asc Container.WF 0 b.live := h.asc.live

/-- `Containers.Iterator(k)`: the containers from key `k` on. -/
theorem Bitmap.iterFrom_eq (b : Bitmap) (k : Nat) : (b.iterFrom k).1 = b.live.filter (fun e => e.1 ≥ k) :=
  liveL_filter b.cs k

theorem Bitmap.WF.iterFrom {b : Bitmap} (h : b.WF) (k : Nat) :
    Asc Container.WF k (b.live.filter (fun e => e.1 ≥ k)) :=
  (h.live.filter _).raise (fun x hx => by simpa using (List.mem_filter.mp hx).2)

section live
variable {m : Nat} {l : List (Nat × Container)}

theorem Asc.mem_valuesL (h : Asc Container.WF m l) (v : Nat) :
    v ∈ valuesL l ↔ ∃ e ∈ l, e.1 = highbits v ∧ lowbits v ∈ e.2.values := by
  induction l generalizing m with
  | nil => simp
  | cons e t ih =>
    rw [valuesL_cons, List.mem_append, mem_valuesOf h.2.2.1, ih h.2.2.2]
    constructor
    · rintro (⟨h1, h2⟩ | ⟨x, hx, h1, h2⟩)
      · exact ⟨e, by simp, h1.symm, h2⟩
      · exact ⟨x, by simp [hx], h1, h2⟩
    · rintro ⟨x, hx, h1, h2⟩
      rcases List.mem_cons.mp hx with rfl | hx
      · exact Or.inl ⟨h1.symm, h2⟩
      · exact Or.inr ⟨x, hx, h1, h2⟩

theorem Asc.lb (h : Asc Container.WF m l) {v : Nat} (hv : v ∈ valuesL l) : m ≤ highbits v := by
  rcases (h.mem_valuesL v).mp hv with ⟨e, he, h1, _⟩
  rw [← h1]; exact (h.mem e he).1

theorem Asc.sorted_valuesL (h : Asc Container.WF m l) : Sorted (valuesL l) := by
  induction l generalizing m with
  | nil => trivial
  | cons e t ih =>
    rw [valuesL_cons]
    apply sorted_append (valuesOf_sorted h.2.2.1) (ih h.2.2.2)
    intro x hx y hy
    have h1 := ((mem_valuesOf h.2.2.1 x).mp hx).1
    have h2 := h.2.2.2.lb hy
    have := hl_eq x; have := hl_eq y; have := lowbits_lt x
    omega

end live

theorem mem_values_entry {k : Nat} {o : Option Container} (ho : WFO o) (R : List Entry) (v : Nat) :
    v ∈ valuesL (liveL ((k, o) :: R)) ↔ (highbits v = k ∧ lowbits v ∈ valuesO o) ∨ v ∈ valuesL (liveL R) := by
  cases o with
  | none => simp [liveL, valuesO]
  | some c => simp only [liveL, valuesL_cons, List.mem_append, mem_valuesOf ho, valuesO]

theorem get_cons (bt : Bool) (k' : Nat) (oc : Option Container) (t : List Entry) (k : Nat) :
    (Bitmap.mk bt ((k', oc) :: t)).get k = if k' = k then oc else (Bitmap.mk bt t).get k := by
  unfold Bitmap.get
  by_cases h : k' = k <;> simp [h]

theorem Asc.get_eq {P : Option Container → Prop} {m : Nat} {bt : Bool} {cs : List Entry} (h : Asc P m cs)
    (k : Nat) (c : Container) : (Bitmap.mk bt cs).get k = some c ↔ (k, some c) ∈ cs := by
  induction cs generalizing m with
  | nil => simp [Bitmap.get]
  | cons e t ih =>
    rcases e with ⟨k', oc⟩
    rw [get_cons, List.mem_cons]
    by_cases hk : k' = k
    · subst hk
      rw [if_pos rfl]
      constructor
      · intro e; exact Or.inl (by rw [e])
      · rintro (e | hm)
        · exact (Prod.mk.inj e).2.symm
        · exact absurd (h.2.2.2.mem _ hm).1 (Nat.not_succ_le_self k')
    · rw [if_neg hk, ih h.2.2.2]
      constructor
      · exact Or.inr
      · rintro (e | hm)
        · exact absurd (Prod.mk.inj e).1.symm hk
        · exact hm

theorem Bitmap.get_eq {b : Bitmap} (h : b.WF) (k : Nat) (c : Container) :
    b.get k = some c ↔ (k, c) ∈ b.live :=
  (h.asc.get_eq (bt := b.btree) k c).trans mem_liveL.symm

/-- `w` is in the container stored under key `k`. -/
def holds (T : Bitmap) (k w : Nat) : Prop := w ∈ valuesO (T.get k)

theorem holds_iff_get (T : Bitmap) (k w : Nat) : holds T k w ↔ ∃ c, T.get k = some c ∧ w ∈ c.values := by
  unfold holds
  cases T.get k <;> simp [valuesO]

/-- a bitmap as a map from keys to sets of low bits. -/
theorem Bitmap.mem_values_holds {b : Bitmap} (h : b.WF) (v : Nat) :
    v ∈ b.values ↔ holds b (highbits v) (lowbits v) := by
  rw [Bitmap.values_eq, h.live.mem_valuesL, holds_iff_get]
  constructor
  · rintro ⟨⟨k, c⟩, he, h1, h2⟩
    cases h1
    exact ⟨c, (Bitmap.get_eq h _ _).mpr he, h2⟩
  · rintro ⟨c, hg, hw⟩
    exact ⟨(highbits v, c), (Bitmap.get_eq h _ _).mp hg, rfl, hw⟩

theorem Bitmap.values_sorted {b : Bitmap} (h : b.WF) : Sorted b.values := h.live.sorted_valuesL

theorem Bitmap.values_lt {b : Bitmap} (h : b.WF) : ∀ v ∈ b.values, v < 2 ^ 64 := by
  intro v hv
  rcases (h.live.mem_valuesL v).mp hv with ⟨e, he, h1, _⟩
  rw [lt_pow64_iff, ← h1]; exact (h.live.mem e he).2.1

end PV.C01
