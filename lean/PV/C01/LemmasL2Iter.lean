/-
C01 lemmas: the value iterator of a bitmap (`Bitmap.seek`, `Iter.next`, `Iter.take`,
`Iter.takeBelow`) enumerates, in ascending order, exactly the values of `b.values` that are
`≥` the seek key, then reports eof.  The proof follows `Iter.remaining`, the list of values an
iterator still has to produce.  Consequences: `Bitmap.slice`, `Bitmap.sliceRange`, `Bitmap.min`.
-/
import PV.C01.LemmasL2Reads
namespace PV.C01
open Spec

theorem filter_ge_self {l : List Nat} {lb : Nat} (h : ∀ x ∈ l, lb ≤ x) :
    l.filter (fun v => decide (lb ≤ v)) = l :=
  List.filter_eq_self.mpr (fun x hx => by simpa using h x hx)

theorem filter_ge_nil {l : List Nat} {lb : Nat} (h : ∀ x ∈ l, x < lb) :
    l.filter (fun v => decide (lb ≤ v)) = [] :=
  List.filter_eq_nil_iff.mpr (fun x hx => by have := h x hx; simp; omega)

theorem rangeIncl_filter_ge {s l lb : Nat} (h1 : s ≤ lb) :
    (rangeIncl s l).filter (fun v => decide (lb ≤ v)) = rangeIncl lb l := by
  have hs1 : Sorted (rangeIncl s l) := sorted_range' _ _
  have hs2 : Sorted (rangeIncl lb l) := sorted_range' _ _
  apply sorted_ext (sorted_filter _ hs1) hs2
  intro v
  rw [List.mem_filter, mem_rangeIncl, mem_rangeIncl]
  simp; omega

def Cursor.remaining (key : Nat) : Cursor → List Nat
  | .arr rest => rest.map (fun v => key * 65536 + v)
  | .bmp rest => rest.map (fun v => key * 65536 + v)
  | .run [] _ => []
  | .run (r :: runs') k =>
    (rangeIncl (r.start + (k + 1).toNat) r.last ++ runValues runs').map (fun v => key * 65536 + v)

def Iter.remaining (it : Iter) : List Nat :=
  (match it.cur with
    | none => []
    | some (key, cur) => cur.remaining key) ++ valuesL it.rest

/-- cursor invariant: a run cursor has offset `≥ -1` and only valid runs. -/
def Cursor.OK : Cursor → Prop
  | .arr _ => True
  | .bmp _ => True
  | .run runs k => -1 ≤ k ∧ ∀ iv ∈ runs, iv.start ≤ iv.last

/-- iterator invariant: a nil current container means eof (nothing left). -/
def Iter.OK (it : Iter) : Prop :=
  (match it.cur with
    | none => it.rest = []
    | some (_, cur) => cur.OK) ∧ ∀ e ∈ it.rest, e.2.WF

theorem startCursor_remaining (key : Nat) (c : Container) :
    (startCursor c).remaining key = valuesOf key c := by
  cases c with
  | array xs => rfl
  | bitmap n bits => rfl
  | run n ivs =>
    cases ivs with
    | nil => rfl
    | cons r rs =>
      simp only [startCursor, Cursor.remaining, valuesOf, Container.values, runValues]
      have : (-1 + 1 : Int).toNat = 0 := rfl
      rw [this, Nat.add_zero]

theorem startCursor_ok {c : Container} (h : c.WF) : (startCursor c).OK := by
  cases c with
  | array xs => trivial
  | bitmap n bits => trivial
  | run n ivs => exact ⟨Int.le_refl _, fun iv hiv => (RunsWF.valid h.1 iv hiv).1⟩

theorem advance_remaining (rest : List (Nat × Container)) :
    (Iter.advance rest).remaining = valuesL rest := by
  cases rest with
  | nil => rfl
  | cons e r =>
    rcases e with ⟨k, c⟩
    simp only [Iter.advance, Iter.remaining, startCursor_remaining, valuesL_cons]

theorem advance_ok {rest : List (Nat × Container)} (h : ∀ e ∈ rest, e.2.WF) :
    (Iter.advance rest).OK := by
  cases rest with
  | nil => exact ⟨rfl, h⟩
  | cons e r =>
    rcases e with ⟨k, c⟩
    exact ⟨startCursor_ok (h (k, c) (by simp)), fun x hx => h x (List.mem_cons_of_mem _ hx)⟩

def NextSpec (rem : List Nat) (res : Option Nat × Iter) : Prop :=
  (rem = [] ∧ ∃ it', res = (none, it')) ∨
  (∃ v it', res = (some v, it') ∧ rem = v :: it'.remaining ∧ it'.OK)

theorem next_none (f : Nat) (it : Iter) (h : it.cur = none) : Iter.next f it = (none, it) := by
  cases f with
  | zero => rfl
  | succ f => rcases it with ⟨cur, rest⟩; simp only at h; subst h; rfl

theorem next_skip {f : Nat}
    (ih : ∀ it : Iter, it.OK → it.rest.length + 2 ≤ f → NextSpec it.remaining (Iter.next f it))
    {rest : List (Nat × Container)} (hw : ∀ e ∈ rest, e.2.WF) (hf : rest.length + 1 ≤ f) :
    NextSpec (valuesL rest) (Iter.next f (Iter.advance rest)) := by
  cases rest with
  | nil => exact Or.inl ⟨rfl, _, next_none f _ rfl⟩
  | cons e r =>
    have := ih (Iter.advance (e :: r)) (advance_ok hw) (by
      rcases e with ⟨k, c⟩
      simp only [Iter.advance, List.length_cons] at hf ⊢
      omega)
    rw [advance_remaining] at this
    exact this

theorem next_spec : ∀ (f : Nat) (it : Iter), it.OK → it.rest.length + 2 ≤ f →
    NextSpec it.remaining (Iter.next f it) := by
  intro f
  induction f with
  | zero => intro it _ hf; omega
  | succ f ih =>
    intro it hok hf
    rcases it with ⟨cur, rest⟩
    have hw : ∀ e ∈ rest, e.2.WF := hok.2
    have hf' : rest.length + 1 ≤ f := by simp only at hf; omega
    cases cur with
    | none =>
      have : rest = [] := hok.1
      subst this
      exact Or.inl ⟨rfl, _, rfl⟩
    | some kc =>
      rcases kc with ⟨key, c⟩
      cases c with
      | arr xs =>
        cases xs with
        | nil =>
          simp only [Iter.next, Iter.remaining, Cursor.remaining, List.map_nil, List.nil_append]
          exact next_skip ih hw hf'
        | cons v xs' =>
          exact Or.inr ⟨key * 65536 + v, ⟨some (key, .arr xs'), rest⟩, rfl, rfl, ⟨trivial, hw⟩⟩
      | bmp xs =>
        cases xs with
        | nil =>
          simp only [Iter.next, Iter.remaining, Cursor.remaining, List.map_nil, List.nil_append]
          exact next_skip ih hw hf'
        | cons v xs' =>
          exact Or.inr ⟨key * 65536 + v, ⟨some (key, .bmp xs'), rest⟩, rfl, rfl, ⟨trivial, hw⟩⟩
      | run runs k =>
        have hk : -1 ≤ k := hok.1.1
        have hv : ∀ iv ∈ runs, iv.start ≤ iv.last := hok.1.2
        cases runs with
        | nil =>
          simp only [Iter.next, Iter.remaining, Cursor.remaining, List.nil_append]
          exact next_skip ih hw hf'
        | cons r runs' =>
          have hr := hv r (by simp)
          by_cases hend : k ≥ (r.last : Int) - r.start
          · have hnil : rangeIncl (r.start + (k + 1).toNat) r.last = [] := by
              apply rangeIncl_nil; omega
            cases runs' with
            | nil =>
              simp only [Iter.next, if_pos hend, Iter.remaining, Cursor.remaining, hnil, runValues,
                List.append_nil, List.map_nil, List.nil_append]
              exact next_skip ih hw hf'
            | cons r' rs =>
              right
              have hr' := hv r' (by simp)
              refine ⟨key * 65536 + r'.start, ⟨some (key, .run (r' :: rs) 0), rest⟩, ?_, ?_, ?_⟩
              · simp only [Iter.next, if_pos hend]
              · simp only [Iter.remaining, Cursor.remaining, hnil, List.nil_append, runValues]
                have : ((0 : Int) + 1).toNat = 1 := rfl
                rw [this, rangeIncl_cons hr']
                simp only [List.cons_append, List.map_cons]
              · exact ⟨⟨by omega, fun iv hiv => hv iv (by simp [hiv])⟩, hw⟩
          · right
            refine ⟨key * 65536 + r.start + (k + 1).toNat, ⟨some (key, .run (r :: runs') (k + 1)), rest⟩,
              ?_, ?_, ?_⟩
            · simp only [Iter.next, if_neg hend]
            · simp only [Iter.remaining, Cursor.remaining]
              have h1 : (k + 1 + 1).toNat = (k + 1).toNat + 1 := by omega
              have h2 : r.start + (k + 1).toNat ≤ r.last := by omega
              rw [h1, rangeIncl_cons h2]
              simp only [List.cons_append, List.map_cons, Nat.add_assoc]
            · exact ⟨⟨by omega, hv⟩, hw⟩

theorem next1_spec {it : Iter} (h : it.OK) : NextSpec it.remaining it.next1 :=
  next_spec _ it h (Nat.le_refl _)

theorem take_spec : ∀ (n : Nat) (it : Iter), it.OK →
    Iter.take n it = (it.remaining.take n, decide (it.remaining.length < n)) := by
  intro n
  induction n with
  | zero => intro it _; simp [Iter.take]
  | succ n ih =>
    intro it hok
    rcases next1_spec hok with ⟨hrem, it1, hres⟩ | ⟨v, it', hres, hrem, hok'⟩
    · simp only [Iter.take, hres, hrem]
      simp
    · simp only [Iter.take, hres, hrem, ih it' hok']
      simp

theorem takeBelow_spec : ∀ (f e : Nat) (it : Iter), it.OK → it.remaining.length ≤ f →
    Iter.takeBelow f e it = it.remaining.takeWhile (fun v => decide (v < e)) := by
  intro f
  induction f with
  | zero =>
    intro e it _ hl
    have : it.remaining = [] := List.length_eq_zero_iff.mp (by omega)
    rw [this]; rfl
  | succ f ih =>
    intro e it hok hl
    rcases next1_spec hok with ⟨hrem, it1, hres⟩ | ⟨v, it', hres, hrem, hok'⟩
    · simp only [Iter.takeBelow, hres, hrem]
      rfl
    · rw [hrem] at hl
      simp only [List.length_cons] at hl
      simp only [Iter.takeBelow, hres, hrem, List.takeWhile_cons]
      by_cases hv : v < e
      · rw [if_pos hv, if_pos (by simpa using hv), ih e it' hok' (by omega)]
      · rw [if_neg hv, if_neg (by simpa using hv)]

theorem filter_map_add (B : Nat) (xs : List Nat) (lb : Nat) :
    (xs.map (fun v => B + v)).filter (fun v => decide (B + lb ≤ v))
      = (xs.filter (fun v => decide (lb ≤ v))).map (fun v => B + v) := by
  rw [List.filter_map]
  apply congrArg
  apply List.filter_congr
  intro v _
  simp only [Function.comp, Nat.add_le_add_iff_left]

/-- cutting the container at key `k` at the value `k * 65536 + lb` is cutting its own values at `lb`. -/
theorem filter_valuesOf_ge (k : Nat) (c : Container) {s lb : Nat} (hs : k * 65536 + lb = s) :
    (valuesOf k c).filter (fun v => decide (s ≤ v))
      = (c.values.filter (fun v => decide (lb ≤ v))).map (fun v => k * 65536 + v) := by
  subst hs
  exact filter_map_add (k * 65536) c.values lb

theorem runValues_gt {a : Iv} {t : List Iv} (h : RunsWF (a :: t)) : ∀ v ∈ runValues t, a.last < v := by
  intro v hv
  rw [mem_runValues] at hv
  simp only [inRuns, List.any_eq_true] at hv
  rcases hv with ⟨iv, hiv, hv⟩
  rw [inIv_iff] at hv
  have := RunsWF.gt h iv hiv
  omega

/-- `binSearchRuns` on the runs of a container: what is left from the first run with `last ≥ lb` on. -/
theorem run_seek {ivs : List Iv} {lb : Nat} (hw : RunsWF ivs) :
    match ivs.dropWhile (fun iv => decide (iv.last < lb)) with
    | [] => (runValues ivs).filter (fun v => decide (lb ≤ v)) = []
    | iv :: rs => lb ≤ iv.last ∧ RunsWF (iv :: rs) ∧
        (runValues ivs).filter (fun v => decide (lb ≤ v))
          = (rangeIncl iv.start iv.last).filter (fun v => decide (lb ≤ v)) ++ runValues rs := by
  induction ivs with
  | nil => rfl
  | cons a t ih =>
    rw [List.dropWhile_cons]
    by_cases h1 : a.last < lb
    · have hnil : (rangeIncl a.start a.last).filter (fun v => decide (lb ≤ v)) = [] :=
        filter_ge_nil (fun x hx => by rw [mem_rangeIncl] at hx; omega)
      rw [if_pos (by simpa using h1)]
      simp only [runValues, List.filter_append, hnil, List.nil_append]
      exact ih (RunsWF.tail hw)
    · rw [if_neg (by simpa using h1)]
      refine ⟨by omega, hw, ?_⟩
      simp only [runValues, List.filter_append]
      exact congrArg _ (filter_ge_self (fun x hx => by have := runValues_gt hw x hx; omega))

theorem Bitmap.seek_spec {b : Bitmap} (h : b.WF) (k : Nat) :
    (b.seek k).remaining = Spec.seek b.values k ∧ (b.seek k).OK := by
  have hlb := lowbits_lt k
  have hk := hl_eq k
  have hL := h.iterFrom (highbits k)
  -- only the containers the iterator visits matter
  have hcut : Spec.seek b.values k
      = (valuesL (b.live.filter (fun e => e.1 ≥ highbits k))).filter (fun v => decide (k ≤ v)) := by
    unfold Spec.seek
    rw [valuesL_filter_ge h.live, List.filter_filter]
    exact List.filter_congr (fun v _ => by
      by_cases hv : k ≤ v
      · simp [hv]; omega
      · simp [hv])
  rw [hcut]
  unfold Bitmap.seek
  simp only []
  rw [Bitmap.iterFrom_eq]
  generalize b.live.filter (fun e => e.1 ≥ highbits k) = l at hL
  cases l with
  | nil => exact ⟨rfl, rfl, fun _ he => nomatch he⟩
  | cons e rest =>
    rcases e with ⟨key, c⟩
    have hwc : c.WF := hL.2.2.1
    have hwr : ∀ e ∈ rest, e.2.WF := fun x hx => (hL.2.2.2.mem x hx).2.2
    have hkey : highbits k ≤ key := hL.1
    -- the later containers lie entirely above the seek key
    have hB : (valuesL rest).filter (fun v => decide (k ≤ v)) = valuesL rest :=
      filter_ge_self (fun v hv => by have := hL.2.2.2.lb hv; have := hl_eq v; omega)
    rw [valuesL_cons, List.filter_append, hB]
    by_cases hkgt : key > highbits k
    · have hA : (valuesOf key c).filter (fun v => decide (k ≤ v)) = valuesOf key c :=
        filter_ge_self (fun v hv => by
          have := ((mem_valuesOf hwc v).mp hv).1; have := hl_eq v; omega)
      rw [hA, ← startCursor_remaining]
      cases c <;> simp only [if_pos hkgt] <;> exact ⟨rfl, startCursor_ok hwc, hwr⟩
    · have hkeq : key = highbits k := by omega
      subst hkeq
      rw [filter_valuesOf_ge _ c hk]
      cases c with
      | array xs =>
        simp only [if_neg hkgt, Container.values, sorted_dropWhile_lt hwc.1]
        split
        · exact ⟨rfl, trivial, hwr⟩
        · rename_i hlen
          rw [List.length_eq_zero_iff.mp (by omega : (xs.filter (fun v => decide (lowbits k ≤ v))).length = 0),
            advance_remaining]
          exact ⟨rfl, advance_ok hwr⟩
      | bitmap n bits =>
        simp only [if_neg hkgt, Container.values, sorted_dropWhile_lt hwc.1]
        exact ⟨rfl, trivial, hwr⟩
      | run n ivs =>
        simp only [if_neg hkgt, Container.values]
        have hrs := run_seek (lb := lowbits k) hwc.1
        cases hr : ivs.dropWhile (fun iv => decide (iv.last < lowbits k)) with
        | nil =>
          rw [hr] at hrs
          simp only
          rw [hrs, advance_remaining]
          exact ⟨rfl, advance_ok hwr⟩
        | cons iv rs =>
          rw [hr] at hrs
          have hiv := RunsWF.head hrs.2.1
          have hvalid : ∀ x ∈ iv :: rs, x.start ≤ x.last := fun x hx => (RunsWF.valid hrs.2.1 x hx).1
          simp only
          rw [hrs.2.2]
          split
          · rename_i hst
            refine ⟨?_, ⟨by omega, hvalid⟩, hwr⟩
            simp only [Iter.remaining, Cursor.remaining]
            have h1 : ((lowbits k : Int) - iv.start - 1 + 1).toNat = lowbits k - iv.start := by omega
            have h2 : iv.start + (lowbits k - iv.start) = lowbits k := by omega
            rw [h1, h2, rangeIncl_filter_ge hst]
          · rename_i hst
            refine ⟨?_, ⟨Int.le_refl _, hvalid⟩, hwr⟩
            simp only [Iter.remaining, Cursor.remaining]
            have h1 : ((-1 : Int) + 1).toNat = 0 := rfl
            rw [h1, Nat.add_zero, filter_ge_self]
            intro x hx
            rw [mem_rangeIncl] at hx
            omega

theorem Bitmap.card_eq (b : Bitmap) : b.card = b.values.length :=
  valuesL_card b.live

theorem seek_zero (xs : List Nat) : Spec.seek xs 0 = xs :=
  filter_ge_self (fun x _ => Nat.zero_le x)

/-- `Seek(k)` followed by `n` calls of `Next`. -/
theorem Bitmap.seek_take_spec {b : Bitmap} (h : b.WF) (k n : Nat) :
    Iter.take n (b.seek k) = ((Spec.seek b.values k).take n, decide ((Spec.seek b.values k).length < n)) := by
  have hs := Bitmap.seek_spec h k
  rw [take_spec n _ hs.2, hs.1]

theorem Bitmap.slice_spec {b : Bitmap} (h : b.WF) : b.slice = b.values := by
  unfold Bitmap.slice
  rw [Bitmap.seek_take_spec h, seek_zero, Bitmap.card_eq]
  exact List.take_of_length_le (by omega)

theorem Bitmap.sliceRange_spec {b : Bitmap} (h : b.WF) (s e : Nat) :
    b.sliceRange s e = Spec.sliceRange b.values s e := by
  unfold Bitmap.sliceRange
  have hs := Bitmap.seek_spec h s
  rw [takeBelow_spec _ e _ hs.2 (by
    rw [hs.1, Bitmap.card_eq]
    have := List.length_filter_le (fun v => decide (s ≤ v)) b.values
    unfold Spec.seek; omega)]
  rw [hs.1]
  unfold Spec.seek Spec.sliceRange
  rw [sorted_takeWhile_lt (sorted_filter _ (Bitmap.values_sorted h)), List.filter_filter]
  exact List.filter_congr (fun v _ => Bool.and_comm _ _)

theorem Bitmap.min_spec {b : Bitmap} (h : b.WF) :
    b.min = (match b.values with | [] => (0, false) | v :: _ => (v, true)) := by
  have hs := Bitmap.seek_spec h 0
  rw [seek_zero] at hs
  unfold Bitmap.min
  rcases next1_spec hs.2 with ⟨hrem, it1, hres⟩ | ⟨v, it', hres, hrem, _⟩
  · rw [hs.1] at hrem
    rw [hres, hrem]
  · rw [hs.1] at hrem
    rw [hres, hrem]

end PV.C01
