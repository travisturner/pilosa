import PV.C01.LemmasL2Iter
import PV.C01.LemmasKernels
namespace PV.C01
open Spec

theorem optimizeO_spec {o : Option Container} (h : WFO o) :
    WFO (o.bind Container.optimize) ∧ ∀ w, w ∈ valuesO (o.bind Container.optimize) ↔ w ∈ valuesO o := by
  cases o with
  | none => exact ⟨trivial, fun _ => Iff.rfl⟩
  | some c => exact Container.optimize_spec h

theorem liveL_filter_isSome (l : List Entry) : liveL (l.filter (fun e => e.2.isSome)) = liveL l := by
  induction l with
  | nil => rfl
  | cons e t ih =>
    rcases e with ⟨k, _ | c⟩
    · simp only [List.filter_cons, Option.isSome_none, Bool.false_eq_true, if_false, liveL]; exact ih
    · simp only [List.filter_cons, Option.isSome_some, if_true, liveL, ih]

theorem optimize_entries_mem (cs : List Entry) (hw : ∀ e ∈ cs, WFO e.2) (v : Nat) :
    v ∈ valuesL (liveL (cs.map (fun e => (e.1, e.2.bind Container.optimize)))) ↔ v ∈ valuesL (liveL cs) := by
  induction cs with
  | nil => exact Iff.rfl
  | cons e t ih =>
    have O := optimizeO_spec (hw e (by simp))
    rw [List.map_cons, mem_values_entry O.1, mem_values_entry (hw e (by simp)), O.2,
      ih (fun x hx => hw x (by simp [hx]))]

theorem Bitmap.optimize_spec {b : Bitmap} (h : b.WF) :
    b.optimize.WF ∧ ∀ v, v ∈ b.optimize.values ↔ v ∈ b.values := by
  have hA : Asc WFO 0 (b.cs.map (fun e => (e.1, e.2.bind Container.optimize))) :=
    h.asc.map _ (fun _ ho => (optimizeO_spec ho).1)
  have hm := optimize_entries_mem b.cs h.2.1
  unfold Bitmap.optimize
  simp only []
  split
  · refine ⟨(hA.filter _).wf' (fun _ e he hn => ?_), fun v => ?_⟩
    · have := (List.mem_filter.mp he).2
      rw [hn] at this; cases this
    · show v ∈ valuesL (liveL _) ↔ _
      rw [liveL_filter_isSome]; exact hm v
  · exact ⟨hA.wf, hm⟩

theorem sorted_map_lowbits {k : Nat} : ∀ (l : List Nat), Sorted l → (∀ x ∈ l, highbits x = k) →
    Sorted (l.map lowbits) := by
  intro l
  induction l with
  | nil => intro _ _; trivial
  | cons a t ih =>
    intro hs hk
    rw [List.map_cons]
    apply sorted_cons (ih (sorted_tail hs) (fun x hx => hk x (by simp [hx])))
    intro y hy
    rcases List.mem_map.mp hy with ⟨x, hx, rfl⟩
    have := sorted_lt hs x hx
    have := hk a (by simp)
    have := hk x (by simp [hx])
    have := hl_eq a; have := hl_eq x
    omega

theorem arrayOrBitmap_wf {vs : List Nat} (hs : Sorted vs) (hlt : ∀ v ∈ vs, v < 65536) :
    (arrayOrBitmap vs).WF ∧ (arrayOrBitmap vs).values = vs := by
  unfold arrayOrBitmap; split
  · exact ⟨⟨hs, hlt⟩, rfl⟩
  · exact ⟨⟨hs, hlt, rfl⟩, rfl⟩

/-- `DirectAdd` of ascending values: the values sharing the key of the first one form the first
container, the others (all with larger keys) follow; read back, the containers give the values again. -/
theorem groupByKey_spec : ∀ (fuel : Nat) (vs : List Nat) (m : Nat), Sorted vs →
    (∀ v ∈ vs, m ≤ highbits v ∧ highbits v ≤ maxContainerKey) → vs.length < fuel →
    Asc WFO m ((groupByKey fuel vs).map (fun g => (g.1, some (arrayOrBitmap g.2)))) ∧
    valuesL (liveL ((groupByKey fuel vs).map (fun g => (g.1, some (arrayOrBitmap g.2))))) = vs := by
  intro fuel
  induction fuel with
  | zero => intro vs _ _ _ hl; omega
  | succ fuel ih =>
    intro vs m hs hb hl
    cases vs with
    | nil => exact ⟨trivial, rfl⟩
    | cons v0 rest =>
      have hge : ∀ x ∈ v0 :: rest, highbits v0 ≤ highbits x := by
        intro x hx
        rcases List.mem_cons.mp hx with rfl | hx
        · exact Nat.le_refl _
        · have := sorted_lt hs x hx; have := hl_eq v0; have := hl_eq x; have := lowbits_lt x; omega
      -- the values with the first key are a prefix
      have hcut := sorted_takeWhile_dropWhile (p := fun x => decide (highbits x = highbits v0)) hs
        (fun x hx y hy hxy hy' => by
          have := hge x hx; have := hl_eq x; have := hl_eq y; have := lowbits_lt y
          simp only [decide_eq_true_eq] at hy' ⊢; omega)
      have hsame : ∀ x ∈ (v0 :: rest).filter (fun x => decide (highbits x = highbits v0)), highbits x = highbits v0 :=
        fun x hx => by simpa using (List.mem_filter.mp hx).2
      have hothers : ∀ x, x ∈ (v0 :: rest).filter (fun x => !decide (highbits x = highbits v0)) →
          (x ∈ v0 :: rest ∧ highbits x ≠ highbits v0) := fun x hx => by
        simpa using List.mem_filter.mp hx
      have IH := ih ((v0 :: rest).filter (fun x => !decide (highbits x = highbits v0))) (highbits v0 + 1)
        (sorted_filter _ hs)
        (fun x hx => by
          have := hothers x hx
          exact ⟨by have := hge x this.1; omega, (hb x this.1).2⟩)
        (by
          rw [List.filter_cons, if_neg (by simp)]
          have := List.length_filter_le (fun x => !decide (highbits x = highbits v0)) rest
          simp only [List.length_cons] at hl
          omega)
      have A := arrayOrBitmap_wf
        (sorted_map_lowbits _ (sorted_filter (fun x => decide (highbits x = highbits v0)) hs) hsame)
        (fun w hw => by rcases List.mem_map.mp hw with ⟨x, _, rfl⟩; exact lowbits_lt x)
      rw [← hcut.2] at IH
      rw [← hcut.1] at A hsame
      simp only [groupByKey, List.map_cons]
      refine ⟨⟨(hb v0 (by simp)).1, (hb v0 (by simp)).2, A.1, IH.1⟩, ?_⟩
      -- key and low bits put together give the value back
      simp only [liveL, valuesL_cons]
      unfold valuesOf
      rw [IH.2, A.2, List.map_map, List.map_congr_left (g := id) (fun x hx => by rw [← hsame x hx]; exact hl_eq x),
        List.map_id, List.takeWhile_append_dropWhile]

theorem Bitmap.ofValues_spec (bt : Bool) (vs : List Nat) (hs : Sorted vs) (hlt : ∀ v ∈ vs, v < 2 ^ 64) :
    (Bitmap.ofValues bt vs).WF ∧ ∀ v, v ∈ (Bitmap.ofValues bt vs).values ↔ v ∈ vs := by
  have S := groupByKey_spec (vs.length + 1) vs 0 hs
    (fun v hv => ⟨Nat.zero_le _, (lt_pow64_iff v).mp (hlt v hv)⟩) (Nat.lt_succ_self _)
  refine ⟨S.1.wf' (fun _ e he => ?_), fun v => by rw [Bitmap.values_eq]; exact (congrArg (v ∈ ·) S.2).to_iff⟩
  rcases List.mem_map.mp he with ⟨g, _, rfl⟩
  simp

theorem offsetRangeLoop_spec (off hi0 hi1 : Nat) (hfit : off + (hi1 - hi0) ≤ maxContainerKey + 1) :
    ∀ (l : List (Nat × Container)) (m : Nat), Asc Container.WF m l → hi0 ≤ m →
    Asc WFO (off + (m - hi0)) (offsetRangeLoop off hi0 hi1 l) ∧
    ∀ v, v ∈ valuesL (liveL (offsetRangeLoop off hi0 hi1 l)) ↔
      ∃ x ∈ valuesL l, x < hi1 * 65536 ∧ v = x - hi0 * 65536 + off * 65536 := by
  intro l
  induction l with
  | nil => intro m _ _; exact ⟨trivial, fun v => by simp [offsetRangeLoop, liveL]⟩
  | cons e rest ih =>
    intro m hl hm
    rcases e with ⟨k, c⟩
    have hc : c.WF := hl.2.2.1
    have hk : m ≤ k := hl.1
    simp only [offsetRangeLoop]
    split
    · rename_i hge
      refine ⟨trivial, fun v => ?_⟩
      simp only [liveL, valuesL_nil, List.not_mem_nil, false_iff]
      rintro ⟨x, hx, h1, _⟩
      have hl' : Asc Container.WF k ((k, c) :: rest) := ⟨Nat.le_refl _, hl.2⟩
      have := hl'.lb hx
      have := hl_eq x
      omega
    · rename_i hlt
      have IH := ih (k + 1) hl.2.2.2 (by omega)
      refine ⟨⟨by omega, by omega, hc, IH.1.mono (by omega)⟩, fun v => ?_⟩
      rw [mem_values_entry (o := some c) hc, IH.2 v, valuesL_cons]
      constructor
      · rintro (⟨h1, h2⟩ | ⟨x, hx, h⟩)
        · refine ⟨k * 65536 + lowbits v, List.mem_append.mpr (Or.inl ((mem_valuesOf_add k c _).mpr h2)), ?_, ?_⟩
          · have := lowbits_lt v; omega
          · have := hl_eq v; omega
        · exact ⟨x, List.mem_append.mpr (Or.inr hx), h⟩
      · rintro ⟨x, hx, h1, h2⟩
        rcases List.mem_append.mp hx with hx | hx
        · left
          have hx' := (mem_valuesOf hc x).mp hx
          have hw := Container.values_lt hc _ hx'.2
          have hv : v = (off + (k - hi0)) * 65536 + lowbits x := by have := hl_eq x; omega
          rw [hv, highbits_mk hw, lowbits_mk hw]
          exact ⟨rfl, hx'.2⟩
        · exact Or.inr ⟨x, hx, h1, h2⟩

theorem Bitmap.offsetRange_spec {b : Bitmap} (h : b.WF) (offset s e : Nat)
    (ho : lowbits offset = 0) (hs : lowbits s = 0) (he : lowbits e = 0)
    (hfit : highbits offset + (highbits e - highbits s) ≤ maxContainerKey + 1) :
    ∃ r, b.offsetRange offset s e = some r ∧ r.WF ∧
      ∀ v, v ∈ r.values ↔ ∃ x ∈ b.values, s ≤ x ∧ x < e ∧ v = x - s + offset := by
  have hcond : ¬ (lowbits offset ≠ 0 ∨ lowbits s ≠ 0 ∨ lowbits e ≠ 0) := by
    rw [ho, hs, he]; simp
  unfold Bitmap.offsetRange
  rw [if_neg hcond, Bitmap.iterFrom_eq]
  -- the three arguments are multiples of 65536
  obtain ⟨O, rfl⟩ : ∃ O, offset = O * 65536 := ⟨highbits offset, by have := hl_eq offset; omega⟩
  obtain ⟨S, rfl⟩ : ∃ S, s = S * 65536 := ⟨highbits s, by have := hl_eq s; omega⟩
  obtain ⟨E, rfl⟩ : ∃ E, e = E * 65536 := ⟨highbits e, by have := hl_eq e; omega⟩
  simp only [highbits_mul] at hfit ⊢
  have R := offsetRangeLoop_spec O S E hfit _ _ (h.iterFrom S) (Nat.le_refl _)
  refine ⟨_, rfl, R.1.wf, fun v => ?_⟩
  show v ∈ valuesL (liveL _) ↔ _
  rw [R.2 v, valuesL_filter_ge h.live, ← Bitmap.values_eq]
  simp only [List.mem_filter, decide_eq_true_eq, and_assoc]

/-- the middle loop of `Flip` is the merge of the values with the positions `[i, e]` that keeps
what is on one side only: position `i` meets the least value, as in `merge`. -/
theorem flipMid_eq_merge : ∀ (fuel i e : Nat) (vs : List Nat), Sorted vs → (∀ v ∈ vs, i ≤ v) → e + 1 - i < fuel →
    (flipMid fuel i e vs).1 ++ (flipMid fuel i e vs).2 = Common.Asc.merge (fun x y => x != y) vs (rangeIncl i e) := by
  intro fuel
  induction fuel with
  | zero => intro i e vs _ _ hf; omega
  | succ fuel ih =>
    intro i e vs hs hlo hf
    by_cases hie : i > e
    · rw [rangeIncl_nil hie]
      cases vs <;> simp [flipMid, hie, Common.Asc.merge]
    · rw [rangeIncl_cons (Nat.le_of_not_lt hie)]
      cases vs with
      | nil =>
        simp only [flipMid, if_neg hie, List.cons_append]
        rw [ih (i + 1) e [] trivial (fun _ h => nomatch h) (by omega)]
        simp [Common.Asc.merge]
      | cons x xs =>
        have hgt := sorted_lt hs
        have hx := hlo x List.mem_cons_self
        by_cases hxi : x = i
        · subst hxi
          simp only [flipMid, if_neg hie, if_true, Common.Asc.merge, Common.Asc.keep, Nat.lt_irrefl, if_false,
            bne_self_eq_false, Bool.false_eq_true]
          exact ih (x + 1) e xs (sorted_tail hs) (fun v hv => hgt v hv) (by omega)
        · have hlt : i < x := by omega
          simp only [flipMid, if_neg hie, if_neg hxi, Common.Asc.merge, Common.Asc.keep, if_neg (Nat.lt_asymm hlt),
            if_pos hlt, List.cons_append, Bool.false_bne, if_true]
          exact congrArg _ (ih (i + 1) e (x :: xs) hs (fun v hv => by
            rcases List.mem_cons.mp hv with rfl | hv
            · omega
            · have := hgt v hv; omega) (by omega))
/-- the whole walk of `Flip` over the ascending values: those below `s` are copied, then the middle loop. -/
theorem flipWalk_eq (s e fuel : Nat) (hf : e + 1 - s < fuel) : ∀ (vs : List Nat), Sorted vs →
    vs.takeWhile (· < s) ++ ((flipMid fuel s e (vs.dropWhile (· < s))).1 ++ (flipMid fuel s e (vs.dropWhile (· < s))).2)
      = Common.Asc.merge (fun x y => x != y) vs (rangeIncl s e) := by
  intro vs
  induction vs with
  | nil => intro _; exact flipMid_eq_merge fuel s e [] trivial (fun _ h => nomatch h) hf
  | cons v vs' ih =>
    intro hs
    by_cases hv : v < s
    · rw [List.takeWhile_cons, List.dropWhile_cons, if_pos (by simpa using hv), if_pos (by simpa using hv),
        List.cons_append, ih (sorted_tail hs)]
      by_cases hse : s ≤ e
      · rw [rangeIncl_cons hse]
        simp only [Common.Asc.merge, Common.Asc.keep, if_pos hv, Bool.true_bne, Bool.not_false, if_true]
      · rw [rangeIncl_nil (by omega)]
        cases vs' <;> simp [Common.Asc.merge]
    · rw [List.takeWhile_cons, List.dropWhile_cons, if_neg (by simpa using hv), if_neg (by simpa using hv),
        List.nil_append]
      exact flipMid_eq_merge fuel s e _ hs (fun x hx => by
        rcases List.mem_cons.mp hx with rfl | hx
        · omega
        · have := sorted_lt hs x hx; omega) hf

/-- `Flip` rebuilds the bitmap from the specification's flip of its values. -/
theorem Bitmap.flip_eq {b : Bitmap} (h : b.WF) (s e : Nat) :
    b.flip s e = Bitmap.ofValues false (Spec.flip b.values s e) := by
  unfold Bitmap.flip Spec.flip Spec.xor Spec.op
  simp only []
  rw [Bitmap.slice_spec h, List.append_assoc, flipWalk_eq s e _ (by omega) _ (Bitmap.values_sorted h),
    merge2_eq_merge _ _ _ _ (Nat.le_refl _)]

theorem Bitmap.flip_spec {b : Bitmap} (h : b.WF) (s e : Nat) (he : e < 2 ^ 64) :
    (b.flip s e).WF ∧
    ∀ v, v ∈ (b.flip s e).values ↔ ((v ∈ b.values ∧ ¬ (s ≤ v ∧ v ≤ e)) ∨ (v ∉ b.values ∧ s ≤ v ∧ v ≤ e)) := by
  have hs := Bitmap.values_sorted h
  have hr : Sorted (rangeIncl s e) := sorted_range' _ _
  have hm : ∀ v, v ∈ Spec.flip b.values s e ↔
      ((v ∈ b.values ∧ ¬ (s ≤ v ∧ v ≤ e)) ∨ (v ∉ b.values ∧ s ≤ v ∧ v ≤ e)) := fun v => by
    unfold Spec.flip; rw [mem_xor hs hr, mem_rangeIncl]
  have O := Bitmap.ofValues_spec false _ (sorted_xor hs hr) (fun v hv => by
    rcases (hm v).mp hv with ⟨h1, _⟩ | ⟨_, _, h3⟩
    · exact Bitmap.values_lt h v h1
    · omega)
  rw [Bitmap.flip_eq h]
  exact ⟨O.1, fun v => (O.2 v).trans (hm v)⟩

end PV.C01
