/-
C01 lemmas: the key-merge loop shared by Intersect, Union, Difference and Xor, given the
correctness of the container kernel (a hypothesis here: the dispatchers are not imported; Props
supplies it); IntersectionCount as the cardinality of Intersect.
-/
import PV.C01.LemmasL2
namespace PV.C01
open Spec

theorem mem_single (k : Nat) (c : Container) (flag : Bool) (v : Nat) :
    v ∈ valuesL (liveL (if flag then [(k, some c)] else [])) ↔ (flag = true ∧ v ∈ valuesOf k c) := by
  cases flag <;> simp [liveL, valuesL]

/-- a key present on one side only; `g` is the Boolean function read from that side. -/
theorem merge_one_side {g : Bool → Bool → Bool} {flag : Bool} (h00 : g false false = false)
    (h10 : g true false = flag) {m k : Nat} {c : Container} {t other : List (Nat × Container)} {out : List Entry}
    (ht : Asc Container.WF m ((k, c) :: t)) (ho : Asc Container.WF (k + 1) other) (hout : Asc WFO (k + 1) out)
    (hm : ∀ v, v ∈ valuesL (liveL out) ↔ g (decide (v ∈ valuesL t)) (decide (v ∈ valuesL other)) = true) :
    Asc WFO m ((if flag then [(k, some c)] else []) ++ out) ∧
    ∀ v, v ∈ valuesL (liveL ((if flag then [(k, some c)] else []) ++ out))
      ↔ g (decide (v ∈ valuesL ((k, c) :: t))) (decide (v ∈ valuesL other)) = true := by
  refine ⟨Asc.consIf _ ht.1 ht.2.1 ht.2.2.1 hout, fun v => ?_⟩
  rw [liveL_append, valuesL_append, List.mem_append, mem_single, hm v]
  by_cases hv : highbits v = k
  · have h1 : v ∉ valuesL t := fun hm => by have := ht.2.2.2.lb hm; omega
    have h2 : v ∉ valuesL other := fun hm => by have := ho.lb hm; omega
    by_cases hm : v ∈ valuesOf k c <;> simp [hm, h1, h2, h00, h10]
  · have h1 : v ∉ valuesOf k c := fun hm => hv ((mem_valuesOf ht.2.2.1 v).mp hm).1
    simp [h1]

section merge
variable (onlyA onlyB : Bool) (both : Container → Container → Option Container)

/-! The five equations of `mergeLoop` are three steps: the smaller key is on the left, on the
right, or on both sides. -/

theorem mergeLoop_left {P : Container → Prop} (fuel ki : Nat) (ci : Container) (ia : List (Nat × Container))
    {lb : List (Nat × Container)} (hb : Asc P (ki + 1) lb) :
    mergeLoop onlyA onlyB both (fuel + 1) ((ki, ci) :: ia) lb
      = (if onlyA then [(ki, some ci)] else []) ++ mergeLoop onlyA onlyB both fuel ia lb := by
  cases lb with
  | nil => rfl
  | cons y jb =>
    have : ki < y.1 := hb.1
    simp only [mergeLoop, if_pos this]

theorem mergeLoop_right {P : Container → Prop} (fuel kj : Nat) (cj : Container) (jb : List (Nat × Container))
    {la : List (Nat × Container)} (ha : Asc P (kj + 1) la) :
    mergeLoop onlyA onlyB both (fuel + 1) la ((kj, cj) :: jb)
      = (if onlyB then [(kj, some cj)] else []) ++ mergeLoop onlyA onlyB both fuel la jb := by
  cases la with
  | nil => rfl
  | cons x ia =>
    have : kj < x.1 := ha.1
    simp only [mergeLoop, if_neg (Nat.lt_asymm this), if_pos this]

theorem mergeLoop_both (fuel k : Nat) (ci cj : Container) (ia jb : List (Nat × Container)) :
    mergeLoop onlyA onlyB both (fuel + 1) ((k, ci) :: ia) ((k, cj) :: jb)
      = (k, both ci cj) :: mergeLoop onlyA onlyB both fuel ia jb := by
  simp only [mergeLoop, Nat.lt_irrefl, if_false]

variable (f : Bool → Bool → Bool)
variable (h00 : f false false = false) (h10 : f true false = onlyA) (h01 : f false true = onlyB)
variable (hk : KernelOK both f)
include h00 h10 h01 hk

theorem mergeLoop_spec : ∀ (fuel m : Nat) (la lb : List (Nat × Container)),
    Asc Container.WF m la → Asc Container.WF m lb → la.length + lb.length ≤ fuel →
    Asc WFO m (mergeLoop onlyA onlyB both fuel la lb) ∧
    ∀ v, v ∈ valuesL (liveL (mergeLoop onlyA onlyB both fuel la lb))
        ↔ f (decide (v ∈ valuesL la)) (decide (v ∈ valuesL lb)) = true := by
  intro fuel
  induction fuel with
  | zero =>
    intro m la lb _ _ hl
    rw [List.length_eq_zero_iff.mp (Nat.le_zero.mp (Nat.le_trans (Nat.le_add_right _ _) hl)),
      List.length_eq_zero_iff.mp (Nat.le_zero.mp (Nat.le_trans (Nat.le_add_left _ _) hl))]
    exact ⟨trivial, fun v => by simp [mergeLoop, liveL, h00]⟩
  | succ fuel ih =>
    intro m la lb ha hb hl
    match la, lb with
    | [], [] => exact ⟨trivial, fun v => by simp [mergeLoop, liveL, h00]⟩
    | (ki, ci) :: ia, [] =>
      have IH := ih (ki + 1) ia [] ha.2.2.2 trivial (by simp at hl ⊢; omega)
      exact merge_one_side h00 h10 ha trivial IH.1 IH.2
    | [], (kj, cj) :: jb =>
      have IH := ih (kj + 1) [] jb trivial hb.2.2.2 (by simp at hl ⊢; omega)
      exact merge_one_side (g := fun p q => f q p) h00 h01 hb trivial IH.1 IH.2
    | (ki, ci) :: ia, (kj, cj) :: jb =>
      rcases Nat.lt_trichotomy ki kj with hlt | heq | hgt
      · have hb' : Asc Container.WF (ki + 1) ((kj, cj) :: jb) := ⟨hlt, hb.2⟩
        have IH := ih (ki + 1) ia _ ha.2.2.2 hb' (by simp at hl ⊢; omega)
        rw [mergeLoop_left _ _ _ _ _ _ _ hb']
        exact merge_one_side h00 h10 ha hb' IH.1 IH.2
      · subst heq
        have IH := ih (ki + 1) ia jb ha.2.2.2 hb.2.2.2 (by simp at hl ⊢; omega)
        have hker := hk ci cj ha.2.2.1 hb.2.2.1
        rw [mergeLoop_both]
        refine ⟨⟨ha.1, ha.2.1, hker.1, IH.1⟩, fun v => ?_⟩
        rw [mem_values_entry hker.1, IH.2 v, ← memO_iff hker.1, hker.2, mem_eq ha.2.2.1, mem_eq hb.2.2.1]
        by_cases hv : highbits v = ki
        · have h1 : v ∉ valuesL ia := fun hm => by have := ha.2.2.2.lb hm; omega
          have h2 : v ∉ valuesL jb := fun hm => by have := hb.2.2.2.lb hm; omega
          simp [mem_valuesOf ha.2.2.1, mem_valuesOf hb.2.2.1, hv, h1, h2, h00]
        · simp [mem_valuesOf ha.2.2.1, mem_valuesOf hb.2.2.1, hv]
      · have ha' : Asc Container.WF (kj + 1) ((ki, ci) :: ia) := ⟨hgt, ha.2⟩
        have IH := ih (kj + 1) _ jb ha' hb.2.2.2 (by simp at hl ⊢; omega)
        rw [mergeLoop_right _ _ _ _ _ _ _ ha']
        exact merge_one_side (g := fun p q => f q p) h00 h01 hb ha' IH.1 IH.2

theorem merge_bitmap_spec {a b : Bitmap} (ha : a.WF) (hb : b.WF) :
    let r : Bitmap := ⟨false, mergeLoop onlyA onlyB both (a.cs.length + b.cs.length + 1) a.live b.live⟩
    r.WF ∧ ∀ v, v ∈ r.values ↔ f (decide (v ∈ a.values)) (decide (v ∈ b.values)) = true := by
  have hl : a.live.length + b.live.length ≤ a.cs.length + b.cs.length + 1 := by
    have := liveL_length_le a.cs; have := liveL_length_le b.cs
    unfold Bitmap.live; omega
  have S := mergeLoop_spec onlyA onlyB both f h00 h10 h01 hk _ 0 a.live b.live ha.live hb.live hl
  exact ⟨S.1.wf, S.2⟩

end merge

theorem Bitmap.union1_spec (hk : KernelOK (fun x y => some (PV.C01.union x y)) (fun p q => p || q))
    {a b : Bitmap} (ha : a.WF) (hb : b.WF) :
    (a.union1 b).WF ∧ ∀ v, v ∈ (a.union1 b).values ↔ (v ∈ a.values ∨ v ∈ b.values) := by
  have S := merge_bitmap_spec true true _ (fun p q => p || q) rfl rfl rfl hk ha hb
  exact ⟨S.1, fun v => (S.2 v).trans (by simp)⟩

theorem Bitmap.difference_spec (hk : KernelOK PV.C01.difference (fun p q => p && !q))
    {a b : Bitmap} (ha : a.WF) (hb : b.WF) :
    (a.difference b).WF ∧ ∀ v, v ∈ (a.difference b).values ↔ (v ∈ a.values ∧ v ∉ b.values) := by
  have S := merge_bitmap_spec true false _ (fun p q => p && !q) rfl rfl rfl hk ha hb
  exact ⟨S.1, fun v => (S.2 v).trans (by simp)⟩

theorem Bitmap.xor_spec (hk : KernelOK PV.C01.xor (fun p q => p != q))
    {a b : Bitmap} (ha : a.WF) (hb : b.WF) :
    (a.xor b).WF ∧ ∀ v, v ∈ (a.xor b).values ↔ ((v ∈ a.values ∧ v ∉ b.values) ∨ (v ∉ a.values ∧ v ∈ b.values)) := by
  have S := merge_bitmap_spec true true _ (fun p q => p != q) rfl rfl rfl hk ha hb
  refine ⟨S.1, fun v => (S.2 v).trans ?_⟩
  by_cases h1 : v ∈ a.values <;> by_cases h3 : v ∈ b.values <;> simp [h1, h3]

theorem mergeLoop_nil (both : Container → Container → Option Container) :
    ∀ (fuel : Nat) (la lb : List (Nat × Container)), la = [] ∨ lb = [] →
      mergeLoop false false both fuel la lb = [] := by
  intro fuel
  induction fuel with
  | zero => intro la lb _; rfl
  | succ fuel ih =>
    intro la lb h
    match la, lb, h with
    | [], [], _ => rfl
    | x :: ia, [], _ => simp [mergeLoop, ih ia [] (Or.inr rfl)]
    | [], y :: jb, _ => simp [mergeLoop, ih [] jb (Or.inl rfl)]

/-- `intersectLoop` is the merge loop that copies nothing. -/
theorem intersectLoop_eq : ∀ (fuel : Nat) (la lb : List (Nat × Container)),
    intersectLoop fuel la lb = mergeLoop false false PV.C01.intersect fuel la lb := by
  intro fuel
  induction fuel with
  | zero => intro la lb; rfl
  | succ fuel ih =>
    intro la lb
    match la, lb with
    | [], lb => rw [mergeLoop_nil _ _ _ _ (Or.inl rfl)]; cases lb <;> rfl
    | x :: ia, [] => rw [mergeLoop_nil _ _ _ _ (Or.inr rfl)]; rfl
    | (ki, ci) :: ia, (kj, cj) :: jb =>
      simp only [intersectLoop, mergeLoop, ih]
      simp

theorem Bitmap.intersect_spec (hk : KernelOK PV.C01.intersect (fun p q => p && q))
    {a b : Bitmap} (ha : a.WF) (hb : b.WF) :
    (a.intersect b).WF ∧ ∀ v, v ∈ (a.intersect b).values ↔ (v ∈ a.values ∧ v ∈ b.values) := by
  have S := merge_bitmap_spec false false _ (fun p q => p && q) rfl rfl rfl hk ha hb
  unfold Bitmap.intersect
  rw [intersectLoop_eq]
  exact ⟨S.1, fun v => (S.2 v).trans (by simp)⟩

/-- the intersection-count loop adds up the cardinalities of what the intersect loop stores. -/
theorem intersectionCountLoop_eq
    (hk : ∀ x y : Container, x.WF → y.WF → PV.C01.intersectionCount x y = (valuesO (PV.C01.intersect x y)).length) :
    ∀ (fuel m : Nat) (la lb : List (Nat × Container)), Asc Container.WF m la → Asc Container.WF m lb →
    intersectionCountLoop fuel la lb = (valuesL (liveL (intersectLoop fuel la lb))).length := by
  intro fuel
  induction fuel with
  | zero => intro m la lb _ _; rfl
  | succ fuel ih =>
    intro m la lb ha hb
    match la, lb with
    | [], lb => cases lb <;> rfl
    | x :: ia, [] => rfl
    | (ki, ci) :: ia, (kj, cj) :: jb =>
      simp only [intersectionCountLoop, intersectLoop]
      split
      · exact ih m ia _ (ha.2.2.2.mono (by have := ha.1; omega)) hb
      · split
        · exact ih m _ jb ha (hb.2.2.2.mono (by have := hb.1; omega))
        · rw [ih m ia jb (ha.2.2.2.mono (by have := ha.1; omega)) (hb.2.2.2.mono (by have := hb.1; omega)),
            hk ci cj ha.2.2.1 hb.2.2.1]
          cases PV.C01.intersect ci cj <;> simp [liveL, valuesO, valuesOf]

theorem Bitmap.intersectionCount_spec
    (hc : ∀ x y : Container, x.WF → y.WF →
      PV.C01.intersectionCount x y = (x.values.filter (fun v => decide (v ∈ y.values))).length)
    (hk : KernelOK PV.C01.intersect (fun p q => p && q)) {a b : Bitmap} (ha : a.WF) (hb : b.WF) :
    a.intersectionCount b = (a.values.filter (fun v => decide (v ∈ b.values))).length := by
  have S := Bitmap.intersect_spec hk ha hb
  have hk' : ∀ x y : Container, x.WF → y.WF →
      PV.C01.intersectionCount x y = (valuesO (PV.C01.intersect x y)).length := by
    intro x y hx hy
    have K := hk x y hx hy
    rw [hc x y hx hy]
    apply congrArg List.length
    apply sorted_ext (sorted_filter _ (Container.values_sorted hx))
    · cases hi : PV.C01.intersect x y with
      | none => trivial
      | some r => rw [hi] at K; exact Container.values_sorted K.1
    · intro v
      rw [← memO_iff K.1, K.2, mem_eq hx, mem_eq hy]
      simp
  unfold Bitmap.intersectionCount
  rw [intersectionCountLoop_eq hk' _ 0 _ _ ha.live hb.live]
  apply congrArg List.length
  apply sorted_ext (Bitmap.values_sorted S.1) (sorted_filter _ (Bitmap.values_sorted ha))
  intro v
  rw [S.2 v]
  simp

end PV.C01
