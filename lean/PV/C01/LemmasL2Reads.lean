/-
C01 lemmas: Bitmap reads (Contains, Count, CountRange, Max) against the denoted set.  CountRange
rests on one fact: over `[s, e)` the container at key `k` contributes what its own values
contribute over the interval translated by `k * 65536` (`cnt_valuesL_cons`).
-/
import PV.C01.LemmasL2
namespace PV.C01
open Spec

theorem Container.countRange_spec {c : Container} (h : c.WF) (s e : Nat) :
    c.countRange s e = cnt (fun v => decide (v ∈ c.values)) s e := by
  cases c with
  | array xs =>
    show arrayCountRange xs s e = _
    rw [arrayCountRange_eq xs h.1, cntList_eq_cnt h.1]; rfl
  | bitmap n bits =>
    show cntList bits s e = _
    rw [cntList_eq_cnt h.1]; rfl
  | run n ivs =>
    show runCountRange ivs 0 s e = _
    rw [runCountRange_spec ivs 0 s e h.1 (Or.inl rfl), Nat.zero_add]
    apply cnt_congr
    intro v _ _
    show inRuns ivs v = decide (v ∈ runValues ivs)
    rw [Bool.eq_iff_iff, decide_eq_true_eq, mem_runValues]

theorem Container.cnt_high {c : Container} (h : c.WF) {a : Nat} (ha : 65536 ≤ a) (b : Nat) :
    cnt (fun w => decide (w ∈ c.values)) a b = 0 :=
  cnt_false (fun v hv _ => decide_eq_false (fun hm => by have := Container.values_lt h v hm; omega))

theorem Container.cnt_clip {c : Container} (h : c.WF) (a : Nat) {b : Nat} (hb : 65536 ≤ b) :
    cnt (fun w => decide (w ∈ c.values)) a b = cnt (fun w => decide (w ∈ c.values)) a 65536 := by
  by_cases ha : a ≤ 65536
  · rw [cnt_split _ ha hb, Container.cnt_high h (Nat.le_refl _), Nat.add_zero]
  · rw [Container.cnt_high h (by omega), cnt_eq_zero_of_le (by omega)]

theorem Container.cnt_all {c : Container} (h : c.WF) {b : Nat} (hb : 65536 ≤ b) :
    cnt (fun w => decide (w ∈ c.values)) 0 b = c.n := by
  rw [Container.cnt_clip h 0 hb, ← length_eq_cnt (Container.values_sorted h) (Container.values_lt h)]
  exact Container.values_length h

theorem Container.max_spec {c : Container} (h : c.WF) (hn : c.n > 0) :
    c.max ∈ c.values ∧ ∀ v ∈ c.values, v ≤ c.max := by
  have hne : c.values ≠ [] := by
    intro he
    have := Container.values_length h
    rw [he] at this; simp at this; omega
  cases c with
  | array xs => exact sorted_getLast_max xs h.1 hne
  | bitmap n bits => exact sorted_getLast_max bits h.1 hne
  | run n ivs =>
    have hne' : ivs ≠ [] := by
      intro he; subst he; exact hne rfl
    rcases runs_getLast_max ivs h.1 hne' with ⟨l, hl1, hl2, hl3⟩
    show (match ivs.getLast? with | some iv => iv.last | none => 0) ∈ runValues ivs ∧
      ∀ v ∈ runValues ivs, v ≤ (match ivs.getLast? with | some iv => iv.last | none => 0)
    rw [hl1]
    exact ⟨(mem_runValues ivs l.last).mpr hl2, fun v hv => hl3 v ((mem_runValues ivs v).mp hv)⟩

theorem Bitmap.contains_spec {b : Bitmap} (h : b.WF) (v : Nat) : b.contains v = decide (v ∈ b.values) := by
  rw [Bool.eq_iff_iff, decide_eq_true_eq, Bitmap.mem_values_holds h]
  unfold Bitmap.contains holds
  cases hg : b.get (highbits v) with
  | none => simp [valuesO]
  | some c => exact mem_iff (h.live.mem _ ((Bitmap.get_eq h _ _).mp hg)).2.2 _

theorem foldl_add (l : List Nat) (a : Nat) : l.foldl (· + ·) a = a + l.foldl (· + ·) 0 := by
  induction l generalizing a with
  | nil => simp
  | cons x t ih => rw [List.foldl_cons, List.foldl_cons, ih (a + x), ih (0 + x)]; omega

theorem N_eq_length {o : Option Container} (h : WFO o) : N o = (valuesO o).length := by
  cases o with
  | none => rfl
  | some c => exact (Container.values_length h).symm

theorem count_eq (cs : List Entry) (hw : ∀ e ∈ cs, WFO e.2) :
    (cs.map (fun e => N e.2)).foldl (· + ·) 0 = (valuesL (liveL cs)).length := by
  induction cs with
  | nil => rfl
  | cons e t ih =>
    rcases e with ⟨k, oc⟩
    rw [List.map_cons, List.foldl_cons, foldl_add, ih (fun x hx => hw x (by simp [hx])),
      N_eq_length (hw (k, oc) (by simp))]
    cases oc <;> simp [liveL, valuesO, valuesOf]

theorem valuesL_card (l : List (Nat × Container)) :
    (l.map (fun e => e.2.values.length)).foldl (· + ·) 0 = (valuesL l).length := by
  induction l with
  | nil => rfl
  | cons e t ih =>
    rw [List.map_cons, List.foldl_cons, foldl_add, ih, valuesL_cons, List.length_append, Nat.zero_add]
    unfold valuesOf
    rw [List.length_map]

theorem Bitmap.count_spec {b : Bitmap} (h : b.WF) : b.count = b.values.length :=
  count_eq b.cs h.2.1

theorem cnt_raise {p : Nat → Bool} {B : Nat} (hp : ∀ v, v < B → p v = false) (s e : Nat) :
    cnt p s e = cnt p (B + (s - B)) (B + (e - B)) := by
  by_cases hs : B ≤ s
  · by_cases he : B ≤ e
    · rw [Nat.add_sub_cancel' hs, Nat.add_sub_cancel' he]
    · rw [cnt_eq_zero_of_le (by omega), cnt_eq_zero_of_le (by omega)]
  · have h0 : ∀ t, t ≤ B → cnt p s t = 0 := fun t ht => cnt_false (fun v _ hv => hp v (by omega))
    by_cases he : B ≤ e
    · rw [cnt_split p (Nat.le_of_not_le hs) he, h0 B (Nat.le_refl _), Nat.zero_add]
      congr 1 <;> omega
    · rw [h0 e (by omega), cnt_eq_zero_of_le (by omega)]

theorem mem_valuesOf_add (k : Nat) (c : Container) (w : Nat) : k * 65536 + w ∈ valuesOf k c ↔ w ∈ c.values := by
  unfold valuesOf
  rw [List.mem_map]
  constructor
  · rintro ⟨x, hx, he⟩; rw [← Nat.add_left_cancel he]; exact hx
  · intro h; exact ⟨w, h, rfl⟩

theorem cnt_valuesOf (k : Nat) (c : Container) (s e : Nat) :
    cnt (fun v => decide (v ∈ valuesOf k c)) s e
      = cnt (fun w => decide (w ∈ c.values)) (s - k * 65536) (e - k * 65536) := by
  rw [cnt_raise (B := k * 65536), cnt_translate]
  · exact cnt_congr (fun w _ _ => decide_eq_decide.mpr (mem_valuesOf_add k c w))
  · intro v hv
    apply decide_eq_false
    unfold valuesOf
    rw [List.mem_map]
    rintro ⟨x, _, he⟩
    omega

section live
variable {m : Nat} {l : List (Nat × Container)}

theorem cnt_valuesL_cons {e : Nat × Container} (h : Asc Container.WF m (e :: l)) (s t : Nat) :
    cnt (fun v => decide (v ∈ valuesL (e :: l))) s t
      = cnt (fun w => decide (w ∈ e.2.values)) (s - e.1 * 65536) (t - e.1 * 65536)
        + cnt (fun v => decide (v ∈ valuesL l)) s t := by
  rw [← cnt_valuesOf, ← cnt_or_disjoint]
  · apply cnt_congr
    intro v _ _
    rw [valuesL_cons]
    simp only [List.mem_append, Bool.decide_or]
  · intro v _ _ ⟨h1, h2⟩
    simp only [decide_eq_true_eq] at h1 h2
    have := ((mem_valuesOf h.2.2.1 v).mp h1).1
    have := h.2.2.2.lb h2
    omega

theorem cnt_valuesL_zero (h : Asc Container.WF m l) (s : Nat) {t : Nat} (ht : t ≤ m * 65536) :
    cnt (fun v => decide (v ∈ valuesL l)) s t = 0 := by
  apply cnt_false
  intro v _ hv
  apply decide_eq_false
  intro hm
  have := h.lb hm
  have := hl_eq v
  omega

/-- the containers `Containers.Iterator(k)` hands out hold the values from `k * 65536` on. -/
theorem valuesL_filter_ge (h : Asc Container.WF m l) (k : Nat) :
    valuesL (l.filter (fun e => e.1 ≥ k)) = (valuesL l).filter (fun v => k * 65536 ≤ v) := by
  induction l generalizing m with
  | nil => rfl
  | cons e t ih =>
    rw [List.filter_cons, valuesL_cons, List.filter_append, ← ih h.2.2.2]
    have hv : ∀ v ∈ valuesOf e.1 e.2, highbits v = e.1 := fun v hv => ((mem_valuesOf h.2.2.1 v).mp hv).1
    by_cases hk : e.1 ≥ k
    · rw [if_pos (by simpa using hk), valuesL_cons]
      congr 1
      refine (List.filter_eq_self.mpr (fun v hm => ?_)).symm
      have := hv v hm; have := hl_eq v
      simp only [decide_eq_true_eq]; omega
    · have hnil : (valuesOf e.1 e.2).filter (fun v => k * 65536 ≤ v) = [] := by
        refine List.filter_eq_nil_iff.mpr (fun v hm => ?_)
        have := hv v hm; have := hl_eq v; have := lowbits_lt v
        simp only [decide_eq_true_eq]; omega
      rw [if_neg (by simpa using hk), hnil, List.nil_append]

end live

/-- the general loop of `CountRange` for a range spanning more than one key. -/
theorem countRangeLoop_spec {skey ekey ls le : Nat} (hkk : skey < ekey) (hls : ls < 65536) (hle : le < 65536)
    {l : List (Nat × Container)} (h : Asc Container.WF skey l) :
    countRangeLoop skey ekey ls le l
      = cnt (fun v => decide (v ∈ valuesL l)) (skey * 65536 + ls) (ekey * 65536 + le) := by
  induction l with
  | nil => exact (cnt_false (fun _ _ _ => rfl)).symm
  | cons x t ih =>
    rcases x with ⟨k, c⟩
    have hc : c.WF := h.2.2.1
    have hk : skey ≤ k := h.1
    have iht := ih (h.2.2.2.mono (Nat.le_succ_of_le hk))
    rw [cnt_valuesL_cons h]
    simp only [countRangeLoop]
    by_cases h1 : k > ekey
    · rw [if_pos h1, cnt_eq_zero_of_le (by omega), cnt_valuesL_zero h.2.2.2 _ (by omega)]
    · rw [if_neg h1]
      by_cases h2 : k = skey
      · subst h2
        rw [if_pos rfl, iht, Container.countRange_spec hc ls 65536, Nat.add_sub_cancel_left,
          Container.cnt_clip hc _ (b := ekey * 65536 + le - k * 65536) (by omega)]
      · rw [if_neg h2]
        by_cases h3 : k < ekey
        · rw [if_pos h3, iht, ← Container.cnt_all hc (b := ekey * 65536 + le - k * 65536) (by omega)]
          congr 2; omega
        · rw [if_neg h3, Container.countRange_spec hc 0 le,
            cnt_valuesL_zero h.2.2.2 _ (by omega), Nat.add_zero]
          congr 1 <;> omega

theorem Bitmap.countRange_spec {b : Bitmap} (h : b.WF) (s e : Nat) (hse : s ≤ e) :
    b.countRange s e = cnt (fun v => decide (v ∈ b.values)) s e := by
  have hs := hl_eq s
  have he := hl_eq e
  have hls := lowbits_lt s
  have hle := lowbits_lt e
  -- only the containers the iterator visits matter
  have hcut : cnt (fun v => decide (v ∈ b.values)) s e
      = cnt (fun v => decide (v ∈ valuesL (b.live.filter (fun x => x.1 ≥ highbits s)))) s e := by
    rw [valuesL_filter_ge h.live]
    apply cnt_congr
    intro v hv _
    rw [decide_eq_decide, List.mem_filter, decide_eq_true_eq]
    exact ⟨fun hm => ⟨hm, by omega⟩, fun hm => hm.1⟩
  have hL := h.iterFrom (highbits s)
  -- no entry under the start key: every visited key is larger
  have hnone : (b.iterFrom (highbits s)).2 = false →
      Asc Container.WF (highbits s + 1) (b.live.filter (fun x => x.1 ≥ highbits s)) := by
    intro hf
    apply hL.raise
    intro x hx
    have hx' := List.mem_filter.mp hx
    have hne : x.1 ≠ highbits s := by
      intro hk
      have := List.any_eq_false.mp hf (x.1, some x.2) (mem_liveL.mp hx'.1)
      simp [hk] at this
    have : highbits s ≤ x.1 := by simpa using hx'.2
    omega
  rw [hcut]
  unfold Bitmap.countRange
  by_cases h0 : b.cs.length = 0
  · rw [if_pos h0]
    unfold Bitmap.live
    rw [List.length_eq_zero_iff.mp h0]
    exact (cnt_false (fun _ _ _ => rfl)).symm
  · rw [if_neg h0]
    simp only []
    rw [Bitmap.iterFrom_eq]
    generalize b.live.filter (fun x => x.1 ≥ highbits s) = L at hL hnone
    by_cases hsc : (b.iterFrom (highbits s)).2 = true ∧ highbits s = highbits e
    · rw [if_pos hsc]
      cases L with
      | nil => exact (cnt_false (fun _ _ _ => rfl)).symm
      | cons x t =>
        rcases x with ⟨k, c⟩
        have hk : highbits s ≤ k := hL.1
        simp only []
        rw [cnt_valuesL_cons hL, cnt_valuesL_zero hL.2.2.2 _ (by omega), Nat.add_zero]
        by_cases hkk : k ≠ highbits s
        · rw [if_pos hkk, cnt_eq_zero_of_le (by omega)]
        · rw [if_neg hkk, Container.countRange_spec hL.2.2.1 _ _]
          congr 1 <;> omega
    · rw [if_neg hsc]
      by_cases hkeq : highbits s = highbits e
      · have hA := hnone (by
          cases hx : (b.iterFrom (highbits s)).2
          · rfl
          · exact absurd ⟨hx, hkeq⟩ hsc)
        rw [cnt_valuesL_zero hA _ (by omega)]
        cases L with
        | nil => rfl
        | cons x t =>
          have : highbits s + 1 ≤ x.1 := hA.1
          simp only [countRangeLoop]
          rw [if_pos (by omega)]
      · rw [countRangeLoop_spec (by omega) hls hle hL, hs, he]

theorem maxFold_spec {m : Nat} {l : List (Nat × Container)} (h : Asc Container.WF m l) (acc : Nat) :
    let r := l.foldl (fun a e => if e.2.n > 0 then e.1 * 65536 + e.2.max else a) acc
    (r = acc ∧ valuesL l = []) ∨ (r ∈ valuesL l ∧ ∀ v ∈ valuesL l, v ≤ r) := by
  induction l generalizing m acc with
  | nil => exact Or.inl ⟨rfl, rfl⟩
  | cons x t ih =>
    rcases x with ⟨k, c⟩
    have hc : c.WF := h.2.2.1
    simp only [List.foldl_cons]
    by_cases hn : c.n > 0
    · rw [if_pos hn]
      have hm := Container.max_spec hc hn
      have hin : k * 65536 + c.max ∈ valuesOf k c := List.mem_map.mpr ⟨c.max, hm.1, rfl⟩
      have hall : ∀ v ∈ valuesOf k c, v ≤ k * 65536 + c.max := by
        intro v hv
        rcases List.mem_map.mp hv with ⟨w, hw', rfl⟩
        have := hm.2 w hw'; omega
      right
      rw [valuesL_cons]
      rcases ih h.2.2.2 (k * 65536 + c.max) with ⟨h1, h2⟩ | ⟨h1, h2⟩
      · rw [h1, h2, List.append_nil]
        exact ⟨hin, hall⟩
      · refine ⟨List.mem_append.mpr (Or.inr h1), fun v hv => ?_⟩
        rcases List.mem_append.mp hv with hv | hv
        · -- values of this container are below every value of the tail
          have := ((mem_valuesOf hc v).mp hv).1
          have := h.2.2.2.lb h1
          have := hl_eq v; have := lowbits_lt v
          have := hl_eq (List.foldl (fun a e => if e.2.n > 0 then e.1 * 65536 + e.2.max else a) (k * 65536 + c.max) t)
          omega
        · exact h2 v hv
    · rw [if_neg hn]
      have hv0 : valuesOf k c = [] := by unfold valuesOf; rw [empty_values hc (by omega)]; rfl
      rw [valuesL_cons, hv0, List.nil_append]
      exact ih h.2.2.2 acc

/-- the shortcut through the last entry of the collection returns what the loop over all
containers returns. -/
theorem Bitmap.max_eq_fold (b : Bitmap) :
    b.max = b.live.foldl (fun a e => if e.2.n > 0 then e.1 * 65536 + e.2.max else a) 0 := by
  unfold Bitmap.max
  cases hl : b.cs.getLast? with
  | none =>
    unfold Bitmap.live
    rw [List.getLast?_eq_none_iff.mp hl]; rfl
  | some x =>
    rcases x with ⟨hb, oc⟩
    simp only []
    split
    · rename_i hn
      cases oc with
      | none => simp [N] at hn
      | some c =>
        obtain ⟨pre, hpre⟩ := List.getLast?_eq_some_iff.mp hl
        have hn' : c.n > 0 := hn
        unfold Bitmap.live
        rw [hpre, liveL_append, List.foldl_append]
        simp only [liveL, List.foldl_cons, List.foldl_nil, if_pos hn', maxO]
        rw [if_neg (by omega)]
    · rfl

theorem Bitmap.max_spec {b : Bitmap} (h : b.WF) :
    (b.values = [] → b.max = 0) ∧ (b.values ≠ [] → b.max ∈ b.values ∧ ∀ v ∈ b.values, v ≤ b.max) := by
  rw [Bitmap.max_eq_fold, Bitmap.values_eq]
  rcases maxFold_spec h.live 0 with ⟨h1, h2⟩ | ⟨h1, h2⟩
  · exact ⟨fun _ => h1, fun hne => absurd h2 hne⟩
  · exact ⟨fun he => (by rw [he] at h1; cases h1), fun _ => ⟨h1, h2⟩⟩

end PV.C01
