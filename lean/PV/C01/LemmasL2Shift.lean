/-
C01 lemmas: `Shift`.  Container level: `shift` moves every value up by one and reports 65535 as
the carry, `add c 0` puts the incoming carry in front.  Bitmap level: the loop hands the carry of
the container at key `k` to key `k + 1`, whether a container exists there, is empty, or is absent.
-/
import PV.C01.LemmasL2
namespace PV.C01
open Spec

theorem shiftBits_length (bits : List Nat) (h : Sorted bits) (hlt : ∀ v ∈ bits, v < 65536) :
    (Spec.shift 65536 bits).length = bits.length - (if bits.contains 65535 then 1 else 0) := by
  unfold Spec.shift
  induction bits with
  | nil => rfl
  | cons a t ih =>
    have hgt := sorted_lt h
    have ha := hlt a (by simp)
    rw [List.map_cons, List.filter_cons]
    by_cases h1 : a = 65535
    · -- the largest possible value is the last one
      have ht : t = [] := by
        cases t with
        | nil => rfl
        | cons b u => have := hgt b (by simp); have := hlt b (by simp); omega
      subst ht; subst h1
      simp
    · have hc : (a :: t).contains 65535 = t.contains 65535 := by
        simp only [List.contains_cons]
        have : (65535 == a) = false := by simp; omega
        rw [this]; rfl
      rw [if_pos (by simp; omega), List.length_cons, ih (sorted_tail h) (fun v hv => hlt v (by simp [hv])), hc,
        List.length_cons]
      split
      · rename_i hc'
        have : t ≠ [] := by intro he; subst he; simp at hc'
        have : t.length > 0 := List.length_pos_iff.mpr this
        omega
      · omega

theorem shift_spec {c : Container} (h : c.WF) :
    WFO (PV.C01.shift c).1 ∧
    (∀ w, w ∈ valuesO (PV.C01.shift c).1 ↔ (1 ≤ w ∧ w < 65536 ∧ w - 1 ∈ c.values)) ∧
    ((PV.C01.shift c).2 = true ↔ 65535 ∈ c.values) := by
  unfold PV.C01.shift
  by_cases h0 : c.n = 0
  · rw [if_pos h0]
    simp [WFO, valuesO, empty_values h h0]
  · rw [if_neg h0]
    cases c with
    | array xs =>
      have S := shiftArray_spec xs h.1 h.2
      exact ⟨⟨S.1, fun v hv => ((S.2.1 v).mp hv).2.1⟩, S.2.1, S.2.2⟩
    | run n ivs =>
      have S := shiftRunLoop_spec ivs h.1 false
      refine ⟨⟨S.1.1, rfl⟩, fun w => ?_, ?_⟩
      · show w ∈ runValues (shiftRunLoop ivs false).1 ↔ (1 ≤ w ∧ w < 65536 ∧ w - 1 ∈ runValues ivs)
        rw [mem_runValues, S.1.2 w, mem_runValues]
        simp only [Bool.and_eq_true, decide_eq_true_eq]
        constructor
        · rintro ⟨⟨h1, h2⟩, h3⟩; exact ⟨h1, by omega, h3⟩
        · rintro ⟨h1, h2, h3⟩; exact ⟨⟨h1, by omega⟩, h3⟩
      · rw [S.2]
        show _ ↔ 65535 ∈ runValues ivs
        rw [mem_runValues]
        cases ivs <;> simp
    | bitmap n bits =>
      simp only [shiftBitmap]
      have hm := mem_shift 65536 bits
      refine ⟨⟨sorted_shift 65536 h.1, fun v hv => ((hm v).mp hv).2.1, ?_⟩, hm, ?_⟩
      · rw [shiftBits_length bits h.1 h.2.1, h.2.2]
      · simp [Container.values]

theorem insertSorted_zero (xs : List Nat) (h0 : 0 ∉ xs) : insertSorted 0 xs = 0 :: xs := by
  cases xs with
  | nil => rfl
  | cons a t =>
    have : a ≠ 0 := fun e => h0 (by simp [e])
    simp only [insertSorted]
    rw [if_pos (by omega)]

theorem zero_cons_ok {xs : List Nat} (h : Sorted xs) (hlt : ∀ v ∈ xs, v < 65536) (h0 : 0 ∉ xs) :
    Sorted (0 :: xs) ∧ ∀ v ∈ 0 :: xs, v < 65536 := by
  refine ⟨sorted_cons h (fun x hx => Nat.pos_of_ne_zero (fun e => h0 (e ▸ hx))), fun v hv => ?_⟩
  rcases List.mem_cons.mp hv with rfl | hv
  · decide
  · exact hlt v hv

/-- the carry into a container that does not hold 0 (it has just been shifted). -/
theorem add_zero_spec {o : Option Container} (h : WFO o) (h0 : 0 ∉ valuesO o) :
    (add o 0).WF ∧ (add o 0).values = 0 :: valuesO o := by
  cases o with
  | none => exact ⟨⟨trivial, by decide⟩, rfl⟩
  | some c =>
    cases c with
    | array xs =>
      have Z := zero_cons_ok h.1 h.2 h0
      have h0' : 0 ∉ xs := h0
      have hc : xs.contains 0 = false := by simpa using h0'
      simp only [add, arrayAdd, hc, Bool.false_eq_true, if_false, insertSorted_zero xs h0']
      split
      · exact ⟨⟨Z.1, Z.2, rfl⟩, rfl⟩
      · exact ⟨Z, rfl⟩
    | bitmap n bits =>
      have Z := zero_cons_ok h.1 h.2.1 h0
      have h0' : 0 ∉ bits := h0
      have hc : bits.contains 0 = false := by simpa using h0'
      simp only [add, bitmapAdd, hc, Bool.false_eq_true, if_false, insertSorted_zero bits h0']
      exact ⟨⟨Z.1, Z.2, by rw [h.2.2]; rfl⟩, rfl⟩
    | run n ivs =>
      cases ivs with
      | nil =>
        have hn : n = 0 := h.2
        subst hn
        exact ⟨⟨⟨Nat.le_refl _, by decide⟩, rfl⟩, rfl⟩
      | cons a t =>
        rcases a with ⟨s, l⟩
        have ha : s ≤ l ∧ l ≤ 65535 := RunsWF.head h.1
        have hgt := RunsWF.gt h.1
        have hcard : n = (l - s + 1) + runsCard t := h.2
        have hs : s ≠ 0 := by
          intro e
          apply h0
          show 0 ∈ rangeIncl s l ++ runValues t
          rw [e, rangeIncl_cons (Nat.zero_le l)]; simp
        simp only [add, runAdd, runAddLoop, if_pos (Nat.zero_le l), if_neg (show ¬ 0 ≥ s by omega)]
        by_cases h1 : 0 + 1 = s
        · subst h1
          rw [if_pos rfl]
          refine ⟨⟨RunsWF.cons ⟨Nat.zero_le _, ha.2⟩ (RunsWF.tail h.1) hgt, ?_⟩, ?_⟩
          · simp only [runsCard]; omega
          · show rangeIncl 0 l ++ runValues t = 0 :: (rangeIncl (0 + 1) l ++ runValues t)
            rw [rangeIncl_cons (Nat.zero_le l)]; rfl
        · rw [if_neg h1]
          refine ⟨⟨RunsWF.cons ⟨Nat.le_refl _, by decide⟩ h.1 (fun iv hiv => ?_), ?_⟩, rfl⟩
          · rcases List.mem_cons.mp hiv with rfl | hiv
            · exact Nat.pos_of_ne_zero hs
            · have := hgt iv hiv; show 0 < iv.start; omega
          · simp only [runsCard]; omega

theorem mem_shifted {k : Nat} {o : Option Container} (h : WFO o) (v : Nat) :
    v ∈ valuesL (liveL (if N o > 0 then [(k, o)] else [])) ↔ (highbits v = k ∧ lowbits v ∈ valuesO o) := by
  split
  · rw [mem_values_entry h]; simp [liveL]
  · rename_i hn
    cases o with
    | none => simp [liveL, valuesO]
    | some c => simp [liveL, valuesO, empty_values h (Nat.eq_zero_of_not_pos hn)]

theorem mem_zeroEntry (k v : Nat) : v ∈ valuesL (liveL [(k, some (Container.array [0]))]) ↔ v = k * 65536 := by
  simp [liveL, valuesOf, Container.values]

theorem wf_zeroArray : (Container.array [0]).WF := ⟨trivial, by decide⟩

/-- the values of one container after the shift: the carry out plus the shifted container. -/
theorem shiftC_mem {ki : Nat} {ci : Container} (hci : ci.WF) (hki : ki ≤ maxContainerKey) (v : Nat) :
    (1 ≤ v ∧ v < 2 ^ 64 ∧ v - 1 ∈ valuesOf ki ci) ↔
      (((PV.C01.shift ci).2 = true ∧ ki + 1 ≤ maxContainerKey ∧ v = (ki + 1) * 65536) ∨
        (highbits v = ki ∧ lowbits v ∈ valuesO (PV.C01.shift ci).1)) := by
  have S := shift_spec hci
  rw [S.2.2, S.2.1 (lowbits v), lt_pow64_iff, mem_valuesOf hci]
  obtain ⟨K, w, hw, rfl⟩ := hl_split v
  rw [highbits_mk hw, lowbits_mk hw]
  by_cases h0 : w = 0
  · -- a multiple of 65536 comes from the value 65535 one key below
    subst h0
    cases K with
    | zero =>
      constructor
      · rintro ⟨h, _⟩; omega
      · rintro (⟨_, _, h⟩ | ⟨_, h, _⟩) <;> omega
    | succ K =>
      rw [show (K + 1) * 65536 + 0 - 1 = K * 65536 + 65535 by omega, highbits_mk (by omega), lowbits_mk (by omega)]
      constructor
      · rintro ⟨_, h2, rfl, h4⟩; exact Or.inl ⟨h4, h2, Nat.add_zero _⟩
      · rintro (⟨h1, h2, h3⟩ | ⟨_, h, _⟩)
        · have : K = ki := by omega
          subst this; exact ⟨by omega, h2, rfl, h1⟩
        · omega
  · rw [show K * 65536 + w - 1 = K * 65536 + (w - 1) by omega, highbits_mk (by omega), lowbits_mk (by omega)]
    constructor
    · rintro ⟨_, _, rfl, h4⟩; exact Or.inr ⟨rfl, by omega, hw, h4⟩
    · rintro (⟨_, _, h3⟩ | ⟨rfl, _, _, h4⟩)
      · omega
      · exact ⟨by omega, hki, rfl, h4⟩

/-- one step of the loop: the incoming carry (key `lk + 1`) goes into an entry of its own when key
`ki` is further on, and into the shifted container (`add … 0`) when `ki = lk + 1`. -/
theorem shiftLoop_head (ki : Nat) (ci : Container) (rest : List (Nat × Container)) (carry : Bool) (lk : Nat)
    (hci : ci.WF) (hlt : carry = true → lk < ki) (hki : ki ≤ maxContainerKey) :
    ∃ (pre : List Entry) (o : Option Container),
      shiftLoop ((ki, ci) :: rest) carry lk
        = pre ++ ((if N o > 0 then [(ki, o)] else []) ++ shiftLoop rest (PV.C01.shift ci).2 ki) ∧
      (pre = [] ∨ (pre = [(lk + 1, some (.array [0]))] ∧ carry = true ∧ lk + 1 < ki)) ∧
      WFO o ∧
      ∀ v, (v ∈ valuesL (liveL pre) ∨ (highbits v = ki ∧ lowbits v ∈ valuesO o)) ↔
        ((carry = true ∧ lk + 1 ≤ maxContainerKey ∧ v = (lk + 1) * 65536) ∨
          (highbits v = ki ∧ lowbits v ∈ valuesO (PV.C01.shift ci).1)) := by
  have S := shift_spec hci
  cases carry with
  | false =>
    refine ⟨[], (PV.C01.shift ci).1, ?_, Or.inl rfl, S.1, ?_⟩
    · simp [shiftLoop]
    · intro v; simp [liveL]
  | true =>
    have hlk := hlt rfl
    by_cases hgap : ki > lk + 1
    · refine ⟨[(lk + 1, some (.array [0]))], (PV.C01.shift ci).1, ?_, Or.inr ⟨rfl, rfl, hgap⟩, S.1, ?_⟩
      · simp [shiftLoop, hgap]
      · intro v
        rw [mem_zeroEntry]
        have : lk + 1 ≤ maxContainerKey := by omega
        simp [this]
    · have hk : ki = lk + 1 := by omega
      subst hk
      have A := add_zero_spec S.1 (fun hm => by have := (S.2.1 0).mp hm; omega)
      refine ⟨[], some (add (PV.C01.shift ci).1 0), ?_, Or.inl rfl, A.1, ?_⟩
      · simp [shiftLoop]
      · intro v
        show _ ∨ (_ ∧ lowbits v ∈ (add (PV.C01.shift ci).1 0).values) ↔ _
        rw [A.2, List.mem_cons]
        have := hl_eq v
        constructor
        · rintro (h | ⟨h1, h2 | h2⟩)
          · cases h
          · exact Or.inl ⟨rfl, hki, by omega⟩
          · exact Or.inr ⟨h1, h2⟩
        · rintro (⟨_, _, h⟩ | ⟨h1, h2⟩)
          · have := lowbits_lt v; exact Or.inr ⟨by omega, Or.inl (by omega)⟩
          · exact Or.inr ⟨h1, Or.inr h2⟩

/-- the output may begin with the carry entry at key `lk + 1 < m`: hence the quantified bound `m'`. -/
theorem shiftLoop_spec : ∀ (l : List (Nat × Container)) (carry : Bool) (lk m : Nat),
    Asc Container.WF m l → (carry = true → lk < m ∧ lk ≤ maxContainerKey) →
    (∀ m', m' ≤ m → (carry = true → m' ≤ lk + 1) → Asc WFO m' (shiftLoop l carry lk)) ∧
    (∀ v, v ∈ valuesL (liveL (shiftLoop l carry lk)) ↔
      ((carry = true ∧ lk + 1 ≤ maxContainerKey ∧ v = (lk + 1) * 65536) ∨
        (1 ≤ v ∧ v < 2 ^ 64 ∧ v - 1 ∈ valuesL l))) := by
  intro l
  induction l with
  | nil =>
    intro carry lk m _ hlk
    simp only [shiftLoop]
    by_cases hc : carry = true ∧ lk ≠ maxContainerKey
    · rw [if_pos hc]
      have hle : lk + 1 ≤ maxContainerKey := by have := (hlk hc.1).2; have := hc.2; omega
      refine ⟨fun m' _ hm => ⟨hm hc.1, hle, wf_zeroArray, trivial⟩, fun v => ?_⟩
      rw [mem_zeroEntry]
      simp [hc.1, hle]
    · rw [if_neg hc]
      refine ⟨fun _ _ _ => trivial, fun v => ?_⟩
      simp only [liveL, valuesL_nil, List.not_mem_nil, and_false, or_false, false_iff]
      rintro ⟨h1, h2, _⟩
      exact hc ⟨h1, by omega⟩
  | cons x rest ih =>
    intro carry lk m hl hlk
    rcases x with ⟨ki, ci⟩
    have hci : ci.WF := hl.2.2.1
    have hki : ki ≤ maxContainerKey := hl.2.1
    obtain ⟨pre, o, hR, hpre, hwo, hval⟩ :=
      shiftLoop_head ki ci rest carry lk hci (fun h => by have := (hlk h).1; have := hl.1; omega) hki
    have IH := ih (PV.C01.shift ci).2 ki (ki + 1) hl.2.2.2 (fun _ => ⟨Nat.lt_succ_self _, hki⟩)
    have htail : Asc WFO (ki + 1) (shiftLoop rest (PV.C01.shift ci).2 ki) :=
      IH.1 _ (Nat.le_refl _) (fun _ => Nat.le_refl _)
    rw [hR]
    refine ⟨fun m' hm hc => ?_, fun v => ?_⟩
    · have hmid : Asc WFO m' ((if N o > 0 then [(ki, o)] else []) ++ shiftLoop rest (PV.C01.shift ci).2 ki) :=
        Asc.consIf _ (Nat.le_trans hm hl.1) hki hwo htail
      rcases hpre with h | ⟨h, h2, h3⟩
      · rw [h]; exact hmid
      · rw [h]
        exact ⟨hc h2, by show lk + 1 ≤ maxContainerKey; omega, wf_zeroArray,
          Asc.consIf _ (Nat.succ_le_of_lt h3) hki hwo htail⟩
    · rw [liveL_append, liveL_append, valuesL_append, valuesL_append, List.mem_append, List.mem_append,
        mem_shifted hwo, IH.2 v, valuesL_cons, List.mem_append, ← or_assoc, hval v]
      simp only [and_or_left, shiftC_mem hci hki v]
      constructor
      · rintro ((a | p) | c | r)
        · exact Or.inl a
        · exact Or.inr (Or.inl (Or.inr p))
        · exact Or.inr (Or.inl (Or.inl c))
        · exact Or.inr (Or.inr r)
      · rintro (a | (c | p) | r)
        · exact Or.inl (Or.inl a)
        · exact Or.inr (Or.inl c)
        · exact Or.inl (Or.inr p)
        · exact Or.inr (Or.inr r)

theorem Bitmap.shift_spec {b : Bitmap} (h : b.WF) :
    b.shift.WF ∧ ∀ v, v ∈ b.shift.values ↔ (1 ≤ v ∧ v < 2 ^ 64 ∧ v - 1 ∈ b.values) := by
  have S := shiftLoop_spec b.live false 0 0 h.live (fun hh => by cases hh)
  refine ⟨(S.1 0 (Nat.le_refl _) (fun hh => by cases hh)).wf, fun v => ?_⟩
  have := S.2 v
  simp only [Bool.false_eq_true, false_and, false_or] at this
  exact this

end PV.C01
