/- C01: container shift, array -> run conversion, countRuns, max. -/
import PV.C01.LemmasRun
namespace PV.C01
open Spec

theorem shiftArray_spec (xs : List Nat) (h : Sorted xs) (hlt : ∀ v ∈ xs, v < 65536) :
    Sorted (shiftArray xs).1 ∧
    (∀ v, v ∈ (shiftArray xs).1 ↔ (1 ≤ v ∧ v < 65536 ∧ v - 1 ∈ xs)) ∧
    ((shiftArray xs).2 = true ↔ 65535 ∈ xs) := by
  induction xs with
  | nil => simp [shiftArray, Sorted]
  | cons a t ih =>
    have iht := ih (sorted_tail h) (fun v hv => hlt v (by simp [hv]))
    have ha := hlt a (by simp)
    have hgt := sorted_lt h
    simp only [shiftArray]
    by_cases h1 : a + 1 = 65536
    · rw [if_pos h1]
      -- a = 65535 is the largest possible value, so the tail is empty
      have ht : t = [] := by
        cases t with
        | nil => rfl
        | cons b u =>
          have := hgt b (by simp); have := hlt b (by simp); omega
      subst ht
      have ha' : a = 65535 := by omega
      subst ha'
      simp [shiftArray, Sorted]
      intro v h1 h2 h3; omega
    · rw [if_neg h1]
      refine ⟨?_, ?_, ?_⟩
      · apply sorted_cons iht.1
        intro x hx
        have := (iht.2.1 x).mp hx
        have := hgt (x - 1) this.2.2
        omega
      · intro v
        simp only [List.mem_cons, iht.2.1 v]
        constructor
        · rintro (e | ⟨h1', h2', h3'⟩)
          · subst e; exact ⟨by omega, by omega, Or.inl (by omega)⟩
          · exact ⟨h1', h2', Or.inr h3'⟩
        · rintro ⟨h1', h2', e | h3'⟩
          · left; omega
          · right; exact ⟨h1', h2', h3'⟩
      · simp only [iht.2.2, List.mem_cons]
        constructor
        · intro hm; exact Or.inr hm
        · rintro (e | hm)
          · omega
          · exact hm

theorem shiftRunLoop_spec (ivs : List Iv) (h : RunsWF ivs) (c : Bool) :
    Runs (shiftRunLoop ivs c).1 (fun v => decide (1 ≤ v ∧ v ≤ 65535) && inRuns ivs (v - 1)) ∧
    ((shiftRunLoop ivs c).2 = (match ivs with | [] => c | _ => inRuns ivs 65535)) := by
  induction ivs generalizing c with
  | nil => exact ⟨Runs.nil (fun _ => Bool.and_false _), rfl⟩
  | cons a rest ih =>
    have ha := RunsWF.head h
    have hgt := RunsWF.gt h
    -- a run that ends at 65535 is the last one
    have hlast : a.last + 1 = 65536 → rest = [] := by
      intro h2
      cases rest with
      | nil => rfl
      | cons b u => have := hgt b (by simp); have := RunsWF.head (RunsWF.tail h); omega
    simp only [shiftRunLoop]
    by_cases h1 : a.start + 1 = 65536
    · rw [if_pos h1, hlast (by omega)]
      refine ⟨Runs.nil (fun v => ?_), ?_⟩
      · simp only [inRuns_nil, inRuns_cons, Bool.or_false]; iv_omega
      · simp only [inRuns_nil, inRuns_cons, Bool.or_false]; exact ((inIv_iff a 65535).mpr (by omega)).symm
    · rw [if_neg h1]
      by_cases h2 : a.last + 1 = 65536
      · rw [if_pos h2, hlast h2]
        simp only [shiftRunLoop]
        refine ⟨⟨⟨by simp only; omega, by simp only; omega⟩, fun v => ?_⟩, ?_⟩
        · simp only [inRuns_nil, inRuns_cons, Bool.or_false]; iv_omega
        · simp only [inRuns_nil, inRuns_cons, Bool.or_false]; exact ((inIv_iff a 65535).mpr (by omega)).symm
      · rw [if_neg h2]
        have iht := ih (RunsWF.tail h) false
        refine ⟨iht.1.cons (by simp only; omega) (fun v hv => ?_) (fun v => ?_), ?_⟩
        · -- a value of the shifted rest is one more than a value of `rest`
          have hv := (Bool.and_eq_true _ _ ▸ hv : _ ∧ _)
          have := RunsWF.above_tail h (v - 1) hv.2
          have := of_decide_eq_true hv.1
          simp only; omega
        · have : inIv ⟨a.start + 1, a.last + 1⟩ v = (decide (1 ≤ v ∧ v ≤ 65535) && inIv a (v - 1)) := by
            simp only [inIv]
            rw [← Bool.decide_and, decide_eq_decide]
            omega
          rw [this, inRuns_cons, Bool.and_or_distrib_left]
        · rw [iht.2]
          cases rest with
          | nil => rw [inRuns_cons, inRuns_nil, Bool.or_false, (inIv_false_iff a 65535).mpr (by omega)]
          | cons b u => rw [inRuns_cons a, (inIv_false_iff a 65535).mpr (by omega), Bool.false_or]

theorem arrayToRunLoop_spec (rest : List Nat) :
    ∀ (start prev : Nat), start ≤ prev → Sorted (prev :: rest) → (∀ v ∈ prev :: rest, v < 65536) →
      Runs (arrayToRunLoop start prev rest) (fun v => decide (start ≤ v ∧ v ≤ prev) || decide (v ∈ rest)) ∧
      runsCard (arrayToRunLoop start prev rest) = (prev - start + 1) + rest.length := by
  induction rest with
  | nil =>
    intro start prev hsp _ hlt
    have := hlt prev (by simp)
    simp only [arrayToRunLoop]
    exact ⟨⟨⟨hsp, by show prev ≤ 65535; omega⟩, fun v => by simp [inIv]⟩, by simp [runsCard]⟩
  | cons x t ih =>
    intro start prev hsp hs hlt
    have hst := sorted_tail hs
    have hlt' : ∀ v ∈ x :: t, v < 65536 := fun v hv => hlt v (by simp [hv])
    have hp := hlt prev (by simp)
    simp only [arrayToRunLoop]
    by_cases h1 : x - prev > 1
    · -- a gap: the open run is closed, `x` opens the next one
      rw [if_pos h1]
      have iht := ih x x (Nat.le_refl _) hst hlt'
      refine ⟨iht.1.cons ⟨hsp, by show prev ≤ 65535; omega⟩
        (fun v hv => sorted_above_tail hs v ((decide_mem_cons_eq v x t).trans hv))
        (fun v => by rw [decide_mem_cons_eq]; rfl), ?_⟩
      simp only [runsCard, iht.2, List.length_cons]; omega
    · -- `x = prev + 1` extends the open run
      rw [if_neg h1]
      have hpx : prev < x := hs.1
      have iht := ih start x (by omega) hst hlt'
      refine ⟨iht.1.congr (fun v => ?_), by rw [iht.2, List.length_cons]; omega⟩
      rw [decide_mem_cons_eq, ← Bool.or_assoc]
      congr 1
      iv_omega

theorem arrayToRunIvs_spec (xs : List Nat) (h : Sorted xs) (hlt : ∀ v ∈ xs, v < 65536) :
    RunsWF (arrayToRunIvs xs) ∧ (∀ v, inRuns (arrayToRunIvs xs) v = decide (v ∈ xs)) ∧
    runsCard (arrayToRunIvs xs) = xs.length := by
  cases xs with
  | nil => simp [arrayToRunIvs, RunsWF, runsCard]
  | cons x t =>
    have := arrayToRunLoop_spec t x x (Nat.le_refl _) h hlt
    simp only [arrayToRunIvs]
    refine ⟨this.1.1, fun v => ?_, by rw [this.2, List.length_cons]; omega⟩
    rw [this.1.2 v, decide_mem_cons_eq]
    rfl

theorem arrayCountRunsFrom_eq (rest : List Nat) :
    ∀ (start prev : Nat), Sorted (prev :: rest) →
      1 + arrayCountRunsFrom (some prev) rest = (arrayToRunLoop start prev rest).length := by
  induction rest with
  | nil => intro start prev _; simp [arrayCountRunsFrom, arrayToRunLoop]
  | cons x t ih =>
    intro start prev hs
    have hpx : prev < x := hs.1
    simp only [arrayCountRunsFrom, arrayToRunLoop]
    by_cases h1 : x - prev > 1
    · rw [if_pos h1]
      have : prev + 1 ≠ x := by omega
      rw [if_pos this, List.length_cons, ← ih x x (sorted_tail hs)]
      omega
    · rw [if_neg h1]
      have : ¬ (prev + 1 ≠ x) := by omega
      rw [if_neg this, ← ih start x (sorted_tail hs)]
      omega

theorem arrayCountRuns_eq (xs : List Nat) (h : Sorted xs) :
    arrayCountRuns xs = (arrayToRunIvs xs).length := by
  cases xs with
  | nil => rfl
  | cons x t =>
    simp only [arrayCountRuns, arrayCountRunsFrom, arrayToRunIvs]
    exact arrayCountRunsFrom_eq t x x h

theorem sorted_getLast_max (xs : List Nat) (h : Sorted xs) (hne : xs ≠ []) :
    xs.getLast?.getD 0 ∈ xs ∧ ∀ v ∈ xs, v ≤ xs.getLast?.getD 0 := by
  induction xs with
  | nil => exact absurd rfl hne
  | cons a t ih =>
    cases t with
    | nil => simp
    | cons b u =>
      have iht := ih (sorted_tail h) (by simp)
      have hgt := sorted_lt h
      rw [List.getLast?_cons_cons]
      refine ⟨by simp only [List.mem_cons] at iht ⊢; exact Or.inr iht.1, ?_⟩
      intro v hv
      rcases List.mem_cons.mp hv with e | hv
      · subst e
        have h1 := hgt _ iht.1
        omega
      · exact iht.2 v hv

theorem runs_getLast_max (ivs : List Iv) (h : RunsWF ivs) (hne : ivs ≠ []) :
    ∃ l, ivs.getLast? = some l ∧ inRuns ivs l.last = true ∧ ∀ v, inRuns ivs v = true → v ≤ l.last := by
  induction ivs with
  | nil => exact absurd rfl hne
  | cons a t ih =>
    cases t with
    | nil =>
      have ha := RunsWF.head h
      refine ⟨a, rfl, by simp [inIv]; exact ha.1, ?_⟩
      intro v hv
      simp [inIv] at hv; exact hv.2
    | cons b u =>
      rcases ih (RunsWF.tail h) (by simp) with ⟨l, hl1, hl2, hl3⟩
      refine ⟨l, by rw [List.getLast?_cons_cons]; exact hl1, by rw [inRuns_cons, hl2]; simp, ?_⟩
      intro v hv
      rw [inRuns_cons, Bool.or_eq_true] at hv
      rcases hv with hv | hv
      · have := ((inIv_iff a v).mp hv).2
        have := RunsWF.above_tail h _ hl2
        omega
      · exact hl3 v hv

end PV.C01
