/-
C01 lemmas: the n-ary in-place union (`Bitmap.unionInPlace`, `Bitmap.Union`).
During the tick loop the stored `n` of a bitmap container in the target is stale, so the
intermediate target is described by `Container.WF'` (`n` never exceeds the true cardinality);
`Container.repair` restores `WF`.  The target is followed key by key through `holds`.
-/
import PV.C01.LemmasL2Ops
import PV.C01.LemmasL2More
import PV.C01.LemmasDispatch
namespace PV.C01
open Spec

/-- well-formedness up to a stale (too small) `n` of a bitmap container. -/
def Container.WF' : Container → Prop
  | .array xs => Sorted xs ∧ ∀ v ∈ xs, v < 65536
  | .bitmap n bits => Sorted bits ∧ (∀ v ∈ bits, v < 65536) ∧ n ≤ bits.length
  | .run n ivs => RunsWF ivs ∧ n = runsCard ivs

def WFO' : Option Container → Prop
  | none => True
  | some c => c.WF'

theorem Container.WF.toWF' {c : Container} (h : c.WF) : c.WF' := by
  cases c with
  | array xs => exact h
  | bitmap n bits => exact ⟨h.1, h.2.1, Nat.le_of_eq h.2.2⟩
  | run n ivs => exact h

theorem WFO.toWFO' {c : Option Container} (h : WFO c) : WFO' c := by
  cases c with
  | none => trivial
  | some c => exact Container.WF.toWF' h

theorem Container.repair_spec {c : Container} (h : c.WF') : c.repair.WF ∧ c.repair.values = c.values := by
  cases c with
  | array xs => exact ⟨h, rfl⟩
  | bitmap n bits => exact ⟨⟨h.1, h.2.1, rfl⟩, rfl⟩
  | run n ivs => exact ⟨h, rfl⟩

theorem Container.WF'.values_sorted {c : Container} (h : c.WF') : Sorted c.values := by
  rw [← (Container.repair_spec h).2]; exact Container.values_sorted (Container.repair_spec h).1

theorem Container.WF'.values_lt {c : Container} (h : c.WF') : ∀ v ∈ c.values, v < 65536 := by
  rw [← (Container.repair_spec h).2]; exact Container.values_lt (Container.repair_spec h).1

theorem Container.WF'.n_le {c : Container} (h : c.WF') : c.n ≤ c.values.length := by
  cases c with
  | array xs => exact Nat.le_refl _
  | bitmap n bits => exact h.2.2
  | run n ivs => exact Nat.le_of_eq (Container.values_length (c := .run n ivs) h).symm

/-- the shortcut test `N() == 65536` only fires on a container that really is full. -/
theorem Container.WF'.full_mem {c : Container} (h : c.WF') (hn : c.n = 65536) :
    ∀ v, v < 65536 → v ∈ c.values := by
  have hs := h.values_sorted
  have hl := h.values_lt
  have h1 := h.n_le
  have h2 := sorted_length_le hs 65536 hl
  intro v hv
  exact sorted_length_full c.values 0 65536 hs (fun w hw => ⟨Nat.zero_le _, hl w hw⟩) (by omega) v (Nat.zero_le _) hv

theorem toBitmap_spec {c : Container} (h : c.WF') : (toBitmap c).WF' ∧ (toBitmap c).values = c.values := by
  cases c with
  | array xs => exact ⟨⟨h.1, h.2, Nat.le_refl _⟩, rfl⟩
  | bitmap n bits => exact ⟨h, rfl⟩
  | run n ivs =>
    have S := runToBitmap_spec h.1 h.2
    exact ⟨Container.WF.toWF' S.1, S.2⟩

theorem length_le_union {a b : List Nat} (ha : Sorted a) (hb : Sorted b)
    (hla : ∀ v ∈ a, v < 65536) (hlb : ∀ v ∈ b, v < 65536) : a.length ≤ (Spec.union a b).length :=
  sorted_subset_length_le ha (sorted_union ha hb) (union_lt hla hlb)
    (fun v hv => (mem_union ha hb v).mpr (Or.inl hv))

theorem union_stale {n : Nat} {xs ys : List Nat} (hs : Sorted xs) (hl : ∀ v ∈ xs, v < 65536) (hn : n ≤ xs.length)
    (hos : Sorted ys) (hol : ∀ v ∈ ys, v < 65536) :
    (Container.bitmap n (Spec.union xs ys)).WF' ∧
    ∀ v, v ∈ (Container.bitmap n (Spec.union xs ys)).values ↔ (v ∈ xs ∨ v ∈ ys) :=
  ⟨⟨sorted_union hs hos, union_lt hl hol, Nat.le_trans hn (length_le_union hs hos hl hol)⟩,
    fun v => mem_union hs hos v⟩

theorem orEmpty_spec {o : Option Container} (h : WFO o) :
    (match o with | some r => r | none => Container.array []).WF' ∧
    ∀ v, v ∈ (match o with | some r => r | none => Container.array []).values ↔ v ∈ valuesO o := by
  cases o with
  | none => exact ⟨⟨trivial, by simp⟩, fun _ => Iff.rfl⟩
  | some r => exact ⟨Container.WF.toWF' h, fun _ => Iff.rfl⟩

/-- `tContainer.unionInPlace(other)`: the target keeps `WF'` and gains the values of `other`.
`other.n ≠ 65536` is what `summaryStats.hasMaxRange = false` guarantees at the call site. -/
theorem unionInPlaceEffect_spec {c o : Container} (hc : c.WF') (ho : o.WF) (hn : o.n ≠ 65536) :
    (unionInPlaceEffect c o).WF' ∧
    ∀ v, v ∈ (unionInPlaceEffect c o).values ↔ (v ∈ c.values ∨ v ∈ o.values) := by
  have hos := Container.values_sorted ho
  have hol := Container.values_lt ho
  unfold unionInPlaceEffect
  by_cases h1 : c.n = 65536 ∨ o.n = 65536
  · rw [if_pos h1]
    have hcn : c.n = 65536 := h1.elim id (fun h => absurd h hn)
    exact ⟨hc, fun v => ⟨Or.inl, fun h => h.elim id (fun h => hc.full_mem hcn v (hol v h))⟩⟩
  · rw [if_neg h1]
    cases c with
    | bitmap n bits => exact union_stale hc.1 hc.2.1 hc.2.2 hos hol
    | run n ivs => exact union_stale hc.values_sorted hc.values_lt hc.n_le hos hol
    | array xs =>
      cases o with
      | array ys =>
        show Container.WF' (if ys.length ≠ 0 then _ else _) ∧ _
        by_cases hy : ys.length ≠ 0
        · simp only [if_pos hy]
          have S := unionArrayArray_spec (xs.length + ys.length + 1) xs ys hc.1 ho.1 (by omega)
          have O := Container.optimize_spec (c := .array (unionArrayArray (xs.length + ys.length + 1) xs ys))
            ⟨S.1, fun v hv => ((S.2 v).mp hv).elim (hc.2 v) (ho.2 v)⟩
          have E := orEmpty_spec O.1
          exact ⟨E.1, fun v => ((E.2 v).trans (O.2 v)).trans (S.2 v)⟩
        · simp only [if_neg hy]
          have : ys = [] := List.length_eq_zero_iff.mp (by omega)
          subst this
          exact ⟨hc, fun v => by simp [Container.values]⟩
      | bitmap m bs => exact union_stale hc.1 hc.2 (Nat.le_refl _) hos hol
      | run m ivs => exact union_stale hc.1 hc.2 (Nat.le_refl _) hos hol

theorem exists_mem_cons {α : Type} (x : α) (l : List α) (P : α → Prop) :
    (∃ a ∈ x :: l, P a) ↔ (P x ∨ ∃ a ∈ l, P a) := by
  simp only [List.mem_cons, or_and_right, exists_or, exists_eq_left]

/-- `calculateSummaryStats` reports `hasMaxRange` iff one of the containers under `key` is full. -/
theorem summaryStats_flag {key : Nat} : ∀ (l : List HIter),
    (summaryStats key l).2.2 = true ↔ ∃ it ∈ l, it.cur.1 = key ∧ it.cur.2.n = 65536 := by
  intro l
  induction l with
  | nil => exact ⟨fun h => (by cases h), fun ⟨_, h, _⟩ => (by cases h)⟩
  | cons x rest ih =>
    unfold summaryStats
    rw [exists_mem_cons, ← ih]
    by_cases hx : x.cur.1 = key
    · rw [if_pos hx]
      by_cases hf : x.cur.2.n = 65536
      · rw [if_pos hf]; exact ⟨fun _ => Or.inl ⟨hx, hf⟩, fun _ => rfl⟩
      · rw [if_neg hf]
        simp only []
        by_cases hr : (summaryStats key rest).2.2 = true
        · rw [if_pos hr]; exact ⟨fun _ => Or.inr hr, fun _ => rfl⟩
        · rw [if_neg hr]; exact ⟨fun h => (by cases h), fun h => h.elim (fun h => absurd h.2 hf) (fun h => absurd h hr)⟩
    · rw [if_neg hx]
      exact ⟨Or.inr, fun h => h.elim (fun h => absurd h.1 hx) id⟩

theorem unionSame_spec {key : Nat} : ∀ (l : List HIter) (t : Container), t.WF' →
    (∀ it ∈ l, it.cur.2.WF) → (∀ it ∈ l, it.cur.1 = key → it.cur.2.n ≠ 65536) →
    (unionSame key t l).WF' ∧
    ∀ v, v ∈ (unionSame key t l).values ↔ (v ∈ t.values ∨ ∃ it ∈ l, it.cur.1 = key ∧ v ∈ it.cur.2.values) := by
  intro l
  induction l with
  | nil => intro t ht _ _; exact ⟨ht, fun v => by simp [unionSame]⟩
  | cons x rest ih =>
    intro t ht hw hn
    have hwr : ∀ it ∈ rest, it.cur.2.WF := fun it h => hw it (by simp [h])
    have hnr : ∀ it ∈ rest, it.cur.1 = key → it.cur.2.n ≠ 65536 := fun it h => hn it (by simp [h])
    unfold unionSame
    by_cases hx : x.cur.1 = key
    · rw [if_pos hx]
      have U := unionInPlaceEffect_spec ht (hw x (by simp)) (hn x (by simp) hx)
      have R := ih _ U.1 hwr hnr
      refine ⟨R.1, fun v => ?_⟩
      rw [R.2 v, U.2 v, exists_mem_cons, or_assoc]
      exact or_congr_right (or_congr_left ⟨fun h => ⟨hx, h⟩, fun h => h.2⟩)
    · rw [if_neg hx]
      have R := ih t ht hwr hnr
      refine ⟨R.1, fun v => ?_⟩
      rw [R.2 v, exists_mem_cons]
      exact or_congr_right ⟨Or.inr, fun h => h.elim (fun h => absurd h.1 hx) id⟩

theorem get_putL (bt : Bool) (key : Nat) (c : Option Container) (k' : Nat) : ∀ (cs : List Entry),
    (Bitmap.mk bt (putL key c cs)).get k' = if key = k' then c else (Bitmap.mk bt cs).get k' := by
  intro cs
  induction cs with
  | nil => exact get_cons bt key c [] k'
  | cons e rest ih =>
    rcases e with ⟨k, x⟩
    unfold putL
    by_cases h1 : key < k
    · rw [if_pos h1, get_cons]
    · rw [if_neg h1]
      by_cases h2 : key = k
      · subst h2
        rw [if_pos rfl, get_cons, get_cons]
        split <;> rfl
      · rw [if_neg h2, get_cons, get_cons, ih]
        by_cases h : key = k'
        · subst h; rw [if_neg (fun e => h2 e.symm), if_pos rfl, if_pos rfl]
        · rw [if_neg h, if_neg h]

theorem Bitmap.put_some (b : Bitmap) (key : Nat) (c : Container) :
    b.put key (some c) = ⟨b.btree, putL key (some c) b.cs⟩ := by
  unfold Bitmap.put; simp

theorem Bitmap.get_put (b : Bitmap) (key : Nat) (c : Container) (k' : Nat) :
    (b.put key (some c)).get k' = if key = k' then some c else b.get k' := by
  rw [Bitmap.put_some]; exact get_putL b.btree key (some c) k' b.cs

theorem Asc.put {P : Option Container → Prop} {key : Nat} {c : Option Container} (hk : key ≤ maxContainerKey)
    (hc : P c) : ∀ {cs : List Entry} {m : Nat}, Asc P m cs → m ≤ key → Asc P m (putL key c cs) := by
  intro cs
  induction cs with
  | nil => intro m _ hm; exact ⟨hm, hk, hc, trivial⟩
  | cons e rest ih =>
    intro m h hm
    rcases e with ⟨k, x⟩
    unfold putL
    by_cases h1 : key < k
    · rw [if_pos h1]; exact ⟨hm, hk, hc, h1, h.2⟩
    · rw [if_neg h1]
      by_cases h2 : key = k
      · subst h2; rw [if_pos rfl]; exact ⟨hm, hk, hc, h.2.2.2⟩
      · rw [if_neg h2]; exact ⟨h.1, h.2.1, h.2.2.1, ih h.2.2.2 (by show k + 1 ≤ key; omega)⟩

/-- invariant of the target during the tick loop. -/
def TInv (T : Bitmap) : Prop := Asc (fun o => WFO' o ∧ (T.btree = true → o ≠ none)) 0 T.cs

theorem TInv.of_wf {T : Bitmap} (h : T.WF) : TInv T :=
  Asc.of_keysAsc h.1 (fun e he => ⟨Nat.zero_le _, WFO.toWFO' (h.2.1 e he), fun hb => h.2.2 hb e he⟩)

theorem TInv.get {T : Bitmap} (h : TInv T) {k : Nat} {c : Container} (hg : T.get k = some c) : c.WF' :=
  (Asc.mem h _ ((Asc.get_eq (bt := T.btree) h k c).mp hg)).2.2.1

theorem TInv.put {T : Bitmap} (h : TInv T) {key : Nat} {c : Container} (hk : key ≤ maxContainerKey)
    (hc : c.WF') : TInv (T.put key (some c)) := by
  rw [Bitmap.put_some]
  exact Asc.put hk ⟨hc, fun _ => by simp⟩ h (Nat.zero_le _)

/-- the container `e.2` of some other bitmap under key `e.1` is contained in the target. -/
def incl (T : Bitmap) (e : Nat × Container) : Prop := ∀ w ∈ e.2.values, holds T e.1 w

theorem holds_put (T : Bitmap) (key : Nat) (c : Container) (k w : Nat) :
    holds (T.put key (some c)) k w ↔ if k = key then w ∈ c.values else holds T k w := by
  unfold holds
  rw [Bitmap.get_put]
  by_cases h : k = key
  · rw [if_pos h, if_pos h.symm]; rfl
  · rw [if_neg h, if_neg (fun e => h e.symm)]

theorem holds_put_same (T : Bitmap) (key : Nat) (c : Container) (w : Nat) :
    holds (T.put key (some c)) key w ↔ w ∈ c.values := by
  rw [holds_put, if_pos rfl]

theorem holds_put_other (T : Bitmap) {key k : Nat} (c : Container) (w : Nat) (h : k ≠ key) :
    holds (T.put key (some c)) k w ↔ holds T k w := by
  rw [holds_put, if_neg h]

/-- what one or more inner-loop steps do: the target grows by values of current containers only,
the iterators keep their position, and a newly set `handled` flag is justified. -/
structure Step (T : Bitmap) (its : List HIter) (T' : Bitmap) (its' : List HIter) : Prop where
  inv : TInv T'
  mono : ∀ k w, holds T k w → holds T' k w
  sound : ∀ k w, holds T' k w → holds T k w ∨ ∃ it ∈ its, it.cur.1 = k ∧ w ∈ it.cur.2.values
  len : its'.length = its.length
  pos : ∀ (j : Nat) (it' : HIter), its'[j]? = some it' → ∃ it, its[j]? = some it ∧ it'.cur = it.cur ∧ it'.rest = it.rest ∧
    it'.hasNext = it.hasNext ∧ (it'.handled = true → it.handled = true ∨ incl T' it.cur)

theorem Step.refl {T : Bitmap} (h : TInv T) (its : List HIter) : Step T its T its :=
  ⟨h, fun _ _ h => h, fun _ _ h => Or.inl h, rfl, fun _ it' h => ⟨it', h, rfl, rfl, rfl, Or.inl⟩⟩

theorem lt_of_getElem? {α : Type} {l : List α} {j : Nat} {a : α} (h : l[j]? = some a) : j < l.length := by
  rcases List.getElem?_eq_some_iff.mp h with ⟨h, _⟩
  exact h

section step
variable {T T' : Bitmap} {its its' : List HIter}

theorem Step.back (s : Step T its T' its') {it' : HIter} (hm : it' ∈ its') :
    ∃ it ∈ its, it'.cur = it.cur ∧ it'.rest = it.rest := by
  rcases List.mem_iff_getElem?.mp hm with ⟨j, hj⟩
  rcases s.pos j it' hj with ⟨it, hj0, hc, hr, _⟩
  exact ⟨it, List.mem_of_getElem? hj0, hc, hr⟩

theorem Step.forth (s : Step T its T' its') {it : HIter} (hm : it ∈ its) :
    ∃ it' ∈ its', it'.cur = it.cur ∧ it'.rest = it.rest := by
  rcases List.mem_iff_getElem?.mp hm with ⟨j, hj⟩
  have hlt : j < its'.length := by rw [s.len]; exact lt_of_getElem? hj
  have hj' : its'[j]? = some its'[j] := List.getElem?_eq_getElem hlt
  rcases s.pos j _ hj' with ⟨it2, hj0, hc, hr, _⟩
  rw [hj] at hj0
  cases hj0
  exact ⟨its'[j], List.mem_of_getElem? hj', hc, hr⟩

end step

theorem incl_mono {T T' : Bitmap} (h : ∀ k w, holds T k w → holds T' k w) {e : Nat × Container}
    (hi : incl T e) : incl T' e := fun w hw => h _ _ (hi w hw)

theorem Step.trans {T T' T'' : Bitmap} {its its' its'' : List HIter}
    (a : Step T its T' its') (b : Step T' its' T'' its'') : Step T its T'' its'' := by
  refine ⟨b.inv, fun k w h => b.mono k w (a.mono k w h), ?_, b.len.trans a.len, ?_⟩
  · intro k w h
    rcases b.sound k w h with h | ⟨it', hm, h1, h2⟩
    · exact a.sound k w h
    · rcases a.back hm with ⟨it, hit, hc, _⟩
      exact Or.inr ⟨it, hit, by rw [← hc]; exact h1, by rw [← hc]; exact h2⟩
  · intro j it'' hj
    rcases b.pos j it'' hj with ⟨it', hj', hc', hr', hn', hh'⟩
    rcases a.pos j it' hj' with ⟨it, hj0, hc, hr, hn, hh⟩
    refine ⟨it, hj0, hc'.trans hc, hr'.trans hr, hn'.trans hn, fun h => ?_⟩
    rcases hh' h with h | h
    · rcases hh h with h | h
      · exact Or.inl h
      · exact Or.inr (incl_mono b.mono h)
    · exact Or.inr (by rw [← hc]; exact h)

theorem step_mark {T T' : Bitmap} {its : List HIter} (P : Nat → HIter → Prop) [∀ j it, Decidable (P j it)]
    (hinv : TInv T') (hmono : ∀ k w, holds T k w → holds T' k w)
    (hsound : ∀ k w, holds T' k w → holds T k w ∨ ∃ it ∈ its, it.cur.1 = k ∧ w ∈ it.cur.2.values)
    (hP : ∀ j it, its[j]? = some it → P j it → incl T' it.cur) :
    Step T its T' (its.mapIdx (fun idx x => if P idx x then { x with handled := true } else x)) := by
  refine ⟨hinv, hmono, hsound, List.length_mapIdx, ?_⟩
  intro j it' hj
  rw [List.getElem?_mapIdx, Option.map_eq_some_iff] at hj
  rcases hj with ⟨it, hj, he⟩
  refine ⟨it, hj, ?_⟩
  by_cases hp : P j it
  · rw [if_pos hp] at he
    subst he
    exact ⟨rfl, rfl, rfl, fun _ => Or.inr (hP j it hj hp)⟩
  · rw [if_neg hp] at he
    subst he
    exact ⟨rfl, rfl, rfl, Or.inl⟩

theorem mem_drop_of_getElem? {its : List HIter} {i j : Nat} {it : HIter} (h : its[j]? = some it) (hj : j ≥ i) :
    it ∈ its.drop i := by
  apply List.mem_iff_getElem?.mpr
  refine ⟨j - i, ?_⟩
  rw [List.getElem?_drop]
  have : i + (j - i) = j := by omega
  rw [this]; exact h

theorem step_put {T : Bitmap} {its : List HIter} (hT : TInv T) {key : Nat} {c : Container}
    (P : Nat → HIter → Prop) [∀ j it, Decidable (P j it)] (hk : key ≤ maxContainerKey) (hc : c.WF')
    (hm : ∀ w, holds T key w → w ∈ c.values)
    (hs : ∀ w, w ∈ c.values → holds T key w ∨ ∃ it ∈ its, it.cur.1 = key ∧ w ∈ it.cur.2.values)
    (hP : ∀ j it, its[j]? = some it → P j it → it.cur.1 = key ∧ ∀ w ∈ it.cur.2.values, w ∈ c.values) :
    Step T its (T.put key (some c))
      (its.mapIdx (fun idx x => if P idx x then { x with handled := true } else x)) := by
  apply step_mark P (hT.put hk hc)
  · intro k w h
    by_cases hkk : k = key
    · subst hkk; exact (holds_put_same T k c w).mpr (hm w h)
    · exact (holds_put_other T c w hkk).mpr h
  · intro k w h
    by_cases hkk : k = key
    · subst hkk; exact hs w ((holds_put_same T k c w).mp h)
    · exact Or.inl ((holds_put_other T c w hkk).mp h)
  · intro j it hj hp w hw
    rw [(hP j it hj hp).1, holds_put_same]
    exact (hP j it hj hp).2 w hw

theorem holds_lt {T : Bitmap} (hT : TInv T) {k w : Nat} (h : holds T k w) : w < 65536 := by
  unfold holds at h
  cases hg : T.get k with
  | none => rw [hg] at h; cases h
  | some t => rw [hg] at h; exact (hT.get hg).values_lt w h

theorem mem_drop_succ {its : List HIter} {i : Nat} {x : HIter} (h : x ∈ its.drop (i + 1)) : x ∈ its.drop i := by
  rw [← List.drop_drop] at h
  exact List.mem_of_mem_drop h

/-- the general case of a tick step: the iterators from `start` on with key `key` are unioned
into `t0`, which holds what the target has under `key` (plus, possibly, current containers). -/
theorem tick_union {T : Bitmap} {its : List HIter} (hT : TInv T)
    (hw : ∀ it ∈ its, it.cur.2.WF ∧ it.cur.1 ≤ maxContainerKey)
    {key : Nat} (hk : key ≤ maxContainerKey) (start : Nat) (t0 : Container) (ht0 : t0.WF')
    (hm : ∀ w, holds T key w → w ∈ t0.values)
    (hs : ∀ w, w ∈ t0.values → holds T key w ∨ ∃ it ∈ its, it.cur.1 = key ∧ w ∈ it.cur.2.values)
    (hn : ∀ it ∈ its.drop start, it.cur.1 = key → it.cur.2.n ≠ 65536) :
    Step T its (T.put key (some (unionSame key t0 (its.drop start)))) (markHandled start key its) ∧
    (∀ w, w ∈ t0.values → holds (T.put key (some (unionSame key t0 (its.drop start)))) key w) ∧
    ∀ j it, its[j]? = some it → j ≥ start → it.cur.1 = key →
      incl (T.put key (some (unionSame key t0 (its.drop start)))) it.cur := by
  have U := unionSame_spec (key := key) (its.drop start) t0 ht0
    (fun x hx => (hw x (List.mem_of_mem_drop hx)).1) hn
  have hP : ∀ j it, its[j]? = some it → j ≥ start → it.cur.1 = key → ∀ w ∈ it.cur.2.values,
      w ∈ (unionSame key t0 (its.drop start)).values := by
    intro j x hj h1 h2 w hww
    exact (U.2 w).mpr (Or.inr ⟨x, mem_drop_of_getElem? hj h1, h2, hww⟩)
  refine ⟨step_put hT (fun idx it => idx ≥ start ∧ it.cur.1 = key) hk U.1 ?_ ?_
    (fun j x hj hp => ⟨hp.2, hP j x hj hp.1 hp.2⟩), ?_, ?_⟩
  · intro w h
    exact (U.2 w).mpr (Or.inl (hm w h))
  · intro w h
    rcases (U.2 w).mp h with h | ⟨x, hx, h1, h2⟩
    · exact hs w h
    · exact Or.inr ⟨x, List.mem_of_mem_drop hx, h1, h2⟩
  · intro w h
    rw [holds_put_same]
    exact (U.2 w).mpr (Or.inl h)
  · intro j x hj h1 h2 w hww
    rw [h2, holds_put_same]
    exact hP j x hj h1 h2 w hww

/-- `hd`: an iterator that is handled or exhausted is already included.  The Go branches: target full
(`step_mark`), a full container or a single one among the iterators (`step_put`), the rest (`tick_union`). -/
theorem tickAt_spec {i : Nat} {T : Bitmap} {its : List HIter} (hT : TInv T)
    (hw : ∀ it ∈ its, it.cur.2.WF ∧ it.cur.1 ≤ maxContainerKey)
    (hd : ∀ it, its[i]? = some it → (it.handled = true ∨ it.hasNext = false) → incl T it.cur) :
    Step T its (tickAt i T its).1 (tickAt i T its).2 ∧
    ∀ it, its[i]? = some it → incl (tickAt i T its).1 it.cur := by
  suffices h : ∀ r, tickAt i T its = r → Step T its r.1 r.2 ∧ ∀ it, its[i]? = some it → incl r.1 it.cur from
    h _ rfl
  intro r hr
  unfold tickAt at hr
  cases hi : its[i]? with
  | none => rw [hi] at hr; subst hr; exact ⟨Step.refl hT its, fun it h => by cases h⟩
  | some it =>
    suffices h : Step T its r.1 r.2 ∧ incl r.1 it.cur from ⟨h.1, fun it' h' => by cases h'; exact h.2⟩
    rw [hi] at hr
    simp only [] at hr
    by_cases hskip : (!it.hasNext || it.handled) = true
    · rw [if_pos hskip] at hr
      subst hr
      refine ⟨Step.refl hT its, hd it hi ?_⟩
      cases h1 : it.hasNext <;> cases h2 : it.handled <;> simp [h1, h2] at hskip ⊢
    · rw [if_neg hskip] at hr
      have hitm : it ∈ its := List.mem_of_getElem? hi
      have hwit := hw it hitm
      by_cases hfull : (T.get it.cur.1).isSome = true ∧ N (T.get it.cur.1) = 65536
      · -- the target's container is full: it covers every container with this key
        rw [if_pos hfull] at hr
        subst hr
        cases hg : T.get it.cur.1 with
        | none => rw [hg] at hfull; simp at hfull
        | some t =>
          rw [hg] at hfull
          have hfl := (hT.get hg).full_mem hfull.2
          have hall : ∀ x ∈ its, x.cur.1 = it.cur.1 → incl T x.cur := by
            intro x hx h1 w hww
            unfold holds
            rw [h1, hg]
            exact hfl w (Container.values_lt (hw x hx).1 w hww)
          exact ⟨step_mark (fun idx x => idx ≥ i ∧ x.cur.1 = it.cur.1) hT (fun _ _ h => h) (fun _ _ h => Or.inl h)
            (fun j x hj hp => hall x (List.mem_of_getElem? hj) hp.2), hall it hitm rfl⟩
      · rw [if_neg hfull] at hr
        by_cases hmax : (summaryStats it.cur.1 (its.drop i)).2.2 = true
        · -- one of the containers with this key is full: the full container is stored
          rw [if_pos hmax] at hr
          subst hr
          rcases (summaryStats_flag _).mp hmax with ⟨x, hx, hx1, hx2⟩
          have hxf := PV.C01.full_mem (hw x (List.mem_of_mem_drop hx)).1 hx2
          have hin : ∀ y ∈ its, ∀ w ∈ y.cur.2.values, w ∈ fullContainer.values :=
            fun y hy w hww => (fullContainer_spec.2 w).mpr (Container.values_lt (hw y hy).1 w hww)
          refine ⟨step_put hT (fun idx x => idx ≥ i ∧ x.cur.1 = it.cur.1) hwit.2
            (Container.WF.toWF' fullContainer_spec.1)
            (fun w h => (fullContainer_spec.2 w).mpr (holds_lt hT h))
            (fun w h => Or.inr ⟨x, List.mem_of_mem_drop hx, hx1, hxf w ((fullContainer_spec.2 w).mp h)⟩)
            (fun j y hj hp => ⟨hp.2, hin y (List.mem_of_getElem? hj)⟩), fun w hww => ?_⟩
          rw [holds_put_same]
          exact hin it hitm w hww
        · rw [if_neg hmax] at hr
          have hn65 : ∀ x ∈ its.drop i, x.cur.1 = it.cur.1 → x.cur.2.n ≠ 65536 :=
            fun x hx h1 h2 => hmax ((summaryStats_flag _).mpr ⟨x, hx, h1, h2⟩)
          cases hg : T.get it.cur.1 with
          | none =>
            rw [hg] at hr
            simp only [] at hr
            have hnone : ∀ w, ¬ holds T it.cur.1 w := by
              intro w h; unfold holds at h; rw [hg] at h; cases h
            by_cases hone : (summaryStats it.cur.1 (its.drop i)).2.1 = 1
            · -- the only container with this key is reused
              rw [if_pos hone] at hr
              subst hr
              refine ⟨step_put hT (fun idx _ => idx = i) hwit.2 (Container.WF.toWF' hwit.1)
                (fun w h => absurd h (hnone w)) (fun w h => Or.inr ⟨it, hitm, rfl, h⟩)
                (fun j x hj hji => ?_), fun w hww => (holds_put_same T _ _ w).mpr hww⟩
              subst hji
              rw [hi] at hj
              cases hj
              exact ⟨rfl, fun w h => h⟩
            · rw [if_neg hone] at hr
              by_cases hbig : N (none : Option Container) + (summaryStats it.cur.1 (its.drop i)).1 ≥ 512 ∧
                  (!isBitmap it.cur.2) = true
              · rw [if_pos hbig] at hr
                subst hr
                have R := tick_union hT hw hwit.2 i (.bitmap 0 []) ⟨trivial, by simp, Nat.le_refl _⟩
                  (fun w h => absurd h (hnone w)) (fun w h => by cases h) hn65
                exact ⟨R.1, R.2.2 i it hi (Nat.le_refl i) rfl⟩
              · rw [if_neg hbig] at hr
                subst hr
                have R := tick_union hT hw hwit.2 (i + 1) it.cur.2 (Container.WF.toWF' hwit.1)
                  (fun w h => absurd h (hnone w)) (fun w h => Or.inr ⟨it, hitm, rfl, h⟩)
                  (fun x hx => hn65 x (mem_drop_succ hx))
                exact ⟨R.1, R.2.1⟩
          | some t =>
            rw [hg] at hr
            simp only [] at hr
            subst hr
            have htw := hT.get hg
            have hto : ∀ (b : Prop) [Decidable b], (if b then toBitmap t else t).WF' ∧
                (if b then toBitmap t else t).values = t.values := by
              intro b _
              split
              · exact toBitmap_spec htw
              · exact ⟨htw, rfl⟩
            have hh : ∀ w, holds T it.cur.1 w ↔ w ∈ t.values := by
              intro w; unfold holds; rw [hg]; rfl
            have B := hto (N (some t) + (summaryStats it.cur.1 (its.drop i)).1 ≥ 512 ∧ (!isBitmap t) = true)
            have R := tick_union hT hw hwit.2 i _ B.1
              (fun w h => by rw [B.2]; exact (hh w).mp h)
              (fun w h => by rw [B.2] at h; exact Or.inl ((hh w).mpr h)) hn65
            exact ⟨R.1, R.2.2 i it hi (Nat.le_refl i) rfl⟩

theorem all_done {i : Nat} {T : Bitmap} {its : List HIter}
    (hd : ∀ j it, its[j]? = some it → (j < i ∨ it.handled = true ∨ it.hasNext = false) → incl T it.cur)
    (h : its.length ≤ i) : ∀ it ∈ its, incl T it.cur := by
  intro it hm
  rcases List.mem_iff_getElem?.mp hm with ⟨j, hj⟩
  exact hd j it hj (Or.inl (Nat.lt_of_lt_of_le (lt_of_getElem? hj) h))

/-- the inner loop from index `i` on: afterwards every current container is in the target. -/
theorem tickAll_spec : ∀ (f i : Nat) (T : Bitmap) (its : List HIter), TInv T →
    (∀ it ∈ its, it.cur.2.WF ∧ it.cur.1 ≤ maxContainerKey) →
    (∀ j it, its[j]? = some it → (j < i ∨ it.handled = true ∨ it.hasNext = false) → incl T it.cur) →
    its.length ≤ i + f →
    Step T its (tickAll f i T its).1 (tickAll f i T its).2 ∧
    ∀ it' ∈ (tickAll f i T its).2, incl (tickAll f i T its).1 it'.cur := by
  intro f
  induction f with
  | zero =>
    intro i T its hT hw hd hlen
    exact ⟨Step.refl hT its, all_done hd hlen⟩
  | succ f ih =>
    intro i T its hT hw hd hlen
    unfold tickAll
    by_cases hge : i ≥ its.length
    · rw [if_pos hge]
      exact ⟨Step.refl hT its, all_done hd hge⟩
    · rw [if_neg hge]
      simp only []
      have A := tickAt_spec (i := i) hT hw (fun it h hh => hd i it h (Or.inr hh))
      have hw' : ∀ it ∈ (tickAt i T its).2, it.cur.2.WF ∧ it.cur.1 ≤ maxContainerKey := by
        intro it' hm
        rcases A.1.back hm with ⟨it, hit, hc, _⟩
        rw [hc]; exact hw it hit
      have hd' : ∀ j it, (tickAt i T its).2[j]? = some it →
          (j < i + 1 ∨ it.handled = true ∨ it.hasNext = false) → incl (tickAt i T its).1 it.cur := by
        intro j it' hj hcond
        rcases A.1.pos j it' hj with ⟨it, hj0, hc, _, hn, hh⟩
        rw [hc]
        rcases hcond with h | h | h
        · by_cases hji : j = i
          · subst hji; exact A.2 it hj0
          · exact incl_mono A.1.mono (hd j it hj0 (Or.inl (by omega)))
        · rcases hh h with h | h
          · exact incl_mono A.1.mono (hd j it hj0 (Or.inr (Or.inl h)))
          · exact h
        · rw [hn] at h
          exact incl_mono A.1.mono (hd j it hj0 (Or.inr (Or.inr h)))
      have R := ih (i + 1) (tickAt i T its).1 (tickAt i T its).2 A.1.inv hw' hd'
        (by rw [A.1.len]; omega)
      exact ⟨Step.trans A.1 R.1, R.2⟩

/-- `w` is in a container with key `k` of one of the other bitmaps. -/
def inOthers (others : List Bitmap) (k w : Nat) : Prop :=
  ∃ o ∈ others, ∃ c, (k, c) ∈ o.live ∧ w ∈ c.values

/-- invariant of the outer loop (`t₀` is the target at the start): the target holds nothing but
`t₀` and containers of the others, and every container of the others is in the target already or
still ahead of an iterator. -/
structure Outer (t₀ : Bitmap) (others : List Bitmap) (T : Bitmap) (its : List HIter) : Prop where
  inv : TInv T
  sound : ∀ k w, holds T k w → holds t₀ k w ∨ inOthers others k w
  mono : ∀ k w, holds t₀ k w → holds T k w
  src : ∀ it ∈ its, ∀ e ∈ it.cur :: it.rest, ∃ o ∈ others, e ∈ o.live
  cover : ∀ o ∈ others, ∀ e ∈ o.live, incl T e ∨ ∃ it ∈ its, e ∈ it.cur :: it.rest
  done : ∀ it ∈ its, (it.handled = true ∨ it.hasNext = false) → incl T it.cur

theorem tick_outer {t₀ T : Bitmap} {others : List Bitmap} {its : List HIter} (ho : ∀ o ∈ others, o.WF)
    (h : Outer t₀ others T its) :
    Outer t₀ others (tickAll (its.length + 1) 0 T its).1 (tickAll (its.length + 1) 0 T its).2 ∧
    (∀ it' ∈ (tickAll (its.length + 1) 0 T its).2, incl (tickAll (its.length + 1) 0 T its).1 it'.cur) ∧
    (∀ it' ∈ (tickAll (its.length + 1) 0 T its).2, ∃ it ∈ its, it'.rest = it.rest) := by
  have hw : ∀ it ∈ its, it.cur.2.WF ∧ it.cur.1 ≤ maxContainerKey := by
    intro it hit
    rcases h.src it hit it.cur (by simp) with ⟨o, hom, hm⟩
    exact ⟨((ho o hom).live.mem _ hm).2.2, ((ho o hom).live.mem _ hm).2.1⟩
  have A := tickAll_spec (its.length + 1) 0 T its h.inv hw
    (fun j it hj hc => by
      rcases hc with hc | hc
      · omega
      · exact h.done it (List.mem_of_getElem? hj) hc) (by omega)
  generalize tickAll (its.length + 1) 0 T its = r at A
  rcases A with ⟨S, hall⟩
  refine ⟨⟨S.inv, ?_, fun k w hh => S.mono k w (h.mono k w hh), ?_, ?_, fun it' hm _ => hall it' hm⟩, hall, ?_⟩
  · intro k w hh
    rcases S.sound k w hh with hh | ⟨it, hit, h1, h2⟩
    · exact h.sound k w hh
    · rcases h.src it hit it.cur (by simp) with ⟨o, hom, hm⟩
      exact Or.inr ⟨o, hom, it.cur.2, by rw [← h1]; exact hm, h2⟩
  · intro it' hm
    rcases S.back hm with ⟨it, hit, hc, hr⟩
    rw [hc, hr]; exact h.src it hit
  · intro o hom e he
    rcases h.cover o hom e he with hh | ⟨it, hit, hm⟩
    · exact Or.inl (incl_mono S.mono hh)
    · rcases S.forth hit with ⟨it', hm', hc, hr⟩
      exact Or.inr ⟨it', hm', by rw [hc, hr]; exact hm⟩
  · intro it' hm
    rcases S.back hm with ⟨it, hit, _, hr⟩
    exact ⟨it, hit, hr⟩

theorem outer_final {t₀ T : Bitmap} {others : List Bitmap} {its : List HIter}
    (h : Outer t₀ others T its) (hall : ∀ it ∈ its, incl T it.cur) (hr : ∀ it ∈ its, it.rest = []) :
    ∀ k w, holds T k w ↔ (holds t₀ k w ∨ inOthers others k w) := by
  intro k w
  refine ⟨h.sound k w, ?_⟩
  rintro (hh | ⟨o, hom, c, hm, hwc⟩)
  · exact h.mono k w hh
  · rcases h.cover o hom _ hm with hi | ⟨it, hit, he⟩
    · exact hi w hwc
    · rw [hr it hit, List.mem_singleton] at he
      have := hall it hit
      rw [← he] at this
      exact this w hwc

/-- the function `itersNext` maps over the iterators. -/
def nextIt (it : HIter) : HIter :=
  match it.rest with
  | [] => { it with hasNext := false, handled := false }
  | x :: r => { cur := x, rest := r, hasNext := true, handled := false }

theorem itersNext_eq (its : List HIter) : itersNext its = (its.map nextIt, (its.map nextIt).any (·.hasNext)) := rfl

theorem itersNext_false {its : List HIter} (h : (itersNext its).2 = false) : ∀ it ∈ its, it.rest = [] := by
  intro it hit
  rw [itersNext_eq] at h
  simp only [] at h
  rw [List.any_eq_false] at h
  have := h (nextIt it) (List.mem_map.mpr ⟨it, hit, rfl⟩)
  cases hr : it.rest with
  | nil => rfl
  | cons x r => unfold nextIt at this; rw [hr] at this; simp at this

theorem next_outer {t₀ T : Bitmap} {others : List Bitmap} {its : List HIter}
    (h : Outer t₀ others T its) (hall : ∀ it ∈ its, incl T it.cur) :
    Outer t₀ others T (itersNext its).1 := by
  rw [itersNext_eq]
  -- an advanced iterator has ahead of it what the old one had after its current container
  have hnext : ∀ it : HIter, ∀ e, e ∈ (nextIt it).cur :: (nextIt it).rest → e ∈ it.cur :: it.rest := by
    intro it e he
    unfold nextIt at he
    cases hr : it.rest with
    | nil => rw [hr] at he; exact he
    | cons x r => rw [hr] at he; exact List.mem_cons_of_mem _ he
  refine ⟨h.inv, h.sound, h.mono, ?_, ?_, ?_⟩
  · intro it' hm e he
    rcases List.mem_map.mp hm with ⟨it, hit, rfl⟩
    exact h.src it hit e (hnext it e he)
  · intro o hom e he
    rcases h.cover o hom e he with hh | ⟨it, hit, hm⟩
    · exact Or.inl hh
    · rcases List.mem_cons.mp hm with rfl | hm
      · exact Or.inl (hall it hit)
      · refine Or.inr ⟨nextIt it, List.mem_map.mpr ⟨it, hit, rfl⟩, ?_⟩
        unfold nextIt
        cases hr : it.rest with
        | nil => rw [hr] at hm; cases hm
        | cons x r => rw [hr] at hm; exact hm
  · intro it' hm hc
    rcases List.mem_map.mp hm with ⟨it, hit, rfl⟩
    unfold nextIt at hc ⊢
    cases hr : it.rest with
    | nil => simp only []; exact hall it hit
    | cons x r => rw [hr] at hc; simp at hc

theorem next_rest {its : List HIter} {f : Nat} (h : ∀ it ∈ its, it.rest.length ≤ f + 1) :
    ∀ it ∈ (itersNext its).1, it.rest.length ≤ f := by
  rw [itersNext_eq]
  intro it' hm
  rcases List.mem_map.mp hm with ⟨it, hit, rfl⟩
  have := h it hit
  unfold nextIt
  cases hr : it.rest with
  | nil => simp
  | cons x r => simp only []; rw [hr] at this; simp at this; exact this

theorem unionTicks_spec {t₀ : Bitmap} {others : List Bitmap} (ho : ∀ o ∈ others, o.WF) :
    ∀ (f : Nat) (T : Bitmap) (its : List HIter), Outer t₀ others T its →
    (∀ it ∈ its, it.rest.length ≤ f) →
    TInv (unionTicks (f + 1) T its) ∧
    ∀ k w, holds (unionTicks (f + 1) T its) k w ↔ (holds t₀ k w ∨ inOthers others k w) := by
  intro f
  induction f with
  | zero =>
    intro T its h hb
    have A := tick_outer ho h
    have hr : ∀ it' ∈ (tickAll (its.length + 1) 0 T its).2, it'.rest = [] := by
      intro it' hm
      rcases A.2.2 it' hm with ⟨it, hit, he⟩
      have := hb it hit
      rw [he]; exact List.length_eq_zero_iff.mp (by omega)
    have hres : unionTicks (0 + 1) T its = (tickAll (its.length + 1) 0 T its).1 := by
      unfold unionTicks
      simp only []
      split
      · rfl
      · rfl
    rw [hres]
    exact ⟨A.1.inv, outer_final A.1 A.2.1 hr⟩
  | succ f ih =>
    intro T its h hb
    have A := tick_outer ho h
    unfold unionTicks
    simp only []
    by_cases hnx : (itersNext (tickAll (its.length + 1) 0 T its).2).2 = true
    · rw [if_pos hnx]
      apply ih _ _ (next_outer A.1 A.2.1)
      apply next_rest
      intro it' hm
      rcases A.2.2 it' hm with ⟨it, hit, he⟩
      rw [he]; exact hb it hit
    · rw [if_neg hnx]
      exact ⟨A.1.inv, outer_final A.1 A.2.1 (itersNext_false (by simpa using hnx))⟩

theorem inOthers_iff {others : List Bitmap} (ho : ∀ o ∈ others, o.WF) (v : Nat) :
    inOthers others (highbits v) (lowbits v) ↔ ∃ o ∈ others, v ∈ o.values := by
  unfold inOthers
  constructor
  · rintro ⟨o, hom, c, hm, hw⟩
    exact ⟨o, hom, ((ho o hom).live.mem_valuesL v).mpr ⟨(highbits v, c), hm, rfl, hw⟩⟩
  · rintro ⟨o, hom, hv⟩
    rcases ((ho o hom).live.mem_valuesL v).mp hv with ⟨⟨k, c⟩, he, h1, h2⟩
    cases h1
    exact ⟨o, hom, c, he, h2⟩

/-- `Containers.Repair()` on the target. -/
def repairAll (T : Bitmap) : Bitmap := ⟨T.btree, T.cs.map (fun e => (e.1, e.2.map Container.repair))⟩

theorem repairAll_get (T : Bitmap) (k : Nat) : (repairAll T).get k = (T.get k).map Container.repair := by
  rcases T with ⟨bt, cs⟩
  unfold repairAll
  induction cs with
  | nil => rfl
  | cons e t ih =>
    rcases e with ⟨k', oc⟩
    simp only [List.map_cons]
    rw [get_cons, get_cons, ih]
    split <;> rfl

theorem repairAll_holds {T : Bitmap} (hT : TInv T) (k w : Nat) : holds (repairAll T) k w ↔ holds T k w := by
  unfold holds
  rw [repairAll_get]
  cases hg : T.get k with
  | none => rfl
  | some c =>
    show w ∈ c.repair.values ↔ w ∈ c.values
    rw [(Container.repair_spec (hT.get hg)).2]

theorem repairAll_wf {T : Bitmap} (hT : TInv T) : (repairAll T).WF := by
  have hA : Asc (fun o => WFO o ∧ (T.btree = true → o ≠ none)) 0
      (T.cs.map (fun e => (e.1, e.2.map Container.repair))) :=
    Asc.map _ (fun o ho => by
      cases o with
      | none => exact ⟨trivial, ho.2⟩
      | some c => exact ⟨(Container.repair_spec ho.1).1, fun _ => by simp⟩) hT
  exact ⟨hA.keysAsc, fun e he => (hA.mem e he).2.2.1, fun hb e he => (hA.mem e he).2.2.2 hb⟩

theorem le_foldl_max : ∀ (l : List Nat) (a : Nat), a ≤ l.foldl Nat.max a ∧ ∀ x ∈ l, x ≤ l.foldl Nat.max a := by
  intro l
  induction l with
  | nil => intro a; exact ⟨Nat.le_refl _, fun x hx => by cases hx⟩
  | cons y t ih =>
    intro a
    rw [List.foldl_cons]
    have := ih (Nat.max a y)
    refine ⟨Nat.le_trans (Nat.le_max_left a y) this.1, fun x hx => ?_⟩
    rcases List.mem_cons.mp hx with rfl | hx
    · exact Nat.le_trans (Nat.le_max_right a x) this.1
    · exact this.2 x hx

/-- the iterator `unionInPlace` starts on one of the others. -/
def startIt (o : Bitmap) : Option HIter :=
  match o.live with
  | [] => none
  | x :: r => some { cur := x, rest := r, hasNext := true, handled := false }

theorem Bitmap.unionInPlace_eq (t : Bitmap) (others : List Bitmap) :
    t.unionInPlace others =
      repairAll (unionTicks ((others.map (fun o => o.cs.length)).foldl Nat.max 0 + 1) t (others.filterMap startIt)) := rfl

theorem outer_start {t : Bitmap} (others : List Bitmap) (ht : t.WF) :
    Outer t others t (others.filterMap startIt) ∧
    ∀ it ∈ others.filterMap startIt, it.rest.length ≤ (others.map (fun o => o.cs.length)).foldl Nat.max 0 := by
  have key : ∀ it ∈ others.filterMap startIt, ∃ o ∈ others, o.live = it.cur :: it.rest ∧
      it.hasNext = true ∧ it.handled = false := by
    intro it hm
    rcases List.mem_filterMap.mp hm with ⟨o, hom, he⟩
    refine ⟨o, hom, ?_⟩
    unfold startIt at he
    cases hl : o.live with
    | nil => rw [hl] at he; cases he
    | cons x r =>
      rw [hl] at he
      simp only [Option.some.injEq] at he
      subst he
      exact ⟨rfl, rfl, rfl⟩
  refine ⟨⟨TInv.of_wf ht, fun _ _ h => Or.inl h, fun _ _ h => h, ?_, ?_, ?_⟩, ?_⟩
  · intro it hm e he
    rcases key it hm with ⟨o, hom, hl, _⟩
    exact ⟨o, hom, by rw [hl]; exact he⟩
  · intro o hom e he
    cases hl : o.live with
    | nil => rw [hl] at he; cases he
    | cons x r =>
      refine Or.inr ⟨{ cur := x, rest := r, hasNext := true, handled := false },
        List.mem_filterMap.mpr ⟨o, hom, by unfold startIt; rw [hl]⟩, by rw [hl] at he; exact he⟩
  · intro it hm hc
    rcases key it hm with ⟨o, hom, _, h1, h2⟩
    rw [h1, h2] at hc
    simp at hc
  · intro it hm
    rcases key it hm with ⟨o, hom, hl, _⟩
    have h1 := liveL_length_le o.cs
    have h2 : o.live.length = it.rest.length + 1 := by rw [hl]; simp
    have h3 := (le_foldl_max (others.map (fun o => o.cs.length)) 0).2 o.cs.length
      (List.mem_map.mpr ⟨o, hom, rfl⟩)
    unfold Bitmap.live at h2
    omega

theorem Bitmap.unionInPlace_spec {t : Bitmap} (others : List Bitmap) (ht : t.WF) (ho : ∀ o ∈ others, o.WF) :
    (t.unionInPlace others).WF ∧
    ∀ v, v ∈ (t.unionInPlace others).values ↔ (v ∈ t.values ∨ ∃ o ∈ others, v ∈ o.values) := by
  rw [Bitmap.unionInPlace_eq]
  have S := outer_start others ht
  have U := unionTicks_spec ho _ t _ S.1 S.2
  have hwf := repairAll_wf U.1
  refine ⟨hwf, fun v => ?_⟩
  rw [Bitmap.mem_values_holds hwf, repairAll_holds U.1, U.2, Bitmap.mem_values_holds ht, inOthers_iff ho]

theorem Bitmap.union_spec {b : Bitmap} (others : List Bitmap) (hb : b.WF) (ho : ∀ o ∈ others, o.WF) :
    (b.union others).WF ∧
    ∀ v, v ∈ (b.union others).values ↔ (v ∈ b.values ∨ ∃ o ∈ others, v ∈ o.values) := by
  have gen : ∀ os : List Bitmap, (∀ o ∈ os, o.WF) →
      ((Bitmap.mk b.btree b.cs).unionInPlace os).WF ∧
      ∀ v, v ∈ ((Bitmap.mk b.btree b.cs).unionInPlace os).values ↔ (v ∈ b.values ∨ ∃ o ∈ os, v ∈ o.values) :=
    fun os h => Bitmap.unionInPlace_spec (t := b) os hb h
  cases others with
  | nil => exact gen [] ho
  | cons o rest =>
    cases rest with
    | nil =>
      show (b.union1 o).WF ∧ ∀ v, v ∈ (b.union1 o).values ↔ _
      have S := Bitmap.union1_spec kernelOK_union hb (ho o (by simp))
      refine ⟨S.1, fun v => ?_⟩
      rw [S.2 v]; simp
    | cons o2 rest2 => exact gen (o :: o2 :: rest2) ho

end PV.C01
