/-
C01: the run x run kernels.  intersect (and its count) emits `va ∩ vb` and drops the run that ends first; union
emits the run that starts first; difference trims the current a-run from below; xor rests on three equations
for `xorCompare` (before, after, overlap).
-/
import PV.C01.LemmasRun
namespace PV.C01
open Spec

theorem inIv_inter (a b : Iv) (v : Nat) :
    inIv ⟨max a.start b.start, min a.last b.last⟩ v = (inIv a v && inIv b v) := by
  simp only [inIv]
  rw [← Bool.decide_and, decide_eq_decide]
  omega

/-- the four emitting branches of `intersectRunRun` all emit `va ∩ vb` and drop the run that ends first. -/
theorem intersectRunRunEmit_cons (f : Nat) (va : Iv) (ra : List Iv) (vb : Iv) (rb : List Iv) :
    intersectRunRunEmit (f + 1) (va :: ra) (vb :: rb) =
      if va.last < vb.start then intersectRunRunEmit f ra (vb :: rb)
      else if vb.last < va.start then intersectRunRunEmit f (va :: ra) rb
      else ⟨max va.start vb.start, min va.last vb.last⟩ ::
        (if vb.last < va.last then intersectRunRunEmit f (va :: ra) rb else intersectRunRunEmit f ra (vb :: rb)) := by
  rw [intersectRunRunEmit]
  by_cases c1 : va.last < vb.start
  · rw [if_pos c1, if_pos c1]
  · rw [if_neg c1, if_neg c1]
    by_cases c2 : vb.last < va.start
    · rw [if_pos c2, if_pos c2]
    · rw [if_neg c2, if_neg c2]
      by_cases c : vb.last < va.last
      · rw [if_pos c, Nat.min_eq_right (Nat.le_of_lt c)]
        by_cases c3 : va.last > vb.last ∧ va.start ≥ vb.start
        · rw [if_pos c3, Nat.max_eq_left c3.2]
        · rw [if_neg c3, if_pos (show va.last > vb.last ∧ va.start < vb.start by omega),
            Nat.max_eq_right (show va.start ≤ vb.start by omega)]
      · rw [if_neg c, if_neg (fun h => c h.1), if_neg (fun h => c h.1), Nat.min_eq_left (Nat.le_of_not_lt c)]
        by_cases c5 : va.last ≤ vb.last ∧ va.start ≥ vb.start
        · rw [if_pos c5, Nat.max_eq_left c5.2]
        · rw [if_neg c5, Nat.max_eq_right (show va.start ≤ vb.start by omega)]

theorem intersectRunRunEmit_wf (fuel : Nat) (ra rb : List Iv) (ha : RunsWF ra) (hb : RunsWF rb)
    (hf : ra.length + rb.length ≤ fuel) :
    Runs (intersectRunRunEmit fuel ra rb) (fun v => inRuns ra v && inRuns rb v) := by
  induction fuel generalizing ra rb with
  | zero =>
    have h1 : ra = [] := List.length_eq_zero_iff.mp (by omega)
    subst h1
    exact Runs.nil (fun _ => rfl)
  | succ f ih =>
    match ra, rb with
    | [], rb => exact Runs.nil (fun _ => rfl)
    | va :: ra, [] => exact Runs.nil (fun _ => Bool.and_false _)
    | va :: ra, vb :: rb =>
      have hva := RunsWF.head ha
      have hvb := RunsWF.head hb
      have ih1 := ih ra (vb :: rb) (RunsWF.tail ha) hb (by simp only [List.length_cons] at hf ⊢; omega)
      have ih2 := ih (va :: ra) rb ha (RunsWF.tail hb) (by simp only [List.length_cons] at hf ⊢; omega)
      rw [intersectRunRunEmit_cons]
      by_cases c1 : va.last < vb.start
      · -- `va` lies below `vb :: rb`
        rw [if_pos c1]
        exact ih1.congr (fun v => by
          rw [inRuns_cons va ra, Bool.and_or_distrib_right,
            ((RunsWF.above_head hb).mono (Nat.succ_le_of_lt c1)).inIv_and v, Bool.false_or])
      · rw [if_neg c1]
        by_cases c2 : vb.last < va.start
        · -- `vb` lies below `va :: ra`
          rw [if_pos c2]
          exact ih2.congr (fun v => by
            rw [inRuns_cons vb rb, Bool.and_or_distrib_left, Bool.and_comm _ (inIv vb v),
              ((RunsWF.above_head ha).mono (Nat.succ_le_of_lt c2)).inIv_and v, Bool.false_or])
        · rw [if_neg c2]
          have hiv : max va.start vb.start ≤ min va.last vb.last ∧ min va.last vb.last ≤ 65535 := by omega
          by_cases c : vb.last < va.last
          · -- `vb` ends first: it meets `va :: ra` in `va` only
            rw [if_pos c]
            exact ih2.cons hiv (((RunsWF.above_tail hb).mono (by simp only; omega)).and_right _) (fun v => by
              rw [inIv_inter, inRuns_cons vb rb, Bool.and_or_distrib_left, ha.cons_and_inIv (Nat.le_of_lt c)])
          · rw [if_neg c]
            exact ih1.cons hiv (((RunsWF.above_tail ha).mono (by simp only; omega)).and_left _) (fun v => by
              rw [inIv_inter, inRuns_cons va ra, Bool.and_or_distrib_right,
                Bool.and_comm (inIv va v) (inRuns (vb :: rb) v), hb.cons_and_inIv (Nat.le_of_not_lt c),
                Bool.and_comm (inIv vb v)])

theorem runsCard_eq_cnt {l : List Iv} (h : RunsWF l) : runsCard l = cnt (inRuns l) 0 65536 := by
  induction l with
  | nil =>
    rw [cnt_false (by intros; rfl)]; rfl
  | cons a t ih =>
    have ha := RunsWF.head h
    rw [cnt_inRuns_cons h, cnt_inIv a 0 65536 ha.1, ← ih (RunsWF.tail h)]
    simp only [runsCard]
    omega

/-- the count kernel adds up the cardinalities of the intervals the intersect kernel emits. -/
theorem intersectionCountRunRun_eq_card (fuel : Nat) (ra rb : List Iv) :
    intersectionCountRunRun fuel ra rb = runsCard (intersectRunRunEmit fuel ra rb) := by
  induction fuel generalizing ra rb with
  | zero => simp [intersectionCountRunRun, intersectRunRunEmit, runsCard]
  | succ f ih =>
    match ra, rb with
    | [], rb => simp [intersectionCountRunRun, intersectRunRunEmit, runsCard]
    | va :: ra, [] => simp [intersectionCountRunRun, intersectRunRunEmit, runsCard]
    | va :: ra, vb :: rb =>
      simp only [intersectionCountRunRun, intersectRunRunEmit]
      by_cases c1 : va.last < vb.start
      · rw [if_pos c1, if_pos c1]; exact ih _ _
      · rw [if_neg c1, if_neg c1]
        by_cases c2 : vb.last < va.start
        · rw [if_pos c2, if_pos c2]; exact ih _ _
        · rw [if_neg c2, if_neg c2]
          by_cases c3 : va.last > vb.last ∧ va.start ≥ vb.start
          · rw [if_pos c3, if_pos c3]; simp only [runsCard]; rw [ih]; omega
          · rw [if_neg c3, if_neg c3]
            by_cases c4 : va.last > vb.last ∧ va.start < vb.start
            · rw [if_pos c4, if_pos c4]; simp only [runsCard]; rw [ih]; omega
            · rw [if_neg c4, if_neg c4]
              by_cases c5 : va.last ≤ vb.last ∧ va.start ≥ vb.start
              · rw [if_pos c5, if_pos c5]; simp only [runsCard]; rw [ih]; omega
              · rw [if_neg c5, if_neg c5]; simp only [runsCard]; rw [ih]; omega

theorem intersectionCountRunRun_spec (fuel : Nat) (ra rb : List Iv) (ha : RunsWF ra) (hb : RunsWF rb)
    (hf : ra.length + rb.length ≤ fuel) :
    intersectionCountRunRun fuel ra rb = cnt (fun v => inRuns ra v && inRuns rb v) 0 65536 := by
  have h := intersectRunRunEmit_wf fuel ra rb ha hb hf
  rw [intersectionCountRunRun_eq_card, runsCard_eq_cnt h.1]
  apply cnt_congr
  intro v _ _
  exact h.2 v

theorem unionRunRunEmit_spec (fuel : Nat) (ra rb : List Iv) (ha : RunsWF ra) (hb : RunsWF rb)
    (hf : ra.length + rb.length ≤ fuel) :
    Emits (unionRunRunEmit fuel ra rb) (fun v => inRuns ra v || inRuns rb v) := by
  induction fuel generalizing ra rb with
  | zero =>
    have h1 : ra = [] := List.length_eq_zero_iff.mp (by omega)
    have h2 : rb = [] := List.length_eq_zero_iff.mp (by omega)
    subst h1 h2
    exact Emits.nil (fun _ => rfl)
  | succ f ih =>
    -- the run that starts first is emitted; what is left of either list does not start before it
    match ra, rb with
    | [], [] => exact Emits.nil (fun _ => rfl)
    | va :: ra, [] =>
      exact (ih ra [] (RunsWF.tail ha) hb (by simp only [List.length_cons] at hf ⊢; omega)).cons (RunsWF.head ha)
        (((RunsWF.above_tail ha).mono (Nat.le_succ_of_le (RunsWF.head ha).1)).op _ rfl (above_nil _))
        (fun v => by rw [inRuns_cons, Bool.or_assoc])
    | [], vb :: rb =>
      exact (ih [] rb ha (RunsWF.tail hb) (by simp only [List.length_cons] at hf ⊢; omega)).cons (RunsWF.head hb)
        ((above_nil _).op _ rfl ((RunsWF.above_tail hb).mono (Nat.le_succ_of_le (RunsWF.head hb).1)))
        (fun v => by rw [inRuns_cons vb, Bool.or_left_comm])
    | va :: ra, vb :: rb =>
      simp only [unionRunRunEmit]
      by_cases c1 : va.start < vb.start
      · rw [if_pos c1]
        exact (ih ra (vb :: rb) (RunsWF.tail ha) hb (by simp only [List.length_cons] at hf ⊢; omega)).cons
          (RunsWF.head ha)
          (((RunsWF.above_tail ha).mono (Nat.le_succ_of_le (RunsWF.head ha).1)).op _ rfl
            ((RunsWF.above_head hb).mono (Nat.le_of_lt c1)))
          (fun v => by rw [inRuns_cons va, Bool.or_assoc])
      · rw [if_neg c1]
        exact (ih (va :: ra) rb ha (RunsWF.tail hb) (by simp only [List.length_cons] at hf ⊢; omega)).cons
          (RunsWF.head hb)
          (((RunsWF.above_head ha).mono (Nat.le_of_not_lt c1)).op _ rfl
            ((RunsWF.above_tail hb).mono (Nat.le_succ_of_le (RunsWF.head hb).1)))
          (fun v => by rw [inRuns_cons vb, Bool.or_left_comm])

/-- "advance to the next a-run" of `differenceRunRunLoop`. -/
def drrNext (f : Nat) (ra rb : List Iv) : List Iv :=
  match ra with
  | [] => []
  | a' :: ra' => differenceRunRunLoop f a'.start a'.last ra' rb

theorem drr_cons_eq (f astart alast : Nat) (ra : List Iv) (vb : Iv) (rb : List Iv) :
    differenceRunRunLoop (f + 1) astart alast ra (vb :: rb) =
      if alast < vb.start then ⟨astart, alast⟩ :: drrNext f ra (vb :: rb)
      else if vb.last < astart then differenceRunRunLoop f astart alast ra rb
      else if alast > vb.last then
        (if astart < vb.start then [⟨astart, vb.start - 1⟩] else []) ++
          differenceRunRunLoop f (vb.last + 1) alast ra (vb :: rb)
      else (if astart < vb.start then [⟨astart, vb.start - 1⟩] else []) ++ drrNext f ra (vb :: rb) := by
  cases ra <;> rfl

/-- the credit of the fuel measure: 1 when the head b-run may still trim the current a-run. -/
def drrC (astart : Nat) : List Iv → Nat
  | [] => 0
  | vb :: _ => if vb.last < astart then 0 else 1

theorem drrC_le (astart : Nat) (rb : List Iv) : drrC astart rb ≤ 1 := by
  cases rb with
  | nil => simp [drrC]
  | cons vb rb => simp only [drrC]; split <;> omega

/-- fuel: a step drops a run, or trims the current a-run (spending `drrC`), and a trim is followed by a drop. -/
theorem differenceRunRunLoop_gen (fuel : Nat) :
    ∀ (astart alast : Nat) (ra rb : List Iv), RunsWF (⟨astart, alast⟩ :: ra) → RunsWF rb →
      2 * (ra.length + rb.length) + drrC astart rb + 1 ≤ fuel →
      Runs (differenceRunRunLoop fuel astart alast ra rb) (fun v => inRuns (⟨astart, alast⟩ :: ra) v && !inRuns rb v) := by
  induction fuel with
  | zero => intro astart alast ra rb _ _ hf; omega
  | succ f ih =>
    intro astart alast ra rb ha hb hf
    cases rb with
    | nil =>
      simp only [differenceRunRunLoop]
      exact ⟨ha, fun v => by simp⟩
    | cons vb rb =>
      have hcur : astart ≤ alast ∧ alast ≤ 65535 := RunsWF.head ha
      have hvb := RunsWF.head hb
      -- the "advance a" continuation
      have hT : 2 * (ra.length + rb.length) + 2 ≤ f →
          Runs (drrNext f ra (vb :: rb)) (fun v => inRuns ra v && !inRuns (vb :: rb) v) := by
        intro hf'
        cases ra with
        | nil => exact Runs.nil (fun _ => rfl)
        | cons a' ra' =>
          have := drrC_le a'.start (vb :: rb)
          exact ih a'.start a'.last ra' (vb :: rb) (RunsWF.tail ha) hb
            (by simp only [List.length_cons] at hf' ⊢; omega)
      rw [drr_cons_eq]
      by_cases c1 : alast < vb.start
      · -- the current run lies below `vb :: rb`
        rw [if_pos c1]
        exact (hT (by simp only [List.length_cons] at hf; omega)).cons hcur ((RunsWF.above_tail ha).and_left _)
          (fun v => by
            rw [inRuns_cons _ ra, Bool.and_or_distrib_right,
              and_not_of_disjoint (((RunsWF.above_head hb).mono (Nat.succ_le_of_lt c1)).inIv_and v)])
      · rw [if_neg c1]
        by_cases c2 : vb.last < astart
        · -- `vb` lies below the current run and `ra`
          rw [if_pos c2]
          have hc : drrC astart (vb :: rb) = 0 := by simp [drrC, c2]
          have := drrC_le astart rb
          exact (ih astart alast ra rb ha (RunsWF.tail hb) (by simp only [List.length_cons] at hf; omega)).congr
            (fun v => by
              rw [inRuns_cons vb rb, Bool.not_or, ← Bool.and_assoc, and_not_of_disjoint
                ((Bool.and_comm ..).trans (((RunsWF.above_head ha).mono (Nat.succ_le_of_lt c2)).inIv_and v))])
        · rw [if_neg c2]
          have hc : drrC astart (vb :: rb) = 1 := by simp [drrC, c2]
          -- `vb` cuts the current run into the stretch below `vb` and the stretch above it
          have cut : ∀ v, (inIv ⟨astart, alast⟩ v && !inRuns (vb :: rb) v) =
              (decide (astart ≤ v ∧ v < vb.start) || inIv ⟨vb.last + 1, alast⟩ v && !inRuns (vb :: rb) v) := by
            intro v
            rw [inRuns_cons]
            cases hx : inRuns rb v
            · iv_omega
            · have := RunsWF.above_tail hb v hx
              iv_omega
          by_cases c3 : alast > vb.last
          · rw [if_pos c3]
            have hc' : drrC (vb.last + 1) (vb :: rb) = 0 := by simp [drrC]
            have ha3 : RunsWF (⟨vb.last + 1, alast⟩ :: ra) :=
              RunsWF.cons (by simp only; omega) (RunsWF.tail ha) (fun iv hiv => RunsWF.gt ha iv hiv)
            exact (ih (vb.last + 1) alast ra (vb :: rb) ha3 hb (by omega)).prefix (by omega)
              (((RunsWF.above_head ha3).mono (by simp only; omega)).and_left _) (fun v => by
                rw [inRuns_cons _ ra, inRuns_cons _ ra, Bool.and_or_distrib_right, Bool.and_or_distrib_right, cut v,
                  Bool.or_assoc])
          · rw [if_neg c3]
            exact (hT (by simp only [List.length_cons] at hf; omega)).prefix (by omega)
              (((RunsWF.above_tail ha).mono (by simp only; omega)).and_left _) (fun v => by
                rw [inRuns_cons _ ra, Bool.and_or_distrib_right, cut v,
                  (inIv_false_iff ⟨vb.last + 1, alast⟩ v).mpr (by simp only; omega), Bool.false_and, Bool.or_false])

theorem differenceRunRunLoop_spec (a : Iv) (ra rb : List Iv) (ha : RunsWF (a :: ra)) (hb : RunsWF rb)
    (fuel : Nat) (hf : 2 * (ra.length + 1 + rb.length) + 2 ≤ fuel) :
    Runs (differenceRunRunLoop fuel a.start a.last ra rb) (fun v => inRuns (a :: ra) v && !inRuns rb v) := by
  have := drrC_le a.start rb
  exact differenceRunRunLoop_gen fuel a.start a.last ra rb ha hb (by omega)


theorem xorCompare_before {va vb : Iv} (h : va.last < vb.start) :
    xorCompare va vb = (some va, none, some vb) := by
  unfold xorCompare; rw [if_pos h]

theorem xorCompare_after {va vb : Iv} (h1 : ¬ va.last < vb.start) (h2 : vb.last < va.start) :
    xorCompare va vb = (some vb, some va, none) := by
  unfold xorCompare; rw [if_neg h1, if_pos h2]

/-- the two guards in front of "the rest of `y` goes on" (`x` ends first) say the same thing when
`y` ends below 65536. -/
theorem xorCompare_guards {α : Type} (x y : Iv) (hy : y.last ≤ 65535) (a b : α) :
    (if x.last = 65535 then a else if x.last + 1 > y.last then a else b)
      = if x.last + 1 ≤ y.last then b else a := by
  by_cases h : x.last + 1 ≤ y.last
  · rw [if_neg (by omega), if_neg (by omega), if_pos h]
  · rw [if_neg h]
    by_cases h' : x.last = 65535
    · rw [if_pos h']
    · rw [if_neg h', if_pos (by omega)]

/-- `xorCompare` on overlapping runs: whatever the order of the four end points, it emits the part
below the common stretch, `[min start, max start)`, and leaves the part above it, `(min last, max last]`,
to the run that reaches further. -/
theorem xorCompare_overlap {va vb : Iv} (ha : va.last ≤ 65535) (hb : vb.last ≤ 65535)
    (h1 : ¬ va.last < vb.start) (h2 : ¬ vb.last < va.start) :
    xorCompare va vb =
      (if va.start = vb.start then none else some ⟨min va.start vb.start, max va.start vb.start - 1⟩,
       ivOpt (vb.last + 1) va.last, ivOpt (va.last + 1) vb.last) := by
  unfold xorCompare
  rw [if_neg h1, if_neg h2]
  by_cases c3 : va.start = vb.start ∧ va.last = vb.last
  · rw [if_pos c3, if_pos c3.1, ivOpt_neg (by omega), ivOpt_neg (by omega)]
  · rw [if_neg c3]
    by_cases c4 : va.start ≤ vb.start ∧ va.last ≥ vb.last
    · rw [if_pos c4]  -- vb inside
      dsimp only
      rw [xorCompare_guards vb va ha, ite_not, Nat.min_eq_left c4.1, Nat.max_eq_right c4.1,
        ivOpt_neg (s := va.last + 1) (by omega)]
      by_cases r : vb.last + 1 ≤ va.last
      · rw [if_pos r, ivOpt_pos r]
      · rw [if_neg r, ivOpt_neg r]
    · rw [if_neg c4]
      by_cases c5 : vb.start ≤ va.start ∧ vb.last ≥ va.last
      · rw [if_pos c5]  -- va inside
        dsimp only
        rw [xorCompare_guards va vb hb, ite_not, Nat.min_eq_right c5.1, Nat.max_eq_left c5.1,
          ivOpt_neg (s := vb.last + 1) (by omega)]
        by_cases e : va.start = vb.start
        · rw [if_pos e, if_pos e.symm, ivOpt_pos (by omega), if_pos (by omega)]
        · rw [if_neg e, if_neg (Ne.symm e)]
          by_cases r : va.last + 1 ≤ vb.last
          · rw [if_pos r, ivOpt_pos r]
          · rw [if_neg r, ivOpt_neg r]
      · rw [if_neg c5]
        have e : ¬ va.start = vb.start := by omega
        rw [if_neg e]
        by_cases c6 : va.start < vb.start ∧ va.last ≤ vb.last
        · rw [if_pos c6]  -- va first overlap
          dsimp only
          rw [xorCompare_guards va vb hb, if_pos (show va.last + 1 ≤ vb.last by omega),
            Nat.min_eq_left (Nat.le_of_lt c6.1), Nat.max_eq_right (Nat.le_of_lt c6.1),
            ivOpt_pos (show va.last + 1 ≤ vb.last by omega), ivOpt_neg (show ¬ vb.last + 1 ≤ va.last by omega)]
        · have c7 : vb.start < va.start ∧ vb.last ≤ va.last := by omega
          rw [if_neg c6, if_pos c7]  -- vb first overlap
          dsimp only
          rw [xorCompare_guards vb va ha, if_pos (show vb.last + 1 ≤ va.last by omega),
            Nat.min_eq_right (Nat.le_of_lt c7.1), Nat.max_eq_left (Nat.le_of_lt c7.1),
            ivOpt_pos (show vb.last + 1 ≤ va.last by omega), ivOpt_neg (show ¬ va.last + 1 ≤ vb.last by omega)]

/-- the emitted interval is valid and starts at the smaller start; what is left of either run is a valid tail piece
of it, and at most one of the two is left; emitted ∪ (what is left xor-ed) = (va :: ra) xor (vb :: rb). -/
theorem xorCompare_spec {va vb : Iv} {ra rb : List Iv} (hwa : RunsWF (va :: ra)) (hwb : RunsWF (vb :: rb)) :
    (∀ iv, (xorCompare va vb).1 = some iv →
      iv.start ≤ iv.last ∧ iv.last ≤ 65535 ∧ iv.start ≤ va.start ∧ iv.start ≤ vb.start) ∧
    (∀ w, (xorCompare va vb).2.1 = some w → w.start ≤ w.last ∧ va.start ≤ w.start ∧ w.last = va.last) ∧
    (∀ w, (xorCompare va vb).2.2 = some w → w.start ≤ w.last ∧ vb.start ≤ w.start ∧ w.last = vb.last) ∧
    ((xorCompare va vb).2.1 = none ∨ (xorCompare va vb).2.2 = none) ∧
    ∀ v, (inIvO (xorCompare va vb).1 v ||
        (inRuns (optRuns (xorCompare va vb).2.1 ra) v != inRuns (optRuns (xorCompare va vb).2.2 rb) v)) =
      (inRuns (va :: ra) v != inRuns (vb :: rb) v) := by
  have ha := RunsWF.head hwa
  have hb := RunsWF.head hwb
  by_cases h1 : va.last < vb.start
  · rw [xorCompare_before h1]
    refine ⟨fun iv e => ?_, fun w e => (by cases e), fun w e => ?_, Or.inl rfl, fun v => ?_⟩
    · cases e; exact ⟨ha.1, ha.2, Nat.le_refl _, by omega⟩
    · cases e; exact ⟨hb.1, Nat.le_refl _, rfl⟩
    · -- `va` lies below `ra` and below `vb :: rb`
      rw [inRuns_cons va ra]
      exact or_bne_of_disjoint ((RunsWF.above_tail hwa).inIv_and v)
        (((RunsWF.above_head hwb).mono (Nat.succ_le_of_lt h1)).inIv_and v)
  · by_cases h2 : vb.last < va.start
    · rw [xorCompare_after h1 h2]
      refine ⟨fun iv e => ?_, fun w e => ?_, fun w e => (by cases e), Or.inr rfl, fun v => ?_⟩
      · cases e; exact ⟨hb.1, hb.2, by omega, Nat.le_refl _⟩
      · cases e; exact ⟨ha.1, Nat.le_refl _, rfl⟩
      · -- `vb` lies below `rb` and below `va :: ra`
        show (inIv vb v || (inRuns (va :: ra) v != inRuns rb v)) = (inRuns (va :: ra) v != inRuns (vb :: rb) v)
        rw [inRuns_cons vb rb, bne_comm (a := inRuns (va :: ra) v), bne_comm (a := inRuns (va :: ra) v)]
        exact or_bne_of_disjoint ((RunsWF.above_tail hwb).inIv_and v)
          (((RunsWF.above_head hwa).mono (Nat.succ_le_of_lt h2)).inIv_and v)
    · rw [xorCompare_overlap ha.2 hb.2 h1 h2]
      refine ⟨fun iv e => ?_, fun w e => ?_, fun w e => ?_, ?_, fun v => ?_⟩
      · by_cases c : va.start = vb.start
        · rw [if_pos c] at e; cases e
        · rw [if_neg c] at e; cases e; dsimp only; omega
      · obtain ⟨h, rfl⟩ := ivOpt_eq_some e; dsimp only; omega
      · obtain ⟨h, rfl⟩ := ivOpt_eq_some e; dsimp only; omega
      · by_cases c : vb.last + 1 ≤ va.last
        · exact Or.inr (ivOpt_neg (by omega))
        · exact Or.inl (ivOpt_neg c)
      · have he : inIvO (if va.start = vb.start then none
            else some ⟨min va.start vb.start, max va.start vb.start - 1⟩) v =
            decide ((va.start ≤ v ∧ v < vb.start) ∨ (vb.start ≤ v ∧ v < va.start)) := by
          by_cases e : va.start = vb.start
          · rw [if_pos e]; exact (decide_eq_false (by omega)).symm
          · rw [if_neg e]; exact decide_eq_decide.mpr (by simp only; omega)
        rw [he, inRuns_optRuns, inRuns_optRuns, inIvO_ivOpt, inIvO_ivOpt, inRuns_cons, inRuns_cons]
        -- what is known of `ra`, `rb` at `v`: they lie above `va`, `vb`
        cases hx : inRuns ra v <;> cases hy : inRuns rb v
        · iv_omega
        · have := RunsWF.above_tail hwb v hy
          iv_omega
        · have := RunsWF.above_tail hwa v hx
          iv_omega
        · have := RunsWF.above_tail hwa v hx
          have := RunsWF.above_tail hwb v hy
          iv_omega

theorem xorRunRunEmit_compare (f : Nat) (va vb : Iv) (ra rb : List Iv) :
    xorRunRunEmit (f + 1) (some va) ra (some vb) rb =
      (xorCompare va vb).1.toList ++ xorRunRunEmit f (xorCompare va vb).2.1 ra (xorCompare va vb).2.2 rb := by
  simp only [xorRunRunEmit]
  cases (xorCompare va vb).1 <;> rfl

/-- fuel: a step loads a run (`osz` becomes 1) or compares the two loaded runs, which drops at least one of them
and leaves at most one trimmed. -/
theorem xorRunRunEmit_gen (fuel : Nat) :
    ∀ (sa : Option Iv) (ra : List Iv) (sb : Option Iv) (rb : List Iv),
      RunsWF (optRuns sa ra) → RunsWF (optRuns sb rb) →
      2 * ra.length + osz sa + 2 * rb.length + osz sb ≤ fuel →
      Emits (xorRunRunEmit fuel sa ra sb rb) (fun v => inRuns (optRuns sa ra) v != inRuns (optRuns sb rb) v) := by
  induction fuel with
  | zero =>
    intro sa ra sb rb _ _ hf
    have h1 : ra = [] := List.length_eq_zero_iff.mp (by omega)
    have h2 : rb = [] := List.length_eq_zero_iff.mp (by omega)
    subst h1 h2
    cases sa <;> cases sb <;> simp [osz] at hf
    exact Emits.nil (fun _ => rfl)
  | succ f ih =>
    intro sa ra sb rb ha hb hf
    match sa, ra, sb, rb with
    | none, va :: ra, sb, rb =>
      simp only [xorRunRunEmit]
      exact ih (some va) ra sb rb ha hb (by simp only [List.length_cons, osz] at hf ⊢; omega)
    | none, [], none, vb :: rb =>
      simp only [xorRunRunEmit]
      exact ih none [] (some vb) rb ha hb (by simp only [List.length_cons, osz] at hf ⊢; omega)
    | some va, ra, none, vb :: rb =>
      simp only [xorRunRunEmit]
      exact ih (some va) ra (some vb) rb ha hb (by simp only [List.length_cons, osz] at hf ⊢; omega)
    | none, [], none, [] => exact Emits.nil (fun _ => rfl)
    | some va, ra, none, [] =>
      have ha' : RunsWF (va :: ra) := ha
      exact (ih none ra none [] (RunsWF.tail ha') hb (by simp only [osz] at hf ⊢; omega)).cons (RunsWF.head ha')
        (((RunsWF.above_tail ha').mono (Nat.le_succ_of_le (RunsWF.head ha').1)).op _ rfl (above_nil _))
        (fun v => by simp [optRuns])
    | none, [], some vb, rb =>
      have hb' : RunsWF (vb :: rb) := hb
      exact (ih none [] none rb ha (RunsWF.tail hb') (by simp only [osz] at hf ⊢; omega)).cons (RunsWF.head hb')
        ((above_nil _).op _ rfl ((RunsWF.above_tail hb').mono (Nat.le_succ_of_le (RunsWF.head hb').1)))
        (fun v => by simp [optRuns])
    | some va, ra, some vb, rb =>
      have ha' : RunsWF (va :: ra) := ha
      have hb' : RunsWF (vb :: rb) := hb
      obtain ⟨hE, hA, hB, hZ, hS⟩ := xorCompare_spec ha' hb'
      rw [xorRunRunEmit_compare]
      generalize xorCompare va vb = r at hE hA hB hZ hS ⊢
      obtain ⟨e, wa, wb⟩ := r
      have hone : osz wa + osz wb ≤ 1 := by
        rcases hZ with h | h <;> simp only at h <;> subst h
        · exact Nat.le_trans (Nat.le_of_eq (Nat.zero_add _)) (osz_le wb)
        · exact osz_le wa
      have RA := optRuns_rem_wf ha' hA
      have RB := optRuns_rem_wf hb' hB
      -- what follows the emitted piece is what is left of `va` or of `vb`
      exact (ih wa ra wb rb RA.1 RB.1 (by simp only [osz] at hf; omega)).consO
        (fun iv h => ⟨⟨(hE iv h).1, (hE iv h).2.1⟩, (RA.2.mono (hE iv h).2.2.1).op _ rfl (RB.2.mono (hE iv h).2.2.2)⟩)
        (fun v => (hS v).symm)

theorem xorRunRunEmit_spec (ra rb : List Iv) (ha : RunsWF ra) (hb : RunsWF rb)
    (fuel : Nat) (hf : 4 * (ra.length + rb.length) + 4 ≤ fuel) :
    Emits (xorRunRunEmit fuel none ra none rb) (fun v => inRuns ra v != inRuns rb v) :=
  xorRunRunEmit_gen fuel none ra none rb ha hb (by simp only [osz]; omega)

end PV.C01
