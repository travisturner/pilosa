/-
C01: run lists.  Membership `inRuns` is the Boolean function every run kernel is specified by.  A well-formed list is
a `Pairwise` one (`runsWF_iff`), and so is a sequence that may be handed to `runAppendInterval` (`EmitOK`).  Order is
read off the values: `Above m P` says the set `P` lies at or above `m`, a run shares no value with what lies above it
(`Above.inIv_and`; with `and_not_of_disjoint` / `or_bne_of_disjoint` that carries difference and xor), and a kernel's
result is stated as `Emits out P` / `Runs out P` (the list is in order and holds exactly `P`), built by the step rules
`cons`, `prefix`, `consO`: the piece is valid, what is left lies above it, and `P` is the piece together with the rest.
-/
import PV.C01.Model
import PV.C01.Lemmas
namespace PV.C01
open Spec

def inIv (iv : Iv) (v : Nat) : Bool := decide (iv.start ≤ v ∧ v ≤ iv.last)

def inRuns (ivs : List Iv) (v : Nat) : Bool := ivs.any (fun iv => inIv iv v)

@[simp] theorem inRuns_nil (v : Nat) : inRuns [] v = false := rfl
@[simp] theorem inRuns_cons (iv : Iv) (ivs : List Iv) (v : Nat) :
    inRuns (iv :: ivs) v = (inIv iv v || inRuns ivs v) := by simp [inRuns]

theorem inRuns_append (a b : List Iv) (v : Nat) : inRuns (a ++ b) v = (inRuns a v || inRuns b v) := by
  simp [inRuns, List.any_append]

theorem inRuns_reverse (a : List Iv) (v : Nat) : inRuns a.reverse v = inRuns a v := by
  simp [inRuns, List.any_reverse]

theorem inIv_iff (iv : Iv) (v : Nat) : inIv iv v = true ↔ iv.start ≤ v ∧ v ≤ iv.last := by
  simp [inIv]

theorem inIv_false_iff (iv : Iv) (v : Nat) : inIv iv v = false ↔ ¬ (iv.start ≤ v ∧ v ≤ iv.last) := by
  simp [inIv]

theorem inRuns_iff (ivs : List Iv) (v : Nat) : inRuns ivs v = true ↔ ∃ iv ∈ ivs, iv.start ≤ v ∧ v ≤ iv.last := by
  simp only [inRuns, List.any_eq_true, inIv_iff]

theorem mem_rangeIncl (s l v : Nat) : v ∈ rangeIncl s l ↔ s ≤ v ∧ v ≤ l := by
  unfold rangeIncl
  rw [List.mem_range']
  constructor
  · rintro ⟨i, hi, rfl⟩; omega
  · intro h; exact ⟨v - s, by omega, by omega⟩

theorem mem_runValues (ivs : List Iv) (v : Nat) : v ∈ runValues ivs ↔ inRuns ivs v = true := by
  induction ivs with
  | nil => simp [runValues]
  | cons iv rest ih =>
    simp only [runValues, List.mem_append, mem_rangeIncl, inRuns_cons, Bool.or_eq_true, inIv_iff, ih]

theorem not_mem_runValues (ivs : List Iv) (v : Nat) : v ∉ runValues ivs ↔ inRuns ivs v = false := by
  rw [mem_runValues, Bool.not_eq_true]

theorem decide_mem_runValues (ivs : List Iv) (v : Nat) : decide (v ∈ runValues ivs) = inRuns ivs v := by
  rw [Bool.eq_iff_iff, decide_eq_true_eq, mem_runValues]

/-- a value is the one-point interval at it. -/
theorem decide_mem_cons_eq (v va : Nat) (as : List Nat) :
    decide (v ∈ va :: as) = (inIv ⟨va, va⟩ v || decide (v ∈ as)) := by
  rw [Bool.eq_iff_iff]
  simp only [Bool.or_eq_true, decide_eq_true_eq, List.mem_cons, inIv_iff]
  constructor
  · rintro (h | h)
    · left; omega
    · right; exact h
  · rintro (h | h)
    · left; omega
    · right; exact h

/-- a run list is well formed iff its runs are valid and each ends before every later one starts. -/
theorem runsWF_iff (l : List Iv) :
    RunsWF l ↔ (∀ a ∈ l, a.start ≤ a.last ∧ a.last ≤ 65535) ∧ l.Pairwise (fun a b => a.last < b.start) := by
  induction l with
  | nil => simp [RunsWF]
  | cons a t ih =>
    cases t with
    | nil => simp [RunsWF]
    | cons b t =>
      simp only [RunsWF, ih, List.pairwise_cons, List.forall_mem_cons]
      constructor
      · rintro ⟨h1, h2, ⟨hb, ht⟩, h3, h4⟩
        exact ⟨⟨⟨h1, by omega⟩, hb, ht⟩, ⟨h2, fun c hc => by have := h3 c hc; omega⟩, h3, h4⟩
      · rintro ⟨⟨h1, hb, ht⟩, ⟨h2, _⟩, h3, h4⟩
        exact ⟨h1.1, h2, ⟨hb, ht⟩, h3, h4⟩

theorem runsWF_cons {a : Iv} {l : List Iv} :
    RunsWF (a :: l) ↔ (a.start ≤ a.last ∧ a.last ≤ 65535) ∧ (∀ b ∈ l, a.last < b.start) ∧ RunsWF l := by
  simp only [runsWF_iff, List.pairwise_cons, List.forall_mem_cons]
  exact ⟨fun ⟨⟨h1, h2⟩, h3, h4⟩ => ⟨h1, h3, h2, h4⟩, fun ⟨h1, h3, h2, h4⟩ => ⟨⟨h1, h2⟩, h3, h4⟩⟩

theorem runsWF_append {l₁ l₂ : List Iv} :
    RunsWF (l₁ ++ l₂) ↔ RunsWF l₁ ∧ RunsWF l₂ ∧ ∀ a ∈ l₁, ∀ b ∈ l₂, a.last < b.start := by
  simp only [runsWF_iff, List.pairwise_append, List.forall_mem_append]
  exact ⟨fun ⟨⟨h1, h2⟩, h3, h4, h5⟩ => ⟨⟨h1, h3⟩, ⟨h2, h4⟩, h5⟩, fun ⟨⟨h1, h3⟩, ⟨h2, h4⟩, h5⟩ => ⟨⟨h1, h2⟩, h3, h4, h5⟩⟩

theorem RunsWF.head {a : Iv} {rest : List Iv} (h : RunsWF (a :: rest)) : a.start ≤ a.last ∧ a.last ≤ 65535 :=
  (runsWF_cons.mp h).1

theorem RunsWF.tail {a : Iv} {rest : List Iv} (h : RunsWF (a :: rest)) : RunsWF rest := (runsWF_cons.mp h).2.2

theorem RunsWF.gt {a : Iv} {rest : List Iv} (h : RunsWF (a :: rest)) : ∀ iv ∈ rest, a.last < iv.start :=
  (runsWF_cons.mp h).2.1

theorem RunsWF.valid {ivs : List Iv} (h : RunsWF ivs) : ∀ iv ∈ ivs, iv.start ≤ iv.last ∧ iv.last ≤ 65535 :=
  ((runsWF_iff ivs).mp h).1

theorem RunsWF.cons {a : Iv} {rest : List Iv} (ha : a.start ≤ a.last ∧ a.last ≤ 65535)
    (hr : RunsWF rest) (hgt : ∀ iv ∈ rest, a.last < iv.start) : RunsWF (a :: rest) :=
  runsWF_cons.mpr ⟨ha, hgt, hr⟩

theorem RunsWF.ge_head {a : Iv} {rest : List Iv} (h : RunsWF (a :: rest)) : ∀ iv ∈ a :: rest, a.start ≤ iv.start := by
  intro iv hiv
  rcases List.mem_cons.mp hiv with e | hiv
  · subst e; exact Nat.le_refl _
  · have := RunsWF.gt h iv hiv
    have := (RunsWF.head h).1
    omega

/-- every value of the set `P` is at least `m`. -/
def Above (m : Nat) (P : Nat → Bool) : Prop := ∀ v, P v = true → m ≤ v

section above
variable {m : Nat} {P Q : Nat → Bool}

theorem Above.mono {m' : Nat} (h : Above m P) (hm : m' ≤ m) : Above m' P :=
  fun v hv => Nat.le_trans hm (h v hv)

theorem Above.not_below {v : Nat} (h : Above m P) (hv : v < m) : P v = false := by
  cases hp : P v
  · rfl
  · exact absurd (h v hp) (Nat.not_le_of_lt hv)

/-- a Boolean combination that is false where both sets are empty lies above what both lie above. -/
theorem Above.op (f : Bool → Bool → Bool) (hf : f false false = false)
    (hP : Above m P) (hQ : Above m Q) : Above m (fun v => f (P v) (Q v)) := by
  intro v hv
  have hv : f (P v) (Q v) = true := hv
  cases hp : P v
  · cases hq : Q v
    · rw [hp, hq, hf] at hv; cases hv
    · exact hQ v hq
  · exact hP v hp

theorem Above.and_left (h : Above m P) (Q : Nat → Bool) : Above m (fun v => P v && Q v) :=
  fun v hv => h v (Bool.and_eq_true _ _ ▸ hv).1

theorem Above.and_right (h : Above m Q) (P : Nat → Bool) : Above m (fun v => P v && Q v) :=
  fun v hv => h v (Bool.and_eq_true _ _ ▸ hv).2

theorem above_inIv (a : Iv) : Above a.start (inIv a) := fun v hv => ((inIv_iff a v).mp hv).1

theorem above_nil (m : Nat) : Above m (inRuns []) := fun _ h => nomatch h

theorem above_mem_nil (m : Nat) : Above m (fun v => decide (v ∈ ([] : List Nat))) := fun _ h => by simp at h

theorem above_of_starts {l : List Iv} (h : ∀ x ∈ l, m ≤ x.start) : Above m (inRuns l) := by
  intro v hv
  obtain ⟨iv, hiv, hv⟩ := (inRuns_iff l v).mp hv
  have := h iv hiv
  omega

theorem RunsWF.above_tail {a : Iv} {rest : List Iv} (h : RunsWF (a :: rest)) : Above (a.last + 1) (inRuns rest) :=
  above_of_starts (RunsWF.gt h)

theorem RunsWF.above_head {a : Iv} {rest : List Iv} (h : RunsWF (a :: rest)) : Above a.start (inRuns (a :: rest)) :=
  above_of_starts (RunsWF.ge_head h)

theorem sorted_above_tail {a : Nat} {l : List Nat} (h : Sorted (a :: l)) : Above (a + 1) (fun v => decide (v ∈ l)) :=
  fun v hv => sorted_lt h v (of_decide_eq_true hv)

theorem sorted_above_head {a : Nat} {l : List Nat} (h : Sorted (a :: l)) : Above a (fun v => decide (v ∈ a :: l)) := by
  intro v hv
  rcases List.mem_cons.mp (of_decide_eq_true hv) with e | hv
  · exact Nat.le_of_eq e.symm
  · exact Nat.le_of_lt (sorted_lt h v hv)

/-- an interval shares no value with a set that lies above its end. -/
theorem Above.inIv_and {a : Iv} (h : Above (a.last + 1) P) (v : Nat) : (inIv a v && P v) = false := by
  cases hp : P v
  · exact Bool.and_false _
  · have := h v hp
    rw [Bool.and_true, inIv_false_iff]
    omega

end above

theorem inIv_and_inRuns_above {a : Iv} {l : List Iv} (h : ∀ x ∈ l, a.last < x.start) (v : Nat) :
    (inIv a v && inRuns l v) = false :=
  (above_of_starts h).inIv_and v

theorem and_not_of_disjoint {p q : Bool} (h : (p && q) = false) : (p && !q) = p := by
  cases q
  · exact Bool.and_true p
  · rw [Bool.and_true] at h
    rw [h]; rfl

theorem or_bne_of_disjoint {p x q : Bool} (h1 : (p && x) = false) (h2 : (p && q) = false) :
    (p || (x != q)) = ((p || x) != q) := by
  cases p
  · rfl
  · rw [Bool.true_and] at h1 h2
    rw [h1, h2]; rfl

theorem RunsWF.cons_and_inIv {a b : Iv} {l : List Iv} (h : RunsWF (a :: l)) (hb : b.last ≤ a.last) (v : Nat) :
    (inRuns (a :: l) v && inIv b v) = (inIv a v && inIv b v) := by
  rw [inRuns_cons, Bool.and_or_distrib_right, Bool.and_comm (inRuns l v),
    inIv_and_inRuns_above (fun x hx => Nat.lt_of_le_of_lt hb (RunsWF.gt h x hx)), Bool.or_false]

theorem inRuns_lt65536 {l : List Iv} {v : Nat} (h : RunsWF l) (hv : inRuns l v = true) : v < 65536 := by
  obtain ⟨iv, hiv, hv⟩ := (inRuns_iff l v).mp hv
  have := RunsWF.valid h iv hiv
  omega

theorem inRuns_start_of_mem {l : List Iv} (hv : ∀ iv ∈ l, iv.start ≤ iv.last) {iv : Iv} (h : iv ∈ l) :
    inRuns l iv.start = true :=
  (inRuns_iff l iv.start).mpr ⟨iv, h, Nat.le_refl _, hv iv h⟩

theorem RunsWF.append_sem {l1 l2 : List Iv} (h1 : RunsWF l1) (h2 : RunsWF l2)
    (h : ∀ v w, inRuns l1 v = true → inRuns l2 w = true → v < w) : RunsWF (l1 ++ l2) :=
  runsWF_append.mpr ⟨h1, h2, fun a ha b hb =>
    h a.last b.start
      ((inRuns_iff l1 a.last).mpr ⟨a, ha, (RunsWF.valid h1 a ha).1, Nat.le_refl _⟩)
      (inRuns_start_of_mem (fun iv hiv => (RunsWF.valid h2 iv hiv).1) hb)⟩

theorem inRuns_false_of_lt {ivs : List Iv} {v : Nat} (h : ∀ iv ∈ ivs, v < iv.start) : inRuns ivs v = false :=
  (above_of_starts (m := v + 1) h).not_below (Nat.lt_succ_self v)

/-- `runContains` (binary search for the first run with `last ≥ v`) is membership. -/
theorem runContains_eq {ivs : List Iv} (h : RunsWF ivs) (v : Nat) : runContains ivs v = inRuns ivs v := by
  induction ivs with
  | nil => rfl
  | cons a t ih =>
    unfold runContains
    rw [List.find?_cons]
    by_cases hl : a.last ≥ v
    · simp only [hl, decide_true]
      rw [inRuns_cons]
      have : inRuns t v = false := by
        apply inRuns_false_of_lt
        intro iv hiv; have := RunsWF.gt h iv hiv; omega
      rw [this]; simp [inIv]; intro _; exact hl
    · have hl' : decide (a.last ≥ v) = false := by simp; omega
      simp only [hl']
      have := ih (RunsWF.tail h)
      unfold runContains at this
      rw [this, inRuns_cons]
      have : inIv a v = false := by simp [inIv]; omega
      rw [this]; simp

theorem runValues_sorted {ivs : List Iv} (h : RunsWF ivs) : Sorted (runValues ivs) := by
  induction ivs with
  | nil => trivial
  | cons a t ih =>
    unfold runValues
    apply sorted_append (sorted_range' _ _) (ih (RunsWF.tail h))
    intro x hx y hy
    have := ((mem_rangeIncl a.start a.last x).mp hx).2
    have := RunsWF.above_tail h y ((mem_runValues t y).mp hy)
    omega

theorem runValues_lt {ivs : List Iv} (h : RunsWF ivs) : ∀ v ∈ runValues ivs, v < 65536 :=
  fun v hv => inRuns_lt65536 h ((mem_runValues ivs v).mp hv)

theorem runValues_length {ivs : List Iv} (h : ∀ iv ∈ ivs, iv.start ≤ iv.last) :
    (runValues ivs).length = runsCard ivs := by
  induction ivs with
  | nil => rfl
  | cons a t ih =>
    have := h a (by simp)
    simp only [runValues, runsCard, List.length_append, rangeIncl, List.length_range']
    rw [ih (fun iv hiv => h iv (by simp [hiv]))]
    omega

theorem runsCard_append (a b : List Iv) : runsCard (a ++ b) = runsCard a + runsCard b := by
  induction a with
  | nil => simp [runsCard]
  | cons x t ih => simp only [List.cons_append, runsCard, ih]; omega

theorem runsCard_reverse (a : List Iv) : runsCard a.reverse = runsCard a := by
  induction a with
  | nil => rfl
  | cons x t ih => simp only [List.reverse_cons, runsCard_append, ih, runsCard]; omega

theorem bne_eq_true_iff' (a b : Bool) : (a != b) = true ↔ ¬ (a = true ↔ b = true) := by
  cases a <;> cases b <;> simp

theorem bne_eq_true_iff_xor (a b : Bool) (p q : Prop) (ha : a = true ↔ p) (hb : b = true ↔ q) :
    (a != b) = true ↔ ((p ∧ ¬ q) ∨ (¬ p ∧ q)) := by
  rw [← ha, ← hb]
  cases a <;> cases b <;> simp

theorem bnot_eq_true_iff' (b : Bool) : (!b) = true ↔ ¬ (b = true) := by
  cases b <;> simp

/-- turn a Boolean equation over `inIv` atoms, `decide` of linear arithmetic and constants into
linear arithmetic. -/
macro "iv_omega" : tactic => `(tactic|
  (rw [Bool.eq_iff_iff]
   simp only [Bool.or_eq_true, Bool.and_eq_true, bne_eq_true_iff', bnot_eq_true_iff', inIv_iff, inIv_false_iff,
     decide_eq_true_eq, decide_eq_false_iff_not,
     Bool.false_eq_true, Bool.true_eq_false, eq_self,
     true_or, or_true, false_or, or_false, true_and, and_true, false_and, and_false,
     true_iff, iff_true, false_iff, iff_false, not_true_eq_false, not_false_eq_true] <;> omega))

/-- the accumulator of `runAppendInterval` is a run list kept reversed: its head is the last run. -/
theorem runsWF_reverse_cons {a : Iv} {r : List Iv} :
    RunsWF (a :: r).reverse ↔
      (a.start ≤ a.last ∧ a.last ≤ 65535) ∧ (∀ b ∈ r, b.last < a.start) ∧ RunsWF r.reverse := by
  simp only [runsWF_iff, List.pairwise_reverse, List.mem_reverse, List.pairwise_cons, List.forall_mem_cons]
  exact ⟨fun ⟨⟨h1, h2⟩, h3, h4⟩ => ⟨h1, h3, h2, h4⟩, fun ⟨h1, h3, h2, h4⟩ => ⟨⟨h1, h2⟩, h3, h4⟩⟩

theorem runAppendInterval_full {last v : Iv} {rest : List Iv} (h : last.last = 65535) :
    runAppendInterval (last :: rest) v = (last :: rest, 0) := by
  simp [runAppendInterval, h]

theorem runAppendInterval_extend {last v : Iv} {rest : List Iv} (h1 : last.last ≠ 65535)
    (h2 : last.last + 1 ≥ v.start ∧ v.last > last.last) :
    runAppendInterval (last :: rest) v = (⟨last.start, v.last⟩ :: rest, v.last - last.last) := by
  simp only [runAppendInterval]
  rw [if_neg h1, if_pos h2]

theorem runAppendInterval_append {last v : Iv} {rest : List Iv} (h1 : last.last ≠ 65535)
    (h2 : ¬ (last.last + 1 ≥ v.start ∧ v.last > last.last)) (h3 : last.last + 1 < v.start) :
    runAppendInterval (last :: rest) v = (v :: last :: rest, v.last - v.start + 1) := by
  simp only [runAppendInterval]
  rw [if_neg h1, if_neg h2, if_pos h3]

theorem runAppendInterval_inside {last v : Iv} {rest : List Iv} (h1 : last.last ≠ 65535)
    (h2 : ¬ (last.last + 1 ≥ v.start ∧ v.last > last.last)) (h3 : ¬ last.last + 1 < v.start) :
    runAppendInterval (last :: rest) v = (last :: rest, 0) := by
  simp only [runAppendInterval]
  rw [if_neg h1, if_neg h2, if_neg h3]

/-- `hs`: the new interval does not start before the last run. -/
theorem runAppendInterval_spec {racc : List Iv} {v : Iv} (hw : RunsWF racc.reverse)
    (hv : v.start ≤ v.last ∧ v.last ≤ 65535) (hs : ∀ l ∈ racc.head?, l.start ≤ v.start) :
    RunsWF (runAppendInterval racc v).1.reverse ∧
    runsCard (runAppendInterval racc v).1 = runsCard racc + (runAppendInterval racc v).2 ∧
    (∀ x, inRuns (runAppendInterval racc v).1 x = (inRuns racc x || inIv v x)) ∧
    (∀ l ∈ (runAppendInterval racc v).1.head?, l.start ≤ v.start) := by
  cases racc with
  | nil =>
    simp only [runAppendInterval]
    exact ⟨runsWF_reverse_cons.mpr ⟨hv, fun _ h => (by cases h), trivial⟩, by simp [runsCard], by intro x; simp, by simp⟩
  | cons last rest =>
    obtain ⟨hl, hlt, hrest⟩ := runsWF_reverse_cons.mp hw
    have hsl : last.start ≤ v.start := hs last (by simp)
    -- `v` adds nothing when it lies inside the last run
    have inside : v.last ≤ last.last → ∀ x, inRuns (last :: rest) x = (inRuns (last :: rest) x || inIv v x) := by
      intro h x
      rw [inRuns_cons]
      cases inRuns rest x <;> iv_omega
    by_cases h1 : last.last = 65535
    · rw [runAppendInterval_full h1]
      exact ⟨hw, by simp, inside (by omega), by simpa using hsl⟩
    · by_cases h2 : last.last + 1 ≥ v.start ∧ v.last > last.last
      · rw [runAppendInterval_extend h1 h2]
        refine ⟨runsWF_reverse_cons.mpr ⟨⟨by simp only; omega, hv.2⟩, hlt, hrest⟩, ?_, ?_, by simpa using hsl⟩
        · simp only [runsCard]; omega
        · intro x
          simp only [inRuns_cons]
          cases inRuns rest x <;> iv_omega
      · by_cases h3 : last.last + 1 < v.start
        · rw [runAppendInterval_append h1 h2 h3]
          refine ⟨runsWF_reverse_cons.mpr ⟨hv, fun b hb => ?_, hw⟩, by simp only [runsCard]; omega, ?_, by simp⟩
          · rcases List.mem_cons.mp hb with e | hb
            · rw [e]; omega
            · have := hlt b hb; omega
          · intro x
            rw [inRuns_cons, Bool.or_comm]
        · rw [runAppendInterval_inside h1 h2 h3]
          exact ⟨hw, by simp, inside (by omega), by simpa using hsl⟩

/-- what may be handed to `runAppendInterval` in sequence: valid intervals, starts non-decreasing. -/
def EmitOK (l : List Iv) : Prop :=
  (∀ a ∈ l, a.start ≤ a.last ∧ a.last ≤ 65535) ∧ l.Pairwise (fun a b => a.start ≤ b.start)

theorem EmitOK.nil : EmitOK [] := ⟨fun _ h => (nomatch h), .nil⟩

theorem emitOK_cons {a : Iv} {l : List Iv} :
    EmitOK (a :: l) ↔ (a.start ≤ a.last ∧ a.last ≤ 65535) ∧ (∀ b ∈ l, a.start ≤ b.start) ∧ EmitOK l := by
  simp only [EmitOK, List.pairwise_cons, List.forall_mem_cons]
  exact ⟨fun ⟨⟨h1, h2⟩, h3, h4⟩ => ⟨h1, h3, h2, h4⟩, fun ⟨h1, h3, h2, h4⟩ => ⟨⟨h1, h2⟩, h3, h4⟩⟩

theorem RunsWF.emitOK {l : List Iv} (h : RunsWF l) : EmitOK l :=
  ⟨RunsWF.valid h, ((runsWF_iff l).mp h).2.imp_of_mem (fun ha _ hab => by
    have := (RunsWF.valid h _ ha).1
    omega)⟩

theorem foldl_appendStep_spec (ivs : List Iv) :
    ∀ (racc : List Iv) (n : Nat), RunsWF racc.reverse → EmitOK ivs → n = runsCard racc →
      (∀ l ∈ racc.head?, ∀ v ∈ ivs.head?, l.start ≤ v.start) →
      RunsWF (ivs.foldl appendStep (racc, n)).1.reverse ∧
      (ivs.foldl appendStep (racc, n)).2 = runsCard (ivs.foldl appendStep (racc, n)).1 ∧
      ∀ x, inRuns (ivs.foldl appendStep (racc, n)).1 x = (inRuns racc x || inRuns ivs x) := by
  induction ivs with
  | nil => intro racc n hw _ hn _; simp [hw, hn]
  | cons v rest ih =>
    intro racc n hw he hn hs
    rw [List.foldl_cons]
    obtain ⟨hv, hvle, hrest⟩ := emitOK_cons.mp he
    have hstep := runAppendInterval_spec hw hv (fun l hl => hs l hl v (by simp))
    have := ih (appendStep (racc, n) v).1 (appendStep (racc, n) v).2 hstep.1 hrest
      (by simp only [appendStep]; rw [hstep.2.1]; omega)
      (fun l hl w hw' => Nat.le_trans (hstep.2.2.2 l hl) (hvle w (List.mem_of_mem_head? hw')))
    refine ⟨this.1, this.2.1, ?_⟩
    intro x
    rw [this.2.2 x]
    simp only [appendStep]
    rw [hstep.2.2.1 x, inRuns_cons]
    cases inRuns racc x <;> cases inIv v x <;> cases inRuns rest x <;> rfl

theorem appendAll_spec {ivs : List Iv} (h : EmitOK ivs) :
    RunsWF (appendAll ivs).1 ∧ (appendAll ivs).2 = runsCard (appendAll ivs).1 ∧
    ∀ x, inRuns (appendAll ivs).1 x = inRuns ivs x := by
  have := foldl_appendStep_spec ivs [] 0 trivial h rfl (by simp)
  simp only [appendAll]
  refine ⟨this.1, by rw [runsCard_reverse]; exact this.2.1, ?_⟩
  intro x
  rw [inRuns_reverse, this.2.2 x]; simp

/-- `out` may be handed to `runAppendInterval` in sequence and holds exactly the set `P`. -/
def Emits (out : List Iv) (P : Nat → Bool) : Prop := EmitOK out ∧ ∀ v, inRuns out v = P v

/-- `out` is a well-formed run list and holds exactly the set `P`. -/
def Runs (out : List Iv) (P : Nat → Bool) : Prop := RunsWF out ∧ ∀ v, inRuns out v = P v

section contracts
variable {out : List Iv} {P P' : Nat → Bool}

theorem Emits.nil (h : ∀ v, P v = false) : Emits [] P := ⟨EmitOK.nil, fun v => (h v).symm⟩

theorem Runs.nil (h : ∀ v, P v = false) : Runs [] P := ⟨trivial, fun v => (h v).symm⟩

theorem Emits.congr (h : Emits out P') (hP : ∀ v, P v = P' v) : Emits out P :=
  ⟨h.1, fun v => (h.2 v).trans (hP v).symm⟩

theorem Runs.congr (h : Runs out P') (hP : ∀ v, P v = P' v) : Runs out P :=
  ⟨h.1, fun v => (h.2 v).trans (hP v).symm⟩

/-- one emitting step: the valid piece `a` in front of a sequence for what is left, none of which lies below the
start of `a`.  The order of the sequence is read off the values: a later piece holds its own start. -/
theorem Emits.cons {a : Iv} (h : Emits out P')
    (ha : a.start ≤ a.last ∧ a.last ≤ 65535) (hlo : Above a.start P') (hP : ∀ v, P v = (inIv a v || P' v)) :
    Emits (a :: out) P :=
  ⟨emitOK_cons.mpr ⟨ha, fun b hb => hlo b.start
      (h.2 _ ▸ inRuns_start_of_mem (fun iv hiv => (h.1.1 iv hiv).1) hb), h.1⟩,
    fun v => by rw [inRuns_cons, h.2 v, hP v]⟩

/-- the same for a run list: what is left lies above the end of `a`. -/
theorem Runs.cons {a : Iv} (h : Runs out P')
    (ha : a.start ≤ a.last ∧ a.last ≤ 65535) (hlo : Above (a.last + 1) P') (hP : ∀ v, P v = (inIv a v || P' v)) :
    Runs (a :: out) P :=
  ⟨RunsWF.cons ha h.1 fun b hb => hlo b.start
      (h.2 _ ▸ inRuns_start_of_mem (fun iv hiv => (RunsWF.valid h.1 iv hiv).1) hb),
    fun v => by rw [inRuns_cons, h.2 v, hP v]⟩

end contracts

def inIvO : Option Iv → Nat → Bool
  | none, _ => false
  | some iv, v => inIv iv v

/-- an optional piece in front of a sequence for what is left. -/
theorem Emits.consO {e : Option Iv} {out : List Iv} {P P' : Nat → Bool} (h : Emits out P')
    (he : ∀ iv, e = some iv → (iv.start ≤ iv.last ∧ iv.last ≤ 65535) ∧ Above iv.start P')
    (hP : ∀ v, P v = (inIvO e v || P' v)) : Emits (e.toList ++ out) P := by
  cases e with
  | none => exact h.congr (fun v => by rw [hP v]; rfl)
  | some iv => exact h.cons (he iv rfl).1 (he iv rfl).2 hP

/-- the runs still to be processed: optional current run, then the unread ones. -/
def optRuns : Option Iv → List Iv → List Iv
  | none, l => l
  | some a, l => a :: l

/-- 1 for a loaded current run: the one credit in the fuel measures of the xor kernels. -/
def osz : Option Iv → Nat
  | none => 0
  | some _ => 1

theorem osz_le (w : Option Iv) : osz w ≤ 1 := by
  cases w <;> exact Nat.le_of_ble_eq_true rfl

theorem inRuns_optRuns (w : Option Iv) (l : List Iv) (v : Nat) :
    inRuns (optRuns w l) v = (inIvO w v || inRuns l v) := by
  cases w <;> simp [optRuns, inIvO]

/-- the closed interval `[s, l]`, if it is not empty. -/
def ivOpt (s l : Nat) : Option Iv := if s ≤ l then some ⟨s, l⟩ else none

theorem ivOpt_pos {s l : Nat} (h : s ≤ l) : ivOpt s l = some ⟨s, l⟩ := if_pos h

theorem ivOpt_neg {s l : Nat} (h : ¬ s ≤ l) : ivOpt s l = none := if_neg h

theorem ivOpt_eq_some {s l : Nat} {w : Iv} (h : ivOpt s l = some w) : s ≤ l ∧ w = ⟨s, l⟩ := by
  unfold ivOpt at h
  by_cases c : s ≤ l
  · rw [if_pos c] at h; exact ⟨c, (Option.some.inj h).symm⟩
  · rw [if_neg c] at h; cases h

theorem inIvO_ivOpt (s l v : Nat) : inIvO (ivOpt s l) v = decide (s ≤ v ∧ v ≤ l) := by
  unfold ivOpt
  by_cases h : s ≤ l
  · rw [if_pos h]; rfl
  · rw [if_neg h]
    exact (decide_eq_false (by omega)).symm

/-- what is left of the head run `va` after a step (nothing, or `va` trimmed from below) can stand in front of the
unread runs again. -/
theorem optRuns_rem_wf {va : Iv} {ra : List Iv} (h : RunsWF (va :: ra)) {w : Option Iv}
    (hw : ∀ wa, w = some wa → wa.start ≤ wa.last ∧ va.start ≤ wa.start ∧ wa.last = va.last) :
    RunsWF (optRuns w ra) ∧ Above va.start (inRuns (optRuns w ra)) := by
  have h2 := RunsWF.head h
  have hra : Above va.start (inRuns ra) := (RunsWF.above_tail h).mono (by omega)
  cases w with
  | none => exact ⟨RunsWF.tail h, hra⟩
  | some wa =>
    have h1 := hw wa rfl
    have hwf : RunsWF (wa :: ra) :=
      RunsWF.cons (by omega) (RunsWF.tail h) (fun iv hiv => by have := RunsWF.gt h iv hiv; omega)
    exact ⟨hwf, (RunsWF.above_head hwf).mono h1.2.1⟩

/-- the stretch `[s, t)`, if any, in front of a sequence for what is left, none of which lies below `s`. -/
theorem Emits.prefix {s t : Nat} {out : List Iv} {P P' : Nat → Bool} (h : Emits out P') (ht : t ≤ 65536)
    (hlo : Above s P') (hP : ∀ v, P v = (decide (s ≤ v ∧ v < t) || P' v)) :
    Emits ((if s < t then [⟨s, t - 1⟩] else []) ++ out) P := by
  by_cases c : s < t
  · rw [if_pos c, List.singleton_append]
    exact h.cons (by simp only; omega) hlo (fun v => by rw [hP v, inIv, decide_eq_decide.mpr]; simp only; omega)
  · rw [if_neg c, List.nil_append]
    exact h.congr (fun v => by rw [hP v, decide_eq_false (by omega), Bool.false_or])

/-- the same for a run list: what is left lies at or above `t`. -/
theorem Runs.prefix {s t : Nat} {out : List Iv} {P P' : Nat → Bool} (h : Runs out P') (ht : t ≤ 65536)
    (hlo : Above t P') (hP : ∀ v, P v = (decide (s ≤ v ∧ v < t) || P' v)) :
    Runs ((if s < t then [⟨s, t - 1⟩] else []) ++ out) P := by
  by_cases c : s < t
  · rw [if_pos c, List.singleton_append]
    exact h.cons (by simp only; omega) (hlo.mono (by simp only; omega))
      (fun v => by rw [hP v, inIv, decide_eq_decide.mpr]; simp only; omega)
  · rw [if_neg c, List.nil_append]
    exact h.congr (fun v => by rw [hP v, decide_eq_false (by omega), Bool.false_or])

theorem cnt_inRuns_cons {a : Iv} {rest : List Iv} (h : RunsWF (a :: rest)) (s e : Nat) :
    cnt (inRuns (a :: rest)) s e = cnt (inIv a) s e + cnt (inRuns rest) s e := by
  rw [← cnt_or_disjoint]
  · apply cnt_congr; intro v _ _; rw [inRuns_cons]
  · intro v _ _ ⟨h1, h2⟩
    have := ((inIv_iff a v).mp h1).2
    have := RunsWF.above_tail h v h2
    omega

theorem cnt_inIv (a : Iv) (s e : Nat) (h : a.start ≤ a.last) :
    cnt (inIv a) s e = min (a.last + 1) e - max a.start s := by
  have := cnt_interval a.start a.last s e h
  unfold inIv
  exact this

/-- `runCountRange` with running count `n`: either nothing has been counted yet, or no remaining
run starts before the range start. -/
theorem runCountRange_spec (ivs : List Iv) :
    ∀ (n s e : Nat), RunsWF ivs → (n = 0 ∨ ∀ iv ∈ ivs, s ≤ iv.start) →
      runCountRange ivs n s e = n + cnt (inRuns ivs) s e := by
  induction ivs with
  | nil =>
    intro n s e _ _
    simp only [runCountRange]
    rw [cnt_false (by intros; rfl)]; rfl
  | cons a rest ih =>
    intro n s e hw hn
    have ha := RunsWF.head hw
    have hgt := RunsWF.gt hw
    simp only [runCountRange]
    by_cases h1 : a.last < s
    · -- `a` lies below the range
      rw [if_pos h1, ih n s e (RunsWF.tail hw) (hn.imp_right (fun h iv hiv => h iv (by simp [hiv])))]
      congr 1
      exact cnt_congr (fun v hv _ => by rw [inRuns_cons, (inIv_false_iff a v).mpr (by omega), Bool.false_or])
    · rw [if_neg h1]
      by_cases h2 : e < a.start
      · -- `a` and all later runs lie above the range
        rw [if_pos h2, cnt_false (fun v _ hv => inRuns_false_of_lt (fun iv hiv => by
          have := RunsWF.ge_head hw iv hiv; omega))]
        rfl
      · rw [if_neg h2]
        by_cases h3 : a.start < s ∧ a.last ≥ e
        · -- `a` covers the range; nothing was counted before, as `a` starts below the range
          have hn0 : n = 0 := hn.elim id (fun h => by have := h a (by simp); omega)
          rw [if_pos h3, hn0, cnt_true (fun v hv1 hv2 => by
            rw [inRuns_cons, (inIv_iff a v).mpr (by omega), Bool.true_or]), Nat.zero_add]
        · -- the three increments are the three ways `a` can meet the range without covering it
          rw [if_neg h3, ih _ s e (RunsWF.tail hw) (Or.inr (fun iv hiv => by have := hgt iv hiv; omega)),
            cnt_inRuns_cons hw, cnt_inIv a s e ha.1]
          by_cases c1 : a.start ≥ s ∧ a.last < e
          · rw [if_pos c1, if_neg (by omega), if_neg (by omega), Nat.min_eq_left (by omega), Nat.max_eq_left c1.1]
            omega
          · rw [if_neg c1]
            by_cases c2 : a.start < s ∧ a.last < e
            · rw [if_pos c2, if_neg (by omega), Nat.min_eq_left (by omega), Nat.max_eq_right (by omega)]
              omega
            · rw [if_neg c2, if_pos (by omega), Nat.min_eq_right (by omega), Nat.max_eq_left (by omega)]
              omega

theorem arrayCountRange_eq (xs : List Nat) (h : Sorted xs) (s e : Nat) :
    arrayCountRange xs s e = cntList xs s e := by
  unfold arrayCountRange cntList
  rw [sorted_dropWhile_lt h, sorted_takeWhile_lt (sorted_filter _ h), List.filter_filter]
  exact congrArg List.length (List.filter_congr (fun v _ => Bool.and_comm ..))

end PV.C01
