/-
C01: the meaning of a container (`mem`, `values`, `n`) under `WF`, and of the executable set operations of `Spec`.
-/
import PV.C01.LemmasMisc
namespace PV.C01
open Spec

theorem mem_op (f : Bool → Bool → Bool) (hf : f false false = false) {a b : List Nat}
    (ha : Sorted a) (hb : Sorted b) (v : Nat) :
    v ∈ Spec.op f a b ↔ f (decide (v ∈ a)) (decide (v ∈ b)) = true :=
  merge2_mem f hf _ a b ha hb (Nat.le_refl _) v

theorem sorted_op (f : Bool → Bool → Bool) {a b : List Nat} (ha : Sorted a) (hb : Sorted b) :
    Sorted (Spec.op f a b) := merge2_sorted f _ a b ha hb (Nat.le_refl _)

theorem mem_inter {a b : List Nat} (ha : Sorted a) (hb : Sorted b) (v : Nat) :
    v ∈ Spec.inter a b ↔ (v ∈ a ∧ v ∈ b) := by
  unfold Spec.inter; rw [mem_op _ rfl ha hb]; simp

theorem mem_union {a b : List Nat} (ha : Sorted a) (hb : Sorted b) (v : Nat) :
    v ∈ Spec.union a b ↔ (v ∈ a ∨ v ∈ b) := by
  unfold Spec.union; rw [mem_op _ rfl ha hb]; simp

theorem mem_diff {a b : List Nat} (ha : Sorted a) (hb : Sorted b) (v : Nat) :
    v ∈ Spec.diff a b ↔ (v ∈ a ∧ v ∉ b) := by
  unfold Spec.diff; rw [mem_op _ rfl ha hb]; simp

theorem mem_xor {a b : List Nat} (ha : Sorted a) (hb : Sorted b) (v : Nat) :
    v ∈ Spec.xor a b ↔ ((v ∈ a ∧ v ∉ b) ∨ (v ∉ a ∧ v ∈ b)) := by
  unfold Spec.xor; rw [mem_op _ rfl ha hb]
  by_cases h1 : v ∈ a <;> by_cases h2 : v ∈ b <;> simp [h1, h2]

theorem sorted_inter {a b : List Nat} (ha : Sorted a) (hb : Sorted b) : Sorted (Spec.inter a b) := sorted_op _ ha hb
theorem sorted_union {a b : List Nat} (ha : Sorted a) (hb : Sorted b) : Sorted (Spec.union a b) := sorted_op _ ha hb
theorem sorted_diff {a b : List Nat} (ha : Sorted a) (hb : Sorted b) : Sorted (Spec.diff a b) := sorted_op _ ha hb
theorem sorted_xor {a b : List Nat} (ha : Sorted a) (hb : Sorted b) : Sorted (Spec.xor a b) := sorted_op _ ha hb

theorem op_lt (f : Bool → Bool → Bool) {a b : List Nat} {m : Nat} (ha : ∀ v ∈ a, v < m) (hb : ∀ v ∈ b, v < m) :
    ∀ v ∈ Spec.op f a b, v < m := by
  intro v hv
  rw [Spec.op, merge2_eq_merge f _ a b (Nat.le_refl _)] at hv
  rcases Common.Asc.merge_subset f a b v hv with h | h
  · exact ha v h
  · exact hb v h

theorem union_lt {a b : List Nat} (ha : ∀ v ∈ a, v < 65536) (hb : ∀ v ∈ b, v < 65536) :
    ∀ v ∈ Spec.union a b, v < 65536 := op_lt _ ha hb

theorem mem_shift (bound : Nat) (xs : List Nat) (p : Nat) :
    p ∈ Spec.shift bound xs ↔ (1 ≤ p ∧ p < bound ∧ p - 1 ∈ xs) := by
  unfold Spec.shift
  rw [List.mem_filter, List.mem_map, decide_eq_true_eq]
  constructor
  · rintro ⟨⟨x, hx, rfl⟩, h2⟩
    exact ⟨Nat.le_add_left 1 x, h2, hx⟩
  · rintro ⟨h1, h2, h3⟩
    exact ⟨⟨p - 1, h3, Nat.sub_add_cancel h1⟩, h2⟩

theorem sorted_shift (bound : Nat) {xs : List Nat} (h : Sorted xs) : Sorted (Spec.shift bound xs) := by
  unfold Spec.shift
  rw [List.map_congr_left (fun a _ => Nat.add_comm a 1)]
  exact sorted_filter _ (sorted_map_add 1 h)

theorem sorted_length_bound : ∀ (l : List Nat) (lo m : Nat), Sorted l → (∀ v ∈ l, lo ≤ v ∧ v < m) →
    l.length ≤ m - lo := by
  intro l
  induction l with
  | nil => intro lo m _ _; simp
  | cons x u ihu =>
    intro lo m hs hb
    have hx := hb x (by simp)
    have := ihu (x + 1) m (sorted_tail hs) (by
      intro v hv
      have := sorted_lt hs v hv
      have := hb v (by simp [hv])
      omega)
    simp; omega

theorem sorted_length_full : ∀ (l : List Nat) (lo m : Nat), Sorted l → (∀ v ∈ l, lo ≤ v ∧ v < m) →
    l.length = m - lo → ∀ v, lo ≤ v → v < m → v ∈ l := by
  intro l
  induction l with
  | nil => intro lo m _ _ hlen v h1 h2; simp at hlen; omega
  | cons x u ihu =>
    intro lo m hs hb hlen v h1 h2
    have hx := hb x (by simp)
    have hu : ∀ w ∈ u, x + 1 ≤ w ∧ w < m := by
      intro w hw
      have := sorted_lt hs w hw
      have := hb w (by simp [hw])
      omega
    have hle := sorted_length_bound u (x + 1) m (sorted_tail hs) hu
    simp at hlen
    by_cases hv : v = x
    · simp [hv]
    · have := ihu (x + 1) m (sorted_tail hs) hu (by omega) v (by omega) h2
      simp [this]

theorem sorted_length_le {l : List Nat} (h : Sorted l) (m : Nat) (hm : ∀ v ∈ l, v < m) : l.length ≤ m := by
  have := sorted_length_bound l 0 m h (fun v hv => ⟨Nat.zero_le _, hm v hv⟩)
  omega

theorem Container.values_sorted {c : Container} (h : c.WF) : Sorted c.values := by
  cases c with
  | array xs => exact h.1
  | bitmap n bits => exact h.1
  | run n ivs => exact runValues_sorted h.1

theorem Container.values_lt {c : Container} (h : c.WF) : ∀ v ∈ c.values, v < 65536 := by
  cases c with
  | array xs => exact h.2
  | bitmap n bits => exact h.2.1
  | run n ivs => exact runValues_lt h.1

theorem Container.values_length {c : Container} (h : c.WF) : c.values.length = c.n := by
  cases c with
  | array xs => rfl
  | bitmap n bits => exact h.2.2.symm
  | run n ivs =>
    show (runValues ivs).length = n
    rw [runValues_length (fun iv hiv => (RunsWF.valid h.1 iv hiv).1)]
    exact h.2.symm

/-- `Contains` is membership in the denoted set. -/
theorem mem_eq {c : Container} (h : c.WF) (v : Nat) : mem c v = decide (v ∈ c.values) := by
  cases c with
  | array xs =>
    show xs.contains v = decide (v ∈ xs)
    exact List.contains_eq_mem v xs
  | bitmap n bits =>
    show bits.contains v = decide (v ∈ bits)
    exact List.contains_eq_mem v bits
  | run n ivs =>
    show runContains ivs v = decide (v ∈ runValues ivs)
    rw [runContains_eq h.1, decide_mem_runValues]

theorem mem_iff {c : Container} (h : c.WF) (v : Nat) : mem c v = true ↔ v ∈ c.values := by
  rw [mem_eq h]; simp

theorem memO_iff {c : Option Container} (h : WFO c) (v : Nat) : memO c v = true ↔ v ∈ valuesO c := by
  cases c with
  | none => simp [memO, valuesO]
  | some c => exact mem_iff h v

theorem n_le {c : Container} (h : c.WF) : c.n ≤ 65536 := by
  rw [← Container.values_length h]
  exact sorted_length_le (Container.values_sorted h) 65536 (Container.values_lt h)

theorem full_mem {c : Container} (h : c.WF) (hn : c.n = 65536) : ∀ v, v < 65536 → v ∈ c.values := by
  have hs := Container.values_sorted h
  have hl := Container.values_lt h
  have hlen := Container.values_length h
  rw [hn] at hlen
  intro v hv
  exact sorted_length_full c.values 0 65536 hs (fun w hw => ⟨Nat.zero_le _, hl w hw⟩) (by omega) v (Nat.zero_le _) hv

theorem empty_values {c : Container} (h : c.WF) (hn : c.n = 0) : c.values = [] := by
  have := Container.values_length h
  rw [hn] at this
  exact List.length_eq_zero_iff.mp this

/-- what is assumed of a container kernel `both` implementing the Boolean operation `f`. -/
def KernelOK (both : Container → Container → Option Container) (f : Bool → Bool → Bool) : Prop :=
  ∀ x y, x.WF → y.WF → WFO (both x y) ∧ ∀ v, memO (both x y) v = f (mem x v) (mem y v)

theorem kernelOK_of_values {both : Container → Container → Option Container} {f : Bool → Bool → Bool}
    (h : ∀ x y, x.WF → y.WF → WFO (both x y) ∧
      ∀ v, v ∈ valuesO (both x y) ↔ f (decide (v ∈ x.values)) (decide (v ∈ y.values)) = true) :
    KernelOK both f := by
  intro x y hx hy
  have := h x y hx hy
  refine ⟨this.1, fun v => ?_⟩
  rw [mem_eq hx, mem_eq hy, Bool.eq_iff_iff, memO_iff this.1, this.2 v]

end PV.C01
