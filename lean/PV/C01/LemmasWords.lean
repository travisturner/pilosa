/-
C01, word level: a kernel of Words.lean is characterised by the bit `bitp` of its result at every position
(`WDen`: together with well-formedness and the stored cardinality); `absW_ext` / `absW_eq_op` / `WDen.refines` turn
that into the set-level statement.
-/
import PV.C01.Words
import PV.C01.LemmasSem
namespace PV.C01
open Spec

theorem decide_iff {p q : Prop} [Decidable p] [Decidable q] (h : p ↔ q) : decide p = decide q :=
  decide_eq_decide.mpr h

theorem testBit_high {w p : Nat} (hw : w < 2 ^ 64) (hp : 64 ≤ p) : w.testBit p = false :=
  Nat.testBit_lt_two_pow (Nat.lt_of_lt_of_le hw (Nat.pow_le_pow_right Nat.two_pos hp))

theorem testBit_shl (x k b : Nat) : (shl x k).testBit b = (decide (b < 64) && decide (k ≤ b) && x.testBit (b - k)) := by
  unfold shl
  rw [Nat.testBit_mod_two_pow, Nat.testBit_shiftLeft, Bool.and_assoc]

theorem testBit_maxBitmap (b : Nat) : maxBitmap.testBit b = decide (b < 64) := Nat.testBit_two_pow_sub_one 64 b

theorem testBit_wnot {w : Nat} (hw : w < 2 ^ 64) (b : Nat) : (wnot w).testBit b = (decide (b < 64) && !w.testBit b) :=
  Nat.testBit_two_pow_sub_succ hw b

theorem testBit_andNot (w : Nat) {m b : Nat} (hm : m < 2 ^ 64) (hb : b < 64) :
    (andNot w m).testBit b = (w.testBit b && !m.testBit b) := by
  unfold andNot
  rw [Nat.testBit_and, testBit_wnot hm, decide_eq_true hb, Bool.true_and]

theorem andNot_zero {w : Nat} (hw : w < 2 ^ 64) : andNot w 0 = w := by
  unfold andNot wnot
  rw [Nat.zero_add, Nat.and_two_pow_sub_one_eq_mod, Nat.mod_eq_of_lt hw]

/-- `(x >> k) << k` clears the bits below `k`. -/
theorem testBit_shl_shr (x k b : Nat) :
    (shl (x >>> k) k).testBit b = (x.testBit b && decide (k ≤ b ∧ b < 64)) := by
  rw [testBit_shl, Nat.testBit_shiftRight, Bool.decide_and]
  by_cases h : k ≤ b
  · rw [Nat.add_sub_cancel' h, decide_eq_true h, Bool.and_true, Bool.true_and, Bool.and_comm]
  · rw [decide_eq_false h, Bool.and_false, Bool.false_and, Bool.false_and, Bool.and_false]

/-- `(x << k) >> k` (in 64 bits) clears the bits from `64 - k` on. -/
theorem testBit_shr_shl (x k b : Nat) :
    (shl x k >>> k).testBit b = (x.testBit b && decide (k + b < 64)) := by
  rw [Nat.testBit_shiftRight, testBit_shl, Nat.add_sub_cancel_left, decide_eq_true (Nat.le_add_right k b),
    Bool.and_true, Bool.and_comm]

theorem wnot_lt (w : Nat) : wnot w < 2 ^ 64 := Nat.sub_lt (Nat.two_pow_pos 64) (Nat.succ_pos w)
theorem shl_lt (x k : Nat) : shl x k < 2 ^ 64 := Nat.mod_lt _ (Nat.two_pow_pos 64)
theorem maxBitmap_lt : maxBitmap < 2 ^ 64 := Nat.sub_lt (Nat.two_pow_pos 64) Nat.one_pos
theorem shr_lt {x : Nat} (hx : x < 2 ^ 64) (k : Nat) : x >>> k < 2 ^ 64 :=
  Nat.lt_of_le_of_lt (Nat.shiftRight_le x k) hx

theorem ite_lt {c : Prop} [Decidable c] {a b n : Nat} (ha : a < n) (hb : b < n) : (if c then a else b) < n := by
  split
  · exact ha
  · exact hb

theorem getD_lt {ws : List Nat} (hw : ∀ w ∈ ws, w < 2 ^ 64) (k : Nat) : ws.getD k 0 < 2 ^ 64 := by
  rw [List.getD_eq_getElem?_getD]
  cases hk : ws[k]? with
  | none => exact Nat.two_pow_pos 64
  | some w => exact hw w (List.mem_of_getElem? hk)

theorem cnt_restrict {p : Nat → Bool} {s a b e : Nat} (hsa : s ≤ a) (hab : a ≤ b) (hbe : b ≤ e)
    (hlo : ∀ v, s ≤ v → v < a → p v = false) (hhi : ∀ v, b ≤ v → v < e → p v = false) :
    cnt p s e = cnt p a b := by
  rw [cnt_split p hsa (Nat.le_trans hab hbe), cnt_split p hab hbe, cnt_false hlo, cnt_false hhi,
    Nat.zero_add, Nat.add_zero]

theorem cnt_shr (x a lo hi : Nat) :
    cnt (fun b => (x >>> a).testBit b) lo hi = cnt (fun b => x.testBit b) (a + lo) (a + hi) := by
  rw [cnt_translate]
  exact cnt_congr (fun v _ _ => Nat.testBit_shiftRight x)

theorem popcount_shr {w : Nat} (hw : w < 2 ^ 64) (a : Nat) :
    popcount (w >>> a) = cnt (fun b => w.testBit b) a 64 := by
  unfold popcount
  rw [cnt_shr, Nat.add_zero]
  by_cases ha : a ≤ 64
  · exact cnt_restrict (Nat.le_refl a) ha (Nat.le_add_left 64 a) (fun v h1 h2 => absurd h2 (Nat.not_lt_of_le h1))
      (fun v hv _ => testBit_high hw hv)
  · rw [cnt_eq_zero_of_le (by omega : 64 ≤ a)]
    exact cnt_false (fun v hv _ => testBit_high hw (by omega))

theorem popcount_shl (x k : Nat) : popcount (shl x k) = cnt (fun b => x.testBit b) 0 (64 - k) := by
  unfold popcount
  have low : ∀ v, v < k → (shl x k).testBit v = false := fun v hv => by
    rw [testBit_shl, decide_eq_false (Nat.not_le_of_lt hv), Bool.and_false, Bool.false_and]
  by_cases hk : k ≤ 64
  · have e := cnt_translate (fun b => (shl x k).testBit b) k 0 (64 - k)
    rw [Nat.add_zero, Nat.add_sub_cancel' hk] at e
    rw [cnt_restrict (Nat.zero_le k) hk (Nat.le_refl 64) (fun v _ hv => low v hv)
      (fun v h1 h2 => absurd h2 (Nat.not_lt_of_le h1)), e]
    apply cnt_congr
    intro v _ hv
    rw [testBit_shl, Nat.add_sub_cancel_left, decide_eq_true (by omega : k + v < 64),
      decide_eq_true (Nat.le_add_right k v)]
    rfl
  · rw [Nat.sub_eq_zero_of_le (by omega : 64 ≤ k), cnt_eq_zero_of_le (Nat.le_refl 0)]
    exact cnt_false (fun v _ hv => low v (by omega))

theorem cnt_and_not (p q : Nat → Bool) (s e : Nat) :
    cnt (fun v => p v && !q v) s e + cnt (fun v => p v && q v) s e = cnt p s e := by
  rw [← cnt_or_disjoint]
  · exact cnt_congr (fun v _ _ => by cases p v <;> cases q v <;> rfl)
  · intro v _ _ ⟨h1, h2⟩
    rw [Bool.and_eq_true] at h1 h2
    rw [h2.2] at h1
    cases h1.2

theorem cnt_or_and (p q : Nat → Bool) (s e : Nat) :
    cnt (fun v => p v || q v) s e + cnt (fun v => p v && q v) s e = cnt p s e + cnt q s e := by
  -- `p ∨ q` is the disjoint union of `p` and `q ∧ ¬p`
  rw [← cnt_and_not q p s e, ← Nat.add_assoc, ← cnt_or_disjoint p]
  · congr 1
    · exact cnt_congr (fun v _ _ => by cases p v <;> cases q v <;> rfl)
    · exact cnt_congr (fun v _ _ => Bool.and_comm _ _)
  · intro v _ _ ⟨h1, h2⟩
    rw [h1, Bool.not_true, Bool.and_false] at h2
    cases h2

theorem popcount_or_and (w m : Nat) : popcount (w ||| m) + popcount (w &&& m) = popcount w + popcount m := by
  unfold popcount
  simp only [Nat.testBit_or, Nat.testBit_and]
  exact cnt_or_and _ _ 0 64

theorem popcount_andNot (w m : Nat) (hm : m < 2 ^ 64) : popcount (andNot w m) + popcount (w &&& m) = popcount w := by
  unfold popcount
  rw [← cnt_and_not (fun i => w.testBit i) (fun i => m.testBit i) 0 64]
  simp only [Nat.testBit_and]
  congr 1
  exact cnt_congr (fun v _ hv => testBit_andNot w hm hv)

/-- bit `p` of the container. -/
def bitp (ws : List Nat) (p : Nat) : Bool := (ws.getD (p / 64) 0).testBit (p % 64)

theorem mem_wordBits (k w p : Nat) : p ∈ wordBits k w ↔ (p / 64 = k ∧ w.testBit (p % 64) = true) := by
  unfold wordBits
  rw [List.mem_map]
  constructor
  · rintro ⟨b, hb, rfl⟩
    rw [List.mem_filter, List.mem_range'_1, Nat.zero_add] at hb
    rw [Nat.mul_add_div (by decide : 64 > 0), Nat.mul_add_mod, Nat.div_eq_of_lt hb.1.2, Nat.mod_eq_of_lt hb.1.2]
    exact ⟨rfl, hb.2⟩
  · rintro ⟨rfl, h2⟩
    refine ⟨p % 64, ?_, Nat.div_add_mod p 64⟩
    rw [List.mem_filter, List.mem_range'_1, Nat.zero_add]
    exact ⟨⟨Nat.zero_le _, Nat.mod_lt p (by decide)⟩, h2⟩

theorem mem_absFrom (ws : List Nat) : ∀ (k p : Nat),
    p ∈ absFrom k ws ↔ ∃ q, q < ws.length ∧ p / 64 = k + q ∧ (ws.getD q 0).testBit (p % 64) = true := by
  induction ws with
  | nil =>
    intro k p
    constructor
    · intro h; cases h
    · rintro ⟨_, h, _⟩; cases h
  | cons w rest ih =>
    intro k p
    rw [absFrom, List.mem_append, mem_wordBits, ih (k + 1), List.length_cons]
    constructor
    · rintro (⟨h1, h2⟩ | ⟨q, h1, h2, h3⟩)
      · exact ⟨0, Nat.succ_pos _, h1, h2⟩
      · exact ⟨q + 1, Nat.succ_lt_succ h1, by omega, h3⟩
    · rintro ⟨q, h1, h2, h3⟩
      cases q with
      | zero => exact Or.inl ⟨h2, h3⟩
      | succ q => exact Or.inr ⟨q, Nat.lt_of_succ_lt_succ h1, by omega, h3⟩

theorem mem_absW (ws : List Nat) (p : Nat) : p ∈ absW ws ↔ (p < 64 * ws.length ∧ bitp ws p = true) := by
  unfold absW bitp
  rw [mem_absFrom, Nat.mul_comm, ← Nat.div_lt_iff_lt_mul (by decide : 0 < 64)]
  constructor
  · rintro ⟨q, h1, h2, h3⟩
    rw [Nat.zero_add] at h2
    rw [h2]
    exact ⟨h1, h3⟩
  · rintro ⟨h1, h2⟩
    exact ⟨p / 64, h1, (Nat.zero_add _).symm, h2⟩

theorem sorted_wordBits (k w : Nat) : Sorted (wordBits k w) :=
  sorted_map_add (64 * k) (sorted_filter _ (sorted_range' 0 64))

theorem sorted_absFrom (ws : List Nat) : ∀ k, Sorted (absFrom k ws) := by
  induction ws with
  | nil => intro k; trivial
  | cons w rest ih =>
    intro k
    apply sorted_append (sorted_wordBits k w) (ih (k + 1))
    intro x hx y hy
    rw [mem_wordBits] at hx
    rcases (mem_absFrom rest (k + 1) y).mp hy with ⟨q, _, hq, _⟩
    omega

theorem sorted_absW (ws : List Nat) : Sorted (absW ws) := sorted_absFrom ws 0

theorem absW_lt {ws : List Nat} (h : WordsWF ws) : ∀ p ∈ absW ws, p < 65536 := by
  intro p hp
  have := ((mem_absW ws p).mp hp).1
  rw [h.1] at this
  exact this

theorem cnt_absW (ws : List Nat) (s e : Nat) (he : e ≤ 64 * ws.length) :
    cnt (fun v => decide (v ∈ absW ws)) s e = cnt (bitp ws) s e := by
  apply cnt_congr
  intro v _ hv
  rw [Bool.eq_iff_iff, decide_eq_true_eq, mem_absW]
  exact ⟨fun h => h.2, fun h => ⟨Nat.lt_of_lt_of_le hv he, h⟩⟩

theorem card_absW (ws : List Nat) : (absW ws).length = cnt (bitp ws) 0 (64 * ws.length) := by
  rw [← cnt_absW ws 0 _ (Nat.le_refl _), ← cntList_eq_cnt (sorted_absW ws)]
  unfold cntList
  rw [List.filter_eq_self.mpr]
  intro v hv
  rw [decide_eq_true (Nat.zero_le v), decide_eq_true ((mem_absW ws v).mp hv).1]
  rfl

theorem card_eq_cnt {ws : List Nat} (h : WordsWF ws) : (absW ws).length = cnt (bitp ws) 0 65536 := by
  rw [card_absW, h.1]

theorem absW_ext {ws : List Nat} (h : WordsWF ws) {target : List Nat} (hs : Sorted target)
    (hlt : ∀ v ∈ target, v < 65536) (hb : ∀ p, p < 65536 → (bitp ws p = true ↔ p ∈ target)) : absW ws = target := by
  apply sorted_ext (sorted_absW ws) hs
  intro p
  rw [mem_absW, h.1]
  exact ⟨fun ⟨h1, h2⟩ => (hb p h1).mp h2, fun hp => ⟨hlt p hp, (hb p (hlt p hp)).mpr hp⟩⟩

theorem bitp_iff_absW {ws : List Nat} (h : WordsWF ws) (p : Nat) (hp : p < 65536) : bitp ws p = true ↔ p ∈ absW ws := by
  rw [mem_absW, h.1]
  exact ⟨fun hb => ⟨hp, hb⟩, fun hb => hb.2⟩

theorem decide_mem_absW {ws : List Nat} (h : WordsWF ws) {p : Nat} (hp : p < 65536) :
    decide (p ∈ absW ws) = bitp ws p := by
  rw [Bool.eq_iff_iff, decide_eq_true_eq]
  exact (bitp_iff_absW h p hp).symm

/-- a container whose bit at every position is `f (p ∈ a) (p ∈ b)` denotes `Spec.op f a b`. -/
theorem absW_eq_op {ws a b : List Nat} (f : Bool → Bool → Bool) (hf : f false false = false) (h : WordsWF ws)
    (ha : Sorted a) (hb : Sorted b) (halt : ∀ v ∈ a, v < 65536) (hblt : ∀ v ∈ b, v < 65536)
    (hbit : ∀ p, p < 65536 → bitp ws p = f (decide (p ∈ a)) (decide (p ∈ b))) : absW ws = Spec.op f a b := by
  apply absW_ext h (sorted_op f ha hb) (op_lt f halt hblt)
  intro p hp
  rw [mem_op f hf ha hb, hbit p hp]

/-- what the result `(n, words)` of a kernel is: well-formed words whose bit at `p` is `F p`, with `n` their
cardinality; the word-level counterpart of `Denotes`. -/
def WDen (r : Nat × List Nat) (F : Nat → Bool) : Prop :=
  WordsWF r.2 ∧ (∀ p, p < 65536 → bitp r.2 p = F p) ∧ r.1 = (absW r.2).length

theorem WDen.self {n : Nat} {ws : List Nat} (h : WordsWF ws) (hn : n = (absW ws).length) : WDen (n, ws) (bitp ws) :=
  ⟨h, fun _ _ => rfl, hn⟩

theorem WDen.congr {r : Nat × List Nat} {F G : Nat → Bool} (h : WDen r F) (hFG : ∀ p, p < 65536 → F p = G p) :
    WDen r G := ⟨h.1, fun p hp => (h.2.1 p hp).trans (hFG p hp), h.2.2⟩

theorem WDen.mem {r : Nat × List Nat} {F : Nat → Bool} (h : WDen r F) (p : Nat) :
    p ∈ absW r.2 ↔ p < 65536 ∧ F p = true := by
  rw [mem_absW, h.1.1]
  exact ⟨fun ⟨h1, h2⟩ => ⟨h1, (h.2.1 p h1) ▸ h2⟩, fun ⟨h1, h2⟩ => ⟨h1, (h.2.1 p h1).symm ▸ h2⟩⟩

/-- the set-level reading, in the shape the statements about the kernels have. -/
theorem WDen.refines {r : Nat × List Nat} {a b : List Nat} {f : Bool → Bool → Bool}
    (h : WDen r (fun p => f (decide (p ∈ a)) (decide (p ∈ b)))) (hf : f false false = false)
    (ha : Sorted a) (hb : Sorted b) (halt : ∀ v ∈ a, v < 65536) (hblt : ∀ v ∈ b, v < 65536) :
    WordsWF r.2 ∧ absW r.2 = Spec.op f a b ∧ r.1 = (absW r.2).length :=
  ⟨h.1, absW_eq_op f hf h.1 ha hb halt hblt h.2.1, h.2.2⟩

theorem bitp_word (ws : List Nat) (k : Nat) {b : Nat} (hb : b < 64) : bitp ws (64 * k + b) = (ws.getD k 0).testBit b := by
  unfold bitp
  rw [Nat.mul_add_div (by decide : 64 > 0), Nat.mul_add_mod, Nat.div_eq_of_lt hb, Nat.mod_eq_of_lt hb]
  rfl

theorem cnt_bitp_word (ws : List Nat) (i a b : Nat) (hb : b ≤ 64) :
    cnt (bitp ws) (64 * i + a) (64 * i + b) = cnt (fun t => (ws.getD i 0).testBit t) a b := by
  rw [cnt_translate]
  exact cnt_congr (fun v _ hv => bitp_word ws i (Nat.lt_of_lt_of_le hv hb))

theorem sumPop_spec (ws : List Nat) : ∀ (c i : Nat),
    sumPop ws i c = cnt (bitp ws) (64 * i) (64 * (i + c)) := by
  intro c
  induction c with
  | zero => intro i; exact (cnt_eq_zero_of_le (Nat.le_refl _)).symm
  | succ c ih =>
    intro i
    have h := cnt_bitp_word ws i 0 64 (Nat.le_refl _)
    rw [sumPop, ih (i + 1), popcount, ← h, Nat.add_zero, Nat.add_right_comm i 1 c, ← Nat.mul_succ]
    exact (cnt_split _ (Nat.mul_le_mul_left 64 (Nat.le_succ i))
      (Nat.mul_le_mul_left 64 (Nat.succ_le_succ (Nat.le_add_right i c)))).symm

theorem sumPop_total (ws : List Nat) : sumPop ws 0 ws.length = (absW ws).length := by
  rw [sumPop_spec, Nat.mul_zero, Nat.zero_add, card_absW]

/-- the bits `[a, b)` of word `i`, as `bitmapCountRange` isolates them (`a = 0` for the last word). -/
theorem popcount_word (ws : List Nat) (i : Nat) {a b : Nat} (hab : a ≤ b) (hb : b ≤ 64) :
    popcount (shl (ws.getD i 0 >>> a) (64 - b + a)) = cnt (bitp ws) (64 * i + a) (64 * i + b) := by
  rw [popcount_shl, cnt_shr, cnt_bitp_word ws i a b hb, Nat.add_zero]
  congr 1
  omega

theorem wCountRange_spec (ws : List Nat) (hw : ∀ w ∈ ws, w < 2 ^ 64) (s e : Nat) (hse : s ≤ e)
    (he : e ≤ 64 * ws.length) : wCountRange ws s e = cnt (bitp ws) s e := by
  have hs := Nat.div_add_mod s 64
  have ha := Nat.mod_lt s (by decide : 64 > 0)
  have hee := Nat.div_add_mod e 64
  have hb := Nat.mod_lt e (by decide : 64 > 0)
  unfold wCountRange
  simp only []
  generalize s / 64 = i at *
  generalize s % 64 = a at *
  generalize e / 64 = j at *
  generalize e % 64 = b at *
  subst hs hee
  by_cases hij : i = j
  · subst hij
    rw [if_pos rfl]
    exact popcount_word ws i (by omega) (Nat.le_of_lt hb)
  · rw [if_neg hij]
    have hlt : i < j := by omega
    -- [s, e) = [s, 64 j) ++ [64 j, e); the first part starts with a partial word if `a ≠ 0`
    have front : (if a ≠ 0 then popcount (ws.getD i 0 >>> a) else 0)
        + sumPop ws (if a ≠ 0 then i + 1 else i) (j - (if a ≠ 0 then i + 1 else i))
        = cnt (bitp ws) (64 * i + a) (64 * j) := by
      by_cases hoff : a ≠ 0
      · rw [if_pos hoff, if_pos hoff, popcount_shr (getD_lt hw i), ← cnt_bitp_word ws i a 64 (Nat.le_refl _),
          sumPop_spec, Nat.add_sub_cancel' hlt, ← Nat.mul_succ]
        exact (cnt_split _ (by omega) (Nat.mul_le_mul_left 64 hlt)).symm
      · rw [if_neg hoff, if_neg hoff, Nat.zero_add, sumPop_spec, Nat.add_sub_cancel' (Nat.le_of_lt hlt),
          Decidable.not_not.mp hoff, Nat.add_zero]
    have last : (if j < ws.length then popcount (shl (ws.getD j 0) (64 - b)) else 0)
        = cnt (bitp ws) (64 * j) (64 * j + b) := by
      by_cases hj : j < ws.length
      · have h := popcount_word ws j (Nat.zero_le b) (Nat.le_of_lt hb)
        rw [Nat.shiftRight_zero, Nat.add_zero, Nat.add_zero] at h
        rw [if_pos hj, h]
      · rw [if_neg hj, cnt_eq_zero_of_le (by omega)]
    rw [front, last]
    exact (cnt_split _ (by omega) (Nat.le_add_right _ b)).symm

theorem wCountRange_refines {ws : List Nat} (h : WordsWF ws) (s e : Nat) (hse : s ≤ e) (he : e ≤ 65536) :
    wCountRange ws s e = bitmapCountRange (absW ws) s e := by
  have he' : e ≤ 64 * ws.length := by rw [h.1]; exact he
  rw [wCountRange_spec ws h.2 s e hse he']
  unfold bitmapCountRange
  rw [cntList_eq_cnt (sorted_absW ws), cnt_absW ws s e he']

theorem wIntersectionCountRuns_refines {ws : List Nat} (h : WordsWF ws) :
    ∀ (rb : List Iv), RunsWF rb → wIntersectionCountRuns ws rb = intersectionCountBitmapRun (absW ws) rb := by
  intro rb
  induction rb with
  | nil => intro _; rfl
  | cons r rest ih =>
    intro hr
    have hv := RunsWF.head hr
    rw [wIntersectionCountRuns, intersectionCountBitmapRun, ih (RunsWF.tail hr),
      wCountRange_refines h _ _ (Nat.le_succ_of_le hv.1) (Nat.succ_le_succ hv.2)]

theorem getD_eq_getElem (ws : List Nat) {k : Nat} (hk : k < ws.length) : ws.getD k 0 = ws[k] := by
  rw [List.getD_eq_getElem?_getD, List.getElem?_eq_getElem hk, Option.getD_some]

/-- a container given word by word: `G k` is word `k`. -/
theorem bitp_of_getD {ws : List Nat} (G : Nat → Nat) (hl : ws.length = 1024)
    (h : ∀ k, k < 1024 → ws.getD k 0 = G k ∧ G k < 2 ^ 64) :
    WordsWF ws ∧ ∀ p, p < 65536 → bitp ws p = (G (p / 64)).testBit (p % 64) := by
  refine ⟨⟨hl, fun w hw => ?_⟩, fun p hp => ?_⟩
  · rcases List.getElem_of_mem hw with ⟨k, hk, rfl⟩
    rw [← getD_eq_getElem ws hk, (h k (hl ▸ hk)).1]
    exact (h k (hl ▸ hk)).2
  · unfold bitp
    rw [(h (p / 64) (by omega)).1]

theorem getD_map_lt (f : Nat → Nat) (ws : List Nat) (k : Nat) (hk : k < ws.length) :
    (ws.map f).getD k 0 = f (ws.getD k 0) := by
  rw [List.getD_eq_getElem?_getD, List.getD_eq_getElem?_getD, List.getElem?_map, List.getElem?_eq_getElem hk]
  rfl

theorem wFlip_wf {ws : List Nat} (h : WordsWF ws) : WordsWF (wFlip ws) := by
  refine ⟨(List.length_map _).trans h.1, fun w hw => ?_⟩
  rcases List.mem_map.mp hw with ⟨x, _, rfl⟩
  exact wnot_lt x

theorem wFlip_refines {ws : List Nat} (h : WordsWF ws) : absW (wFlip ws) = Spec.compl16 (absW ws) := by
  unfold Spec.compl16 Spec.diff
  apply absW_eq_op _ rfl (wFlip_wf h) (sorted_range' 0 65536) (sorted_absW ws)
    (fun v hv => by rw [List.mem_range'_1, Nat.zero_add] at hv; exact hv.2) (absW_lt h)
  intro p hp
  have hk : p / 64 < ws.length := by rw [h.1]; omega
  rw [decide_mem_absW h hp, decide_eq_true (List.mem_range'_1.mpr ⟨Nat.zero_le p, by omega⟩), Bool.true_and]
  unfold bitp wFlip
  rw [getD_map_lt wnot ws _ hk, testBit_wnot (getD_lt h.2 _), decide_eq_true (Nat.mod_lt p (by decide)), Bool.true_and]

theorem wFlipN_spec {ws : List Nat} (h : WordsWF ws) : (wFlipN ws).1 = (absW (wFlipN ws).2).length := by
  have hf := wFlip_wf h
  show wCountRange (wFlip ws) 0 65536 = (absW (wFlip ws)).length
  rw [wCountRange_spec _ hf.2 0 65536 (Nat.zero_le _) (by rw [hf.1]; decide), card_eq_cnt hf]

theorem testBit_maskX (i b : Nat) : (maskX i).testBit b = (decide (b < 64) && decide (i % 64 ≤ b)) := by
  unfold maskX
  rw [testBit_shl, testBit_maxBitmap]
  by_cases h : b < 64
  · rw [decide_eq_true (Nat.lt_of_le_of_lt (Nat.sub_le b _) h), Bool.and_true]
  · rw [decide_eq_false h, Bool.false_and, Bool.false_and]

theorem testBit_maskY (j b : Nat) : (maskY j).testBit b = decide (b ≤ (j - 1) % 64) := by
  unfold maskY
  have := Nat.mod_lt (j - 1) (by decide : 64 > 0)
  rw [Nat.testBit_shiftRight, testBit_maxBitmap, decide_eq_decide]
  omega

theorem maskX_lt (i : Nat) : maskX i < 2 ^ 64 := shl_lt _ _
theorem maskY_lt (j : Nat) : maskY j < 2 ^ 64 := shr_lt maxBitmap_lt _

theorem rangeMask_lt (i j k : Nat) : rangeMask i j k < 2 ^ 64 :=
  ite_lt (ite_lt (Nat.and_lt_two_pow _ (maskY_lt j)) (Nat.two_pow_pos 64))
    (ite_lt (maskX_lt i) (ite_lt maxBitmap_lt (ite_lt (maskY_lt j) (Nat.two_pow_pos 64))))

theorem testBit_rangeMask (i j k b : Nat) (hij : i < j) (hb : b < 64) :
    (rangeMask i j k).testBit b = decide (i ≤ 64 * k + b ∧ 64 * k + b < j) := by
  have mx := testBit_maskX i b
  have my := testBit_maskY j b
  rw [decide_eq_true hb, Bool.true_and] at mx
  have hi := Nat.div_add_mod i 64
  have ha := Nat.mod_lt i (by decide : 64 > 0)
  have hj : j = 64 * ((j - 1) / 64) + (j - 1) % 64 + 1 := by omega
  have hc := Nat.mod_lt (j - 1) (by decide : 64 > 0)
  unfold rangeMask
  simp only []
  -- with `i = 64 x + a` and `j = 64 y + c + 1` every case is linear arithmetic
  generalize maskX i = X at *
  generalize maskY j = Y at *
  generalize i / 64 = x at *
  generalize i % 64 = a at *
  generalize (j - 1) / 64 = y at *
  generalize (j - 1) % 64 = c at *
  subst hi hj
  by_cases hxy : x = y
  · rw [if_pos hxy]
    by_cases hk : k = x
    · rw [if_pos hk, Nat.testBit_and, mx, my, ← Bool.decide_and, decide_eq_decide]
      omega
    · rw [if_neg hk, Nat.zero_testBit]
      exact (decide_eq_false (by omega)).symm
  · rw [if_neg hxy]
    by_cases hk : k = x
    · rw [if_pos hk, mx, decide_eq_decide]
      omega
    · rw [if_neg hk]
      by_cases hm : x < k ∧ k < y
      · rw [if_pos hm, testBit_maxBitmap, decide_eq_decide]
        omega
      · rw [if_neg hm]
        by_cases hy : k = y
        · rw [if_pos hy, my, decide_eq_decide]
          omega
        · rw [if_neg hy, Nat.zero_testBit]
          exact (decide_eq_false (by omega)).symm

theorem rangeMask_outside (i j k : Nat) (hij : i < j) (hk : k < i / 64 ∨ (j - 1) / 64 < k) : rangeMask i j k = 0 := by
  apply Nat.eq_of_testBit_eq
  intro b
  rw [Nat.zero_testBit]
  by_cases hb : b < 64
  · rw [testBit_rangeMask i j k b hij hb]
    exact decide_eq_false (by omega)
  · exact testBit_high (rangeMask_lt i j k) (Nat.le_of_not_lt hb)

theorem getD_mapIdx (f : Nat → Nat → Nat) (ws : List Nat) (k : Nat) (hk : k < ws.length) :
    (ws.mapIdx f).getD k 0 = f k (ws.getD k 0) := by
  rw [List.getD_eq_getElem?_getD, List.getD_eq_getElem?_getD, List.getElem?_mapIdx, List.getElem?_eq_getElem hk]
  rfl

theorem mapIdx_wf {ws : List Nat} (h : WordsWF ws) (f : Nat → Nat → Nat)
    (hf : ∀ k w, w < 2 ^ 64 → f k w < 2 ^ 64) : WordsWF (ws.mapIdx f) :=
  (bitp_of_getD (fun k => f k (ws.getD k 0)) (List.length_mapIdx.trans h.1)
    (fun k hk => ⟨getD_mapIdx f ws k (by rw [h.1]; exact hk), hf k _ (getD_lt h.2 k)⟩)).1

theorem bitp_mapIdx (f : Nat → Nat → Nat) (ws : List Nat) (p : Nat) (hp : p < 64 * ws.length) :
    bitp (ws.mapIdx f) p = (f (p / 64) (ws.getD (p / 64) 0)).testBit (p % 64) := by
  unfold bitp
  rw [getD_mapIdx f ws (p / 64) (Nat.div_lt_of_lt_mul hp)]

/-- a word operation that acts bit by bit as `g`, applied with the range mask, acts as `g` with "is in `[i, j)`". -/
theorem bitp_rangeOp (op : Nat → Nat → Nat) (g : Bool → Bool → Bool)
    (hop : ∀ w m b, m < 2 ^ 64 → b < 64 → (op w m).testBit b = g (w.testBit b) (m.testBit b))
    (ws : List Nat) (i j p : Nat) (hij : i < j) (hp : p < 64 * ws.length) :
    bitp (ws.mapIdx (fun k w => op w (rangeMask i j k))) p = g (bitp ws p) (decide (i ≤ p ∧ p < j)) := by
  have hb := Nat.mod_lt p (by decide : 64 > 0)
  rw [bitp_mapIdx _ ws p hp, hop _ _ _ (rangeMask_lt i j _) hb, testBit_rangeMask i j _ _ hij hb, Nat.div_add_mod]
  rfl

theorem bitp_setRange (ws : List Nat) (i j p : Nat) (hij : i < j) (hp : p < 64 * ws.length) :
    bitp (wSetRange ws i j) p = (bitp ws p || decide (i ≤ p ∧ p < j)) :=
  bitp_rangeOp (fun w m => w ||| m) _ (fun w m b _ _ => Nat.testBit_or w m b) ws i j p hij hp

theorem bitp_zeroRange (ws : List Nat) (i j p : Nat) (hij : i < j) (hp : p < 64 * ws.length) :
    bitp (wZeroRange ws i j) p = (bitp ws p && !decide (i ≤ p ∧ p < j)) :=
  bitp_rangeOp andNot (fun x y => x && !y) (fun w _ _ hm hb => testBit_andNot w hm hb) ws i j p hij hp

theorem bitp_xorRange (ws : List Nat) (i j p : Nat) (hij : i < j) (hp : p < 64 * ws.length) :
    bitp (wXorRange ws i j) p = (bitp ws p != decide (i ≤ p ∧ p < j)) :=
  bitp_rangeOp (fun w m => w ^^^ m) _ (fun w m b _ _ => Nat.testBit_xor w m b) ws i j p hij hp

theorem wSetRange_wf {ws : List Nat} (h : WordsWF ws) (i j : Nat) : WordsWF (wSetRange ws i j) :=
  mapIdx_wf h _ (fun k _ hw => Nat.or_lt_two_pow hw (rangeMask_lt i j k))
theorem wZeroRange_wf {ws : List Nat} (h : WordsWF ws) (i j : Nat) : WordsWF (wZeroRange ws i j) :=
  mapIdx_wf h _ (fun _ w _ => Nat.and_lt_two_pow w (wnot_lt _))
theorem wXorRange_wf {ws : List Nat} (h : WordsWF ws) (i j : Nat) : WordsWF (wXorRange ws i j) :=
  mapIdx_wf h _ (fun k _ hw => Nat.xor_lt_two_pow hw (rangeMask_lt i j k))

/-! ### unionBitmapRun / differenceBitmapRun / xorBitmapRun: one range operation per run -/

theorem inIv_range (r : Iv) (p : Nat) : decide (r.start ≤ p ∧ p < r.last + 1) = inIv r p := by
  unfold inIv
  rw [decide_eq_decide, Nat.lt_succ_iff]

theorem sumPop_add (ws : List Nat) : ∀ (a i b : Nat), sumPop ws i (a + b) = sumPop ws i a + sumPop ws (i + a) b := by
  intro a
  induction a with
  | zero => intro i b; rw [Nat.zero_add, sumPop, Nat.zero_add, Nat.add_zero]
  | succ a ih =>
    intro i b
    rw [Nat.add_right_comm a 1 b, sumPop, sumPop, ih (i + 1) b, Nat.add_assoc i 1 a, Nat.add_comm 1 a, Nat.add_assoc]

theorem sumPop_congr (ws ws' : List Nat) : ∀ (c i : Nat), (∀ k, i ≤ k → k < i + c → ws.getD k 0 = ws'.getD k 0) →
    sumPop ws i c = sumPop ws' i c := by
  intro c
  induction c with
  | zero => intro i _; rfl
  | succ c ih =>
    intro i h
    rw [sumPop, sumPop, h i (Nat.le_refl _) (by omega), ih (i + 1) (fun k h1 h2 => h k (by omega) (by omega))]

/-- two lists of words that agree outside the words `x .. x + c - 1`: the totals differ by the difference
over those words. -/
theorem sumPop_window (ws ws' : List Nat) {x c n : Nat} (hn : x + c ≤ n)
    (same : ∀ k, k < x ∨ x + c ≤ k → ws'.getD k 0 = ws.getD k 0) :
    sumPop ws' 0 n + sumPop ws x c = sumPop ws 0 n + sumPop ws' x c := by
  have hlen : n = x + (c + (n - (x + c))) := by omega
  rw [hlen, sumPop_add, sumPop_add, sumPop_add, sumPop_add, Nat.zero_add,
    sumPop_congr ws' ws _ 0 (fun k _ h2 => same k (Or.inl (by omega))),
    sumPop_congr ws' ws _ (x + c) (fun k h1 _ => same k (Or.inr h1))]
  omega

theorem getD_rangeOp_outside (ws : List Nat) (op : Nat → Nat → Nat) (hop : ∀ w ∈ ws, op w 0 = w) (i j : Nat)
    (hij : i < j) (k : Nat) (hk : k < i / 64 ∨ i / 64 + ((j - 1) / 64 + 1 - i / 64) ≤ k) :
    (ws.mapIdx (fun k w => op w (rangeMask i j k))).getD k 0 = ws.getD k 0 := by
  have hx : i / 64 ≤ (j - 1) / 64 := Nat.div_le_div_right (Nat.le_sub_one_of_lt hij)
  by_cases hkl : k < ws.length
  · rw [getD_mapIdx _ ws k hkl, rangeMask_outside i j k hij (by omega), getD_eq_getElem ws hkl]
    exact hop _ (List.getElem_mem hkl)
  · rw [List.getD_eq_getElem?_getD, List.getD_eq_getElem?_getD, List.getElem?_eq_none (by rw [List.length_mapIdx]; omega),
      List.getElem?_eq_none (by omega)]

/-- first word of the range + number of words it touches. -/
theorem lastWord_le {i j n : Nat} (hij : i < j) (hj : j ≤ 64 * n) : i / 64 + ((j - 1) / 64 + 1 - i / 64) ≤ n := by
  have hx : i / 64 ≤ (j - 1) / 64 := Nat.div_le_div_right (Nat.le_sub_one_of_lt hij)
  have hy : (j - 1) / 64 < n := Nat.div_lt_of_lt_mul (by omega)
  omega

theorem total_mapIdx (ws : List Nat) (op : Nat → Nat → Nat) (hop : ∀ w, op w 0 = w) (i j : Nat) (hij : i < j)
    (hj : j ≤ 64 * ws.length) :
    sumPop (ws.mapIdx (fun k w => op w (rangeMask i j k))) 0 ws.length + sumPop ws (i / 64) ((j - 1) / 64 + 1 - i / 64)
      = sumPop ws 0 ws.length
        + sumPop (ws.mapIdx (fun k w => op w (rangeMask i j k))) (i / 64) ((j - 1) / 64 + 1 - i / 64) :=
  sumPop_window ws _ (lastWord_le hij hj) (getD_rangeOp_outside ws op (fun w _ => hop w) i j hij)

/-- `op w 0 = w` is needed for the words of `ws` only. -/
theorem card_mapIdx {ws : List Nat} (h : WordsWF ws) (op : Nat → Nat → Nat) (hop : ∀ w ∈ ws, op w 0 = w) (i j : Nat)
    (hij : i < j) (hj : j ≤ 65536) :
    (absW (ws.mapIdx (fun k w => op w (rangeMask i j k)))).length + sumPop ws (i / 64) ((j - 1) / 64 + 1 - i / 64)
      = (absW ws).length
        + sumPop (ws.mapIdx (fun k w => op w (rangeMask i j k))) (i / 64) ((j - 1) / 64 + 1 - i / 64) := by
  rw [← sumPop_total, ← sumPop_total, List.length_mapIdx]
  exact sumPop_window ws _ (lastWord_le hij (by rw [h.1]; exact hj)) (getD_rangeOp_outside ws op hop i j hij)

theorem sumGain_spec (ws : List Nat) (hw : ∀ w ∈ ws, w < 2 ^ 64) (i j : Nat) : ∀ (c k : Nat), k + c ≤ ws.length →
    sumPop (wSetRange ws i j) k c = sumPop ws k c + sumGain ws i j k c := by
  intro c
  induction c with
  | zero => intro k _; rfl
  | succ c ih =>
    intro k hk
    -- the gain `popcount(mask) - popcount(w & mask)` is `popcount(mask &^ w)`
    have hm := popcount_andNot (rangeMask i j k) (ws.getD k 0) (getD_lt hw k)
    rw [Nat.and_comm] at hm
    have := popcount_or_and (ws.getD k 0) (rangeMask i j k)
    rw [sumPop, sumPop, sumGain, ih (k + 1) (by omega), wSetRange, getD_mapIdx _ ws k (by omega)]
    omega

theorem sumLoss_spec (ws : List Nat) (i j : Nat) : ∀ (c k : Nat), k + c ≤ ws.length →
    sumPop (wZeroRange ws i j) k c + sumLoss ws i j k c = sumPop ws k c := by
  intro c
  induction c with
  | zero => intro k _; rfl
  | succ c ih =>
    intro k hk
    have := ih (k + 1) (by omega)
    have := popcount_andNot (ws.getD k 0) (rangeMask i j k) (rangeMask_lt i j k)
    rw [sumPop, sumPop, sumLoss, wZeroRange, getD_mapIdx _ ws k (by omega)]
    rw [wZeroRange] at *
    omega

theorem sumAfterXor_spec (ws : List Nat) (i j : Nat) : ∀ (c k : Nat), k + c ≤ ws.length →
    sumPop (wXorRange ws i j) k c = sumAfterXor ws i j k c := by
  intro c
  induction c with
  | zero => intro k _; rfl
  | succ c ih =>
    intro k hk
    rw [sumPop, sumAfterXor, ih (k + 1) (by omega), wXorRange, getD_mapIdx _ ws k (by omega)]

theorem wSetRangeN_spec {ws : List Nat} (h : WordsWF ws) (n i j : Nat) (hn : n = (absW ws).length)
    (hij : i < j) (hj : j ≤ 65536) : wSetRangeN n ws i j = (absW (wSetRange ws i j)).length := by
  have T := card_mapIdx h (fun w m => w ||| m) (fun w _ => Nat.or_zero w) i j hij hj
  have G := sumGain_spec ws h.2 i j _ _ (lastWord_le hij (by rw [h.1]; exact hj))
  unfold wSetRangeN
  unfold wSetRange at G ⊢
  omega

theorem wZeroRangeN_spec {ws : List Nat} (h : WordsWF ws) (n i j : Nat) (hn : n = (absW ws).length)
    (hij : i < j) (hj : j ≤ 65536) : wZeroRangeN n ws i j = (absW (wZeroRange ws i j)).length := by
  have T := card_mapIdx h andNot (fun w hw => andNot_zero (h.2 w hw)) i j hij hj
  have L := sumLoss_spec ws i j _ _ (lastWord_le hij (by rw [h.1]; exact hj))
  unfold wZeroRangeN
  unfold wZeroRange at L ⊢
  omega

theorem wXorRangeN_spec {ws : List Nat} (h : WordsWF ws) (n i j : Nat) (hn : n = (absW ws).length)
    (hij : i < j) (hj : j ≤ 65536) : wXorRangeN n ws i j = (absW (wXorRange ws i j)).length := by
  have T := card_mapIdx h (fun w m => w ^^^ m) (fun w _ => Nat.xor_zero w) i j hij hj
  have A := sumAfterXor_spec ws i j _ _ (lastWord_le hij (by rw [h.1]; exact hj))
  unfold wXorRangeN
  unfold wXorRange at A ⊢
  omega

/-- The kernels that loop over the items of the other container (one range operation per run, one single-bit
update per array value) are one fold: each step acts on the bits as `f` with "the item covers the position" and
keeps the stored cardinality.  `good` is what is known of the list of items: it survives dropping the head
(`htail`) and makes the head disjoint from the rest (`hdisj`), so `f` has to combine two disjoint covers only,
which admits xor. -/
theorem wFold_spec {ι : Type} (cov : ι → Nat → Bool) (good : List ι → Prop)
    (htail : ∀ {it rest}, good (it :: rest) → good rest)
    (hdisj : ∀ {it rest}, good (it :: rest) → ∀ p, (cov it p && rest.any (cov · p)) = false)
    (step : Nat × List Nat → ι → Nat × List Nat) (f : Bool → Bool → Bool) (hf0 : ∀ b, f b false = b)
    (hf : ∀ b x y, (x && y) = false → f (f b x) y = f b (x || y))
    (hstep : ∀ {it rest}, good (it :: rest) → ∀ (n : Nat) (ws : List Nat), WDen (n, ws) (bitp ws) →
      WDen (step (n, ws) it) (fun p => f (bitp ws p) (cov it p)))
    (xs : List ι) : ∀ (n : Nat) (ws : List Nat), WDen (n, ws) (bitp ws) → good xs →
      WDen (xs.foldl step (n, ws)) (fun p => f (bitp ws p) (xs.any (cov · p))) := by
  induction xs with
  | nil => intro n ws h _; exact h.congr (fun p _ => (hf0 _).symm)
  | cons it rest ih =>
    intro n ws h hg
    have A := hstep hg n ws h
    exact (ih _ _ (WDen.self A.1 A.2.2) (htail hg)).congr (fun p hp => by
      show f (bitp (step (n, ws) it).2 p) _ = _
      rw [A.2.1 p hp, hf _ _ _ (hdisj hg p), List.any_cons])

/-- one range operation per run: `unionBitmapRun`, `differenceBitmapRun`, `xorBitmapRun` are the instances
`bitmapSetRange`/`(· || ·)`, `bitmapZeroRange`/`(· && !·)`, `bitmapXorRange`/`(· != ·)`. -/
theorem wRunsN_refines (rop : List Nat → Nat → Nat → List Nat) (ropN : Nat → List Nat → Nat → Nat → Nat)
    (f : Bool → Bool → Bool) (hf0 : ∀ b, f b false = b)
    (hf : ∀ b x y, (x && y) = false → f (f b x) y = f b (x || y))
    (hwf : ∀ {ws}, WordsWF ws → ∀ i j, WordsWF (rop ws i j))
    (hbit : ∀ ws i j p, i < j → p < 64 * ws.length → bitp (rop ws i j) p = f (bitp ws p) (decide (i ≤ p ∧ p < j)))
    (hN : ∀ {ws}, WordsWF ws → ∀ n i j, n = (absW ws).length → i < j → j ≤ 65536 →
      ropN n ws i j = (absW (rop ws i j)).length)
    {ws : List Nat} {rb : List Iv} {n : Nat} (h : WordsWF ws) (hr : RunsWF rb) (hn : n = (absW ws).length) :
    WordsWF (rb.foldl (fun acc r => (ropN acc.1 acc.2 r.start (r.last + 1), rop acc.2 r.start (r.last + 1))) (n, ws)).2 ∧
    absW (rb.foldl (fun acc r => (ropN acc.1 acc.2 r.start (r.last + 1), rop acc.2 r.start (r.last + 1))) (n, ws)).2
      = Spec.op f (absW ws) (runValues rb) ∧
    (rb.foldl (fun acc r => (ropN acc.1 acc.2 r.start (r.last + 1), rop acc.2 r.start (r.last + 1))) (n, ws)).1
      = (absW (rb.foldl (fun acc r => (ropN acc.1 acc.2 r.start (r.last + 1), rop acc.2 r.start (r.last + 1))) (n, ws)).2).length :=
  ((wFold_spec inIv RunsWF RunsWF.tail (fun hg => inIv_and_inRuns_above (RunsWF.gt hg)) _ f hf0 hf
      (fun {r _} hg n ws h =>
        have hv := RunsWF.head hg
        ⟨hwf h.1 _ _, fun p hp => by
          rw [hbit ws _ _ p (Nat.lt_succ_of_le hv.1) (by rw [h.1.1]; exact hp), inIv_range],
          hN h.1 n _ _ h.2.2 (Nat.lt_succ_of_le hv.1) (Nat.succ_le_succ hv.2)⟩)
      rb n ws (WDen.self h hn) hr).congr
    (fun p hp => by rw [decide_mem_absW h hp, decide_mem_runValues]; rfl)).refines
    (hf0 false) (sorted_absW ws) (runValues_sorted hr) (absW_lt h) (runValues_lt hr)

theorem getD_zipWith (op : Nat → Nat → Nat) (a b : List Nat) (k : Nat) (ha : k < a.length) (hb : k < b.length) :
    (List.zipWith op a b).getD k 0 = op (a.getD k 0) (b.getD k 0) := by
  rw [List.getD_eq_getElem?_getD, List.getD_eq_getElem?_getD, List.getD_eq_getElem?_getD, List.getElem?_zipWith,
    List.getElem?_eq_getElem ha, List.getElem?_eq_getElem hb]
  rfl

theorem wZipN_refines {a b : List Nat} (ha : WordsWF a) (hb : WordsWF b) (op : Nat → Nat → Nat)
    (f : Bool → Bool → Bool) (hf : f false false = false)
    (hop : ∀ x y, x < 2 ^ 64 → y < 2 ^ 64 → op x y < 2 ^ 64)
    (hbit : ∀ x y t, x < 2 ^ 64 → y < 2 ^ 64 → t < 64 → (op x y).testBit t = f (x.testBit t) (y.testBit t)) :
    WordsWF (wZipN op a b).2 ∧ absW (wZipN op a b).2 = Spec.op f (absW a) (absW b) ∧
    (wZipN op a b).1 = (absW (wZipN op a b).2).length := by
  have hl : (List.zipWith op a b).length = 1024 := by rw [List.length_zipWith, ha.1, hb.1]; rfl
  have B := bitp_of_getD (fun k => op (a.getD k 0) (b.getD k 0)) hl (fun k hk =>
    ⟨getD_zipWith op a b k (by rw [ha.1]; exact hk) (by rw [hb.1]; exact hk), hop _ _ (getD_lt ha.2 k) (getD_lt hb.2 k)⟩)
  refine WDen.refines (r := wZipN op a b) ⟨B.1, fun p hp => ?_, ?_⟩ hf (sorted_absW a) (sorted_absW b) (absW_lt ha)
    (absW_lt hb)
  · show bitp (List.zipWith op a b) p = f (decide (p ∈ absW a)) (decide (p ∈ absW b))
    rw [decide_mem_absW ha hp, decide_mem_absW hb hp]
    exact (B.2 p hp).trans (hbit _ _ _ (getD_lt ha.2 _) (getD_lt hb.2 _) (Nat.mod_lt p (by decide)))
  · show sumPop (List.zipWith op a b) 0 1024 = (absW (List.zipWith op a b)).length
    rw [← sumPop_total, hl]

end PV.C01
