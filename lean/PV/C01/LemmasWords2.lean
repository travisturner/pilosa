/-
C01, word level, the kernels of Words2.lean: the single-bit reads and updates, the array × bitmap kernels
(a fold of one-bit updates, `wFold_spec`, or a filter by one bit, `wFilterArray_refines`), the bitmap
branch of `intersectBitmapRun`, and `shiftBitmap`.
-/
import PV.C01.Words2
import PV.C01.LemmasWords
namespace PV.C01
open Spec

theorem testBit_bitMask (v b : Nat) : (bitMask v).testBit b = decide (v % 64 = b) := by
  unfold bitMask
  rw [Nat.one_shiftLeft]
  exact Nat.testBit_two_pow

theorem bitMask_lt (v : Nat) : bitMask v < 2 ^ 64 := by
  unfold bitMask
  rw [Nat.one_shiftLeft]
  exact Nat.pow_lt_pow_right (by decide) (Nat.mod_lt v (by decide))

/-- `w & (1 << v%64) != 0` tests bit `v % 64`. -/
theorem and_bitMask_ne_zero (w v : Nat) : (w &&& bitMask v != 0) = w.testBit (v % 64) := by
  have hbit : ∀ i, (w &&& bitMask v).testBit i = (w.testBit i && decide (v % 64 = i)) :=
    fun i => by rw [Nat.testBit_and, testBit_bitMask]
  cases h : w.testBit (v % 64)
  · have : w &&& bitMask v = 0 := by
      apply Nat.eq_of_testBit_eq
      intro i
      rw [hbit, Nat.zero_testBit]
      by_cases hi : v % 64 = i
      · rw [← hi, h]; rfl
      · rw [decide_eq_false hi, Bool.and_false]
    rw [this]; rfl
  · have : w &&& bitMask v ≠ 0 := fun h0 => by
      have := hbit (v % 64)
      rw [h0, Nat.zero_testBit, h, decide_eq_true rfl] at this
      cases this
    exact bne_iff_ne.mpr this

theorem wContains_eq (ws : List Nat) (v : Nat) : wContains ws v = bitp ws v := and_bitMask_ne_zero _ v

/-- `mask &^ b != 0` tests that bit `v % 64` of `b` is clear. -/
theorem andNot_bitMask_ne_zero {w : Nat} (hw : w < 2 ^ 64) (v : Nat) :
    (andNot (bitMask v) w != 0) = !w.testBit (v % 64) := by
  unfold andNot
  rw [Nat.and_comm, and_bitMask_ne_zero, testBit_wnot hw, decide_eq_true (Nat.mod_lt v (by decide)), Bool.true_and]

theorem pos_eq_iff (p v : Nat) : p = v ↔ p / 64 = v / 64 ∧ v % 64 = p % 64 := by
  constructor
  · rintro rfl; exact ⟨rfl, rfl⟩
  · rintro ⟨h1, h2⟩
    rw [← Nat.div_add_mod p 64, ← Nat.div_add_mod v 64, h1, h2]

/-- a one-bit update `op word (1 << v%64)` of word `v / 64` that acts on the bits as `g`. -/
theorem bitp_bitOp (op : Nat → Nat → Nat) (g : Bool → Bool → Bool) (hg : ∀ x, g x false = x) (v : Nat)
    (hop : ∀ w b, b < 64 → (op w (bitMask v)).testBit b = g (w.testBit b) ((bitMask v).testBit b))
    (ws : List Nat) (p : Nat) (hp : p < 64 * ws.length) :
    bitp (ws.mapIdx (fun k w => if k = v / 64 then op w (bitMask v) else w)) p = g (bitp ws p) (decide (p = v)) := by
  rw [bitp_mapIdx _ ws p hp, decide_iff (pos_eq_iff p v)]
  by_cases hk : p / 64 = v / 64
  · rw [if_pos hk, hop _ _ (Nat.mod_lt p (by decide)), testBit_bitMask, Bool.decide_and, decide_eq_true hk, Bool.true_and]
    rfl
  · rw [if_neg hk, Bool.decide_and, decide_eq_false hk, Bool.false_and, hg]
    rfl

theorem bitp_setBit (ws : List Nat) (v p : Nat) (hp : p < 64 * ws.length) :
    bitp (wSetBit ws v) p = (bitp ws p || decide (p = v)) :=
  bitp_bitOp (fun w m => w ||| m) _ Bool.or_false v (fun w b _ => Nat.testBit_or w _ b) ws p hp

theorem bitp_clearBit (ws : List Nat) (v p : Nat) (hp : p < 64 * ws.length) :
    bitp (wClearBit ws v) p = (bitp ws p && !decide (p = v)) :=
  bitp_bitOp andNot (fun x y => x && !y) Bool.and_true v (fun w _ hb => testBit_andNot w (bitMask_lt v) hb) ws p hp

theorem wSetBit_wf {ws : List Nat} (h : WordsWF ws) (v : Nat) : WordsWF (wSetBit ws v) :=
  mapIdx_wf h _ (fun _ _ hw => ite_lt (Nat.or_lt_two_pow hw (bitMask_lt v)) hw)

theorem wClearBit_wf {ws : List Nat} (h : WordsWF ws) (v : Nat) : WordsWF (wClearBit ws v) :=
  mapIdx_wf h _ (fun _ w hw => ite_lt (Nat.and_lt_two_pow w (wnot_lt _)) hw)

theorem cnt_single {q : Nat → Bool} {v s e : Nat} (hs : s ≤ v) (he : v < e) (hq : ∀ p, p ≠ v → q p = false) :
    cnt q s e = if q v then 1 else 0 := by
  rw [cnt_restrict hs (Nat.le_succ v) he (fun p _ h => hq p (Nat.ne_of_lt h)) (fun p h _ => hq p (Nat.ne_of_gt h)),
    cnt_succ_left _ (Nat.lt_succ_self v), cnt_eq_zero_of_le (Nat.le_refl _), Nat.add_zero]

theorem card_setBit {ws : List Nat} (h : WordsWF ws) (v : Nat) (hv : v < 65536) (hb : bitp ws v = false) :
    (absW (wSetBit ws v)).length = (absW ws).length + 1 := by
  rw [card_eq_cnt (wSetBit_wf h v), card_eq_cnt h,
    cnt_congr (fun p _ hp => bitp_setBit ws v p (by rw [h.1]; exact hp)), cnt_or_disjoint,
    cnt_single (Nat.zero_le v) hv (fun p hp => decide_eq_false hp), decide_eq_true rfl]
  · rfl
  · intro p _ _ ⟨h1, h2⟩
    rw [of_decide_eq_true h2, hb] at h1
    cases h1

theorem card_clearBit {ws : List Nat} (h : WordsWF ws) (v : Nat) (hv : v < 65536) (hb : bitp ws v = true) :
    (absW (wClearBit ws v)).length + 1 = (absW ws).length := by
  have e : cnt (fun p => bitp ws p && decide (p = v)) 0 65536 = 1 := by
    rw [cnt_single (Nat.zero_le v) hv (fun p hp => by rw [decide_eq_false hp, Bool.and_false]), hb, decide_eq_true rfl]
    rfl
  rw [card_eq_cnt (wClearBit_wf h v), card_eq_cnt h,
    cnt_congr (fun p _ hp => bitp_clearBit ws v p (by rw [h.1]; exact hp)), ← e]
  exact cnt_and_not (bitp ws) (fun p => decide (p = v)) 0 65536

theorem bitp_or_self {ws : List Nat} {v : Nat} (hb : bitp ws v = true) (p : Nat) :
    bitp ws p = (bitp ws p || decide (p = v)) := by
  by_cases hpv : p = v
  · rw [hpv, hb]; rfl
  · rw [decide_eq_false hpv, Bool.or_false]

theorem bitp_and_not_self {ws : List Nat} {v : Nat} (hb : bitp ws v = false) (p : Nat) :
    bitp ws p = (bitp ws p && !decide (p = v)) := by
  by_cases hpv : p = v
  · rw [hpv, hb]; rfl
  · rw [decide_eq_false hpv]; exact (Bool.and_true _).symm

/-- `bitmapAdd`; `added` tells whether the value was new. -/
theorem wBitmapAdd_refines {ws : List Nat} {n : Nat} (h : WordsWF ws) (hn : n = (absW ws).length) (v : Nat)
    (hv : v < 65536) :
    WDen ((wBitmapAdd n ws v).1, (wBitmapAdd n ws v).2.1) (fun p => bitp ws p || decide (p = v)) ∧
    (wBitmapAdd n ws v).2.2 = !decide (v ∈ absW ws) := by
  unfold wBitmapAdd
  rw [wContains_eq, decide_mem_absW h hv]
  cases hb : bitp ws v
  · exact ⟨⟨wSetBit_wf h v, fun p hp => bitp_setBit ws v p (by rw [h.1]; exact hp),
      by rw [hn]; exact (card_setBit h v hv hb).symm⟩, rfl⟩
  · exact ⟨⟨h, fun p _ => bitp_or_self hb p, hn⟩, rfl⟩

/-- `bitmapRemove` (before its nil / bitmapToArray decisions). -/
theorem wBitmapRemove_refines {ws : List Nat} {n : Nat} (h : WordsWF ws) (hn : n = (absW ws).length) (v : Nat)
    (hv : v < 65536) :
    WDen ((wBitmapRemove n ws v).1, (wBitmapRemove n ws v).2.1) (fun p => bitp ws p && !decide (p = v)) ∧
    (wBitmapRemove n ws v).2.2 = decide (v ∈ absW ws) := by
  unfold wBitmapRemove
  rw [wContains_eq, decide_mem_absW h hv]
  cases hb : bitp ws v
  · exact ⟨⟨h, fun p _ => bitp_and_not_self hb p, hn⟩, rfl⟩
  · exact ⟨⟨wClearBit_wf h v, fun p hp => bitp_clearBit ws v p (by rw [h.1]; exact hp),
      by rw [hn, ← card_clearBit h v hv hb]; rfl⟩, rfl⟩

/-- `unionArrayBitmap` is a fold of `bitmapAdd` steps. -/
theorem wUnionArray_eq (n : Nat) (ws xs : List Nat) : wUnionArray n ws xs
    = xs.foldl (fun acc v => ((wBitmapAdd acc.1 acc.2 v).1, (wBitmapAdd acc.1 acc.2 v).2.1)) (n, ws) := by
  unfold wUnionArray wBitmapAdd
  congr
  funext acc v
  cases wContains acc.2 v <;> rfl

/-- `differenceBitmapArray` is a fold of `bitmapRemove` steps. -/
theorem wDiffArray_eq (n : Nat) (ws xs : List Nat) : wDiffArray n ws xs
    = xs.foldl (fun acc v => ((wBitmapRemove acc.1 acc.2 v).1, (wBitmapRemove acc.1 acc.2 v).2.1)) (n, ws) := by
  unfold wDiffArray wBitmapRemove
  congr
  funext acc v
  cases wContains acc.2 v <;> rfl

theorem any_eq_decide_mem (xs : List Nat) (p : Nat) : xs.any (fun v => decide (p = v)) = decide (p ∈ xs) := by
  induction xs with
  | nil => rfl
  | cons v rest ih => simp only [List.any_cons, ih, List.mem_cons, Bool.decide_or]

/-- what `wFold_spec` asks of an array: ascending, so that no value comes twice, and below 65536. -/
def ArrOK (xs : List Nat) : Prop := Sorted xs ∧ ∀ v ∈ xs, v < 65536

theorem ArrOK.tail {v : Nat} {rest : List Nat} (h : ArrOK (v :: rest)) : ArrOK rest :=
  ⟨sorted_tail h.1, fun w hw => h.2 w (List.mem_cons_of_mem v hw)⟩

theorem ArrOK.disj {v : Nat} {rest : List Nat} (h : ArrOK (v :: rest)) (p : Nat) :
    (decide (p = v) && rest.any (fun w => decide (p = w))) = false := by
  rw [any_eq_decide_mem, ← Bool.decide_and]
  exact decide_eq_false (fun ⟨e, hm⟩ => sorted_not_mem_head h.1 (e ▸ hm))

theorem wUnionArray_refines {ws xs : List Nat} {n : Nat} (h : WordsWF ws) (hn : n = (absW ws).length)
    (hxs : Sorted xs) (hlt : ∀ v ∈ xs, v < 65536) :
    WordsWF (wUnionArray n ws xs).2 ∧ absW (wUnionArray n ws xs).2 = Spec.union xs (absW ws) ∧
    (wUnionArray n ws xs).1 = (absW (wUnionArray n ws xs).2).length := by
  rw [wUnionArray_eq]
  exact ((wFold_spec (fun v p => decide (p = v)) ArrOK ArrOK.tail ArrOK.disj
    (fun acc v => ((wBitmapAdd acc.1 acc.2 v).1, (wBitmapAdd acc.1 acc.2 v).2.1)) (fun x y => x || y) Bool.or_false
    (fun b x y _ => Bool.or_assoc b x y)
    (fun {v _} hg n ws h => (wBitmapAdd_refines h.1 h.2.2 v (hg.2 v (List.mem_cons_self ..))).1)
    xs n ws (WDen.self h hn) ⟨hxs, hlt⟩).congr
    (fun p hp => by rw [decide_mem_absW h hp, any_eq_decide_mem, Bool.or_comm])).refines
    rfl hxs (sorted_absW ws) hlt (absW_lt h)

theorem wDiffArray_refines {ws xs : List Nat} {n : Nat} (h : WordsWF ws) (hn : n = (absW ws).length)
    (hxs : Sorted xs) (hlt : ∀ v ∈ xs, v < 65536) :
    WordsWF (wDiffArray n ws xs).2 ∧ absW (wDiffArray n ws xs).2 = Spec.diff (absW ws) xs ∧
    (wDiffArray n ws xs).1 = (absW (wDiffArray n ws xs).2).length := by
  rw [wDiffArray_eq]
  exact ((wFold_spec (fun v p => decide (p = v)) ArrOK ArrOK.tail ArrOK.disj
    (fun acc v => ((wBitmapRemove acc.1 acc.2 v).1, (wBitmapRemove acc.1 acc.2 v).2.1)) (fun x y => x && !y) Bool.and_true (by decide)
    (fun {v _} hg n ws h => (wBitmapRemove_refines h.1 h.2.2 v (hg.2 v (List.mem_cons_self ..))).1)
    xs n ws (WDen.self h hn) ⟨hxs, hlt⟩).congr
    (fun p hp => by rw [decide_mem_absW h hp, any_eq_decide_mem])).refines
    rfl (sorted_absW ws) hxs (absW_lt h) hlt

theorem wFilterArray_refines (g : Bool → Bool) {ws xs : List Nat} (h : WordsWF ws) (hxs : Sorted xs)
    (hlt : ∀ v ∈ xs, v < 65536) :
    xs.filter (fun v => g (bitp ws v)) = Spec.op (fun x y => x && g y) xs (absW ws) := by
  apply sorted_ext (sorted_filter _ hxs) (sorted_op _ hxs (sorted_absW ws))
  intro p
  rw [List.mem_filter, mem_op _ rfl hxs (sorted_absW ws)]
  by_cases hp : p ∈ xs
  · rw [decide_eq_true hp, Bool.true_and, decide_mem_absW h (hlt p hp)]
    exact and_iff_right hp
  · rw [decide_eq_false hp, Bool.false_and]
    exact ⟨fun h => absurd h.1 hp, fun h => nomatch h⟩

theorem wIntersectArray_refines {ws xs : List Nat} (h : WordsWF ws) (hxs : Sorted xs) (hlt : ∀ v ∈ xs, v < 65536) :
    wIntersectArray ws xs = Spec.inter xs (absW ws) := by
  unfold wIntersectArray
  simp only [wContains_eq]
  exact wFilterArray_refines id h hxs hlt

theorem wDifferenceArray_refines {ws xs : List Nat} (h : WordsWF ws) (hxs : Sorted xs) (hlt : ∀ v ∈ xs, v < 65536) :
    wDifferenceArray ws xs = Spec.diff xs (absW ws) := by
  unfold wDifferenceArray
  simp only [andNot_bitMask_ne_zero (getD_lt h.2 _)]
  exact wFilterArray_refines (fun b => !b) h hxs hlt

/-- `(bitmap[i] >> off) & 1` is the bit as a number. -/
theorem shr_and_one (w k : Nat) : (w >>> k) &&& 1 = (w.testBit k).toNat := by
  rw [Nat.and_one_is_mod, Nat.shiftRight_eq_div_pow, Nat.toNat_testBit]

theorem wIntersectionCountArray_refines {ws : List Nat} (h : WordsWF ws) :
    ∀ (xs : List Nat), (∀ v ∈ xs, v < 65536) →
      wIntersectionCountArray ws xs = (xs.filter (fun v => decide (v ∈ absW ws))).length := by
  intro xs
  induction xs with
  | nil => intro _; rfl
  | cons v rest ih =>
    intro hlt
    rw [wIntersectionCountArray, ih (fun w hw => hlt w (List.mem_cons_of_mem v hw)), shr_and_one, List.filter_cons,
      decide_mem_absW h (hlt v (List.mem_cons_self ..))]
    show (bitp ws v).toNat + _ = _
    cases bitp ws v
    · exact Nat.zero_add _
    · exact Nat.add_comm 1 _

/-! ### intersectBitmapRun: the four cases of the loop body compute `aBitmap[i] & mask of the run` -/

theorem ibrBits_lt {aw : Nat} (haw : aw < 2 ^ 64) (i s l : Nat) : ibrBits aw i s l < 2 ^ 64 :=
  ite_lt haw (ite_lt (Nat.and_lt_two_pow _ (shl_lt _ _)) (ite_lt (shl_lt _ _) (shr_lt (shl_lt _ _) _)))

/-- for any word `i`, also one the run does not meet: the shifts are then by 64 and leave nothing. -/
theorem testBit_ibrBits_any {aw : Nat} (haw : aw < 2 ^ 64) (i s l : Nat) (hsl : s ≤ l) (b : Nat) :
    (ibrBits aw i s l).testBit b = (aw.testBit b && decide (b < 64 ∧ s ≤ 64 * i + b ∧ 64 * i + b ≤ l)) := by
  by_cases hb : b < 64
  · unfold ibrBits
    simp only []
    by_cases c1 : 64 * i ≥ s ∧ 64 * i + 63 ≤ l
    · rw [if_pos c1, decide_eq_true (by omega), Bool.and_true]
    · rw [if_neg c1]
      by_cases c2 : s ≥ 64 * i ∧ l ≤ 64 * i + 63
      · rw [if_pos c2, Nat.testBit_and, testBit_shl, Nat.one_shiftLeft, Nat.testBit_two_pow_sub_one]
        congr 1
        rw [← Bool.decide_and, ← Bool.decide_and, decide_eq_decide]
        omega
      · rw [if_neg c2]
        by_cases c3 : 64 * i < s
        · rw [if_pos c3, testBit_shl_shr]
          congr 1
          rw [decide_eq_decide]
          omega
        · rw [if_neg c3, testBit_shr_shl]
          congr 1
          rw [decide_eq_decide]
          omega
  · rw [testBit_high (ibrBits_lt haw i s l) (Nat.le_of_not_lt hb), decide_eq_false (fun h => hb h.1), Bool.and_false]

theorem testBit_ibrBits {aw : Nat} (haw : aw < 2 ^ 64) (i s l : Nat) (hsl : s ≤ l)
    (h1 : s / 64 ≤ i) (h2 : i ≤ l / 64) (b : Nat) :
    (ibrBits aw i s l).testBit b = (aw.testBit b && decide (b < 64 ∧ s ≤ 64 * i + b ∧ 64 * i + b ≤ l)) :=
  testBit_ibrBits_any haw i s l hsl b

theorem or_and_of_imp {o a d : Bool} (h : o = true → a = true) : (o || (a && d)) = true → a = true := by
  cases o
  · cases a
    · exact id
    · exact fun _ => rfl
  · exact fun _ => h rfl

/-- one pass of the loop body for word `i`.  A word the run covers is overwritten with `aBitmap[i]`; that stores
nothing that or-ing would not have stored, because what the output holds is a part of `a` (`hsub`). -/
theorem ibrStep {aws out : List Nat} (ha : WordsWF aws) (hw : WordsWF out) {s l : Nat} (i : Nat) (hsl : s ≤ l)
    (hsub : ∀ p, s ≤ p → p ≤ l → bitp out p = true → bitp aws p = true) :
    WordsWF (ibrStore out i (ibrBits (aws.getD i 0) i s l) (ibrAssign i s l)) ∧
    (∀ p, p < 65536 → bitp (ibrStore out i (ibrBits (aws.getD i 0) i s l) (ibrAssign i s l)) p
      = (bitp out p || (bitp aws p && decide (p / 64 = i ∧ s ≤ p ∧ p ≤ l)))) ∧
    popcount (ibrBits (aws.getD i 0) i s l)
      = cnt (fun p => bitp aws p && decide (s ≤ p ∧ p ≤ l)) (64 * i) (64 * (i + 1)) := by
  have hawi := getD_lt ha.2 i
  have hbl := ibrBits_lt hawi i s l
  refine ⟨mapIdx_wf hw _ (fun _ _ hwk => ite_lt (ite_lt hbl (Nat.or_lt_two_pow hwk hbl)) hwk), fun p hp => ?_, ?_⟩
  · unfold ibrStore
    rw [bitp_mapIdx _ out p (by rw [hw.1]; exact hp)]
    by_cases hk : p / 64 = i
    · subst hk
      have hb := Nat.mod_lt p (by decide : 64 > 0)
      have hbit := testBit_ibrBits_any hawi (p / 64) s l hsl (p % 64)
      rw [Nat.div_add_mod, decide_iff (and_iff_right hb)] at hbit
      rw [if_pos rfl, decide_iff (and_iff_right rfl)]
      by_cases hass : ibrAssign (p / 64) s l = true
      · have c := of_decide_eq_true hass
        have hp' := Nat.div_add_mod p 64
        have hin : s ≤ p ∧ p ≤ l := by omega
        rw [if_pos hass, hbit, decide_eq_true hin]
        show (bitp aws p && true) = (bitp out p || (bitp aws p && true))
        rw [Bool.and_true]
        cases ho : bitp out p
        · rfl
        · exact hsub p hin.1 hin.2 ho
      · rw [if_neg hass, Nat.testBit_or, hbit]
        rfl
    · rw [if_neg hk, decide_eq_false (fun h => hk h.1), Bool.and_false, Bool.or_false]
      rfl
  · unfold popcount
    rw [Nat.mul_succ, ← Nat.add_zero (64 * i), Nat.add_assoc, Nat.zero_add, cnt_translate]
    apply cnt_congr
    intro t _ ht
    rw [testBit_ibrBits_any hawi i s l hsl t, bitp_word aws i ht, decide_iff (and_iff_right ht)]

theorem ibrRun_words {aws : List Nat} (ha : WordsWF aws) (s l : Nat) (hsl : s ≤ l) (hl : l ≤ 65535) :
    ∀ (c i : Nat) (acc : Nat × List Nat), WordsWF acc.2 → s / 64 ≤ i → i + c = l / 64 + 1 →
      (∀ p, s ≤ p → p ≤ l → bitp acc.2 p = true → bitp aws p = true) →
      WordsWF (ibrRun aws s l i c acc).2 ∧
      (∀ p, p < 65536 → bitp (ibrRun aws s l i c acc).2 p
        = (bitp acc.2 p || (bitp aws p && decide (64 * i ≤ p ∧ s ≤ p ∧ p ≤ l)))) ∧
      (ibrRun aws s l i c acc).1
        = acc.1 + cnt (fun p => bitp aws p && decide (s ≤ p ∧ p ≤ l)) (64 * i) (64 * (i + c)) := by
  intro c
  induction c with
  | zero =>
    intro i acc hw _ hic _
    refine ⟨hw, fun p _ => ?_, ?_⟩
    · rw [decide_eq_false (by omega), Bool.and_false, Bool.or_false]
      rfl
    · show acc.1 = acc.1 + cnt _ (64 * i) (64 * i)
      rw [cnt_eq_zero_of_le (Nat.le_refl _)]
      rfl
  | succ c ih =>
    intro i acc hw h1 hic hsub
    have S := ibrStep ha hw i hsl hsub
    have IH := ih (i + 1) (acc.1 + popcount (ibrBits (aws.getD i 0) i s l),
      ibrStore acc.2 i (ibrBits (aws.getD i 0) i s l) (ibrAssign i s l)) S.1 (by omega) (by omega)
      (fun p h1' h2' => by
        rw [S.2.1 p (Nat.lt_succ_of_le (Nat.le_trans h2' hl))]
        exact or_and_of_imp (hsub p h1' h2'))
    rw [ibrRun, if_pos (by omega)]
    simp only []
    refine ⟨IH.1, fun p hp => ?_, ?_⟩
    · rw [IH.2.1 p hp, S.2.1 p hp, Bool.or_assoc, ← Bool.and_or_distrib_left, ← Bool.decide_or,
        decide_iff (by omega : (p / 64 = i ∧ s ≤ p ∧ p ≤ l) ∨ (64 * (i + 1) ≤ p ∧ s ≤ p ∧ p ≤ l) ↔
          (64 * i ≤ p ∧ s ≤ p ∧ p ≤ l))]
    · rw [IH.2.2, S.2.2, Nat.add_assoc, Nat.add_assoc i 1 c, Nat.add_comm 1 c,
        ← cnt_split _ (Nat.mul_le_mul_left 64 (Nat.le_succ i)) (Nat.mul_le_mul_left 64 (by omega))]

theorem ibrRun_spec {aws : List Nat} (ha : WordsWF aws) (r : Iv) (hr : r.start ≤ r.last ∧ r.last ≤ 65535)
    (acc : Nat × List Nat) (hw : WordsWF acc.2)
    (hsub : ∀ p, inIv r p = true → bitp acc.2 p = true → bitp aws p = true) :
    let res := ibrRun aws r.start r.last (r.start / 64) (r.last / 64 + 1 - r.start / 64) acc
    WordsWF res.2 ∧
    (∀ p, p < 65536 → bitp res.2 p = (bitp acc.2 p || (bitp aws p && inIv r p))) ∧
    res.1 = acc.1 + cnt (fun p => bitp aws p && inIv r p) 0 65536 := by
  have hxy : r.start / 64 ≤ r.last / 64 := Nat.div_le_div_right hr.1
  have hc : r.start / 64 + (r.last / 64 + 1 - r.start / 64) = r.last / 64 + 1 := by omega
  have W := ibrRun_words ha r.start r.last hr.1 hr.2 _ (r.start / 64) acc hw (Nat.le_refl _) hc
    (fun p h1 h2 => hsub p ((inIv_iff r p).mpr ⟨h1, h2⟩))
  refine ⟨W.1, fun p hp => ?_, ?_⟩
  · rw [W.2.1 p hp]
    unfold inIv
    rw [decide_iff (and_iff_right_of_imp (fun h => Nat.le_trans (Nat.mul_div_le _ 64) h.1))]
  · rw [W.2.2, hc]
    -- outside its words the run has no position
    exact congrArg _ (cnt_restrict (Nat.zero_le _) (Nat.mul_le_mul_left 64 (Nat.le_succ_of_le hxy)) (by omega)
      (fun p _ h => by rw [decide_eq_false (by omega), Bool.and_false])
      (fun p h _ => by rw [decide_eq_false (by omega), Bool.and_false])).symm

/-- The invariant of `intersectBitmapRun`: on the runs still to come the output is a part of `a`.  Every step keeps it
for a Boolean reason, so the bits need no order of the runs; the count needs them disjoint. -/
theorem wIntersectRuns_sub {aws : List Nat} (ha : WordsWF aws) (rb : List Iv) :
    ∀ (acc : Nat × List Nat), WordsWF acc.2 → RunsWF rb →
      (∀ p, inRuns rb p = true → bitp acc.2 p = true → bitp aws p = true) →
      let res := rb.foldl (fun acc r => ibrRun aws r.start r.last (r.start / 64) (r.last / 64 + 1 - r.start / 64) acc) acc
      WordsWF res.2 ∧
      (∀ p, p < 65536 → bitp res.2 p = (bitp acc.2 p || (bitp aws p && inRuns rb p))) ∧
      res.1 = acc.1 + cnt (fun p => bitp aws p && inRuns rb p) 0 65536 := by
  induction rb with
  | nil =>
    intro acc hw _ _
    refine ⟨hw, fun p _ => by rw [inRuns_nil, Bool.and_false, Bool.or_false]; rfl, ?_⟩
    rw [cnt_false (p := fun p => bitp aws p && inRuns [] p) (fun _ _ _ => Bool.and_false _)]
    rfl
  | cons r rest ih =>
    intro acc hw hr hsub
    have S := ibrRun_spec ha r (RunsWF.head hr) acc hw (fun p hp => hsub p (by rw [inRuns_cons, hp]; rfl))
    have IH := ih _ S.1 (RunsWF.tail hr) (fun p hp => by
      rw [S.2.1 p (inRuns_lt65536 (RunsWF.tail hr) hp)]
      exact or_and_of_imp (hsub p (by rw [inRuns_cons, hp, Bool.or_true])))
    rw [List.foldl_cons]
    refine ⟨IH.1, fun p hp => ?_, ?_⟩
    · rw [IH.2.1 p hp, S.2.1 p hp, inRuns_cons, Bool.or_assoc, ← Bool.and_or_distrib_left]
    · rw [IH.2.2, S.2.2, Nat.add_assoc, ← cnt_or_disjoint]
      · exact congrArg _ (cnt_congr (fun p _ _ => by rw [inRuns_cons, Bool.and_or_distrib_left]))
      · intro p _ _ ⟨h1, h2⟩
        rw [Bool.and_eq_true] at h1 h2
        have := inIv_and_inRuns_above (RunsWF.gt hr) p
        rw [h1.2, h2.2] at this
        cases this

/-- an output with no bit at or after `B`, where every run starts, is a special case. -/
theorem wIntersectRuns_fold {aws : List Nat} (ha : WordsWF aws) (rb : List Iv) :
    ∀ (acc : Nat × List Nat) (B : Nat), WordsWF acc.2 → RunsWF rb → (∀ p, B ≤ p → bitp acc.2 p = false) →
      (∀ r ∈ rb, B ≤ r.start) →
      let res := rb.foldl (fun acc r => ibrRun aws r.start r.last (r.start / 64) (r.last / 64 + 1 - r.start / 64) acc) acc
      WordsWF res.2 ∧
      (∀ p, p < 65536 → bitp res.2 p = (bitp acc.2 p || (bitp aws p && inRuns rb p))) ∧
      res.1 = acc.1 + cnt (fun p => bitp aws p && inRuns rb p) 0 65536 :=
  fun acc _ hw hr hold hB => wIntersectRuns_sub ha rb acc hw hr
    (fun p hp ho => by rw [hold p (above_of_starts hB p hp)] at ho; cases ho)

theorem replicate_wf : WordsWF (List.replicate 1024 0) :=
  ⟨List.length_replicate, fun w hw => by rw [List.eq_of_mem_replicate hw]; exact Nat.two_pow_pos 64⟩

theorem bitp_replicate (p : Nat) : bitp (List.replicate 1024 0) p = false := by
  unfold bitp
  rw [List.getD_eq_getElem?_getD]
  cases h : (List.replicate 1024 0)[p / 64]? with
  | none => exact Nat.zero_testBit _
  | some w => rw [List.eq_of_mem_replicate (List.mem_of_getElem? h)]; exact Nat.zero_testBit _

theorem wIntersectRuns_refines {aws : List Nat} {rb : List Iv} (ha : WordsWF aws) (hr : RunsWF rb) :
    WordsWF (wIntersectRuns aws rb).2 ∧
    absW (wIntersectRuns aws rb).2 = Spec.inter (absW aws) (runValues rb) ∧
    (wIntersectRuns aws rb).1 = (absW (wIntersectRuns aws rb).2).length := by
  have F := wIntersectRuns_sub ha rb (0, List.replicate 1024 0) replicate_wf hr
    (fun p _ ho => by rw [bitp_replicate] at ho; cases ho)
  simp only [bitp_replicate, Bool.false_or, Nat.zero_add] at F
  refine ⟨F.1, absW_eq_op _ rfl F.1 (sorted_absW aws) (runValues_sorted hr) (absW_lt ha) (runValues_lt hr)
    (fun p hp => ?_), ?_⟩
  · rw [decide_mem_absW ha hp, decide_mem_runValues]
    exact F.2.1 p hp
  · exact F.2.2.trans ((cnt_congr (fun p _ hp => (F.2.1 p hp).symm)).trans (card_eq_cnt F.1).symm)

theorem wShiftLoop_length (ws : List Nat) : ∀ c, (wShiftLoop ws c).1.length = ws.length := by
  induction ws with
  | nil => intro c; rfl
  | cons v rest ih => intro c; rw [wShiftLoop, List.length_cons, List.length_cons, ih]

/-- output word `k` is `v << 1` or-ed with the carry out of word `k - 1`. -/
theorem wShiftLoop_getD (ws : List Nat) : ∀ (c k : Nat), k < ws.length →
    (wShiftLoop ws c).1.getD k 0 = (shl (ws.getD k 0) 1 ||| (if k = 0 then c else ws.getD (k - 1) 0 >>> 63)) := by
  induction ws with
  | nil => intro c k hk; cases hk
  | cons v rest ih =>
    intro c k hk
    rw [wShiftLoop]
    cases k with
    | zero => rfl
    | succ k =>
      rw [List.getD_cons_succ, List.getD_cons_succ, ih (v >>> 63) k (Nat.lt_of_succ_lt_succ hk), if_neg (Nat.succ_ne_zero k)]
      cases k with
      | zero => rfl
      | succ j => rfl

theorem wShiftLoop_carry (ws : List Nat) : ∀ c, (wShiftLoop ws c).2 = (if ws.length = 0 then c else ws.getD (ws.length - 1) 0 >>> 63) := by
  induction ws with
  | nil => intro c; rfl
  | cons v rest ih =>
    intro c
    rw [wShiftLoop, ih (v >>> 63)]
    cases rest with
    | nil => simp
    | cons w r => simp

theorem testBit_shr63 {x : Nat} (hx : x < 2 ^ 64) (b : Nat) : (x >>> 63).testBit b = (decide (b = 0) && x.testBit 63) := by
  rw [Nat.testBit_shiftRight]
  cases b with
  | zero => rfl
  | succ b => exact testBit_high hx (by omega)

/-- the carry `v >> 63` is bit 63 as a number. -/
theorem shr63_eq {x : Nat} (hx : x < 2 ^ 64) : x >>> 63 = (x.testBit 63).toNat := by
  rw [Nat.toNat_testBit, Nat.shiftRight_eq_div_pow, Nat.mod_eq_of_lt (Nat.div_lt_of_lt_mul hx)]

theorem wShift_wf {ws : List Nat} (h : WordsWF ws) : WordsWF (wShiftLoop ws 0).1 :=
  (bitp_of_getD _ ((wShiftLoop_length ws 0).trans h.1) (fun k hk =>
    ⟨wShiftLoop_getD ws 0 k (by rw [h.1]; exact hk),
     Nat.or_lt_two_pow (shl_lt _ _) (ite_lt (Nat.two_pow_pos 64) (shr_lt (getD_lt h.2 _) 63))⟩)).1

theorem bitp_shift {ws : List Nat} (h : WordsWF ws) (p : Nat) (hp : p < 65536) :
    bitp (wShiftLoop ws 0).1 p = (decide (1 ≤ p) && bitp ws (p - 1)) := by
  cases p with
  | zero =>
    show ((wShiftLoop ws 0).1.getD 0 0).testBit 0 = false
    rw [wShiftLoop_getD ws 0 0 (by rw [h.1]; decide), if_pos rfl, Nat.testBit_or, testBit_shl, Nat.zero_testBit,
      decide_eq_false (Nat.not_succ_le_zero 0), Bool.and_false, Bool.false_and]
    rfl
  | succ q =>
    -- `q = 64 k + b`: its bit moves inside word `k`, or from bit 63 to bit 0 of word `k + 1` through the carry
    have hq := Nat.div_add_mod q 64
    have hb := Nat.mod_lt q (by decide : 64 > 0)
    generalize q / 64 = k at hq
    generalize q % 64 = b at hq hb
    subst hq
    rw [decide_eq_true (Nat.le_add_left 1 _), Bool.true_and, Nat.add_sub_cancel, bitp_word ws k hb]
    by_cases hb63 : b = 63
    · subst hb63
      rw [Nat.add_assoc, ← Nat.mul_succ, ← Nat.add_zero (64 * (k + 1)), bitp_word _ (k + 1) (by decide),
        wShiftLoop_getD ws 0 (k + 1) (by rw [h.1]; omega), if_neg (Nat.succ_ne_zero k), Nat.testBit_or, testBit_shl,
        testBit_shr63 (getD_lt h.2 _)]
      rfl
    · rw [Nat.add_assoc, bitp_word _ k (by omega : b + 1 < 64), wShiftLoop_getD ws 0 k (by rw [h.1]; omega),
        Nat.testBit_or, testBit_shl, decide_eq_true (by omega : b + 1 < 64), decide_eq_true (Nat.le_add_left 1 b),
        Nat.add_sub_cancel]
      have : (if k = 0 then 0 else ws.getD (k - 1) 0 >>> 63).testBit (b + 1) = false := by
        split
        · exact Nat.zero_testBit _
        · rw [testBit_shr63 (getD_lt h.2 _)]; rfl
      rw [this, Bool.or_false]
      rfl

/-- `shiftBitmap`: bit 65535 leaves as the carry and `n` drops by the carry. -/
theorem wShift_refines {ws : List Nat} {n : Nat} (h : WordsWF ws) (hn : n = (absW ws).length) :
    WordsWF (wShift n ws).2.1 ∧
    absW (wShift n ws).2.1 = Spec.shift 65536 (absW ws) ∧
    (wShift n ws).2.2 = decide (65535 ∈ absW ws) ∧
    (wShift n ws).1 = (absW (wShift n ws).2.1).length := by
  have hw := wShift_wf h
  have hcarry : (wShiftLoop ws 0).2 = (bitp ws 65535).toNat := by
    rw [wShiftLoop_carry, if_neg (by rw [h.1]; decide), h.1, shr63_eq (getD_lt h.2 _)]
    rfl
  -- the positions below 65535 stay (moved), position 65535 is the carry
  have e1 : (absW ws).length = cnt (bitp ws) 0 65535 + (bitp ws 65535).toNat := by
    rw [card_eq_cnt h, cnt_split (bitp ws) (Nat.zero_le 65535) (Nat.le_succ 65535),
      cnt_succ_left _ (Nat.lt_succ_self 65535), cnt_eq_zero_of_le (Nat.le_refl _), Nat.add_zero]
    cases bitp ws 65535 <;> rfl
  have e2 : (absW (wShiftLoop ws 0).1).length = cnt (bitp ws) 0 65535 := by
    have e := (cnt_translate (bitp (wShiftLoop ws 0).1) 1 0 65535 :
      cnt (bitp (wShiftLoop ws 0).1) (0 + 1) 65536 = cnt (fun w => bitp (wShiftLoop ws 0).1 (1 + w)) 0 65535)
    rw [card_eq_cnt hw, cnt_succ_left _ (by decide : 0 < 65536), bitp_shift h 0 (by decide), e,
      decide_eq_false (Nat.not_succ_le_zero 0), Bool.false_and, if_neg Bool.false_ne_true, Nat.zero_add]
    apply cnt_congr
    intro w _ hw'
    rw [bitp_shift h (1 + w) (by omega), decide_eq_true (Nat.le_add_right 1 w), Bool.true_and, Nat.add_sub_cancel_left]
  refine ⟨hw, ?_, ?_, ?_⟩
  · apply absW_ext hw (sorted_shift 65536 (sorted_absW ws)) (fun v hv => ((mem_shift _ _ v).mp hv).2.1)
    intro p hp
    rw [bitp_shift h p hp, mem_shift, Bool.and_eq_true, decide_eq_true_eq, bitp_iff_absW h (p - 1) (by omega)]
    exact ⟨fun ⟨a, b⟩ => ⟨a, hp, b⟩, fun ⟨a, _, b⟩ => ⟨a, b⟩⟩
  · show ((wShiftLoop ws 0).2 != 0) = _
    rw [hcarry, decide_mem_absW h (by decide)]
    cases bitp ws 65535 <;> rfl
  · show n - (wShiftLoop ws 0).2 = (absW (wShiftLoop ws 0).1).length
    rw [hcarry, hn, e1, e2, Nat.add_sub_cancel]

end PV.C01
