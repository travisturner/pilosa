/-
C01 property theorems: roaring bitmap reads and set operations match set semantics.

Full-strength statement (properties.jsonl C01): for every set of 64-bit integers in every
encoding, every read returns what the same read on the mathematical set returns and every set
operation returns the mathematical result.

Objects.  `Container` / `Bitmap` are the models of the Go data structures (Model.lean,
Bitmap.lean); `c.values` / `b.values` is the mathematical set a container / bitmap denotes (an
ascending duplicate-free list); `c.WF` / `b.WF` are the representation invariants (ascending
arrays, ascending non-overlapping runs, stored cardinality equal to the number of values, keys
ascending; empty and nil containers are allowed).  All theorems are unbounded (induction); the
helper lemmas live in Lemmas*.lean.

The bitmap encoding has two model levels: the set level (`Container.bitmap n bits`, used by the
dispatchers and the Bitmap layer) and the word level of Words.lean / Words2.lean (1024 words of 64
bits with the Go shift / mask / popcount arithmetic).  `C01_countRange_bitmap`, `C01_kernel_flip`,
`C01_kernel_bitmap_bit_updates` and the `C01_kernel_*_words` theorems prove that the word-level
kernels commute with the abstraction `absW`, including the stored cardinality.  What is modelled at
set level only is named in `C01_kernel_bitmap_rest_partial`.
-/
import PV.C01.LemmasDispatch
import PV.C01.LemmasL2Iter
import PV.C01.LemmasL2Reads
import PV.C01.LemmasL2Shift
import PV.C01.LemmasDec
import PV.C01.LemmasL2More
import PV.C01.LemmasNary
import PV.C01.LemmasWords2
namespace PV.C01
open Spec

/-! ## Containers: membership and range count -/

/-- `Container.Contains` is membership in the denoted set (all three encodings; the run case is
the binary search `binSearchRuns`). -/
theorem C01_container_contains {c : Container} (h : c.WF) (v : Nat) :
    mem c v = decide (v ∈ c.values) := mem_eq h v

example : (Container.run 5 [⟨1, 3⟩, ⟨9, 10⟩]).WF ∧ (Container.array [1, 70]).WF ∧ (Container.bitmap 2 [0, 65535]).WF := by decide

/-- `runCountRange` as coded after the fix: the kernel whose boundary cases (`run.start == start`,
`run.last == end`) returned 0 before. -/
theorem C01_countRange_run {n : Nat} {ivs : List Iv} (h : (Container.run n ivs).WF) (s e : Nat) (hse : s ≤ e) :
    (Container.run n ivs).countRange s e = cnt (fun v => mem (.run n ivs) v) s e := by
  rw [Container.countRange_spec h s e]
  exact cnt_congr (fun v _ _ => (mem_eq h v).symm)

example : (Container.run 3 [⟨1, 3⟩]).WF ∧ (1 : Nat) ≤ 3 := by decide

/-- the witness of the repaired defect. -/
theorem C01_countRange_run_fixed_witness : (Container.run 3 [⟨1, 3⟩]).countRange 1 3 = 2 := by decide

theorem C01_countRange_array {xs : List Nat} (h : (Container.array xs).WF) (s e : Nat) (hse : s ≤ e) :
    (Container.array xs).countRange s e = cnt (fun v => mem (.array xs) v) s e := by
  rw [Container.countRange_spec h s e]
  exact cnt_congr (fun v _ _ => (mem_eq h v).symm)

example : (Container.array [1, 2, 3, 9]).WF := by decide

/-- bitmap encoding, WORD level: `bitmapCountRange` with its same-word case
`popcount((w >> offi) << (offj + offi))`, the partial first word `popcount(w >> off)`, the whole
words in between and the partial last word `popcount(w << off)` counts exactly the set positions
of `[s, e)`; and it is the set-level kernel on the abstraction.  (`e ≤ 65536`; the Go function
indexes word 1024 for `s = e = 65536`, which its callers never pass.) -/
theorem C01_countRange_bitmap {ws : List Nat} (h : WordsWF ws) (s e : Nat) (hse : s ≤ e) (he : e ≤ 65536) :
    wCountRange ws s e = cnt (fun v => decide (v ∈ absW ws)) s e ∧
    wCountRange ws s e = (Container.bitmap (absW ws).length (absW ws)).countRange s e := by
  have he' : e ≤ 64 * ws.length := by rw [h.1]; omega
  exact ⟨by rw [wCountRange_spec ws h.2 s e hse he', cnt_absW ws s e he'], wCountRange_refines h s e hse he⟩

theorem C01_words_abs {ws : List Nat} (h : WordsWF ws) : (Container.bitmap (absW ws).length (absW ws)).WF :=
  ⟨sorted_absW ws, absW_lt h, rfl⟩

example : WordsWF (List.replicate 1023 0 ++ [2 ^ 63 + 5]) := by
  refine ⟨by rw [List.length_append, List.length_replicate]; rfl, fun w hw => ?_⟩
  rcases List.mem_append.mp hw with h | h
  · rw [List.eq_of_mem_replicate h]; exact Nat.two_pow_pos 64
  · rw [List.mem_singleton.mp h]; decide

/-! ## Container kernels, per encoding pair (array and run kernels follow the Go loops) -/

section kernels
variable {xa xb : List Nat} {ra rb : List Iv} {na nb : Nat}

theorem C01_kernel_intersect_array_array (ha : (Container.array xa).WF) (hb : (Container.array xb).WF) :
    (Container.array (intersectArrayArray (xa.length + xb.length + 1) xa xb)).WF ∧
    ∀ v, v ∈ intersectArrayArray (xa.length + xb.length + 1) xa xb ↔ (v ∈ xa ∧ v ∈ xb) :=
  intersectArrayArray_denotes ha hb

theorem C01_kernel_intersect_array_run (ha : (Container.array xa).WF) (hb : (Container.run nb rb).WF) :
    (Container.array (intersectArrayRun (xa.length + rb.length + 1) xa rb)).WF ∧
    ∀ v, v ∈ intersectArrayRun (xa.length + rb.length + 1) xa rb ↔ (v ∈ xa ∧ v ∈ runValues rb) :=
  intersectArrayRun_denotes ha hb

theorem C01_kernel_union_array_array (ha : (Container.array xa).WF) (hb : (Container.array xb).WF) :
    (Container.array (unionArrayArray (xa.length + xb.length + 1) xa xb)).WF ∧
    ∀ v, v ∈ unionArrayArray (xa.length + xb.length + 1) xa xb ↔ (v ∈ xa ∨ v ∈ xb) :=
  unionArrayArray_denotes ha hb

/-- differenceArrayArray (the output switches to a bitmap above 4096 values). -/
theorem C01_kernel_difference_array_array (ha : (Container.array xa).WF) (hb : (Container.array xb).WF) :
    (differenceArrayArray xa xb).WF ∧ ∀ v, v ∈ (differenceArrayArray xa xb).values ↔ (v ∈ xa ∧ v ∉ xb) :=
  differenceArrayArray_denotes ha hb

theorem C01_kernel_difference_array_run (ha : (Container.array xa).WF) (hb : (Container.run nb rb).WF) :
    (Container.array (differenceArrayRun (xa.length + rb.length + 1) xa rb)).WF ∧
    ∀ v, v ∈ differenceArrayRun (xa.length + rb.length + 1) xa rb ↔ (v ∈ xa ∧ v ∉ runValues rb) :=
  differenceArrayRun_denotes ha hb

theorem C01_kernel_xor_array_array (ha : (Container.array xa).WF) (hb : (Container.array xb).WF) :
    (Container.array (xorArrayArray (xa.length + xb.length + 1) xa xb)).WF ∧
    ∀ v, v ∈ xorArrayArray (xa.length + xb.length + 1) xa xb ↔ ((v ∈ xa ∧ v ∉ xb) ∨ (v ∉ xa ∧ v ∈ xb)) :=
  xorArrayArray_denotes ha hb

example : (Container.array [0, 5, 4096]).WF ∧ (Container.array [5, 65535]).WF ∧ (Container.run 4 [⟨4, 6⟩, ⟨65535, 65535⟩]).WF := by decide

theorem C01_kernel_intersect_run_run (ha : (Container.run na ra).WF) (hb : (Container.run nb rb).WF) :
    (intersectRunRun ra rb).WF ∧ ∀ v, v ∈ (intersectRunRun ra rb).values ↔ (v ∈ runValues ra ∧ v ∈ runValues rb) :=
  intersectRunRun_denotes ha hb

theorem C01_kernel_union_run_run (ha : (Container.run na ra).WF) (hb : (Container.run nb rb).WF) :
    (unionRunRun ra rb).WF ∧ ∀ v, v ∈ (unionRunRun ra rb).values ↔ (v ∈ runValues ra ∨ v ∈ runValues rb) :=
  unionRunRun_denotes ha hb

theorem C01_kernel_union_array_run (ha : (Container.array xa).WF) (hb : (Container.run nb rb).WF) :
    (unionArrayRun xa rb).WF ∧ ∀ v, v ∈ (unionArrayRun xa rb).values ↔ (v ∈ xa ∨ v ∈ runValues rb) :=
  unionArrayRun_denotes ha hb

/-- xorRunRun (the `xorCompare` state machine). -/
theorem C01_kernel_xor_run_run (ha : (Container.run na ra).WF) (hb : (Container.run nb rb).WF) :
    (xorRunRun ra rb).WF ∧ ∀ v, v ∈ (xorRunRun ra rb).values ↔
      ((v ∈ runValues ra ∧ v ∉ runValues rb) ∨ (v ∉ runValues ra ∧ v ∈ runValues rb)) :=
  xorRunRun_denotes ha hb

theorem C01_kernel_xor_array_run (ha : (Container.array xa).WF) (hb : (Container.run nb rb).WF) :
    (xorArrayRun xa rb).WF ∧ ∀ v, v ∈ (xorArrayRun xa rb).values ↔
      ((v ∈ xa ∧ v ∉ runValues rb) ∨ (v ∉ xa ∧ v ∈ runValues rb)) :=
  xorArrayRun_denotes ha hb

theorem C01_kernel_difference_run_run (ha : (Container.run na ra).WF) (hb : (Container.run nb rb).WF) :
    (differenceRunRun ra rb).WF ∧ ∀ v, v ∈ (differenceRunRun ra rb).values ↔ (v ∈ runValues ra ∧ v ∉ runValues rb) :=
  differenceRunRun_denotes ha hb

/-- differenceRunArray (including the uint16-overflow exits of the Go loop); the result goes
through `optimize`, so it may be nil when nothing is left. -/
theorem C01_kernel_difference_run_array (ha : (Container.run na ra).WF) (hb : (Container.array xb).WF)
    (hne : xb ≠ []) :
    WFO (differenceRunArray ra xb) ∧ ∀ v, v ∈ valuesO (differenceRunArray ra xb) ↔ (v ∈ runValues ra ∧ v ∉ xb) :=
  differenceRunArray_denotes ha hb

example : (Container.run 7 [⟨0, 2⟩, ⟨10, 12⟩, ⟨65535, 65535⟩]).WF ∧ (Container.run 3 [⟨2, 3⟩, ⟨12, 12⟩]).WF ∧
    (Container.array [0, 11, 65535]).WF ∧ ([0, 11, 65535] : List Nat) ≠ [] := by decide

theorem C01_kernel_intersectionCount_array_array (ha : (Container.array xa).WF) (hb : (Container.array xb).WF) :
    intersectionCountArrayArray xa xb = (xa.filter (fun v => decide (v ∈ xb))).length :=
  intersectionCountArrayArray_spec xa xb ha.1 hb.1

theorem C01_kernel_intersectionCount_array_run (ha : (Container.array xa).WF) (hb : (Container.run nb rb).WF) :
    intersectionCountArrayRun (xa.length + rb.length + 1) xa rb = (xa.filter (fun v => decide (v ∈ runValues rb))).length :=
  intersectionCountArrayRun_interLen ha.1 hb.1

theorem C01_kernel_intersectionCount_run_run (ha : (Container.run na ra).WF) (hb : (Container.run nb rb).WF) :
    intersectionCountRunRun (ra.length + rb.length + 1) ra rb
      = cnt (fun v => mem (.run na ra) v && mem (.run nb rb) v) 0 65536 := by
  rw [intersectionCountRunRun_spec _ ra rb ha.1 hb.1 (by omega)]
  apply cnt_congr
  intro v _ _
  show _ = (runContains ra v && runContains rb v)
  rw [runContains_eq ha.1, runContains_eq hb.1]

end kernels

/-! ## Container kernels through their dispatchers, every pairing of encodings -/

/-- `intersect(a, b)`: well-formed result (nil allowed), exactly the common values, stored
cardinality correct. All nine pairings and the full / empty shortcuts. -/
theorem C01_kernel_intersect {a b : Container} (ha : a.WF) (hb : b.WF) :
    WFO (intersect a b) ∧ (∀ v, memO (intersect a b) v = (mem a v && mem b v)) ∧
    N (intersect a b) = (valuesO (intersect a b)).length :=
  ⟨(intersect_spec ha hb).1, (kernelOK_intersect a b ha hb).2, N_eq_length (intersect_spec ha hb).1⟩

theorem C01_kernel_union {a b : Container} (ha : a.WF) (hb : b.WF) :
    (union a b).WF ∧ (∀ v, mem (union a b) v = (mem a v || mem b v)) ∧
    (union a b).n = (union a b).values.length :=
  ⟨(union_spec ha hb).1, (kernelOK_union a b ha hb).2, (Container.values_length (union_spec ha hb).1).symm⟩

theorem C01_kernel_difference {a b : Container} (ha : a.WF) (hb : b.WF) :
    WFO (difference a b) ∧ (∀ v, memO (difference a b) v = (mem a v && !mem b v)) ∧
    N (difference a b) = (valuesO (difference a b)).length :=
  ⟨(difference_spec ha hb).1, (kernelOK_difference a b ha hb).2, N_eq_length (difference_spec ha hb).1⟩

theorem C01_kernel_xor {a b : Container} (ha : a.WF) (hb : b.WF) :
    WFO (xor a b) ∧ (∀ v, memO (xor a b) v = (mem a v != mem b v)) ∧
    N (xor a b) = (valuesO (xor a b)).length :=
  ⟨(xor_spec ha hb).1, (kernelOK_xor a b ha hb).2, N_eq_length (xor_spec ha hb).1⟩

theorem C01_kernel_intersectionCount {a b : Container} (ha : a.WF) (hb : b.WF) :
    intersectionCount a b = (a.values.filter (fun v => decide (v ∈ b.values))).length :=
  intersectionCount_spec ha hb

example : (Container.bitmap 2 [3, 9]).WF ∧ (Container.run 65536 [⟨0, 65535⟩]).WF ∧ (Container.array []).WF := by decide

/-- WORD level of the range kernels: `unionBitmapRun` (one `bitmapSetRange` per run),
`differenceBitmapRun` (`bitmapZeroRange`), `xorBitmapRun` (`bitmapXorRange`) and
`intersectionCountBitmapRun` (`bitmapCountRange` per run) with the masks
`X = maxBitmap << (i % 64)`, `Y = maxBitmap >> (63 - (j-1) % 64)`, the one-word / first / middle /
last word cases and the popcount bookkeeping of `n`: the resulting words are well-formed, their
abstraction is the set operation of the set-level model, and the stored `n` is its cardinality. -/
theorem C01_kernel_bitmap_words {ws : List Nat} {rb : List Iv} {n : Nat} (h : WordsWF ws) (hr : RunsWF rb)
    (hn : n = (absW ws).length) :
    (WordsWF (wUnionRunsN n ws rb).2 ∧ absW (wUnionRunsN n ws rb).2 = Spec.union (absW ws) (runValues rb) ∧
      (wUnionRunsN n ws rb).1 = (absW (wUnionRunsN n ws rb).2).length ∧
      ∀ v, v ∈ absW (wUnionRunsN n ws rb).2 ↔ (v ∈ absW ws ∨ v ∈ runValues rb)) ∧
    (WordsWF (wDiffRunsN n ws rb).2 ∧ absW (wDiffRunsN n ws rb).2 = Spec.diff (absW ws) (runValues rb) ∧
      (wDiffRunsN n ws rb).1 = (absW (wDiffRunsN n ws rb).2).length ∧
      ∀ v, v ∈ absW (wDiffRunsN n ws rb).2 ↔ (v ∈ absW ws ∧ v ∉ runValues rb)) ∧
    (WordsWF (wXorRunsN n ws rb).2 ∧ absW (wXorRunsN n ws rb).2 = Spec.xor (absW ws) (runValues rb) ∧
      (wXorRunsN n ws rb).1 = (absW (wXorRunsN n ws rb).2).length ∧
      ∀ v, v ∈ absW (wXorRunsN n ws rb).2 ↔ ((v ∈ absW ws ∧ v ∉ runValues rb) ∨ (v ∉ absW ws ∧ v ∈ runValues rb))) ∧
    wIntersectionCountRuns ws rb = intersectionCountBitmapRun (absW ws) rb := by
  have hs := sorted_absW ws
  have hrs := runValues_sorted hr
  have U := wRunsN_refines wSetRange wSetRangeN (fun x y => x || y) (by decide) (by decide) wSetRange_wf
    bitp_setRange wSetRangeN_spec h hr hn
  have D := wRunsN_refines wZeroRange wZeroRangeN (fun x y => x && !y) (by decide) (by decide) wZeroRange_wf
    bitp_zeroRange wZeroRangeN_spec h hr hn
  have X := wRunsN_refines wXorRange wXorRangeN (fun x y => x != y) (by decide) (by decide) wXorRange_wf
    bitp_xorRange wXorRangeN_spec h hr hn
  exact ⟨⟨U.1, U.2.1, U.2.2, fun v => (congrArg (v ∈ ·) U.2.1).to_iff.trans (mem_union hs hrs v)⟩,
    ⟨D.1, D.2.1, D.2.2, fun v => (congrArg (v ∈ ·) D.2.1).to_iff.trans (mem_diff hs hrs v)⟩,
    ⟨X.1, X.2.1, X.2.2, fun v => (congrArg (v ∈ ·) X.2.1).to_iff.trans (mem_xor hs hrs v)⟩,
    wIntersectionCountRuns_refines h rb hr⟩

example : RunsWF [⟨5, 64⟩, ⟨128, 128⟩, ⟨4090, 65535⟩] := by decide

/-- WORD level of the bitmap × bitmap kernels (`intersectBitmapBitmap`, `unionBitmapBitmap`,
`differenceBitmapBitmap`, `xorBitmapBitmap`): `ob[i] = ab[i] op bb[i]` with `n += popcount(ob[i])`
is the set operation on the abstractions with the right cardinality. -/
theorem C01_kernel_bitmap_bitmap_words {a b : List Nat} (ha : WordsWF a) (hb : WordsWF b) :
    (WordsWF (wAndN a b).2 ∧ absW (wAndN a b).2 = Spec.inter (absW a) (absW b) ∧ (wAndN a b).1 = (absW (wAndN a b).2).length) ∧
    (WordsWF (wOrN a b).2 ∧ absW (wOrN a b).2 = Spec.union (absW a) (absW b) ∧ (wOrN a b).1 = (absW (wOrN a b).2).length) ∧
    (WordsWF (wAndNotN a b).2 ∧ absW (wAndNotN a b).2 = Spec.diff (absW a) (absW b) ∧
      (wAndNotN a b).1 = (absW (wAndNotN a b).2).length) ∧
    (WordsWF (wXorN a b).2 ∧ absW (wXorN a b).2 = Spec.xor (absW a) (absW b) ∧ (wXorN a b).1 = (absW (wXorN a b).2).length) :=
  ⟨wZipN_refines ha hb _ (fun p q => p && q) rfl (fun x _ _ hy => Nat.and_lt_two_pow x hy)
      (fun x y t _ _ _ => Nat.testBit_and x y t),
    wZipN_refines ha hb _ (fun p q => p || q) rfl (fun _ _ hx hy => Nat.or_lt_two_pow hx hy)
      (fun x y t _ _ _ => Nat.testBit_or x y t),
    wZipN_refines ha hb _ (fun p q => p && !q) rfl (fun x y _ _ => Nat.and_lt_two_pow x (wnot_lt y))
      (fun x _ _ _ hy ht => testBit_andNot x hy ht),
    wZipN_refines ha hb _ (fun p q => p != q) rfl (fun _ _ hx hy => Nat.xor_lt_two_pow hx hy)
      (fun x y t _ _ _ => Nat.testBit_xor x y t)⟩

/-- WORD level of the single-bit operations (`wContains_eq`, `wBitmapAdd_refines`,
`wBitmapRemove_refines`): `bitmapContains` (`bitmap[v/64] & (1 << v%64) != 0`), `bitmapAdd`
(`|= 1 << v%64`, `n+1` when new), `bitmapRemove` (`&^=`, `n-1` when present) — the operations
behind every Add / Remove on a bitmap container. -/
theorem C01_kernel_bitmap_bit_updates {ws : List Nat} {n : Nat} (h : WordsWF ws) (hn : n = (absW ws).length)
    (v : Nat) (hv : v < 65536) :
    wContains ws v = decide (v ∈ absW ws) ∧
    (WordsWF (wBitmapAdd n ws v).2.1 ∧ (∀ p, p ∈ absW (wBitmapAdd n ws v).2.1 ↔ (p ∈ absW ws ∨ p = v)) ∧
      (wBitmapAdd n ws v).1 = (absW (wBitmapAdd n ws v).2.1).length ∧ (wBitmapAdd n ws v).2.2 = !decide (v ∈ absW ws)) ∧
    (WordsWF (wBitmapRemove n ws v).2.1 ∧ (∀ p, p ∈ absW (wBitmapRemove n ws v).2.1 ↔ (p ∈ absW ws ∧ p ≠ v)) ∧
      (wBitmapRemove n ws v).1 = (absW (wBitmapRemove n ws v).2.1).length ∧
      (wBitmapRemove n ws v).2.2 = decide (v ∈ absW ws)) := by
  have A := wBitmapAdd_refines h hn v hv
  have R := wBitmapRemove_refines h hn v hv
  have hm : ∀ p, p ∈ absW ws ↔ p < 65536 ∧ bitp ws p = true := (WDen.self h hn).mem
  refine ⟨?_, ⟨A.1.1, fun p => ?_, A.1.2.2, A.2⟩, ⟨R.1.1, fun p => ?_, R.1.2.2, R.2⟩⟩
  · rw [wContains_eq, Bool.eq_iff_iff, decide_eq_true_eq]; exact bitp_iff_absW h v hv
  · rw [A.1.mem p, hm p, Bool.or_eq_true, decide_eq_true_eq]
    exact ⟨fun ⟨a, b⟩ => b.imp (fun c => ⟨a, c⟩) id,
      fun b => b.elim (fun ⟨a, c⟩ => ⟨a, Or.inl c⟩) (fun e => ⟨e ▸ hv, Or.inr e⟩)⟩
  · rw [R.1.mem p, hm p, Bool.and_eq_true, Bool.not_eq_true', decide_eq_false_iff_not]
    exact and_assoc.symm

/-- WORD level of the array × bitmap kernels: `unionArrayBitmap`, `differenceBitmapArray` (bit by
bit with `n++` / `n--`), `intersectArrayBitmap`, `differenceArrayBitmap` (mask tests) and
`intersectionCountArrayBitmap` (`(bitmap[i] >> off) & 1`). -/
theorem C01_kernel_array_bitmap_words {ws xs : List Nat} {n : Nat} (h : WordsWF ws) (hn : n = (absW ws).length)
    (hxs : (Container.array xs).WF) :
    (WordsWF (wUnionArray n ws xs).2 ∧ absW (wUnionArray n ws xs).2 = Spec.union xs (absW ws) ∧
      (wUnionArray n ws xs).1 = (absW (wUnionArray n ws xs).2).length) ∧
    (WordsWF (wDiffArray n ws xs).2 ∧ absW (wDiffArray n ws xs).2 = Spec.diff (absW ws) xs ∧
      (wDiffArray n ws xs).1 = (absW (wDiffArray n ws xs).2).length) ∧
    wIntersectArray ws xs = Spec.inter xs (absW ws) ∧
    wDifferenceArray ws xs = Spec.diff xs (absW ws) ∧
    wIntersectionCountArray ws xs = (xs.filter (fun v => decide (v ∈ absW ws))).length :=
  ⟨wUnionArray_refines h hn hxs.1 hxs.2, wDiffArray_refines h hn hxs.1 hxs.2,
   wIntersectArray_refines h hxs.1 hxs.2, wDifferenceArray_refines h hxs.1 hxs.2,
   wIntersectionCountArray_refines h xs hxs.2⟩

/-- WORD level of the bitmap branch of `intersectBitmapRun` (`wIntersectRuns_refines`): for
every run, every word it touches, the four cases (word inside the run: `bitmap[i] = aBitmap[i]`;
run inside the word: mask `((1 << len) - 1) << (start - vastart)`; run starts / ends inside the
word: `(a >> off) << off`, `(a << off) >> off`, all with `bitmap[i] |= bits`) and
`n += popcount(bits)`: the result is the intersection with the right cardinality. In particular a
second run starting inside a word that already holds bits must OR into it. -/
theorem C01_kernel_intersect_bitmap_run_words {aws : List Nat} {rb : List Iv} (ha : WordsWF aws) (hr : RunsWF rb) :
    WordsWF (wIntersectRuns aws rb).2 ∧
    absW (wIntersectRuns aws rb).2 = Spec.inter (absW aws) (runValues rb) ∧
    (wIntersectRuns aws rb).1 = (absW (wIntersectRuns aws rb).2).length ∧
    ∀ v, v ∈ absW (wIntersectRuns aws rb).2 ↔ (v ∈ absW aws ∧ v ∈ runValues rb) := by
  have R := wIntersectRuns_refines ha hr
  refine ⟨R.1, R.2.1, R.2.2, fun v => ?_⟩
  rw [R.2.1]; exact mem_inter (sorted_absW aws) (runValues_sorted hr) v

example : RunsWF [⟨10, 20⟩, ⟨30, 100⟩, ⟨128, 65535⟩] := by decide

/-- WORD level of `shiftBitmap` (`wShift_refines`): `carry = v >> 63; v = v<<1 | lastCarry` over the
1024 words, `n - carry`: every position moves up by one, position 65535 leaves as the carry. -/
theorem C01_kernel_shift_bitmap_words {ws : List Nat} {n : Nat} (h : WordsWF ws) (hn : n = (absW ws).length) :
    WordsWF (wShift n ws).2.1 ∧ absW (wShift n ws).2.1 = Spec.shift 65536 (absW ws) ∧
    (wShift n ws).2.2 = decide (65535 ∈ absW ws) ∧ (wShift n ws).1 = (absW (wShift n ws).2.1).length :=
  wShift_refines h hn

/-- What is still modelled at set level only (tied to the code by correspondence + spec oracle):
the lowest-set-bit extraction loop of `bitmapToArray`, `bitmapCountRuns` / `bitmapToRun`,
`bitmapMax`, and the add/remove sequencing with its conversions inside
`xorArrayBitmap` (its single steps are `C01_kernel_bitmap_bit_updates`).  Missing lemmas, by name:
`wBitmapToArray_refines` (`t = w & -w`, `popcount(t-1)` is the index of the lowest set bit),
`wCountRuns_refines` (`popcount((v << 1) &^ v) + ((v >> 63) &^ v1)` counts run ends),
`wBitmapToRun_refines`, `wMax_refines`.
The statement proved here is the set-level one for the conversions. -/
theorem C01_kernel_bitmap_rest_partial {n : Nat} {bits : List Nat} (h : (Container.bitmap n bits).WF) :
    ((bitmapToArray n bits).WF ∧ (bitmapToArray n bits).values = bits) ∧
    ((bitmapToRun n bits).WF ∧ ∀ v, v ∈ (bitmapToRun n bits).values ↔ v ∈ bits) ∧
    (Container.bitmap n bits).countRuns = (arrayToRunIvs bits).length := by
  refine ⟨bitmapToArray_spec h, ?_, arrayCountRuns_eq bits h.1⟩
  have S := arrayToRunIvs_spec bits h.1 h.2.1
  unfold bitmapToRun
  by_cases h0 : n = 0
  · rw [if_pos h0]
    have : bits = [] := by
      have := h.2.2; rw [h0] at this
      exact List.length_eq_zero_iff.mp this.symm
    subst this
    exact ⟨⟨trivial, rfl⟩, fun v => by simp [Container.values, runValues]⟩
  · rw [if_neg h0]
    refine ⟨⟨S.1, by rw [S.2.2]; exact h.2.2⟩, fun v => ?_⟩
    show v ∈ runValues (arrayToRunIvs bits) ↔ _
    rw [mem_runValues, S.2.1 v]; simp

/-! ## shift, flip, max, conversions -/

/-- container-level `shift`: every value moves up by one, the value 65535 leaves as the carry. -/
theorem C01_kernel_shift {c : Container} (h : c.WF) :
    WFO (shift c).1 ∧ (∀ w, w ∈ valuesO (shift c).1 ↔ (1 ≤ w ∧ w < 65536 ∧ w - 1 ∈ c.values)) ∧
    ((shift c).2 = true ↔ 65535 ∈ c.values) := shift_spec h

/-- `flip` / `flipBitmap`, WORD level: every word is complemented and the cardinality is recounted
with `bitmapCountRange(0, 65536)`; the result denotes the complement inside the container, and it
is the set-level `flip` on the abstraction. -/
theorem C01_kernel_flip {ws : List Nat} (h : WordsWF ws) :
    WordsWF (wFlipN ws).2 ∧ (wFlipN ws).1 = (absW (wFlipN ws).2).length ∧
    (∀ v, v ∈ absW (wFlipN ws).2 ↔ (v < 65536 ∧ v ∉ absW ws)) ∧
    absW (wFlipN ws).2 = (flip (Container.bitmap (absW ws).length (absW ws))).values := by
  have R := wFlip_refines h
  have C := compl16_spec (sorted_absW ws)
  refine ⟨wFlip_wf h, wFlipN_spec h, fun v => ?_, ?_⟩
  · show v ∈ absW (wFlip ws) ↔ _
    rw [R]; exact C.2.2 v
  · show absW (wFlip ws) = _
    rw [R]; rfl

/-- set level; arrays and runs are converted to a bitmap first. -/
theorem C01_container_flip {c : Container} (h : c.WF) :
    (flip c).WF ∧ ∀ v, v ∈ (flip c).values ↔ (v < 65536 ∧ v ∉ c.values) :=
  flipBitmap_spec (Container.values_sorted h)

theorem C01_container_max {c : Container} (h : c.WF) (hn : c.n > 0) :
    maxO (some c) ∈ c.values ∧ ∀ v ∈ c.values, v ≤ maxO (some c) := by
  have : maxO (some c) = c.max := by unfold maxO; simp only []; rw [if_neg (by omega)]
  rw [this]; exact Container.max_spec h hn

/-- `arrayCountRuns` is the run count the optimizer uses. -/
theorem C01_conv_arrayToRun {xs : List Nat} (h : (Container.array xs).WF) :
    (arrayToRun xs).WF ∧ (∀ v, v ∈ (arrayToRun xs).values ↔ v ∈ xs) ∧
    arrayCountRuns xs = (arrayToRunIvs xs).length := by
  have D := denotes_arrayToRun h.1 h.2 (rfl : xs.length = xs.length)
  exact ⟨D.1, D.2, arrayCountRuns_eq xs h.1⟩

theorem C01_conv_run {n : Nat} {ivs : List Iv} (h : (Container.run n ivs).WF) :
    ((runToArray n ivs).WF ∧ (runToArray n ivs).values = runValues ivs) ∧
    ((runToBitmap n ivs).WF ∧ (runToBitmap n ivs).values = runValues ivs) :=
  ⟨runToArray_spec h.1 h.2, runToBitmap_spec h.1 h.2⟩

example : (Container.array [1, 2, 3, 9, 65535]).WF ∧ (Container.run 4 [⟨7, 9⟩, ⟨65535, 65535⟩]).WF := by decide

/-! ## Bitmap reads -/

theorem C01_bitmap_contains {b : Bitmap} (h : b.WF) (v : Nat) : b.contains v = decide (v ∈ b.values) :=
  Bitmap.contains_spec h v

/-- `Bitmap.Count` (sum of the stored cardinalities). -/
theorem C01_bitmap_count {b : Bitmap} (h : b.WF) : b.count = b.values.length := Bitmap.count_spec h

/-- `Bitmap.CountRange(start, end)` as coded after the fix (nil container at the range key). -/
theorem C01_bitmap_countRange {b : Bitmap} (h : b.WF) (s e : Nat) (hse : s ≤ e) :
    b.countRange s e = cnt (fun v => decide (v ∈ b.values)) s e := Bitmap.countRange_spec h s e hse

/-- `Bitmap.Max` as coded after the fix (empty trailing containers). -/
theorem C01_bitmap_max {b : Bitmap} (h : b.WF) :
    (b.values = [] → b.max = 0) ∧ (b.values ≠ [] → b.max ∈ b.values ∧ ∀ v ∈ b.values, v ≤ b.max) :=
  Bitmap.max_spec h

theorem C01_bitmap_min {b : Bitmap} (h : b.WF) :
    b.min = (match b.values with | [] => (0, false) | v :: _ => (v, true)) := Bitmap.min_spec h

/-- `Iterator.Seek(k)` followed by `n` calls of `Next`. -/
theorem C01_bitmap_seek_next {b : Bitmap} (h : b.WF) (k n : Nat) :
    Iter.take n (b.seek k) = ((Spec.seek b.values k).take n, decide ((Spec.seek b.values k).length < n)) :=
  Bitmap.seek_take_spec h k n

theorem C01_bitmap_slice {b : Bitmap} (h : b.WF) : b.slice = b.values := Bitmap.slice_spec h

/-- `Bitmap.SliceRange` / `ForEachRange`. -/
theorem C01_bitmap_sliceRange {b : Bitmap} (h : b.WF) (s e : Nat) :
    b.sliceRange s e = Spec.sliceRange b.values s e := Bitmap.sliceRange_spec h s e

example : (Bitmap.mk false [(0, some (.run 3 [⟨1, 3⟩])), (1, none), (2, some (.run 0 [])),
    (65536, some (.bitmap 2 [0, 65535])), (281474976710655, some (.array [65535]))]).WF := by decide

/-! ## Bitmap operations -/

theorem C01_bitmap_intersect {a b : Bitmap} (ha : a.WF) (hb : b.WF) :
    (a.intersect b).WF ∧ ∀ v, v ∈ (a.intersect b).values ↔ (v ∈ a.values ∧ v ∈ b.values) :=
  Bitmap.intersect_spec kernelOK_intersect ha hb

/-- `Bitmap.Union(other)` (one argument: `unionIntoTargetSingle`). -/
theorem C01_bitmap_union {a b : Bitmap} (ha : a.WF) (hb : b.WF) :
    (a.union [b]).WF ∧ ∀ v, v ∈ (a.union [b]).values ↔ (v ∈ a.values ∨ v ∈ b.values) :=
  Bitmap.union1_spec kernelOK_union ha hb

theorem C01_bitmap_difference {a b : Bitmap} (ha : a.WF) (hb : b.WF) :
    (a.difference b).WF ∧ ∀ v, v ∈ (a.difference b).values ↔ (v ∈ a.values ∧ v ∉ b.values) :=
  Bitmap.difference_spec kernelOK_difference ha hb

theorem C01_bitmap_xor {a b : Bitmap} (ha : a.WF) (hb : b.WF) :
    (a.xor b).WF ∧ ∀ v, v ∈ (a.xor b).values ↔ ((v ∈ a.values ∧ v ∉ b.values) ∨ (v ∉ a.values ∧ v ∈ b.values)) :=
  Bitmap.xor_spec kernelOK_xor ha hb

example : (Bitmap.mk false [(0, some (.array [1, 65535])), (1, some (.run 2 [⟨0, 1⟩]))]).WF ∧
    (Bitmap.mk true [(0, some (.bitmap 1 [65535])), (7, some (.array []))]).WF := by decide

theorem C01_bitmap_intersectionCount {a b : Bitmap} (ha : a.WF) (hb : b.WF) :
    a.intersectionCount b = (a.values.filter (fun v => decide (v ∈ b.values))).length :=
  Bitmap.intersectionCount_spec (fun _ _ hx hy => C01_kernel_intersectionCount hx hy) kernelOK_intersect ha hb

/-- `Bitmap.Shift(1)` as coded after the fix: every value moves up by one; the carry crosses into
the next container (existing, empty or absent) and is dropped only beyond `2^64 - 1`. -/
theorem C01_bitmap_shift {b : Bitmap} (h : b.WF) :
    b.shift.WF ∧ ∀ v, v ∈ b.shift.values ↔ (1 ≤ v ∧ v < 2 ^ 64 ∧ v - 1 ∈ b.values) := Bitmap.shift_spec h

/-- `Bitmap.Flip(start, end)` (closed range, `end < 2^64 - 1` in the Go code for termination):
membership is toggled exactly inside the range. -/
theorem C01_bitmap_flip {b : Bitmap} (h : b.WF) (s e : Nat) (hse : s ≤ e) (he : e < 2 ^ 64) :
    (b.flip s e).WF ∧
    ∀ v, v ∈ (b.flip s e).values ↔ ((v ∈ b.values ∧ ¬ (s ≤ v ∧ v ≤ e)) ∨ (v ∉ b.values ∧ s ≤ v ∧ v ≤ e)) :=
  Bitmap.flip_spec h s e he

/-- `Bitmap.OffsetRange(offset, start, end)` (all three multiples of 65536, result inside the key
space): the values of `[start, end)` moved to start at `offset`. -/
theorem C01_bitmap_offsetRange {b : Bitmap} (h : b.WF) (offset s e : Nat)
    (ho : lowbits offset = 0) (hs : lowbits s = 0) (he : lowbits e = 0)
    (hfit : highbits offset + (highbits e - highbits s) ≤ maxContainerKey + 1) :
    ∃ r, b.offsetRange offset s e = some r ∧ r.WF ∧
      ∀ v, v ∈ r.values ↔ ∃ x ∈ b.values, s ≤ x ∧ x < e ∧ v = x - s + offset :=
  Bitmap.offsetRange_spec h offset s e ho hs he hfit

/-- `Container.optimize` / `Bitmap.Optimize`: the encoding changes, the set does not (this is
also what a decoded bitmap holds: `WriteTo` optimizes, `UnmarshalBinary` restores the encodings). -/
theorem C01_optimize {c : Container} (h : c.WF) :
    WFO c.optimize ∧ ∀ w, w ∈ valuesO c.optimize ↔ w ∈ c.values := Container.optimize_spec h

theorem C01_bitmap_optimize {b : Bitmap} (h : b.WF) :
    b.optimize.WF ∧ ∀ v, v ∈ b.optimize.values ↔ v ∈ b.values := Bitmap.optimize_spec h

/-- `NewBitmap(values...)`, slice or B-tree. -/
theorem C01_bitmap_fresh (bt : Bool) (vs : List Nat) (hs : Sorted vs) (hlt : ∀ v ∈ vs, v < 2 ^ 64) :
    (Bitmap.ofValues bt vs).WF ∧ ∀ v, v ∈ (Bitmap.ofValues bt vs).values ↔ v ∈ vs :=
  Bitmap.ofValues_spec bt vs hs hlt

example : Sorted [1, 65535, 65536, 4294967296, 18446744073709551615] ∧
    ∀ v ∈ [1, 65535, 65536, 4294967296, 18446744073709551615], v < 2 ^ 64 := by decide

/-- `Bitmap.UnionInPlace(others...)`: the n-ary lock-step union with its shortcuts (target
container full, a full container among the others, reuse of a single container, pre-emptive
conversion to a bitmap container), bitmap cardinalities left stale during the loop and repaired
once at the end. -/
theorem C01_bitmap_unionInPlace {t : Bitmap} (others : List Bitmap) (ht : t.WF) (ho : ∀ o ∈ others, o.WF) :
    (t.unionInPlace others).WF ∧
    ∀ v, v ∈ (t.unionInPlace others).values ↔ (v ∈ t.values ∨ ∃ o ∈ others, v ∈ o.values) :=
  Bitmap.unionInPlace_spec others ht ho

theorem C01_bitmap_union_nary {b : Bitmap} (others : List Bitmap) (hb : b.WF) (ho : ∀ o ∈ others, o.WF) :
    (b.union others).WF ∧
    ∀ v, v ∈ (b.union others).values ↔ (v ∈ b.values ∨ ∃ o ∈ others, v ∈ o.values) :=
  Bitmap.union_spec others hb ho

example : (Bitmap.mk true [(0, some (.array [2, 145])), (65535, some (.run 65536 [⟨0, 65535⟩]))]).WF ∧
    ∀ o ∈ [Bitmap.mk false [(0, some (.bitmap 1 [145]))], Bitmap.mk false [(0, none), (3, some (.run 0 []))]], o.WF := by
  decide

/-! ## The property -/

/-- C01 for the reads and the binary operations: for well-formed bitmaps in any mix of encodings
(including nil and empty containers), every read equals the read on the denoted set and every
operation denotes the set operation (n-ary union: `C01_bitmap_union_nary`, `C01_bitmap_unionInPlace`). -/
theorem C01_full {a b : Bitmap} (ha : a.WF) (hb : b.WF) :
    (∀ v, a.contains v = decide (v ∈ a.values)) ∧
    a.count = a.values.length ∧
    (∀ s e, s ≤ e → a.countRange s e = cnt (fun v => decide (v ∈ a.values)) s e) ∧
    a.min = (match a.values with | [] => (0, false) | v :: _ => (v, true)) ∧
    ((a.values = [] → a.max = 0) ∧ (a.values ≠ [] → a.max ∈ a.values ∧ ∀ v ∈ a.values, v ≤ a.max)) ∧
    a.slice = a.values ∧
    (∀ s e, a.sliceRange s e = Spec.sliceRange a.values s e) ∧
    (∀ k n, Iter.take n (a.seek k) = ((Spec.seek a.values k).take n, decide ((Spec.seek a.values k).length < n))) ∧
    (∀ v, v ∈ (a.intersect b).values ↔ (v ∈ a.values ∧ v ∈ b.values)) ∧
    (∀ v, v ∈ (a.union [b]).values ↔ (v ∈ a.values ∨ v ∈ b.values)) ∧
    (∀ v, v ∈ (a.difference b).values ↔ (v ∈ a.values ∧ v ∉ b.values)) ∧
    (∀ v, v ∈ (a.xor b).values ↔ ((v ∈ a.values ∧ v ∉ b.values) ∨ (v ∉ a.values ∧ v ∈ b.values))) ∧
    a.intersectionCount b = (a.values.filter (fun v => decide (v ∈ b.values))).length ∧
    (∀ v, v ∈ a.shift.values ↔ (1 ≤ v ∧ v < 2 ^ 64 ∧ v - 1 ∈ a.values)) ∧
    (∀ s e, s ≤ e → e < 2 ^ 64 → ∀ v, v ∈ (a.flip s e).values ↔
      ((v ∈ a.values ∧ ¬ (s ≤ v ∧ v ≤ e)) ∨ (v ∉ a.values ∧ s ≤ v ∧ v ≤ e))) ∧
    (∀ v, v ∈ a.optimize.values ↔ v ∈ a.values) :=
  ⟨C01_bitmap_contains ha, C01_bitmap_count ha, C01_bitmap_countRange ha, C01_bitmap_min ha, C01_bitmap_max ha,
   C01_bitmap_slice ha, C01_bitmap_sliceRange ha, C01_bitmap_seek_next ha,
   (C01_bitmap_intersect ha hb).2, (C01_bitmap_union ha hb).2, (C01_bitmap_difference ha hb).2,
   (C01_bitmap_xor ha hb).2, C01_bitmap_intersectionCount ha hb, (C01_bitmap_shift ha).2,
   fun s e hse he => (C01_bitmap_flip ha s e hse he).2, (C01_bitmap_optimize ha).2⟩

end PV.C01
