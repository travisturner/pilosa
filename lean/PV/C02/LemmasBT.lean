/-
The B-tree collection satisfies the collection laws.  `BT.Inv` contains the Coherent invariant of
the lookaside: the cached pointer is exactly what the tree stores under the cached key (for the
invalid key: nothing).
-/
import PV.C02.LemmasColl
namespace PV.C02
open List

/-- Coherent (B-tree): the lookaside agrees with the tree. -/
def BT.Coherent (s : BT) : Prop := tGet s.tree s.lastKey = s.last

def BT.Inv (s : BT) : Prop :=
  KeysAsc s.tree ∧ (∀ e ∈ s.tree, e.1 < INVALID) ∧ BT.Coherent s

theorem lk_bt (s : BT) (k : Nat) : lk btColl s k = tGet s.tree k := by
  simp only [lk, btColl, lookup_map_some, tGet]; cases List.lookup k s.tree <;> rfl

theorem tGet_tSet (t : Tree) (k k' : Nat) (i : Nat) :
    tGet (tSet t k i) k' = if k' = k then some i else tGet t k' := lookup_aSet t k k' i

theorem tGet_tDel (t : Tree) (k k' : Nat) :
    tGet (tDel t k) k' = if k' = k then none else tGet t k' := lookup_filter_ne t k k'

theorem tGet_tSetP (t : Tree) (k k' : Nat) (c : Ptr) :
    tGet (tSetP t k c) k' = if k' = k then c else tGet t k' := by
  cases c with
  | none => exact tGet_tDel t k k'
  | some i => exact tGet_tSet t k k' i

theorem keysAsc_tSetP {t : Tree} (k : Nat) (c : Ptr) (h : KeysAsc t) : KeysAsc (tSetP t k c) := by
  cases c with
  | none => exact keysAsc_filter _ h
  | some i => exact keysAsc_aSet k i h

theorem keysLt_tSetP {t : Tree} {k : Nat} (c : Ptr) (hk : k < INVALID) (h : ∀ e ∈ t, e.1 < INVALID) :
    ∀ e ∈ tSetP t k c, e.1 < INVALID := by
  cases c with
  | none => intro e he; exact h e (mem_filter.mp he).1
  | some i =>
    intro e he
    rcases mem_aSet _ _ _ _ he with rfl | he
    · exact hk
    · exact h e he

theorem tGet_invalid {t : Tree} (h : ∀ e ∈ t, e.1 < INVALID) : tGet t INVALID = none := by
  unfold tGet
  cases hl : List.lookup INVALID t with
  | none => rfl
  | some i => exact absurd (h _ (mem_of_lookup_eq_some hl)) (Nat.lt_irrefl _)

/-- Dropping the lookaside entry keeps it coherent whatever happened to the tree at `k`. -/
theorem bt_inv_invalidate {t t' : Tree} {lastKey k : Nat} {last : Ptr}
    (hk : KeysAsc t') (hlt : ∀ e ∈ t', e.1 < INVALID)
    (hc : tGet t lastKey = last) (hsame : ∀ k', k' ≠ k → tGet t' k' = tGet t k') :
    BT.Inv (BT.invalidateLast ⟨t', lastKey, last⟩ k) := by
  unfold BT.invalidateLast
  split
  · exact ⟨hk, hlt, tGet_invalid hlt⟩
  · rename_i hne
    exact ⟨hk, hlt, (hsame lastKey (fun e => hne e.symm)).trans hc⟩

theorem invalidate_tree (s : BT) (k : Nat) : (BT.invalidateLast s k).tree = s.tree := by
  unfold BT.invalidateLast; split <;> rfl

theorem lk_invalidate (s : BT) (k k' : Nat) : lk btColl (BT.invalidateLast s k) k' = tGet s.tree k' := by
  rw [lk_bt, invalidate_tree]

/-- `tree.Put(k, fn)` stores what `fn` returns when it asks to write, and nothing else changes. -/
theorem treePut_spec {α : Type} (t : Tree) (k : Nat) (fn : Ptr → Bool → α × Ptr × Bool)
    (hk : KeysAsc t) (hlt : ∀ e ∈ t, e.1 < INVALID) (hkv : k < INVALID) :
    ∃ e, (∀ i, tGet t k = some i → e = true) ∧
      (treePut t k fn).2 = (fn (tGet t k) e).1 ∧ KeysAsc (treePut t k fn).1 ∧
      (∀ x ∈ (treePut t k fn).1, x.1 < INVALID) ∧
      ∀ k', tGet (treePut t k fn).1 k' =
        if k' = k ∧ (fn (tGet t k) e).2.2 = true then (fn (tGet t k) e).2.1 else tGet t k' := by
  unfold treePut
  cases hg : tGet t k with
  | some i =>
    refine ⟨true, fun _ _ => rfl, ?_⟩
    dsimp only
    cases hw : (fn (some i) true).2.2 with
    | true =>
      simp only [↓reduceIte, and_true]
      exact ⟨trivial, keysAsc_tSetP k _ hk, keysLt_tSetP _ hkv hlt, fun k' => tGet_tSetP t k k' _⟩
    | false => exact ⟨rfl, hk, hlt, fun k' => by simp⟩
  | none =>
    refine ⟨false, (fun _ h => nomatch h), ?_⟩
    dsimp only
    cases hw : (fn none false).2.2 with
    | true =>
      simp only [↓reduceIte, and_true]
      cases hn : (fn none false).2.1 with
      | none =>
        refine ⟨rfl, hk, hlt, fun k' => ?_⟩
        show tGet t k' = if k' = k then none else tGet t k'
        split
        · rename_i he; rw [he]; exact hg
        · rfl
      | some j =>
        exact ⟨rfl, keysAsc_aSet k j hk, keysLt_tSetP (some j) hkv hlt, fun k' => tGet_tSet t k k' j⟩
    | false => exact ⟨rfl, hk, hlt, fun k' => by simp⟩

/-! ### Optimize through `enumerator.Every`

The loop is followed on the whole tree: `pre` are the entries already visited, and every
visit stores the outcome of `cOptimize` for one key. -/

theorem tSetP_append_cons {pre r : Tree} {k i : Nat} (c : Ptr) (h : KeysAsc (pre ++ (k, i) :: r)) :
    tSetP (pre ++ (k, i) :: r) k c = pre ++ (match c with | none => r | some j => (k, j) :: r) := by
  cases c with
  | none => exact filter_ne_append_cons h
  | some j => exact aSet_append_cons j h

theorem btEvery_opt (p : Policy) : ∀ (r pre : Tree) (h : Heap) (skip : Bool) (q : Tree × Heap),
    q = btEvery (optFn p) h r skip →
    BT.Inv ⟨pre ++ r, INVALID, none⟩ → HeapOK btColl ⟨pre ++ r, INVALID, none⟩ h →
    BT.Inv ⟨pre ++ q.1, INVALID, none⟩ ∧ HeapOK btColl ⟨pre ++ q.1, INVALID, none⟩ q.2 ∧
    ∀ k, contentsOf btColl ⟨pre ++ q.1, INVALID, none⟩ q.2 k = contentsOf btColl ⟨pre ++ r, INVALID, none⟩ h k := by
  intro r
  induction r with
  | nil => intro pre h skip q hq hi hh; subst hq; cases skip <;> exact ⟨hi, hh, fun _ => rfl⟩
  | cons e r ih =>
    obtain ⟨k0, i0⟩ := e
    intro pre h skip q hq hi hh
    subst hq
    cases skip with
    | true =>
      -- the entry after a deleted one is stepped over
      simpa only [btEvery, append_assoc, singleton_append] using ih (pre ++ [(k0, i0)]) h false _ rfl
        (by simpa only [append_assoc, singleton_append] using hi)
        (by simpa only [append_assoc, singleton_append] using hh)
    | false =>
      obtain ⟨hka, hlt, _⟩ := hi
      have hk0 : k0 < INVALID := hlt (k0, i0) (mem_append_right _ mem_cons_self)
      have hl0 : lk btColl ⟨pre ++ (k0, i0) :: r, INVALID, none⟩ k0 = some i0 := by
        rw [lk_bt]; exact lookup_eq_some_of_mem hka (mem_append_right _ mem_cons_self)
      cases hco : cOptimize p h (some i0) with
      | mk h1 c1 =>
        have ho := cOptimize_outcome p h (some i0)
        rw [hco, ← hl0] at ho
        -- the tree with the outcome stored for `k0`
        have hlt1 := keysLt_tSetP c1 hk0 hlt
        have hi1 : BT.Inv ⟨tSetP (pre ++ (k0, i0) :: r) k0 c1, INVALID, none⟩ :=
          ⟨keysAsc_tSetP k0 c1 hka, hlt1, tGet_invalid hlt1⟩
        obtain ⟨hh1, hcont⟩ := hh.point_same (s' := ⟨tSetP (pre ++ (k0, i0) :: r) k0 c1, INVALID, none⟩)
          (fun k' => by rw [lk_bt, lk_bt]; exact tGet_tSetP _ k0 k' c1) ho
        rw [tSetP_append_cons c1 hka] at hi1 hh1 hcont
        simp only [btEvery, optFn, hco, ↓reduceIte]
        cases c1 with
        | none =>
          obtain ⟨j1, j2, j3⟩ := ih pre h1 true _ rfl hi1 hh1
          exact ⟨j1, j2, fun k => (j3 k).trans (hcont k)⟩
        | some j =>
          obtain ⟨j1, j2, j3⟩ := ih (pre ++ [(k0, j)]) h1 false _ rfl
            (by simpa only [append_assoc, singleton_append] using hi1)
            (by simpa only [append_assoc, singleton_append] using hh1)
          simp only [append_assoc, singleton_append] at j1 j2 j3
          exact ⟨j1, j2, fun k => (j3 k).trans (hcont k)⟩

/-- The B-tree collection satisfies the collection laws. -/
def btOK : CollOK btColl where
  Inv := BT.Inv
  init := ⟨keysAsc_nil, (fun _ he => nomatch he), rfl⟩
  init_ents := by simp [btColl, BT.init]
  keys := by
    intro s hs
    have := hs.1
    unfold KeysAsc at *
    simpa [btColl, map_map, Function.comp_def] using this
  keyok := by
    intro s k i hs hl
    rw [lk_bt] at hl
    exact hs.2.1 _ (mem_of_lookup_eq_some hl)
  get := by
    intro s k hs
    obtain ⟨hk, hlt, hc⟩ := hs
    show BT.Inv (BT.get s k).1 ∧ (BT.get s k).2 = lk btColl s k ∧
      btColl.ents (BT.get s k).1 = btColl.ents s
    rw [lk_bt]
    unfold BT.get
    split
    · rename_i heq; subst heq; exact ⟨⟨hk, hlt, hc⟩, hc.symm, rfl⟩
    · split
      · rename_i i hi; exact ⟨⟨hk, hlt, hi⟩, hi.symm, rfl⟩
      · rename_i hi; exact ⟨⟨hk, hlt, hc⟩, hi.symm, rfl⟩
  put := by
    intro s k c hs hkv
    obtain ⟨hk, hlt, hc⟩ := hs
    refine ⟨⟨keysAsc_tSetP k c hk, keysLt_tSetP c hkv hlt, ?_⟩, ?_⟩
    · exact (tGet_tSetP s.tree k k c).trans (if_pos rfl)
    · intro k'; rw [lk_bt, lk_bt]; exact tGet_tSetP s.tree k k' c
  remove := by
    intro s k hs
    obtain ⟨hk, hlt, hc⟩ := hs
    refine ⟨bt_inv_invalidate (t := s.tree) (keysAsc_filter _ hk)
      (fun e he => hlt e (mem_filter.mp he).1) hc ?_, ?_⟩
    · intro k' hne; rw [tGet_tDel, if_neg hne]
    · intro k'; show lk btColl (BT.invalidateLast _ k) k' = _
      rw [lk_invalidate, lk_bt]; exact tGet_tDel s.tree k k'
  goc := by
    intro s h k hs hkv
    obtain ⟨hk, hlt, hc⟩ := hs
    show BT.Inv (BT.getOrCreate s h k).1 ∧ (BT.getOrCreate s h k).2.2 = lk btColl (BT.getOrCreate s h k).1 k ∧
      (∀ k', k' ≠ k → lk btColl (BT.getOrCreate s h k).1 k' = lk btColl s k') ∧
      (((BT.getOrCreate s h k).2.2 = lk btColl s k ∧ (BT.getOrCreate s h k).2.1 = h) ∨
       (lk btColl s k = none ∧ (BT.getOrCreate s h k).2.2 = some h.length ∧ (BT.getOrCreate s h k).2.1 = h ++ [[]]))
    simp only [lk_bt]
    unfold BT.getOrCreate
    split
    · rename_i heq; subst heq
      exact ⟨⟨hk, hlt, hc⟩, hc.symm, fun _ _ => rfl, Or.inl ⟨hc.symm, rfl⟩⟩
    · split
      · rename_i hi
        have hself : tGet (tSet s.tree k h.length) k = some h.length := (tGet_tSet ..).trans (if_pos rfl)
        exact ⟨⟨keysAsc_aSet k _ hk, keysLt_tSetP (some h.length) hkv hlt, hself⟩, hself.symm,
          fun k' hne => (tGet_tSet ..).trans (if_neg hne), Or.inr ⟨hi, rfl, rfl⟩⟩
      · rename_i i hi
        exact ⟨⟨hk, hlt, hi⟩, hi.symm, fun _ _ => rfl, Or.inl ⟨hi.symm, rfl⟩⟩
  update := by
    intro α s k fn hs hkv
    obtain ⟨hk, hlt, hc⟩ := hs
    obtain ⟨e, he, h2, hk', hlt', hget⟩ := treePut_spec s.tree k fn hk hlt hkv
    refine ⟨e, ?_, ?_, ?_, ?_⟩
    · intro i hi; rw [lk_bt] at hi; exact he i hi
    · rw [lk_bt]; exact h2
    · apply bt_inv_invalidate (t := s.tree) hk' hlt' hc
      intro k' hne; rw [hget k', if_neg (fun h => hne h.1)]
    · intro k'
      show lk btColl (BT.invalidateLast _ k) k' = _
      rw [lk_invalidate]; simp only [lk_bt]; exact hget k'
  everyOpt := by
    intro p s h hs hh
    have e : ∀ k, lk btColl (⟨[] ++ s.tree, INVALID, none⟩ : BT) k = lk btColl s k :=
      fun k => (lk_bt _ k).trans (lk_bt s k).symm
    obtain ⟨j1, j2, j3⟩ := btEvery_opt p s.tree [] h false _ rfl ⟨hs.1, hs.2.1, tGet_invalid hs.2.1⟩ (hh.of_lk_eq e)
    refine ⟨j1, j2, fun k => (j3 k).trans ?_⟩
    rw [contentsOf_eq_pcell, contentsOf_eq_pcell, e]
  reset := by
    intro s
    exact ⟨⟨keysAsc_nil, (fun _ he => nomatch he), rfl⟩, rfl⟩

end PV.C02
