/-
Ascending lists: the linear merges of the model are the fold of inserts and the filter of the
specification; pigeonhole for bounded ascending lists.
-/
import PV.C02.Spec
import PV.Common.Asc
namespace PV.C02
open List

def Asc (l : List Nat) : Prop := l.Pairwise (· < ·)

/-- A well-formed container: strictly ascending `uint16` values. -/
def CellOK (c : Cell) : Prop := Asc c ∧ ∀ x ∈ c, x < W

/-- Contents behind a pointer (nil: nothing). -/
def pcell (h : Heap) : Ptr → Cell
  | none => []
  | some i => hget h i

theorem asc_nil : Asc [] := Pairwise.nil

theorem asc_cons {a : Nat} {l : List Nat} : Asc (a :: l) ↔ (∀ x ∈ l, a < x) ∧ Asc l := pairwise_cons

theorem asc_nodup {l : List Nat} (h : Asc l) : l.Nodup := Common.Asc.nodup h

theorem cellOK_nil : CellOK [] := ⟨asc_nil, fun _ h => absurd h not_mem_nil⟩

theorem asc_ext {l₁ l₂ : List Nat} (h₁ : Asc l₁) (h₂ : Asc l₂) (h : ∀ v, v ∈ l₁ ↔ v ∈ l₂) : l₁ = l₂ :=
  Common.Asc.ext h₁ h₂ h

theorem insertAsc_eq_ins : @insertAsc = @Common.Asc.ins := by
  funext x l; induction l <;> simp [insertAsc, Common.Asc.ins, *]

theorem eraseAsc_eq_filter (x : Nat) (l : List Nat) : eraseAsc x l = l.filter (· != x) := rfl

theorem mem_insertAsc {x y : Nat} {l : List Nat} : y ∈ insertAsc x l ↔ y = x ∨ y ∈ l :=
  insertAsc_eq_ins ▸ Common.Asc.mem_ins

theorem asc_insertAsc {x : Nat} {l : List Nat} (h : Asc l) : Asc (insertAsc x l) :=
  insertAsc_eq_ins ▸ Common.Asc.asc_ins h

theorem insertAsc_of_mem {x : Nat} {l : List Nat} (h : Asc l) (hx : x ∈ l) : insertAsc x l = l :=
  insertAsc_eq_ins ▸ Common.Asc.ins_of_mem h hx

theorem length_insertAsc {x : Nat} {l : List Nat} (hx : x ∉ l) : (insertAsc x l).length = l.length + 1 :=
  insertAsc_eq_ins ▸ Common.Asc.length_ins hx

theorem contains_insertAsc {x y : Nat} {l : List Nat} :
    (insertAsc x l).contains y = (y == x || l.contains y) := by
  rw [Bool.eq_iff_iff]; simp [mem_insertAsc]

theorem mem_eraseAsc {x y : Nat} {l : List Nat} : y ∈ eraseAsc x l ↔ y ∈ l ∧ y ≠ x := Common.Asc.mem_filter_ne

theorem asc_eraseAsc {x : Nat} {l : List Nat} (h : Asc l) : Asc (eraseAsc x l) := Pairwise.filter _ h

theorem eraseAsc_of_not_mem {x : Nat} {l : List Nat} (hx : x ∉ l) : eraseAsc x l = l :=
  Common.Asc.filter_ne_of_not_mem hx

theorem eraseAsc_cons_self {x : Nat} {l : List Nat} (hx : x ∉ l) : eraseAsc x (x :: l) = l := by
  have : eraseAsc x (x :: l) = eraseAsc x l := by simp [eraseAsc]
  rw [this, eraseAsc_of_not_mem hx]

theorem length_eraseAsc {s : List Nat} {x : Nat} (hs : Asc s) (hx : x ∈ s) :
    (eraseAsc x s).length + 1 = s.length := Common.Asc.length_filter_ne hs hx

/-! `unionFold` / `diffFilter` are `Spec.addAll` / `Spec.removeAll` under the names the container
level uses; the facts are stated for the latter. -/

def unionFold (a b : Cell) : Cell := b.foldl (fun acc x => insertAsc x acc) a
def diffFilter (a b : Cell) : Cell := a.filter (fun x => !b.contains x)

theorem unionFold_eq_addAll (a b : List Nat) : unionFold a b = Spec.addAll a b := rfl
theorem diffFilter_eq_removeAll (a b : List Nat) : diffFilter a b = Spec.removeAll a b := rfl

namespace Spec

theorem addAll_nil (s : S) : addAll s [] = s := rfl

theorem addAll_cons (s : S) (v : Nat) (vs : List Nat) : addAll s (v :: vs) = addAll (insertAsc v s) vs := rfl

theorem addAll_append (s : S) (a b : List Nat) : addAll s (a ++ b) = addAll (addAll s a) b := by
  unfold addAll; rw [foldl_append]

theorem addAll_eq_insAll : @addAll = @Common.Asc.insAll := by
  funext s vs; rw [addAll, insertAsc_eq_ins]; rfl

theorem mem_addAll {s : S} {vs : List Nat} {v : Nat} : v ∈ addAll s vs ↔ v ∈ s ∨ v ∈ vs :=
  addAll_eq_insAll ▸ Common.Asc.mem_insAll

theorem asc_addAll {s : S} {vs : List Nat} (h : Asc s) : Asc (addAll s vs) :=
  addAll_eq_insAll ▸ Common.Asc.asc_insAll h

/-- A head below everything that is inserted stays the head. -/
theorem addAll_cons_of_lt {x : Nat} {xs vs : List Nat} (h : ∀ y ∈ vs, x < y) :
    addAll (x :: xs) vs = x :: addAll xs vs := by
  induction vs generalizing xs with
  | nil => rfl
  | cons y t ih =>
    have hy : x < y := h y mem_cons_self
    have hins : insertAsc y (x :: xs) = x :: insertAsc y xs := by
      rw [insertAsc, if_neg (by omega), if_neg (by omega)]
    rw [addAll_cons, hins, ih (fun z hz => h z (mem_cons_of_mem _ hz)), addAll_cons]

theorem addAll_nil_left {vs : List Nat} (h : Asc vs) : addAll [] vs = vs := by
  induction vs with
  | nil => rfl
  | cons y t ih =>
    have hy := asc_cons.mp h
    exact (addAll_cons_of_lt (xs := []) hy.1).trans (congrArg _ (ih hy.2))

theorem removeAll_nil (s : S) : removeAll s [] = s :=
  filter_eq_self.mpr (fun _ _ => rfl)

theorem mem_removeAll {s : S} {vs : List Nat} {v : Nat} : v ∈ removeAll s vs ↔ v ∈ s ∧ v ∉ vs := by
  simp [removeAll]

theorem asc_removeAll {s : S} {vs : List Nat} (h : Asc s) : Asc (removeAll s vs) :=
  Pairwise.filter _ h

theorem removeAll_cons (s : S) (v : Nat) (vs : List Nat) :
    removeAll s (v :: vs) = removeAll (eraseAsc v s) vs := by
  unfold removeAll eraseAsc
  rw [filter_filter]
  apply filter_congr
  intro x _
  by_cases h1 : x = v <;> simp [h1, Bool.and_comm]

theorem removeAll_append (s : S) (a b : List Nat) : removeAll s (a ++ b) = removeAll (removeAll s a) b := by
  unfold removeAll
  rw [filter_filter]
  apply filter_congr
  intro x _
  rw [Bool.and_comm]
  simp [Bool.not_or]

theorem removeAll_cons_of_not_mem {s : S} {v : Nat} (vs : List Nat) (hv : v ∉ s) :
    removeAll s (v :: vs) = removeAll s vs := by
  rw [removeAll_cons, eraseAsc_of_not_mem hv]

end Spec

/-- With enough fuel the model's union is the shared merge for `||` … -/
theorem unionAux_eq_merge : ∀ (n : Nat) (a b : List Nat), a.length + b.length ≤ n →
    unionAux n a b = Common.Asc.merge (· || ·) a b := by
  intro n a b
  fun_induction unionAux n a b with
  | case1 a b =>
    intro h; obtain rfl : b = [] := length_eq_zero_iff.mp (by omega); cases a <;> simp [Common.Asc.merge]
  | case2 n b => intro _; simp [Common.Asc.merge]
  | case3 n a _ => intro _; cases a <;> simp_all [Common.Asc.merge]
  | case4 n x xs y ys h ih =>
    intro hl; rw [ih (by simp at hl ⊢; omega)]; simp [Common.Asc.merge, Common.Asc.keep, h]
  | case5 n x xs y ys h1 h2 ih | case6 n x xs y ys h1 h2 ih =>
    intro hl; rw [ih (by simp at hl ⊢; omega)]; simp [Common.Asc.merge, Common.Asc.keep, h1, h2]

/-- … and so, both being ascending with the same members, the fold of inserts. -/
theorem unionAux_eq_addAll (n : Nat) (a b : List Nat) (h : a.length + b.length ≤ n) (ha : Asc a) (hb : Asc b) :
    unionAux n a b = Spec.addAll a b :=
  unionAux_eq_merge n a b h ▸ Common.Asc.ext (Common.Asc.asc_merge _ ha hb) (Spec.asc_addAll ha) fun v => by
    rw [Common.Asc.mem_merge rfl ha hb, Spec.mem_addAll]; simp

theorem unionAsc_eq_fold {a b : List Nat} (ha : Asc a) (hb : Asc b) : unionAsc a b = unionFold a b :=
  (unionAux_eq_addAll _ a b (Nat.le_refl _) ha hb).trans (unionFold_eq_addAll a b).symm

theorem diffAux_eq_merge : ∀ (n : Nat) (a b : List Nat), a.length + b.length ≤ n →
    diffAux n a b = Common.Asc.merge (fun p q => p && !q) a b := by
  intro n a b
  fun_induction diffAux n a b with
  | case1 a b =>
    intro h; obtain rfl : b = [] := length_eq_zero_iff.mp (by omega); cases a <;> simp [Common.Asc.merge]
  | case2 n b => intro _; simp [Common.Asc.merge]
  | case3 n a _ => intro _; cases a <;> simp_all [Common.Asc.merge]
  | case4 n x xs y ys h ih =>
    intro hl; rw [ih (by simp at hl ⊢; omega)]; simp [Common.Asc.merge, Common.Asc.keep, h]
  | case5 n x xs y ys h1 h2 ih | case6 n x xs y ys h1 h2 ih =>
    intro hl; rw [ih (by simp at hl ⊢; omega)]; simp [Common.Asc.merge, Common.Asc.keep, h1, h2]

theorem diffAux_eq_removeAll (n : Nat) (a b : List Nat) (h : a.length + b.length ≤ n) (ha : Asc a) (hb : Asc b) :
    diffAux n a b = Spec.removeAll a b :=
  diffAux_eq_merge n a b h ▸ Common.Asc.ext (Common.Asc.asc_merge _ ha hb) (Spec.asc_removeAll ha) fun v => by
    rw [Common.Asc.mem_merge rfl ha hb, Spec.mem_removeAll]; simp

theorem diffAsc_eq_filter {a b : List Nat} (ha : Asc a) (hb : Asc b) : diffAsc a b = diffFilter a b :=
  (diffAux_eq_removeAll _ a b (Nat.le_refl _) ha hb).trans (diffFilter_eq_removeAll a b).symm

namespace Spec

/-- On ascending arguments the Spec's union / difference are the model's merge kernels; the
driver uses the right-hand sides for payloads with tens of thousands of values. -/
theorem addAll_eq_unionAsc (s : S) (vs : List Nat) (hs : Asc s) (hv : Asc vs) : addAll s vs = unionAsc s vs :=
  (unionFold_eq_addAll s vs).symm.trans (unionAsc_eq_fold hs hv).symm

theorem removeAll_eq_diffAsc (s : S) (vs : List Nat) (hs : Asc s) (hv : Asc vs) :
    removeAll s vs = diffAsc s vs :=
  (diffFilter_eq_removeAll s vs).symm.trans (diffAsc_eq_filter hs hv).symm

end Spec

theorem asc_length_le {l : List Nat} {lo n : Nat} (h : Asc l) (hb : ∀ x ∈ l, lo ≤ x ∧ x < n)
    (hlo : lo ≤ n) : l.length + lo ≤ n := Common.Asc.length_le h hb hlo

/-- A full container (N = 65536) contains every `uint16`. -/
theorem mem_of_full {l : List Nat} {n x : Nat} (h : Asc l) (hb : ∀ y ∈ l, y < n) (hl : l.length = n)
    (hx : x < n) : x ∈ l := Common.Asc.mem_of_full h hb hl hx

theorem hget_append_of_lt {h ex : Heap} {i : Nat} (hi : i < h.length) : hget (h ++ ex) i = hget h i := by
  simp [hget, getD_eq_getElem?_getD, getElem?_append_left hi]

theorem hget_append_eq {h : Heap} {c : Cell} : hget (h ++ [c]) h.length = c := by
  unfold hget
  rw [getD_eq_getElem?_getD, getElem?_append_right (Nat.le_refl _), Nat.sub_self]; rfl

theorem hget_hset_eq {h : Heap} {c : Cell} {i : Nat} (hi : i < h.length) : hget (hset h i c) i = c := by
  simp [hget, hset, getD_eq_getElem?_getD, hi]

theorem hget_hset_ne {h : Heap} {c : Cell} {i j : Nat} (hij : i ≠ j) : hget (hset h i c) j = hget h j := by
  simp [hget, hset, getD_eq_getElem?_getD, hij]

theorem length_hset {h : Heap} {c : Cell} {i : Nat} : (hset h i c).length = h.length := by
  simp [hset]

end PV.C02
