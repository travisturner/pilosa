/-
The Bitmap code over any collection that satisfies `CollOK`.  `Good` = the collection invariant
(including lookaside coherence) + heap well-formedness.
-/
import PV.C02.LemmasColl
import PV.C02.LemmasSpec
namespace PV.C02
open List

variable {σ : Type}

structure Good (C : Coll σ) (ok : CollOK C) (b : BM σ) : Prop where
  inv : ok.Inv b.c
  heap : HeapOK C b.c b.h

def cont (C : Coll σ) (b : BM σ) (k : Nat) : Cell := contentsOf C b.c b.h k

/-- The containers the container iterator walks, with their contents. -/
def cells (C : Coll σ) (b : BM σ) : List (Nat × Cell) :=
  (iterEnts C b).map (fun e => (e.1, hget b.h e.2))

theorem cont_eq_pcell (C : Coll σ) (b : BM σ) (k : Nat) : cont C b k = pcell b.h (lk C b.c k) :=
  contentsOf_eq_pcell b.c b.h k

theorem cont_of_lk_none {C : Coll σ} {b : BM σ} {k : Nat} (h : lk C b.c k = none) : cont C b k = [] := by
  rw [cont_eq_pcell, h]; rfl

theorem cont_of_lk_some {C : Coll σ} {b : BM σ} {k i : Nat} (h : lk C b.c k = some i) :
    cont C b k = hget b.h i := by
  rw [cont_eq_pcell, h]; rfl

theorem cont_cellOK {C : Coll σ} {ok : CollOK C} {b : BM σ} (hg : Good C ok b) (k : Nat) :
    CellOK (cont C b k) := by
  rw [cont_eq_pcell]; exact hg.heap.cellOK k

theorem good_of_lk_eq {C : Coll σ} {ok : CollOK C} {b : BM σ} {s' : σ} (hg : Good C ok b)
    (hinv : ok.Inv s') (e : ∀ k, lk C s' k = lk C b.c k) :
    Good C ok ⟨s', b.h⟩ ∧ ∀ k, cont C ⟨s', b.h⟩ k = cont C b k :=
  ⟨⟨hinv, hg.heap.of_lk_eq e⟩, fun k => by rw [cont_eq_pcell, cont_eq_pcell, e]⟩

theorem mem_iterEnts {C : Coll σ} {ok : CollOK C} {b : BM σ} (hg : Good C ok b) {k i : Nat} :
    (k, i) ∈ iterEnts C b ↔ lk C b.c k = some i := by
  have hk := ok.keys b.c hg.inv
  unfold iterEnts lk
  rw [mem_filterMap]
  constructor
  · rintro ⟨⟨k', c⟩, he, hf⟩
    cases c with
    | none => cases hf
    | some j =>
      cases hf
      rw [lookup_eq_some_of_mem hk he]; rfl
  · intro h
    cases hl : List.lookup k (C.ents b.c) with
    | none => rw [hl] at h; cases h
    | some c =>
      rw [hl] at h
      have hc : c = some i := h
      exact ⟨(k, c), mem_of_lookup_eq_some hl, by rw [hc]; rfl⟩

theorem iterEnts_sorted {C : Coll σ} {ok : CollOK C} {b : BM σ} (hg : Good C ok b) :
    (iterEnts C b).Pairwise (fun a b => a.1 < b.1) := by
  have hk := ok.keys b.c hg.inv
  unfold KeysAsc Asc at hk
  rw [pairwise_map] at hk
  unfold iterEnts
  rw [pairwise_filterMap]
  refine Pairwise.imp ?_ hk
  intro a a' hlt x hx y hy
  cases ha : a.2 with
  | none => rw [ha] at hx; cases hx
  | some i =>
    cases ha' : a'.2 with
    | none => rw [ha'] at hy; cases hy
    | some j =>
      rw [ha] at hx; rw [ha'] at hy
      cases hx; cases hy; exact hlt

theorem mem_cells {C : Coll σ} {ok : CollOK C} {b : BM σ} (hg : Good C ok b) {k : Nat} {c : Cell} :
    (k, c) ∈ cells C b ↔ ∃ i, lk C b.c k = some i ∧ c = hget b.h i := by
  unfold cells
  rw [mem_map]
  constructor
  · rintro ⟨⟨k', i⟩, hm, he⟩
    cases he
    exact ⟨i, (mem_iterEnts hg).mp hm, rfl⟩
  · rintro ⟨i, hl, rfl⟩
    exact ⟨(k, i), (mem_iterEnts hg).mpr hl, rfl⟩

theorem cells_LOK {C : Coll σ} {ok : CollOK C} {b : BM σ} (hg : Good C ok b) : LOK (cells C b) where
  keys := by
    unfold cells; rw [pairwise_map]; exact iterEnts_sorted hg
  cells := by
    intro e he
    obtain ⟨i, hl, hc⟩ := (mem_cells (k := e.1) (c := e.2) hg).mp he
    rw [hc]; exact hg.heap.cell e.1 i hl

theorem slice_eq_flat (C : Coll σ) (b : BM σ) : slice C b = flat (cells C b) := by
  unfold slice flat cells; rw [flatMap_map]

theorem mem_slice {C : Coll σ} {ok : CollOK C} {b : BM σ} (hg : Good C ok b) {v : Nat} :
    v ∈ slice C b ↔ v % W ∈ cont C b (v / W) := by
  rw [slice_eq_flat, mem_flat (cells_LOK hg)]
  constructor
  · rintro ⟨c, hc, hx⟩
    obtain ⟨i, hl, rfl⟩ := (mem_cells hg).mp hc
    rw [cont_of_lk_some hl]; exact hx
  · intro hx
    cases hl : lk C b.c (v / W) with
    | none => rw [cont_of_lk_none hl] at hx; cases hx
    | some i =>
      rw [cont_of_lk_some hl] at hx
      exact ⟨hget b.h i, (mem_cells hg).mpr ⟨i, hl, rfl⟩, hx⟩

theorem asc_slice {C : Coll σ} {ok : CollOK C} {b : BM σ} (hg : Good C ok b) : Asc (slice C b) := by
  rw [slice_eq_flat]; exact asc_flat (cells_LOK hg)

theorem slice_unique {C : Coll σ} {ok : CollOK C} {b : BM σ} (hg : Good C ok b) {L : List Nat}
    (hL : Asc L) (hm : ∀ v, v ∈ L ↔ v % W ∈ cont C b (v / W)) : slice C b = L :=
  asc_ext (asc_slice hg) hL (fun v => by rw [mem_slice hg, hm])

theorem slice_congr {C : Coll σ} {ok : CollOK C} {b b' : BM σ} (hg : Good C ok b) (hg' : Good C ok b')
    (h : ∀ k, cont C b' k = cont C b k) : slice C b' = slice C b :=
  slice_unique hg' (asc_slice hg) (fun v => by rw [mem_slice hg, h])

theorem contains_slice {C : Coll σ} {ok : CollOK C} {b : BM σ} (hg : Good C ok b) (v : Nat) :
    (slice C b).contains v = (cont C b (v / W)).contains (v % W) := by
  rw [Bool.eq_iff_iff, contains_iff_mem, contains_iff_mem, mem_slice hg]

theorem get_spec {C : Coll σ} (ok : CollOK C) (b : BM σ) (k : Nat) (g : σ × Ptr) (e : g = C.get b.c k)
    (hg : Good C ok b) :
    Good C ok ⟨g.1, b.h⟩ ∧ g.2 = lk C g.1 k ∧ ∀ k', cont C ⟨g.1, b.h⟩ k' = cont C b k' := by
  subst e
  obtain ⟨hi, hp, he⟩ := ok.get b.c k hg.inv
  have hlk : ∀ k', lk C (C.get b.c k).1 k' = lk C b.c k' := fun k' => by unfold lk; rw [he]
  obtain ⟨h1, h2⟩ := good_of_lk_eq hg hi hlk
  exact ⟨h1, by rw [hlk]; exact hp, h2⟩

theorem contains_spec {C : Coll σ} {ok : CollOK C} {b : BM σ} (hg : Good C ok b) (v : Nat) :
    Good C ok (contains C b v).1 ∧ (∀ k, cont C (contains C b v).1 k = cont C b k) ∧
    (contains C b v).2 = (slice C b).contains v := by
  obtain ⟨h1, h2, h3⟩ := get_spec ok b (v / W) _ rfl hg
  refine ⟨h1, h3, ?_⟩
  rw [contains_slice hg, ← h3 (v / W), cont_eq_pcell, ← h2]
  show (match (C.get b.c (v / W)).2 with | none => false | some i => (hget b.h i).contains (v % W)) = _
  cases (C.get b.c (v / W)).2 <;> rfl

theorem count_spec (C : Coll σ) (b : BM σ) : count C b = (slice C b).length := by
  rw [slice_eq_flat, length_flat]
  unfold count cells iterEnts
  generalize C.ents b.c = es
  induction es with
  | nil => rfl
  | cons e r ih =>
    obtain ⟨k, c⟩ := e
    cases c with
    | none => simpa [cN] using ih
    | some i =>
      simp only [map_cons, sum_cons, filterMap_cons, Option.map_some, ih]
      rfl

/-- A collection state `s'` whose pointer for `k` is `newC` (all other keys as in `b1`), with a
heap `h'` in which the container of `k` holds `cell'`. -/
theorem apply_gen {C : Coll σ} (ok : CollOK C) (b1 : BM σ) (k : Nat) (s' : σ) (h' : Heap) (newC : Ptr)
    (cell' : Cell) (hg : Good C ok b1) (hinv : ok.Inv s')
    (hlk : ∀ k', lk C s' k' = if k' = k then newC else lk C b1.c k')
    (hcell : CellOK cell')
    (hs : (∃ junk, h' = b1.h ++ junk ∧ newC = lk C b1.c k ∧ cell' = cont C b1 k) ∨
          (∃ i, lk C b1.c k = some i ∧ h' = hset b1.h i cell' ∧ newC = some i) ∨
          (h' = b1.h ++ [cell'] ∧ newC = some b1.h.length) ∨
          (h' = b1.h ∧ newC = none ∧ cell' = [])) :
    Good C ok ⟨s', h'⟩ ∧ cont C ⟨s', h'⟩ k = cell' ∧ ∀ k', k' ≠ k → cont C ⟨s', h'⟩ k' = cont C b1 k' := by
  rw [cont_eq_pcell] at hs
  obtain ⟨f1, f2, f3⟩ := hg.heap.point hlk hcell hs
  exact ⟨⟨hinv, f1⟩, f2, f3⟩

/-- The conditional `Put` after a kernel call. -/
theorem put_unless_same {C : Coll σ} (ok : CollOK C) {s : σ} {k : Nat} {c : Ptr} (c' : Ptr)
    (hinv : ok.Inv s) (hk : k < INVALID) (hc : c = lk C s k) :
    ok.Inv (if c' != c then C.put s k c' else s) ∧
    ∀ k', lk C (if c' != c then C.put s k c' else s) k' = if k' = k then c' else lk C s k' := by
  by_cases hne : (c' != c) = true
  · rw [if_pos hne]; exact ok.put s k c' hinv hk
  · rw [if_neg hne]
    have e : c' = lk C s k := by rw [← hc]; simpa using hne
    refine ⟨hinv, fun k' => ?_⟩
    split
    · rename_i ek; rw [ek, e]
    · rfl

/-- How a kernel may hand back the contents `cell'` for the container behind `c` (heap `h`). -/
def Shape (h : Heap) (c : Ptr) (old : Cell) (cell' : Cell) (r : Heap × Ptr × Bool) : Prop :=
  (r.1 = h ∧ r.2.1 = c ∧ cell' = old) ∨
  (∃ i, c = some i ∧ r.1 = hset h i cell' ∧ r.2.1 = some i) ∨
  (r.1 = h ++ [cell'] ∧ r.2.1 = some h.length) ∨
  (r.1 = h ∧ r.2.1 = none ∧ cell' = [])

theorem apply_shape {C : Coll σ} (ok : CollOK C) (b1 : BM σ) (k : Nat) (c : Ptr) (cell' : Cell)
    (r : Heap × Ptr × Bool) (hg : Good C ok b1) (hk : k < INVALID) (hc : c = lk C b1.c k)
    (hcell : CellOK cell') (hr : Shape b1.h c (cont C b1 k) cell' r) :
    Good C ok ⟨if r.2.1 != c then C.put b1.c k r.2.1 else b1.c, r.1⟩ ∧
    lk C (if r.2.1 != c then C.put b1.c k r.2.1 else b1.c) k = r.2.1 ∧
    cont C ⟨if r.2.1 != c then C.put b1.c k r.2.1 else b1.c, r.1⟩ k = cell' ∧
    ∀ k', k' ≠ k → cont C ⟨if r.2.1 != c then C.put b1.c k r.2.1 else b1.c, r.1⟩ k' = cont C b1 k' := by
  obtain ⟨hinv, hlk⟩ := put_unless_same ok r.2.1 hg.inv hk hc
  obtain ⟨g1, g2, g3⟩ := apply_gen ok b1 k _ r.1 r.2.1 cell' hg hinv hlk hcell (by
    rcases hr with ⟨h1, h2, h3⟩ | ⟨i, h1, h2, h3⟩ | h | h
    · exact Or.inl ⟨[], by rw [h1, append_nil], by rw [h2, hc], h3⟩
    · exact Or.inr (Or.inl ⟨i, by rw [← hc, h1], h2, h3⟩)
    · exact Or.inr (Or.inr (Or.inl h))
    · exact Or.inr (Or.inr (Or.inr h)))
  exact ⟨g1, (hlk k).trans (if_pos rfl), g2, g3⟩

structure KSpec (op : Policy → Heap → Ptr → Nat → Heap × Ptr × Bool) (g : Nat → Cell → Cell)
    (chg : Nat → Cell → Bool) : Prop where
  ok : ∀ x cell, x < W → CellOK cell → CellOK (g x cell)
  shape : ∀ (p : Policy) (h : Heap) (c : Ptr) (x : Nat) (old : Cell),
    old = pcell h c → Asc old →
    Shape h c old (g x old) (op p h c x) ∧ (op p h c x).2.2 = chg x old

theorem kAdd : KSpec cAdd insertAsc (fun x c => !c.contains x) where
  ok := by
    intro x cell hx hc
    refine ⟨asc_insertAsc hc.1, ?_⟩
    intro y hy; rcases mem_insertAsc.mp hy with rfl | hy
    · exact hx
    · exact hc.2 y hy
  shape := by
    intro p h c x old hold hasc
    subst hold
    cases c with
    | none => exact ⟨Or.inr (Or.inr (Or.inl ⟨rfl, rfl⟩)), rfl⟩
    | some i =>
      simp only [cAdd, pcell] at hasc ⊢
      cases hm : (hget h i).contains x with
      | true =>
        rw [if_pos rfl]
        exact ⟨Or.inl ⟨rfl, rfl, insertAsc_of_mem hasc (by simpa using hm)⟩, rfl⟩
      | false =>
        rw [if_neg Bool.false_ne_true]
        split
        · exact ⟨Or.inr (Or.inr (Or.inl ⟨rfl, rfl⟩)), rfl⟩
        · exact ⟨Or.inr (Or.inl ⟨i, rfl, rfl, rfl⟩), rfl⟩

theorem kRemove : KSpec cRemove eraseAsc (fun x c => c.contains x) where
  ok := by
    intro x cell _ hc
    exact ⟨asc_eraseAsc hc.1, fun y hy => hc.2 y (mem_eraseAsc.mp hy).1⟩
  shape := by
    intro p h c x old hold hasc
    subst hold
    cases c with
    | none => exact ⟨Or.inl ⟨rfl, rfl, rfl⟩, rfl⟩
    | some i =>
      simp only [cRemove, pcell] at hasc ⊢
      cases hm : (hget h i).contains x with
      | false =>
        rw [if_pos (show (!false) = true from rfl)]
        exact ⟨Or.inl ⟨rfl, rfl, eraseAsc_of_not_mem (by simpa using hm)⟩, rfl⟩
      | true =>
        rw [if_neg (show ¬ (!true) = true from Bool.false_ne_true)]
        split
        · -- the only value goes: nil comes back
          rename_i h1
          refine ⟨Or.inr (Or.inr (Or.inr ⟨rfl, rfl, ?_⟩)), rfl⟩
          have hx : x ∈ hget h i := by simpa using hm
          match hh : hget h i, h1, hx with
          | [y], _, hx => rw [mem_singleton.mp hx]; simp [eraseAsc]
        · split
          · exact ⟨Or.inr (Or.inr (Or.inl ⟨rfl, rfl⟩)), rfl⟩
          · exact ⟨Or.inr (Or.inl ⟨i, rfl, rfl, rfl⟩), rfl⟩

theorem apply_op {C : Coll σ} (ok : CollOK C) {op g chg} (ks : KSpec op g chg) (p : Policy)
    (b1 : BM σ) (k x : Nat) (c : Ptr) (r : Heap × Ptr × Bool) (b' : BM σ) (hr : r = op p b1.h c x)
    (hb' : b' = ⟨if r.2.1 != c then C.put b1.c k r.2.1 else b1.c, r.1⟩)
    (hg : Good C ok b1) (hk : k < INVALID) (hx : x < W) (hc : c = lk C b1.c k) :
    Good C ok b' ∧ lk C b'.c k = r.2.1 ∧ cont C b' k = g x (cont C b1 k) ∧
    (∀ k', k' ≠ k → cont C b' k' = cont C b1 k') ∧ r.2.2 = chg x (cont C b1 k) := by
  subst hr hb'
  have hcok := cont_cellOK hg k
  obtain ⟨hs, hch⟩ := ks.shape p b1.h c x (cont C b1 k) (by rw [hc, cont_eq_pcell]) hcok.1
  obtain ⟨h1, h2, h3, h4⟩ := apply_shape ok b1 k c (g x (cont C b1 k)) (op p b1.h c x) hg hk hc
    (ks.ok x _ hx hcok) hs
  exact ⟨h1, h2, h3, h4, hch⟩

/-- `GetOrCreate` keeps all contents: a created container is empty, and `k` held nothing. -/
theorem goc_spec {C : Coll σ} (ok : CollOK C) (b : BM σ) (k : Nat) (g : σ × Heap × Ptr)
    (e : g = C.getOrCreate b.c b.h k) (hg : Good C ok b) (hk : k < INVALID) :
    Good C ok ⟨g.1, g.2.1⟩ ∧ g.2.2 = lk C g.1 k ∧ ∀ k', cont C ⟨g.1, g.2.1⟩ k' = cont C b k' := by
  subst e
  obtain ⟨hi, hp, hother, hcase⟩ := ok.goc b.c b.h k hg.inv hk
  have hlk : ∀ k', lk C (C.getOrCreate b.c b.h k).1 k' =
      if k' = k then (C.getOrCreate b.c b.h k).2.2 else lk C b.c k' := by
    intro k'; split
    · rename_i e; rw [e, hp]
    · rename_i e; exact hother k' e
  obtain ⟨g1, g2⟩ := hg.heap.point_same (h' := (C.getOrCreate b.c b.h k).2.1) hlk (by
    rcases hcase with ⟨h1, h2⟩ | ⟨h1, h2, h3⟩
    · exact Or.inl ⟨[], by rw [h2, append_nil], h1, rfl⟩
    · exact Or.inr (Or.inr (Or.inl ⟨by rw [h3, h1]; rfl, h2⟩)))
  exact ⟨⟨hi, g1⟩, hp, g2⟩

end PV.C02
