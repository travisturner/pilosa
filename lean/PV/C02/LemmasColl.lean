/-
The laws every container collection must satisfy (`CollOK`); heap well-formedness (`HeapOK`)
is preserved when the pointer stored for one key changes (`HeapOK.frame`).
-/
import PV.C02.LemmasBasic
import PV.Common.AscMap
namespace PV.C02
open List

def KeysAsc {β : Type} (es : List (Nat × β)) : Prop := Asc (es.map Prod.fst)

theorem keysAsc_cons {β : Type} {k : Nat} {v : β} {es : List (Nat × β)} :
    KeysAsc ((k, v) :: es) ↔ (∀ e ∈ es, k < e.1) ∧ KeysAsc es := by
  unfold KeysAsc; rw [map_cons, asc_cons, forall_mem_map]

theorem keysAsc_nil {β : Type} : KeysAsc ([] : List (Nat × β)) := asc_nil

theorem keysAsc_iff {β : Type} {es : List (Nat × β)} : KeysAsc es ↔ Common.KeysAsc es := pairwise_map

theorem aSet_eq_put {β : Type} (es : List (Nat × β)) (k : Nat) (v : β) : aSet es k v = Common.AscMap.put k v es := by
  induction es <;> simp [aSet, Common.AscMap.put, *]

theorem lookup_cons_ite {β : Type} (k a : Nat) (b : β) (r : List (Nat × β)) :
    List.lookup k ((a, b) :: r) = if k = a then some b else List.lookup k r :=
  Common.AscMap.lookup_cons k (a, b) r

theorem lookup_aSet {β : Type} (es : List (Nat × β)) (k k' : Nat) (v : β) :
    List.lookup k' (aSet es k v) = if k' = k then some v else List.lookup k' es :=
  aSet_eq_put es k v ▸ Common.AscMap.lookup_put es k k' v

theorem mem_aSet {β : Type} (es : List (Nat × β)) (k : Nat) (v : β) (e : Nat × β) :
    e ∈ aSet es k v → e = (k, v) ∨ e ∈ es :=
  aSet_eq_put es k v ▸ Common.AscMap.mem_put

theorem keysAsc_aSet {β : Type} {es : List (Nat × β)} (k : Nat) (v : β) (h : KeysAsc es) :
    KeysAsc (aSet es k v) :=
  aSet_eq_put es k v ▸ keysAsc_iff.mpr (Common.AscMap.keysAsc_put k v (keysAsc_iff.mp h))

theorem lookup_filter_ne {β : Type} (es : List (Nat × β)) (k k' : Nat) :
    List.lookup k' (es.filter (fun e => e.1 != k)) = if k' = k then none else List.lookup k' es :=
  Common.AscMap.lookup_filter_ne es k k'

theorem keysAsc_filter {β : Type} {es : List (Nat × β)} (p : Nat × β → Bool) (h : KeysAsc es) :
    KeysAsc (es.filter p) := by
  unfold KeysAsc Asc at *
  rw [pairwise_map] at *
  exact Pairwise.filter _ h

theorem lookup_eq_none_of_lt {β : Type} {es : List (Nat × β)} {k : Nat}
    (h : ∀ e ∈ es, k < e.1) : List.lookup k es = none := Common.AscMap.lookup_eq_none_of_lt h

theorem lookup_eq_some_of_mem {β : Type} {es : List (Nat × β)} {k : Nat} {v : β} (h : KeysAsc es)
    (hm : (k, v) ∈ es) : List.lookup k es = some v := Common.AscMap.lookup_of_mem (keysAsc_iff.mp h) hm

theorem mem_of_lookup_eq_some {β : Type} {es : List (Nat × β)} {k : Nat} {v : β}
    (h : List.lookup k es = some v) : (k, v) ∈ es := Common.AscMap.mem_of_lookup h

theorem lookup_map_some (t : List (Nat × Nat)) (k : Nat) :
    List.lookup k (t.map (fun e => (e.1, some e.2))) = (List.lookup k t).map some := by
  induction t with
  | nil => rfl
  | cons e r ih => obtain ⟨a, b⟩ := e; simp only [map_cons, lookup_cons, ih]; split <;> simp

/-- In an ascending list, replacing the value of a key that is there is `aSet`. -/
theorem aSet_append_cons {β : Type} {pre r : List (Nat × β)} {k : Nat} {v : β} (w : β)
    (h : KeysAsc (pre ++ (k, v) :: r)) : aSet (pre ++ (k, v) :: r) k w = pre ++ (k, w) :: r := by
  induction pre with
  | nil => rw [nil_append, aSet, if_neg (Nat.lt_irrefl k), if_pos rfl]; rfl
  | cons e t ih =>
    obtain ⟨a, b⟩ := e
    rw [cons_append, keysAsc_cons] at h
    have hak : a < k := h.1 (k, v) (mem_append_right _ mem_cons_self)
    rw [cons_append, aSet, if_neg (by omega), if_neg (by omega), ih h.2]; rfl

/-- … and dropping it is the filter. -/
theorem filter_ne_append_cons {β : Type} {pre r : List (Nat × β)} {k : Nat} {v : β}
    (h : KeysAsc (pre ++ (k, v) :: r)) :
    (pre ++ (k, v) :: r).filter (fun e => e.1 != k) = pre ++ r := by
  unfold KeysAsc Asc at h
  rw [map_append, map_cons, pairwise_append, pairwise_cons] at h
  have hpre : ∀ e ∈ pre, (e.1 != k) = true := fun e he =>
    bne_iff_ne.mpr (Nat.ne_of_lt (h.2.2 e.1 (mem_map.mpr ⟨e, he, rfl⟩) k mem_cons_self))
  have hr : ∀ e ∈ r, (e.1 != k) = true := fun e he =>
    bne_iff_ne.mpr (Nat.ne_of_gt (h.2.1.1 e.1 (mem_map.mpr ⟨e, he, rfl⟩)))
  rw [filter_append, filter_cons, filter_eq_self.mpr hpre, filter_eq_self.mpr hr, bne_self_eq_false]
  rfl

/-- The pointer stored for key `k` (none: no entry, or an entry holding nil). -/
def lk {σ : Type} (C : Coll σ) (s : σ) (k : Nat) : Ptr := (List.lookup k (C.ents s)).join

/-- Contents stored for key `k`. -/
def contentsOf {σ : Type} (C : Coll σ) (s : σ) (h : Heap) (k : Nat) : Cell :=
  match lk C s k with
  | none => []
  | some i => hget h i

/-- Stored pointers are valid heap ids, the cells behind them `CellOK`, no cell under two keys. -/
structure HeapOK {σ : Type} (C : Coll σ) (s : σ) (h : Heap) : Prop where
  ptr : ∀ k i, lk C s k = some i → i < h.length
  cell : ∀ k i, lk C s k = some i → CellOK (hget h i)
  inj : ∀ k k' i, lk C s k = some i → lk C s k' = some i → k = k'

/-- The laws the Bitmap code relies on. `Inv` is the collection's own invariant (key order and
lookaside coherence); `everyOpt` is `updateEvery` for Optimize's callback only. -/
structure CollOK {σ : Type} (C : Coll σ) where
  Inv : σ → Prop
  init : Inv C.init
  init_ents : C.ents C.init = []
  keys : ∀ s, Inv s → KeysAsc (C.ents s)
  keyok : ∀ s k i, Inv s → lk C s k = some i → k < INVALID
  get : ∀ s k, Inv s →
    Inv (C.get s k).1 ∧ (C.get s k).2 = lk C s k ∧ C.ents (C.get s k).1 = C.ents s
  put : ∀ s k c, Inv s → k < INVALID →
    Inv (C.put s k c) ∧ ∀ k', lk C (C.put s k c) k' = if k' = k then c else lk C s k'
  remove : ∀ s k, Inv s →
    Inv (C.remove s k) ∧ ∀ k', lk C (C.remove s k) k' = if k' = k then none else lk C s k'
  goc : ∀ s h k, Inv s → k < INVALID →
    Inv (C.getOrCreate s h k).1 ∧ (C.getOrCreate s h k).2.2 = lk C (C.getOrCreate s h k).1 k ∧
    (∀ k', k' ≠ k → lk C (C.getOrCreate s h k).1 k' = lk C s k') ∧
    (((C.getOrCreate s h k).2.2 = lk C s k ∧ (C.getOrCreate s h k).2.1 = h) ∨
     (lk C s k = none ∧ (C.getOrCreate s h k).2.2 = some h.length ∧ (C.getOrCreate s h k).2.1 = h ++ [[]]))
  update : ∀ {α : Type} s k (fn : Ptr → Bool → α × Ptr × Bool), Inv s → k < INVALID →
    ∃ e, (∀ i, lk C s k = some i → e = true) ∧
      (C.update s k fn).2 = (fn (lk C s k) e).1 ∧ Inv (C.update s k fn).1 ∧
      ∀ k', lk C (C.update s k fn).1 k' =
        if k' = k ∧ (fn (lk C s k) e).2.2 = true then (fn (lk C s k) e).2.1 else lk C s k'
  everyOpt : ∀ p s h, Inv s → HeapOK C s h →
    Inv (C.updateEvery s h (optFn p)).1 ∧
    HeapOK C (C.updateEvery s h (optFn p)).1 (C.updateEvery s h (optFn p)).2 ∧
    ∀ k, contentsOf C (C.updateEvery s h (optFn p)).1 (C.updateEvery s h (optFn p)).2 k = contentsOf C s h k
  reset : ∀ s, Inv (C.reset s) ∧ C.ents (C.reset s) = []

section heap
variable {σ : Type} {C : Coll σ}

theorem contentsOf_eq_pcell (s : σ) (h : Heap) (k : Nat) : contentsOf C s h k = pcell h (lk C s k) := by
  unfold contentsOf pcell; cases lk C s k <;> rfl

/-- What an operation on the container behind `c` may do: leave the pointer alone (the heap may
grow by objects nobody points to), write the new contents `cell'` in place, allocate them, or
hand back nil for empty contents. -/
def Outcome (h : Heap) (c : Ptr) (cell' : Cell) (h' : Heap) (c' : Ptr) : Prop :=
  (∃ junk, h' = h ++ junk ∧ c' = c ∧ cell' = pcell h c) ∨
  (∃ i, c = some i ∧ h' = hset h i cell' ∧ c' = some i) ∨
  (h' = h ++ [cell'] ∧ c' = some h.length) ∨
  (h' = h ∧ c' = none ∧ cell' = [])

namespace HeapOK

theorem cellOK {s : σ} {h : Heap} (hh : HeapOK C s h) (k : Nat) : CellOK (pcell h (lk C s k)) := by
  cases hl : lk C s k with
  | none => exact cellOK_nil
  | some i => exact hh.cell k i hl

theorem of_lk_eq {s s' : σ} {h : Heap} (hh : HeapOK C s h) (e : ∀ k, lk C s' k = lk C s k) :
    HeapOK C s' h :=
  ⟨fun k i hl => hh.ptr k i (e k ▸ hl), fun k i hl => hh.cell k i (e k ▸ hl),
   fun k k' i h1 h2 => hh.inj k k' i (e k ▸ h1) (e k' ▸ h2)⟩

theorem of_ents_nil {s : σ} (h : Heap) (e : C.ents s = []) : HeapOK C s h := by
  have hn : ∀ k i, lk C s k ≠ some i := fun k i hl => by unfold lk at hl; rw [e] at hl; cases hl
  exact ⟨fun k i hl => absurd hl (hn k i), fun k i hl => absurd hl (hn k i),
    fun k _ i hl => absurd hl (hn k i)⟩

/-- The frame rule: the pointer stored for `k` becomes `c'`, the heap does not shrink and keeps
the cells behind the other keys, and a non-nil `c'` is a valid, well-formed cell that no other
key points to. -/
theorem frame {s s' : σ} {h h' : Heap} {k : Nat} {c' : Ptr} (hh : HeapOK C s h)
    (hlk : ∀ k', lk C s' k' = if k' = k then c' else lk C s k')
    (hlen : h.length ≤ h'.length)
    (hkeep : ∀ k' j, k' ≠ k → lk C s k' = some j → hget h' j = hget h j)
    (hnew : ∀ j, c' = some j →
      j < h'.length ∧ CellOK (hget h' j) ∧ ∀ k', k' ≠ k → lk C s k' ≠ some j) :
    HeapOK C s' h' ∧ ∀ k', k' ≠ k → contentsOf C s' h' k' = contentsOf C s h k' := by
  have hother : ∀ k', k' ≠ k → lk C s' k' = lk C s k' := fun k' e => by rw [hlk, if_neg e]
  have hself : lk C s' k = c' := by rw [hlk, if_pos rfl]
  refine ⟨⟨?_, ?_, ?_⟩, ?_⟩
  · intro k' j hl
    by_cases e : k' = k
    · subst e; rw [hself] at hl; exact (hnew j hl).1
    · rw [hother k' e] at hl; exact Nat.lt_of_lt_of_le (hh.ptr k' j hl) hlen
  · intro k' j hl
    by_cases e : k' = k
    · subst e; rw [hself] at hl; exact (hnew j hl).2.1
    · rw [hother k' e] at hl; rw [hkeep k' j e hl]; exact hh.cell k' j hl
  · intro k1 k2 j h1 h2
    by_cases e1 : k1 = k <;> by_cases e2 : k2 = k
    · rw [e1, e2]
    · subst e1; rw [hself] at h1; rw [hother k2 e2] at h2; exact absurd h2 ((hnew j h1).2.2 k2 e2)
    · subst e2; rw [hself] at h2; rw [hother k1 e1] at h1; exact absurd h1 ((hnew j h2).2.2 k1 e1)
    · rw [hother k1 e1] at h1; rw [hother k2 e2] at h2; exact hh.inj k1 k2 j h1 h2
  · intro k' e
    rw [contentsOf_eq_pcell, contentsOf_eq_pcell, hother k' e]
    cases hl : lk C s k' with
    | none => rfl
    | some j => exact hkeep k' j e hl

/-- The four outcomes, each by the frame rule. -/
theorem point {s s' : σ} {h h' : Heap} {k : Nat} {c' : Ptr} {cell' : Cell} (hh : HeapOK C s h)
    (hlk : ∀ k', lk C s' k' = if k' = k then c' else lk C s k')
    (hcell : CellOK cell') (ho : Outcome h (lk C s k) cell' h' c') :
    HeapOK C s' h' ∧ contentsOf C s' h' k = cell' ∧
    ∀ k', k' ≠ k → contentsOf C s' h' k' = contentsOf C s h k' := by
  have hself : contentsOf C s' h' k = pcell h' c' := by rw [contentsOf_eq_pcell, hlk, if_pos rfl]
  -- a pointer stored for `k` is stored for no other key
  have honly : ∀ j, lk C s k = some j → ∀ k', k' ≠ k → lk C s k' ≠ some j :=
    fun j hj k' e hl => e (hh.inj k' k j hl hj)
  rw [hself]
  rcases ho with ⟨junk, rfl, rfl, rfl⟩ | ⟨i, hi, rfl, rfl⟩ | ⟨rfl, rfl⟩ | ⟨rfl, rfl, rfl⟩
  · have hk : ∀ j, lk C s k = some j → hget (h ++ junk) j = hget h j :=
      fun j hj => hget_append_of_lt (hh.ptr k j hj)
    obtain ⟨f1, f2⟩ := hh.frame (h' := h ++ junk) hlk (length_append ▸ Nat.le_add_right _ _)
      (fun k' j _ hl => hget_append_of_lt (hh.ptr k' j hl))
      (fun j hj => ⟨length_append ▸ Nat.lt_add_right _ (hh.ptr k j hj),
        by rw [hk j hj]; exact hh.cell k j hj, honly j hj⟩)
    refine ⟨f1, ?_, f2⟩
    cases hl : lk C s k with
    | none => rfl
    | some j => exact hk j hl
  · have hil := hh.ptr k i hi
    obtain ⟨f1, f2⟩ := hh.frame (h' := hset h i cell') hlk (by rw [length_hset]; omega)
      (fun k' j e hl => hget_hset_ne (fun e' => honly i hi k' e (e'.symm ▸ hl)))
      (fun j hj => by
        cases hj
        exact ⟨by rw [length_hset]; exact hil, by rw [hget_hset_eq hil]; exact hcell, honly i hi⟩)
    exact ⟨f1, hget_hset_eq hil, f2⟩
  · obtain ⟨f1, f2⟩ := hh.frame (h' := h ++ [cell']) hlk (length_append ▸ Nat.le_add_right _ _)
      (fun k' j _ hl => hget_append_of_lt (hh.ptr k' j hl))
      (fun j hj => by
        cases hj
        exact ⟨length_append ▸ Nat.lt_succ_self _, by rw [hget_append_eq]; exact hcell,
          fun k' _ hl => Nat.lt_irrefl _ (hh.ptr k' _ hl)⟩)
    exact ⟨f1, hget_append_eq, f2⟩
  · obtain ⟨f1, f2⟩ := hh.frame hlk (Nat.le_refl _) (fun _ _ _ _ => rfl) (fun j hj => by cases hj)
    exact ⟨f1, rfl, f2⟩

theorem point_same {s s' : σ} {h h' : Heap} {k : Nat} {c' : Ptr} (hh : HeapOK C s h)
    (hlk : ∀ k', lk C s' k' = if k' = k then c' else lk C s k')
    (ho : Outcome h (lk C s k) (pcell h (lk C s k)) h' c') :
    HeapOK C s' h' ∧ ∀ k', contentsOf C s' h' k' = contentsOf C s h k' := by
  obtain ⟨f1, f2, f3⟩ := hh.point hlk (hh.cellOK k) ho
  refine ⟨f1, fun k' => ?_⟩
  by_cases e : k' = k
  · rw [e, f2, contentsOf_eq_pcell]
  · exact f3 k' e

end HeapOK

theorem cOptimize_outcome (p : Policy) (h : Heap) (c : Ptr) :
    Outcome h c (pcell h c) (cOptimize p h c).1 (cOptimize p h c).2 := by
  cases c with
  | none => exact Or.inl ⟨[], (append_nil h).symm, rfl, rfl⟩
  | some i =>
    simp only [cOptimize]
    by_cases hemp : (hget h i).length = 0
    · rw [if_pos hemp]; exact Or.inr (Or.inr (Or.inr ⟨rfl, rfl, length_eq_zero_iff.mp hemp⟩))
    · rw [if_neg hemp]
      split
      · exact Or.inr (Or.inr (Or.inl ⟨rfl, rfl⟩))
      · exact Or.inl ⟨[], (append_nil h).symm, rfl, rfl⟩

end heap

end PV.C02
