/-
ImportRoaringBits (set / clear): what the `importUpdater` closures do to one container, then the
fold over the payload's containers, stated once: `clear = false` puts the payload with polarity `true`.
-/
import PV.C02.LemmasPoint
namespace PV.C02
open List

variable {σ : Type}

theorem mem_unionAsc {y : Nat} {a b : List Nat} (ha : Asc a) (hb : Asc b) :
    y ∈ unionAsc a b ↔ y ∈ a ∨ y ∈ b := by
  rw [← Spec.addAll_eq_unionAsc a b ha hb]; exact Spec.mem_addAll

theorem mem_diffAsc {y : Nat} {a b : List Nat} (ha : Asc a) (hb : Asc b) :
    y ∈ diffAsc a b ↔ y ∈ a ∧ y ∉ b := by
  rw [← Spec.removeAll_eq_diffAsc a b ha hb]; exact Spec.mem_removeAll

theorem cellOK_unionAsc {a b : Cell} (ha : CellOK a) (hb : CellOK b) : CellOK (unionAsc a b) := by
  refine ⟨by rw [← Spec.addAll_eq_unionAsc a b ha.1 hb.1]; exact Spec.asc_addAll ha.1, ?_⟩
  intro x hx; rcases (mem_unionAsc ha.1 hb.1).mp hx with h | h
  · exact ha.2 x h
  · exact hb.2 x h

theorem cellOK_diffAsc {a b : Cell} (ha : CellOK a) (hb : Asc b) : CellOK (diffAsc a b) :=
  ⟨by rw [← Spec.removeAll_eq_diffAsc a b ha.1 hb]; exact Spec.asc_removeAll ha.1,
   fun x hx => ha.2 x ((mem_diffAsc ha.1 hb).mp hx).1⟩

theorem cell_length_le {a : Cell} (ha : CellOK a) : a.length ≤ W :=
  asc_length_le (lo := 0) ha.1 (fun x hx => ⟨Nat.zero_le _, ha.2 x hx⟩) (Nat.zero_le _)

theorem length_unionAsc {a b : List Nat} (ha : Asc a) (hb : Asc b) :
    (unionAsc a b).length = a.length + (b.filter (fun x => !a.contains x)).length := by
  rw [← Spec.addAll_eq_unionAsc a b ha hb]; exact Spec.length_addAll ha (asc_nodup hb)

theorem length_diffAsc {a b : List Nat} (ha : Asc a) (hb : Asc b) :
    (diffAsc a b).length + (b.filter (fun x => a.contains x)).length = a.length := by
  rw [← Spec.removeAll_eq_diffAsc a b ha hb]; exact Spec.length_removeAll ha (asc_nodup hb)

theorem unionAsc_eq_of_length {a b : List Nat} (ha : Asc a) (hb : Asc b)
    (hl : (unionAsc a b).length = a.length) : unionAsc a b = a := by
  have h0 : b.filter (fun x => !a.contains x) = [] := by
    have := length_unionAsc ha hb
    exact length_eq_zero_iff.mp (by omega)
  apply asc_ext (by rw [← Spec.addAll_eq_unionAsc a b ha hb]; exact Spec.asc_addAll ha) ha
  intro v
  rw [mem_unionAsc ha hb]
  refine ⟨fun o => o.elim id (fun hv => ?_), Or.inl⟩
  have := filter_eq_nil_iff.mp h0 v hv
  simpa using this

theorem unionAsc_full {a b : Cell} (ha : CellOK a) (hb : CellOK b) (hf : a.length = W) :
    unionAsc a b = a := by
  apply unionAsc_eq_of_length ha.1 hb.1
  have h1 := length_unionAsc ha.1 hb.1
  have h2 := cell_length_le (cellOK_unionAsc ha hb)
  omega

theorem diffAsc_eq_of_length {a b : Cell} (ha : Asc a) (hb : Asc b)
    (h : (diffAsc a b).length = a.length) : diffAsc a b = a := by
  rw [diffAsc_eq_filter ha hb] at h ⊢
  exact Sublist.eq_of_length filter_sublist h

theorem diffAsc_full {a b : Cell} (ha : CellOK a) (hb : CellOK b) (hf : b.length = W) :
    diffAsc a b = [] := by
  rw [diffAsc_eq_filter ha.1 hb.1]
  refine filter_eq_nil_iff.mpr (fun x hx => ?_)
  simp [mem_of_full hb.1 hb.2 hf (ha.2 x hx)]

theorem importSetFn_outcome (p : Policy) (syn : Cell) (h : Heap) (n : Nat) (c : Ptr) (e : Bool)
    (r : (Heap × Nat) × Ptr × Bool) (hr : r = importSetFn p syn (h, n) c e)
    (hold : CellOK (pcell h c)) (hsyn : CellOK syn) :
    Outcome h c (unionAsc (pcell h c) syn) r.1.1 (if r.2.2 then r.2.1 else c) ∧
    r.1.2 = n + (syn.filter (fun x => !(pcell h c).contains x)).length := by
  subst hr
  have hW : ¬ 0 = W := by unfold W; omega
  have hnew : unionAsc [] syn = syn ∧ (syn.filter (fun x => !([] : Cell).contains x)).length = syn.length :=
    ⟨(Spec.addAll_eq_unionAsc [] syn asc_nil hsyn.1).symm.trans (Spec.addAll_nil_left hsyn.1),
     congrArg length (filter_eq_self.mpr (fun _ _ => rfl))⟩
  cases c with
  | none =>
    have hF : importSetFn p syn (h, n) none e = ((h ++ [syn], n + syn.length), some h.length, true) := by
      simp [importSetFn, cN, hW]
    rw [hF, pcell, hnew.1, hnew.2]
    exact ⟨Or.inr (Or.inr (Or.inl ⟨rfl, rfl⟩)), rfl⟩
  | some i =>
    rw [pcell] at hold ⊢
    have hlen := length_unionAsc hold.1 hsyn.1
    by_cases hfull : (hget h i).length = W
    · -- full container: left alone
      have hF : importSetFn p syn (h, n) (some i) e = ((h, n), some i, false) := by
        simp [importSetFn, cN, hfull]
      have hu := unionAsc_full hold hsyn hfull
      rw [hF, hu]; rw [hu] at hlen
      exact ⟨Or.inl ⟨[], (append_nil h).symm, rfl, rfl⟩, by dsimp only; omega⟩
    by_cases hemp : (hget h i).length = 0
    · -- empty container: replaced by a clone of the payload container
      have hF : importSetFn p syn (h, n) (some i) e = ((h ++ [syn], n + syn.length), some h.length, true) := by
        simp [importSetFn, cN, hemp, hW]
      rw [hF, length_eq_zero_iff.mp hemp, hnew.1, hnew.2]
      exact ⟨Or.inr (Or.inr (Or.inl ⟨rfl, rfl⟩)), rfl⟩
    -- otherwise the union, in place or in a new object, reported only when it is longer
    by_cases hch : (unionAsc (hget h i) syn).length = (hget h i).length
    · by_cases hfr : p.unionFresh (hget h i) syn = true
      · have hF : importSetFn p syn (h, n) (some i) e
            = ((h ++ [unionAsc (hget h i) syn], n), some i, false) := by
          simp [importSetFn, cN, hfull, hemp, hfr, hch]
        rw [hF]
        exact ⟨Or.inl ⟨[_], rfl, rfl, unionAsc_eq_of_length hold.1 hsyn.1 hch⟩, by dsimp only; omega⟩
      · have hF : importSetFn p syn (h, n) (some i) e
            = ((hset h i (unionAsc (hget h i) syn), n), some i, false) := by
          simp [importSetFn, cN, hfull, hemp, hfr, hch]
        rw [hF]
        exact ⟨Or.inr (Or.inl ⟨i, rfl, rfl, rfl⟩), by dsimp only; omega⟩
    · by_cases hfr : p.unionFresh (hget h i) syn = true
      · have hF : importSetFn p syn (h, n) (some i) e
            = ((h ++ [unionAsc (hget h i) syn], n + ((unionAsc (hget h i) syn).length - (hget h i).length)),
                some h.length, true) := by
          simp [importSetFn, cN, hfull, hemp, hfr, hch]
        rw [hF]
        exact ⟨Or.inr (Or.inr (Or.inl ⟨rfl, rfl⟩)), by dsimp only; omega⟩
      · have hF : importSetFn p syn (h, n) (some i) e
            = ((hset h i (unionAsc (hget h i) syn), n + ((unionAsc (hget h i) syn).length - (hget h i).length)),
                some i, true) := by
          simp [importSetFn, cN, hfull, hemp, hfr, hch]
        rw [hF]
        exact ⟨Or.inr (Or.inl ⟨i, rfl, rfl, rfl⟩), by dsimp only; omega⟩

theorem importClearFn_outcome (p : Policy) (syn : Cell) (h : Heap) (n : Nat) (c : Ptr) (e : Bool)
    (r : (Heap × Nat) × Ptr × Bool) (hr : r = importClearFn p syn (h, n) c e)
    (he : ∀ i, c = some i → e = true) (hold : CellOK (pcell h c)) (hsyn : CellOK syn) :
    Outcome h c (diffAsc (pcell h c) syn) r.1.1 (if r.2.2 then r.2.1 else c) ∧
    r.1.2 = n + (syn.filter (fun x => (pcell h c).contains x)).length := by
  subst hr
  have hnil : diffAsc [] syn = [] ∧ (syn.filter (fun x => ([] : Cell).contains x)).length = 0 :=
    ⟨diffAsc_eq_filter asc_nil hsyn.1, congrArg length (filter_eq_nil_iff.mpr (fun _ _ => by simp))⟩
  cases c with
  | none =>
    have hF : importClearFn p syn (h, n) none e = ((h, n), none, false) := by simp [importClearFn, cN]
    rw [hF, pcell, hnil.1, hnil.2]
    exact ⟨Or.inl ⟨[], (append_nil h).symm, rfl, rfl⟩, rfl⟩
  | some i =>
    rw [he i rfl, pcell] at *
    have hlen := length_diffAsc hold.1 hsyn.1
    by_cases hemp : (hget h i).length = 0
    · -- empty container: left alone
      have hF : importClearFn p syn (h, n) (some i) true = ((h, n), none, false) := by
        simp [importClearFn, cN, hemp]
      have he0 := length_eq_zero_iff.mp hemp
      rw [hF, he0, hnil.1, hnil.2]
      exact ⟨Or.inl ⟨[], (append_nil h).symm, rfl, he0.symm⟩, rfl⟩
    by_cases hfull : syn.length = W
    · -- full payload container: nil
      have hF : importClearFn p syn (h, n) (some i) true = ((h, n + (hget h i).length), none, true) := by
        simp [importClearFn, cN, hemp, hfull]
      have hd := diffAsc_full hold hsyn hfull
      rw [hF, hd]; rw [hd] at hlen
      exact ⟨Or.inr (Or.inr (Or.inr ⟨rfl, rfl, rfl⟩)), by dsimp only; simp only [length_nil] at hlen; omega⟩
    by_cases hch : (diffAsc (hget h i) syn).length = (hget h i).length
    · have hF : importClearFn p syn (h, n) (some i) true
          = ((h ++ [diffAsc (hget h i) syn], n), some i, false) := by
        simp [importClearFn, cN, hemp, hfull, hch]
      rw [hF]
      exact ⟨Or.inl ⟨[_], rfl, rfl, diffAsc_eq_of_length hold.1 hsyn.1 hch⟩, by dsimp only; omega⟩
    · by_cases hz : (diffAsc (hget h i) syn).length = 0 ∧ p.diffNil (hget h i) syn = true
      · have hF : importClearFn p syn (h, n) (some i) true = ((h, n + (hget h i).length), none, true) := by
          have hne : ¬ 0 = (hget h i).length := fun e => hemp e.symm
          simp [importClearFn, cN, hemp, hfull, hz, hne]
        rw [hF]
        exact ⟨Or.inr (Or.inr (Or.inr ⟨rfl, rfl, length_eq_zero_iff.mp hz.1⟩)),
          by dsimp only; have := hz.1; omega⟩
      · have hF : importClearFn p syn (h, n) (some i) true
            = ((h ++ [diffAsc (hget h i) syn], n + ((hget h i).length - (diffAsc (hget h i) syn).length)),
                some h.length, true) := by
          simp only [importClearFn, cN, hemp, hfull, hz]; simp [hch]
        rw [hF]
        exact ⟨Or.inr (Or.inr (Or.inl ⟨rfl, rfl⟩)), by dsimp only; omega⟩

/-- `Containers.Update` with a closure whose result on the container of `k` is such an outcome
(`hp` reads the heap out of what the closure threads). -/
theorem update_point {α : Type} {C : Coll σ} (ok : CollOK C) (s : σ) (h : Heap) (k : Nat)
    (fn : Ptr → Bool → α × Ptr × Bool) (hp : α → Heap) (cell' : Cell) (u : σ × α) (hu : u = C.update s k fn)
    (hg : Good C ok ⟨s, h⟩) (hk : k < INVALID) (hcell : CellOK cell')
    (hfn : ∀ e r, (∀ i, lk C s k = some i → e = true) → r = fn (lk C s k) e →
      Outcome h (lk C s k) cell' (hp r.1) (if r.2.2 then r.2.1 else lk C s k)) :
    ∃ e, (∀ i, lk C s k = some i → e = true) ∧ u.2 = (fn (lk C s k) e).1 ∧
      Good C ok ⟨u.1, hp u.2⟩ ∧ cont C ⟨u.1, hp u.2⟩ k = cell' ∧
      ∀ k', k' ≠ k → cont C ⟨u.1, hp u.2⟩ k' = cont C ⟨s, h⟩ k' := by
  subst hu
  obtain ⟨e, he, h2, hinv, hlk⟩ := ok.update s k fn hg.inv hk
  refine ⟨e, he, h2, ?_⟩
  rw [h2]
  apply apply_gen ok ⟨s, h⟩ k _ _ _ cell' hg hinv _ hcell (by rw [cont_eq_pcell]; exact hfn e _ he rfl)
  intro k'; rw [hlk]
  by_cases ek : k' = k
  · subst ek; cases (fn (lk C s k') e).2.2 <;> simp
  · simp [ek]

/-- One payload container through `Update` with the closure `importBits` picks: the container of
`k` gets the payload's values put with polarity `!clear`. -/
theorem import_group {C : Coll σ} (ok : CollOK C) (p : Policy) (clear : Bool) (s : σ) (h : Heap) (n k : Nat)
    (syn : Cell) (u : σ × Heap × Nat)
    (hu : u = C.update s k (if clear then importClearFn p syn (h, n) else importSetFn p syn (h, n)))
    (hg : Good C ok ⟨s, h⟩) (hk : k < INVALID) (hsyn : CellOK syn) :
    Good C ok ⟨u.1, u.2.1⟩ ∧ cont C ⟨u.1, u.2.1⟩ k = Spec.putAll (!clear) (cont C ⟨s, h⟩ k) syn ∧
    (∀ k', k' ≠ k → cont C ⟨u.1, u.2.1⟩ k' = cont C ⟨s, h⟩ k') ∧
    u.2.2 = n + (syn.filter (fun x => Spec.differs (!clear) ((cont C ⟨s, h⟩ k).contains x))).length := by
  have hold := cont_cellOK hg k
  rw [cont_eq_pcell] at hold ⊢
  cases clear
  · obtain ⟨e, _, h2, g1, g2, g3⟩ := update_point ok s h k (importSetFn p syn (h, n)) (·.1) _ u hu hg hk
      (cellOK_unionAsc hold hsyn) (fun e r _ hr => (importSetFn_outcome p syn h n _ e r hr hold hsyn).1)
    exact ⟨g1, g2.trans (Spec.addAll_eq_unionAsc _ _ hold.1 hsyn.1).symm, g3,
      by rw [h2]; exact (importSetFn_outcome p syn h n _ e _ rfl hold hsyn).2⟩
  · obtain ⟨e, he, h2, g1, g2, g3⟩ := update_point ok s h k (importClearFn p syn (h, n)) (·.1) _ u hu hg hk
      (cellOK_diffAsc hold hsyn.1) (fun e r he hr => (importClearFn_outcome p syn h n _ e r hr he hold hsyn).1)
    exact ⟨g1, g2.trans (Spec.removeAll_eq_diffAsc _ _ hold.1 hsyn.1).symm, g3,
      by rw [h2]; exact (importClearFn_outcome p syn h n _ e _ rfl he hold hsyn).2⟩

/-- A well-formed roaring payload: container keys strictly ascending and valid, containers
well-formed. -/
def GroupsOK (gs : List (Nat × Cell)) : Prop :=
  KeysAsc gs ∧ ∀ g ∈ gs, g.1 < INVALID ∧ CellOK g.2

/-- Values of one payload container. -/
def gvals (g : Nat × Cell) : List Nat := g.2.map (fun x => g.1 * W + x)

theorem groupValues_cons (g : Nat × Cell) (gs : List (Nat × Cell)) :
    Spec.groupValues (g :: gs) = gvals g ++ Spec.groupValues gs := flat_cons g gs

theorem groupValues_nodup {gs : List (Nat × Cell)} (h : GroupsOK gs) : (Spec.groupValues gs).Nodup := by
  have hk := h.1
  unfold KeysAsc Asc at hk; rw [pairwise_map] at hk
  exact asc_nodup (asc_flat ⟨hk, fun e he => (h.2 e he).2⟩)

theorem contains_gvals {g : Nat × Cell} (hc : CellOK g.2) (v : Nat) :
    (gvals g).contains v = (v / W == g.1 && g.2.contains (v % W)) := by
  rw [Bool.eq_iff_iff, contains_iff_mem, gvals, mem_map_W hc.2]; simp

theorem slice_putAll {C : Coll σ} {ok : CollOK C} {b b' : BM σ} (hg : Good C ok b) (hg' : Good C ok b')
    {pol : Bool} {g : Nat × Cell} (hc : CellOK g.2)
    (hk : cont C b' g.1 = Spec.putAll pol (cont C b g.1) g.2)
    (ho : ∀ k', k' ≠ g.1 → cont C b' k' = cont C b k') :
    slice C b' = Spec.putAll pol (slice C b) (gvals g) := by
  apply asc_ext_contains (asc_slice hg') (Spec.asc_putAll (asc_slice hg))
  intro v
  rw [contains_slice hg', Spec.contains_putAll, contains_slice hg, contains_gvals hc]
  by_cases e : v / W = g.1
  · rw [e, hk, Spec.contains_putAll, beq_self_eq_true, Bool.true_and]
  · rw [ho _ e, beq_eq_false_iff_ne.mpr e, Bool.false_and, if_neg Bool.false_ne_true]

/-- `q` = `Spec.differs pol`: the values that will change. -/
theorem count_gvals {C : Coll σ} {ok : CollOK C} {b : BM σ} (hg : Good C ok b) {g : Nat × Cell}
    (hc : CellOK g.2) (q : Bool → Bool) :
    (g.2.filter (fun x => q ((cont C b g.1).contains x))).length
      = ((gvals g).filter (fun v => q ((slice C b).contains v))).length := by
  unfold gvals
  rw [filter_map, length_map]
  refine congrArg length (filter_congr (fun x hx => ?_))
  have := hc.2 x hx
  show _ = q ((slice C b).contains (g.1 * W + x))
  rw [contains_slice hg, div_W this, mod_W this]

theorem filter_groupValues_congr {g : Nat × Cell} {t : List (Nat × Cell)} (hk : ∀ g' ∈ t, g.1 < g'.1)
    (htc : ∀ g' ∈ t, CellOK g'.2) {s s' : List Nat} (hs : ∀ v, v / W ≠ g.1 → (v ∈ s' ↔ v ∈ s))
    (q : Bool → Bool) :
    (Spec.groupValues t).filter (fun v => q (s'.contains v))
      = (Spec.groupValues t).filter (fun v => q (s.contains v)) := by
  apply filter_congr
  intro v hv
  obtain ⟨g', hg', hm⟩ := mem_flatMap.mp hv
  have hkey : v / W ≠ g.1 := by
    rw [((mem_map_W (htc g' hg').2).mp hm).1]; exact Nat.ne_of_gt (hk g' hg')
  congr 1
  rw [Bool.eq_iff_iff, contains_iff_mem, contains_iff_mem, hs v hkey]

/-- The fold inside `importBits`, from any collection state, heap and count. -/
def importLoop (C : Coll σ) (p : Policy) (clear : Bool) (gs : List (Nat × Cell)) (acc : σ × Heap × Nat) :
    σ × Heap × Nat :=
  gs.foldl (fun (acc : σ × Heap × Nat) g =>
      let u := C.update acc.1 g.1
        (if clear then importClearFn p g.2 (acc.2.1, acc.2.2) else importSetFn p g.2 (acc.2.1, acc.2.2))
      (u.1, u.2.1, u.2.2)) acc

theorem import_fold {C : Coll σ} (ok : CollOK C) (p : Policy) (clear : Bool) (gs : List (Nat × Cell)) :
    ∀ (s : σ) (h : Heap) (n : Nat) (r : σ × Heap × Nat), r = importLoop C p clear gs (s, h, n) →
    Good C ok ⟨s, h⟩ → GroupsOK gs →
    Good C ok ⟨r.1, r.2.1⟩ ∧
    slice C ⟨r.1, r.2.1⟩ = Spec.putAll (!clear) (slice C ⟨s, h⟩) (Spec.groupValues gs) ∧
    r.2.2 = n + ((Spec.groupValues gs).filter
      (fun v => Spec.differs (!clear) ((slice C ⟨s, h⟩).contains v))).length := by
  induction gs with
  | nil => intro s h n r hr hg _; subst hr; exact ⟨hg, (Spec.putAll_nil _ _).symm, rfl⟩
  | cons g t ih =>
    intro s h n r hr hg hgs
    have hkt := keysAsc_cons.mp hgs.1
    have hgc := (hgs.2 g mem_cons_self).2
    have htc : ∀ g' ∈ t, CellOK g'.2 := fun g' hg' => (hgs.2 g' (mem_cons_of_mem _ hg')).2
    obtain ⟨g1, g2, g3, g4⟩ := import_group ok p clear s h n g.1 g.2 _ rfl hg (hgs.2 g mem_cons_self).1 hgc
    have hsl := slice_putAll hg g1 hgc g2 g3
    obtain ⟨i1, i2, i3⟩ := ih _ _ _ r hr g1 ⟨hkt.2, fun g' hg' => hgs.2 g' (mem_cons_of_mem _ hg')⟩
    refine ⟨i1, by rw [groupValues_cons, Spec.putAll_append, ← hsl]; exact i2, ?_⟩
    -- the values of the later containers lie under other keys: their membership is as before
    rw [i3, g4, count_gvals hg hgc (Spec.differs (!clear)), groupValues_cons, filter_append, length_append, hsl,
      filter_groupValues_congr hkt.1 htc (s := slice C ⟨s, h⟩) (fun v hv => by
        rw [← contains_iff_mem, ← contains_iff_mem, Spec.contains_putAll, contains_gvals hgc,
          beq_eq_false_iff_ne.mpr hv, Bool.false_and, if_neg Bool.false_ne_true]) (Spec.differs (!clear)),
      Nat.add_assoc]

theorem importBits_spec {C : Coll σ} (ok : CollOK C) (p : Policy) (clear : Bool) (b : BM σ)
    (gs : List (Nat × Cell)) (hg : Good C ok b) (hgs : GroupsOK gs) :
    Good C ok (importBits C p clear b gs).1 ∧
    slice C (importBits C p clear b gs).1 = Spec.putAll (!clear) (slice C b) (Spec.groupValues gs) ∧
    (importBits C p clear b gs).2
      = ((Spec.groupValues gs).filter (fun v => Spec.differs (!clear) ((slice C b).contains v))).length := by
  obtain ⟨h1, h2, h3⟩ := import_fold ok p clear gs b.c b.h 0 _ rfl hg hgs
  exact ⟨h1, h2, h3.trans (Nat.zero_add _)⟩

theorem importSet_spec {C : Coll σ} (ok : CollOK C) (p : Policy) (b : BM σ) (gs : List (Nat × Cell))
    (hg : Good C ok b) (hgs : GroupsOK gs) :
    Good C ok (importBits C p false b gs).1 ∧
    slice C (importBits C p false b gs).1 = Spec.addAll (slice C b) (Spec.groupValues gs) ∧
    (importBits C p false b gs).2 = ((Spec.groupValues gs).filter (fun v => !(slice C b).contains v)).length :=
  importBits_spec ok p false b gs hg hgs

theorem importClear_spec {C : Coll σ} (ok : CollOK C) (p : Policy) (b : BM σ) (gs : List (Nat × Cell))
    (hg : Good C ok b) (hgs : GroupsOK gs) :
    Good C ok (importBits C p true b gs).1 ∧
    slice C (importBits C p true b gs).1 = Spec.removeAll (slice C b) (Spec.groupValues gs) ∧
    (importBits C p true b gs).2 = ((Spec.groupValues gs).filter (fun v => (slice C b).contains v)).length :=
  importBits_spec ok p true b gs hg hgs

end PV.C02
