/-
Point mutations (Add / Remove / AddN / RemoveN and their Direct variants) refine `Spec.put` on the
ascending value list: each statement once, over the polarity of the kernel.
-/
import PV.C02.LemmasBitmap
namespace PV.C02
open List

variable {σ : Type}

/-- Values are `uint64`: the container key is below the invalid key. -/
theorem key_lt_invalid {v : Nat} (hv : v < 2 ^ 64) : v / W < INVALID := by
  unfold W INVALID; omega

/-- What a kernel of polarity `pol` does to contents and when it reports a change. -/
abbrev KPol (op : Policy → Heap → Ptr → Nat → Heap × Ptr × Bool) (pol : Bool) : Prop :=
  KSpec op (Spec.put pol) (fun x c => Spec.differs pol (c.contains x))

theorem kAddP : KPol cAdd true := kAdd
theorem kRemoveP : KPol cRemove false := kRemove

theorem slice_put {C : Coll σ} {ok : CollOK C} {b b' : BM σ} (hg : Good C ok b) (hg' : Good C ok b')
    {pol : Bool} {v : Nat} (hk : cont C b' (v / W) = Spec.put pol (v % W) (cont C b (v / W)))
    (ho : ∀ k', k' ≠ v / W → cont C b' k' = cont C b k') :
    slice C b' = Spec.put pol v (slice C b) := by
  apply asc_ext_contains (asc_slice hg') (Spec.asc_put (asc_slice hg))
  intro w
  rw [contains_slice hg', Spec.contains_put, contains_slice hg]
  by_cases e : w = v
  · subst e; rw [if_pos rfl, hk, Spec.contains_put, if_pos rfl]
  · rw [if_neg e]
    by_cases ek : w / W = v / W
    · rw [ek, hk, Spec.contains_put, if_neg (fun em => e (eq_iff_split.mpr ⟨ek, em⟩))]
    · rw [ho _ ek]

/-- A kernel applied to the container of `v` in `b1` (which holds what `b` holds, with the pointer
for the key in hand) followed by the conditional `Put`. -/
theorem point_put {C : Coll σ} (ok : CollOK C) {op pol} (ks : KPol op pol) (p : Policy) {b b1 : BM σ}
    {c : Ptr} (v : Nat) (hg : Good C ok b) (hv : v < 2 ^ 64)
    (h1 : Good C ok b1 ∧ c = lk C b1.c (v / W) ∧ ∀ k, cont C b1 k = cont C b k) (b' : BM σ) (ch : Bool)
    (e : (b', ch) = (⟨if (op p b1.h c (v % W)).2.1 != c then C.put b1.c (v / W) (op p b1.h c (v % W)).2.1 else b1.c,
      (op p b1.h c (v % W)).1⟩, (op p b1.h c (v % W)).2.2)) :
    Good C ok b' ∧ slice C b' = Spec.put pol v (slice C b) ∧ ch = Spec.differs pol ((slice C b).contains v) := by
  cases e
  obtain ⟨hg1, hp1, hc1⟩ := h1
  obtain ⟨a1, _, a3, a4, a5⟩ := apply_op ok ks p _ (v / W) (v % W) _ _ _ rfl rfl hg1 (key_lt_invalid hv) (mod_lt_W v) hp1
  rw [hc1] at a3 a5
  exact ⟨a1, slice_put hg a1 a3 (fun k' hne => (a4 k' hne).trans (hc1 k')), by rw [contains_slice hg]; exact a5⟩

theorem directAdd_spec {C : Coll σ} (ok : CollOK C) (p : Policy) (b : BM σ) (v : Nat)
    (hg : Good C ok b) (hv : v < 2 ^ 64) :
    Good C ok (directAdd C p b v).1 ∧
    slice C (directAdd C p b v).1 = insertAsc v (slice C b) ∧
    (directAdd C p b v).2 = !(slice C b).contains v :=
  point_put ok kAddP p v hg hv (goc_spec ok b (v / W) _ rfl hg (key_lt_invalid hv)) _ _ rfl

theorem bmRemove_spec {C : Coll σ} (ok : CollOK C) (p : Policy) (b : BM σ) (v : Nat)
    (hg : Good C ok b) (hv : v < 2 ^ 64) :
    Good C ok (bmRemove C p b v).1 ∧
    slice C (bmRemove C p b v).1 = eraseAsc v (slice C b) ∧
    (bmRemove C p b v).2 = (slice C b).contains v :=
  point_put ok kRemoveP p (b1 := ⟨_, b.h⟩) v hg hv (get_spec ok b (v / W) _ rfl hg) _ _ rfl

/-- `Add(a...)` / `Remove(a...)`: any per-value step of polarity `pol`, folded. -/
theorem put_fold {C : Coll σ} (ok : CollOK C) (pol : Bool) (f : BM σ → Nat → BM σ × Bool)
    (hf : ∀ b v, Good C ok b → v < 2 ^ 64 → Good C ok (f b v).1 ∧
      slice C (f b v).1 = Spec.put pol v (slice C b) ∧ (f b v).2 = Spec.differs pol ((slice C b).contains v))
    (vs : List Nat) :
    ∀ (b : BM σ) (c0 : Bool) (r : BM σ × Bool),
    r = vs.foldl (fun acc v => ((f acc.1 v).1, acc.2 || (f acc.1 v).2)) (b, c0) →
    Good C ok b → (∀ v ∈ vs, v < 2 ^ 64) →
    Good C ok r.1 ∧ slice C r.1 = Spec.putAll pol (slice C b) vs ∧
    r.2 = (c0 || vs.any (fun v => Spec.differs pol ((slice C b).contains v))) := by
  induction vs with
  | nil => intro b c0 r hr hg _; subst hr; exact ⟨hg, (Spec.putAll_nil pol _).symm, (Bool.or_false c0).symm⟩
  | cons v t ih =>
    intro b c0 r hr hg hvs
    obtain ⟨h1, h2, h3⟩ := hf b v hg (hvs v mem_cons_self)
    obtain ⟨i1, i2, i3⟩ := ih (f b v).1 (c0 || (f b v).2) r hr h1 (fun w hw => hvs w (mem_cons_of_mem _ hw))
    refine ⟨i1, by rw [i2, h2, Spec.putAll_cons], ?_⟩
    rw [i3, h2, h3, any_cons, Bool.or_assoc]
    -- once `v` is put, the later values differ iff they did before (`v` itself is accounted for)
    cases hd : Spec.differs pol ((slice C b).contains v)
    · rw [Spec.put_of_not_differs (asc_slice hg) hd]
    · rw [Bool.true_or, Bool.true_or]

/-- Loop invariant of `directOpN`: the cached `cont` is the pointer stored for `hb`. -/
def OpNInv (C : Coll σ) (ok : CollOK C) (st : OpNState σ) : Prop :=
  Good C ok st.b ∧ (st.hb ≠ INVALID → st.cont = lk C st.b.c st.hb)

theorem opN_step {C : Coll σ} (ok : CollOK C) {op g chg} (ks : KSpec op g chg) (p : Policy)
    (st : OpNState σ) (v : Nat) (hi : OpNInv C ok st) (hv : v < 2 ^ 64) :
    OpNInv C ok (directOpNStep C p op st v) ∧
    cont C (directOpNStep C p op st v).b (v / W) = g (v % W) (cont C st.b (v / W)) ∧
    (∀ k', k' ≠ v / W → cont C (directOpNStep C p op st v).b k' = cont C st.b k') ∧
    (directOpNStep C p op st v).pre
      = if chg (v % W) (cont C st.b (v / W)) then st.pre ++ [v] else st.pre := by
  have hk := key_lt_invalid hv
  obtain ⟨hg, hcache⟩ := hi
  -- the (collection, heap, pointer) triple the kernel is applied to
  have hsel : ∃ (c1 : σ) (h1 : Heap) (pt : Ptr),
      (if v / W != st.hb then C.getOrCreate st.b.c st.b.h (v / W) else (st.b.c, st.b.h, st.cont)) = (c1, h1, pt) ∧
      Good C ok ⟨c1, h1⟩ ∧ pt = lk C c1 (v / W) ∧ ∀ k', cont C ⟨c1, h1⟩ k' = cont C st.b k' := by
    by_cases hne : (v / W != st.hb) = true
    · obtain ⟨hg1, hp1, hc1⟩ := goc_spec ok st.b (v / W) _ rfl hg hk
      exact ⟨_, _, _, by rw [if_pos hne], hg1, hp1, hc1⟩
    · have heq : v / W = st.hb := by simpa using hne
      refine ⟨st.b.c, st.b.h, st.cont, by rw [if_neg hne], hg, ?_, fun _ => rfl⟩
      rw [heq]; apply hcache; rw [← heq]; omega
  obtain ⟨c1, h1, pt, hsel, hg1, hp1, hc1⟩ := hsel
  obtain ⟨a1, a2, a3, a4, a5⟩ := apply_op ok ks p ⟨c1, h1⟩ (v / W) (v % W) pt _ _ rfl rfl hg1 hk (mod_lt_W v) hp1
  unfold directOpNStep
  simp only [hsel]
  rw [hc1] at a3 a5
  exact ⟨⟨a1, fun _ => a2.symm⟩, a3, fun k' hne => (a4 k' hne).trans (hc1 k'), by rw [a5]⟩

/-- `directOpN` with a kernel of polarity `pol`. -/
theorem opN_fold {C : Coll σ} (ok : CollOK C) {op pol} (ks : KPol op pol) (p : Policy) (vs : List Nat) :
    ∀ (st : OpNState σ), OpNInv C ok st → (∀ v ∈ vs, v < 2 ^ 64) →
    Good C ok (vs.foldl (directOpNStep C p op) st).b ∧
    slice C (vs.foldl (directOpNStep C p op) st).b = Spec.putAll pol (slice C st.b) vs ∧
    (vs.foldl (directOpNStep C p op) st).pre = st.pre ++ Spec.changed pol (slice C st.b) vs := by
  induction vs with
  | nil => intro st hi _; exact ⟨hi.1, (Spec.putAll_nil pol _).symm, by cases pol <;> exact (append_nil _).symm⟩
  | cons v t ih =>
    intro st hi hvs
    obtain ⟨s1, s2, s3, s4⟩ := opN_step ok ks p st v hi (hvs v mem_cons_self)
    obtain ⟨i1, i2, i3⟩ := ih (directOpNStep C p op st v) s1 (fun w hw => hvs w (mem_cons_of_mem _ hw))
    have hsl := slice_put hi.1 s1.1 s2 s3
    refine ⟨i1, by rw [foldl_cons, i2, hsl, Spec.putAll_cons], ?_⟩
    rw [foldl_cons, i3, s4, hsl, ← contains_slice hi.1, Spec.changed_cons]
    cases hd : Spec.differs pol ((slice C st.b).contains v)
    · rw [if_neg Bool.false_ne_true, if_neg Bool.false_ne_true, Spec.put_of_not_differs (asc_slice hi.1) hd]
    · rw [if_pos rfl, if_pos rfl, append_assoc]; rfl

theorem directAddN_spec {C : Coll σ} (ok : CollOK C) (p : Policy) (b : BM σ) (vs : List Nat)
    (hg : Good C ok b) (hvs : ∀ v ∈ vs, v < 2 ^ 64) :
    Good C ok (directAddN C p b vs).1 ∧
    slice C (directAddN C p b vs).1 = Spec.addAll (slice C b) vs ∧
    (directAddN C p b vs).2 = Spec.newly (slice C b) vs :=
  opN_fold ok kAddP p vs ⟨b, INVALID, none, []⟩ ⟨hg, fun h => absurd rfl h⟩ hvs

theorem directRemoveN_spec {C : Coll σ} (ok : CollOK C) (p : Policy) (b : BM σ) (vs : List Nat)
    (hg : Good C ok b) (hvs : ∀ v ∈ vs, v < 2 ^ 64) :
    Good C ok (directRemoveN C p b vs).1 ∧
    slice C (directRemoveN C p b vs).1 = Spec.removeAll (slice C b) vs ∧
    (directRemoveN C p b vs).2 = Spec.gone (slice C b) vs :=
  opN_fold ok kRemoveP p vs ⟨b, INVALID, none, []⟩ ⟨hg, fun h => absurd rfl h⟩ hvs

end PV.C02
