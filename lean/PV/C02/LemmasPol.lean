/-
Adding and removing are one operation with a polarity: `put pol x s` makes the membership of `x`
in the ascending list `s` equal to `pol` (`put true` is `insertAsc`, `put false` is `eraseAsc`, by
reduction).  What the two directions share follows from the membership laws `contains_put`,
`contains_putAll`, `contains_changed` and extensionality of ascending lists; the facts about
`addAll` / `removeAll` / `newly` / `gone` are the two instances.
-/
import PV.C02.LemmasBasic
namespace PV.C02
open List

/-- Ascending lists are equal when `contains` agrees: set identities become Boolean identities. -/
theorem asc_ext_contains {l₁ l₂ : List Nat} (h₁ : Asc l₁) (h₂ : Asc l₂)
    (h : ∀ v, l₁.contains v = l₂.contains v) : l₁ = l₂ :=
  Common.Asc.ext h₁ h₂ (fun v => by rw [← contains_iff_mem, ← contains_iff_mem, h])

namespace Spec

theorem newly_cons (s : S) (v : Nat) (vs : List Nat) :
    newly s (v :: vs) = if s.contains v then newly s vs else v :: newly (insertAsc v s) vs := rfl

theorem gone_cons (s : S) (v : Nat) (vs : List Nat) :
    gone s (v :: vs) = if s.contains v then v :: gone (eraseAsc v s) vs else gone s vs := rfl

def put (pol : Bool) (x : Nat) (s : S) : S := cond pol (insertAsc x s) (eraseAsc x s)
def putAll (pol : Bool) (s : S) (vs : List Nat) : S := cond pol (addAll s vs) (removeAll s vs)
/-- Membership `b` is not what `pol` asks for: the value will be reported as changed. -/
def differs (pol b : Bool) : Bool := cond pol (!b) b
/-- The values of `vs` whose membership differs from `pol`, first occurrences, in order. -/
def changed (pol : Bool) (s : S) (vs : List Nat) : List Nat := cond pol (newly s vs) (gone s vs)

theorem asc_put {pol : Bool} {x : Nat} {s : S} (h : Asc s) : Asc (put pol x s) := by
  cases pol
  · exact asc_eraseAsc h
  · exact asc_insertAsc h

theorem contains_put (pol : Bool) (x y : Nat) (s : S) :
    (put pol x s).contains y = if y = x then pol else s.contains y := by
  rw [Bool.eq_iff_iff]
  cases pol
  · show (eraseAsc x s).contains y = true ↔ _
    rw [contains_iff_mem, mem_eraseAsc]; split <;> simp_all
  · show (insertAsc x s).contains y = true ↔ _
    rw [contains_iff_mem, mem_insertAsc]; split <;> simp_all

theorem asc_putAll {pol : Bool} {s : S} {vs : List Nat} (h : Asc s) : Asc (putAll pol s vs) := by
  cases pol
  · exact asc_removeAll h
  · exact asc_addAll h

theorem contains_putAll (pol : Bool) (s : S) (vs : List Nat) (v : Nat) :
    (putAll pol s vs).contains v = if vs.contains v then pol else s.contains v := by
  rw [Bool.eq_iff_iff]
  cases pol
  · show (removeAll s vs).contains v = true ↔ _
    rw [contains_iff_mem, mem_removeAll]; split <;> simp_all
  · show (addAll s vs).contains v = true ↔ _
    rw [contains_iff_mem, mem_addAll]; split <;> simp_all

theorem putAll_nil (pol : Bool) (s : S) : putAll pol s [] = s := by
  cases pol
  · exact removeAll_nil s
  · rfl

theorem putAll_cons (pol : Bool) (s : S) (v : Nat) (vs : List Nat) :
    putAll pol s (v :: vs) = putAll pol (put pol v s) vs := by
  cases pol
  · exact removeAll_cons s v vs
  · rfl

theorem putAll_append (pol : Bool) (s : S) (a b : List Nat) :
    putAll pol s (a ++ b) = putAll pol (putAll pol s a) b := by
  cases pol
  · exact removeAll_append s a b
  · exact addAll_append s a b

theorem changed_cons (pol : Bool) (s : S) (v : Nat) (vs : List Nat) :
    changed pol s (v :: vs)
      = if differs pol (s.contains v) then v :: changed pol (put pol v s) vs else changed pol s vs := by
  cases pol
  · show gone s (v :: vs) = _
    rw [gone_cons]; rfl
  · show newly s (v :: vs) = _
    rw [newly_cons]; cases s.contains v <;> rfl

/-- Nothing happens when the membership is already `pol`. -/
theorem put_of_not_differs {pol : Bool} {x : Nat} {s : S} (hs : Asc s) (h : differs pol (s.contains x) = false) :
    put pol x s = s :=
  asc_ext_contains (asc_put hs) hs (fun y => by
    rw [contains_put]; split
    · rename_i e; subst e; revert h; cases pol <;> cases s.contains y <;> simp [differs]
    · rfl)

/-- `changed` holds exactly the values of `vs` whose membership was not `pol`. -/
theorem contains_changed (pol : Bool) (s : S) (hs : Asc s) (vs : List Nat) (v : Nat) :
    (changed pol s vs).contains v = (vs.contains v && differs pol (s.contains v)) := by
  induction vs generalizing s with
  | nil => cases pol <;> rfl
  | cons x t ih =>
    rw [changed_cons, contains_cons]
    by_cases e : v = x
    · subst e
      cases hx : differs pol (s.contains v)
      · rw [if_neg Bool.false_ne_true, ih s hs, hx, Bool.and_false, Bool.and_false]
      · rw [if_pos rfl, contains_cons, beq_self_eq_true]; rfl
    · have hb := beq_eq_false_iff_ne.mpr e
      split
      · rw [contains_cons, ih _ (asc_put hs), contains_put, if_neg e, hb, Bool.false_or, Bool.false_or]
      · rw [ih s hs, hb, Bool.false_or]

theorem mem_changed {pol : Bool} {s : S} (hs : Asc s) {vs : List Nat} {v : Nat} :
    v ∈ changed pol s vs ↔ v ∈ vs ∧ differs pol (s.contains v) = true := by
  rw [← contains_iff_mem, contains_changed pol s hs, Bool.and_eq_true, contains_iff_mem]

theorem length_changed_le (pol : Bool) (s : S) (vs : List Nat) : (changed pol s vs).length ≤ vs.length := by
  induction vs generalizing s with
  | nil => cases pol <;> exact Nat.le_refl 0
  | cons x t ih =>
    rw [changed_cons]
    split
    · exact Nat.succ_le_succ (ih _)
    · exact Nat.le_succ_of_le (ih s)

theorem nodup_changed (pol : Bool) (s : S) (hs : Asc s) (vs : List Nat) : (changed pol s vs).Nodup := by
  induction vs generalizing s with
  | nil => cases pol <;> exact nodup_nil
  | cons x t ih =>
    rw [changed_cons]
    split
    · refine nodup_cons.mpr ⟨fun hm => ?_, ih _ (asc_put hs)⟩
      have := contains_changed pol (put pol x s) (asc_put hs) t x
      rw [contains_iff_mem.mpr hm, contains_put, if_pos rfl] at this
      revert this; cases pol <;> simp [differs]
    · exact ih s hs

/-- Putting only the changed values does the same. -/
theorem putAll_changed (pol : Bool) (s : S) (hs : Asc s) (vs : List Nat) :
    putAll pol s (changed pol s vs) = putAll pol s vs :=
  asc_ext_contains (asc_putAll hs) (asc_putAll hs) (fun v => by
    rw [contains_putAll, contains_putAll, contains_changed pol s hs]
    cases vs.contains v <;> cases s.contains v <;> cases pol <;> rfl)

/-- Putting the changed values the other way undoes `putAll`. -/
theorem putAll_undo (pol : Bool) (s : S) (hs : Asc s) (vs : List Nat) :
    putAll (!pol) (putAll pol s vs) (changed pol s vs) = s :=
  asc_ext_contains (asc_putAll (asc_putAll hs)) hs (fun v => by
    rw [contains_putAll, contains_putAll, contains_changed pol s hs]
    cases vs.contains v <;> cases s.contains v <;> cases pol <;> rfl)

theorem length_put {pol : Bool} {x : Nat} {s : S} (hs : Asc s) (h : differs pol (s.contains x) = true) :
    (put pol x s).length + cond pol 0 1 = s.length + cond pol 1 0 := by
  cases pol
  · exact length_eraseAsc hs (contains_iff_mem.mp h)
  · exact length_insertAsc (fun hm => by rw [differs, cond, contains_iff_mem.mpr hm] at h; cases h)

/-- The set grows (`pol`) or shrinks by the number of changed values. -/
theorem length_putAll (pol : Bool) (s : S) (hs : Asc s) (vs : List Nat) :
    (putAll pol s vs).length + cond pol 0 (changed pol s vs).length
      = s.length + cond pol (changed pol s vs).length 0 := by
  induction vs generalizing s with
  | nil => rw [putAll_nil]; cases pol <;> rfl
  | cons x t ih =>
    rw [putAll_cons, changed_cons]
    cases hd : differs pol (s.contains x)
    · rw [if_neg Bool.false_ne_true, put_of_not_differs hs hd]; exact ih s hs
    · have h1 := length_put hs hd
      have h2 := ih (put pol x s) (asc_put hs)
      rw [if_pos rfl, length_cons]
      cases pol <;> simp only [cond] at h1 h2 ⊢ <;> omega

theorem changed_of_nodup (pol : Bool) (s : S) (vs : List Nat) (hv : vs.Nodup) :
    changed pol s vs = vs.filter (fun v => differs pol (s.contains v)) := by
  induction vs generalizing s with
  | nil => cases pol <;> rfl
  | cons x t ih =>
    rw [nodup_cons] at hv
    rw [changed_cons, filter_cons]
    split
    · rw [ih _ hv.2]
      congr 1
      apply filter_congr
      intro y hy
      rw [contains_put, if_neg (fun (e : y = x) => hv.1 (e ▸ hy))]
    · exact ih s hv.2

/-! The two instances, in the terms of the specification. -/

theorem newly_spec (s : S) (hs : Asc s) (vs : List Nat) :
    (newly s vs).Nodup ∧ (∀ v, v ∈ newly s vs ↔ v ∈ vs ∧ v ∉ s) ∧
    (addAll s vs).length = s.length + (newly s vs).length :=
  ⟨nodup_changed true s hs vs, fun v => (mem_changed (pol := true) hs).trans (by simp [differs]),
   length_putAll true s hs vs⟩

theorem gone_spec (s : S) (hs : Asc s) (vs : List Nat) :
    (gone s vs).Nodup ∧ (∀ v, v ∈ gone s vs ↔ v ∈ vs ∧ v ∈ s) ∧
    (removeAll s vs).length + (gone s vs).length = s.length :=
  ⟨nodup_changed false s hs vs, fun v => (mem_changed (pol := false) hs).trans (by simp [differs]),
   length_putAll false s hs vs⟩

theorem newly_of_nodup (s : S) (vs : List Nat) (hv : vs.Nodup) :
    newly s vs = vs.filter (fun v => !s.contains v) := changed_of_nodup true s vs hv

theorem gone_of_nodup (s : S) (vs : List Nat) (hv : vs.Nodup) :
    gone s vs = vs.filter (fun v => s.contains v) := changed_of_nodup false s vs hv

theorem length_addAll {s : S} {vs : List Nat} (hs : Asc s) (hv : vs.Nodup) :
    (addAll s vs).length = s.length + (vs.filter (fun v => !s.contains v)).length := by
  rw [← newly_of_nodup s vs hv]; exact length_putAll true s hs vs

theorem length_removeAll {s : S} {vs : List Nat} (hs : Asc s) (hv : vs.Nodup) :
    (removeAll s vs).length + (vs.filter (fun v => s.contains v)).length = s.length := by
  rw [← gone_of_nodup s vs hv]; exact length_putAll false s hs vs

end Spec
end PV.C02
