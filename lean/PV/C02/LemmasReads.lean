/-
Optimize, Containers.Remove, the remaining reads, and UnmarshalBinary(WriteTo(b)) on the same
bitmap — Optimize, Reset, then one PutContainerValues (+ data) per non-empty container — which
reproduces the same set.
-/
import PV.C02.LemmasImport
namespace PV.C02
open List

variable {σ : Type}

theorem optimize_spec {C : Coll σ} (ok : CollOK C) (p : Policy) (b : BM σ) (hg : Good C ok b) :
    Good C ok (optimize C p b) ∧ slice C (optimize C p b) = slice C b := by
  obtain ⟨h1, h2, h3⟩ := ok.everyOpt p b.c b.h hg.inv hg.heap
  have hg' : Good C ok (optimize C p b) := ⟨h1, h2⟩
  exact ⟨hg', slice_congr hg hg' h3⟩

theorem ctrRemove_spec {C : Coll σ} (ok : CollOK C) (b : BM σ) (k : Nat) (hg : Good C ok b) :
    Good C ok (ctrRemove C b k) ∧ slice C (ctrRemove C b k) = (slice C b).filter (fun v => v / W != k) := by
  obtain ⟨hi, hl⟩ := ok.remove b.c k hg.inv
  obtain ⟨hg', h2, h3⟩ := apply_gen ok b k (C.remove b.c k) b.h none [] hg hi hl cellOK_nil
    (Or.inr (Or.inr (Or.inr ⟨rfl, rfl, rfl⟩)))
  refine ⟨hg', slice_unique hg' (Pairwise.filter _ (asc_slice hg)) (fun v => ?_)⟩
  rw [mem_filter, mem_slice hg]
  by_cases e : v / W = k
  · rw [e, h2]; simp
  · rw [h3 _ e]; simp [e]

theorem flatMap_filter_eq {α β : Type} (l : List α) (q : α → Bool) (f : α → List β)
    (h : ∀ e ∈ l, q e = false → f e = []) : (l.filter q).flatMap f = l.flatMap f := by
  induction l with
  | nil => rfl
  | cons a t ih =>
    have iht := ih (fun e he => h e (mem_cons_of_mem _ he))
    rw [filter_cons]
    cases hq : q a
    · simp only [Bool.false_eq_true, ↓reduceIte, flatMap_cons]
      rw [h a mem_cons_self hq, iht]; rfl
    · simp only [↓reduceIte, flatMap_cons, iht]

theorem iterFrom_spec {C : Coll σ} (ok : CollOK C) (b : BM σ) (k : Nat) (hg : Good C ok b) :
    iterFrom C b k = (slice C b).filter (fun v => decide (v ≥ k)) := by
  unfold iterFrom slice
  rw [filter_flatMap]
  apply flatMap_filter_eq
  -- a container below the key of `k` holds nothing ≥ k
  intro e he hq
  obtain ⟨ke, ie⟩ := e
  have hlt : ke < k / W := by simpa using hq
  have hc := hg.heap.cell ke ie ((mem_iterEnts hg).mp he)
  rw [filter_eq_nil_iff]
  intro v hv
  obtain ⟨x, hx, rfl⟩ := mem_map.mp hv
  have hxW := hc.2 x hx
  simp only [ge_iff_le, decide_eq_true_eq, Nat.not_le]
  have h1 : (ke + 1) * W ≤ k / W * W := Nat.mul_le_mul_right W hlt
  have h2 : k / W * W ≤ k := Nat.div_mul_le_self k W
  rw [Nat.add_mul] at h1
  omega

theorem views_spec {C : Coll σ} (ok : CollOK C) (b : BM σ) (hg : Good C ok b) :
    views C b = Spec.views (slice C b) := by
  rw [slice_eq_flat, views_flat _ (cells_LOK hg)]
  rfl

theorem putValues_spec {C : Coll σ} (ok : CollOK C) (p : Policy) (s : σ) (h : Heap) (k : Nat) (cell : Cell)
    (u : σ × Heap) (hu : u = putValues C p s h k cell)
    (hg : Good C ok ⟨s, h⟩) (hk : k < INVALID) (hc : CellOK cell) :
    Good C ok ⟨u.1, u.2⟩ ∧ cont C ⟨u.1, u.2⟩ k = cell ∧
    ∀ k', k' ≠ k → cont C ⟨u.1, u.2⟩ k' = cont C ⟨s, h⟩ k' := by
  obtain ⟨_, _, _, g⟩ := update_point ok s h k (putValuesFn p cell h) id cell u hu hg hk hc (fun e r _ hr => by
    -- an existing container is overwritten or replaced, a missing one is made
    subst hr
    cases hl : lk C s k with
    | none => exact Or.inr (Or.inr (Or.inl ⟨rfl, rfl⟩))
    | some i =>
      by_cases hf : p.thawFresh (hget h i) = true
      · simp only [putValuesFn, hf, ↓reduceIte]; exact Or.inr (Or.inr (Or.inl ⟨rfl, rfl⟩))
      · simp only [putValuesFn, hf, Bool.false_eq_true, ↓reduceIte]; exact Or.inr (Or.inl ⟨i, rfl, rfl, rfl⟩))
  exact g

theorem putValues_fold {C : Coll σ} (ok : CollOK C) (p : Policy) (items : List (Nat × Cell)) :
    ∀ (s : σ) (h : Heap) (r : σ × Heap),
    r = items.foldl (fun (acc : σ × Heap) it => putValues C p acc.1 acc.2 it.1 it.2) (s, h) →
    Good C ok ⟨s, h⟩ → KeysAsc items → (∀ it ∈ items, it.1 < INVALID ∧ CellOK it.2) →
    Good C ok ⟨r.1, r.2⟩ ∧
    ∀ k, cont C ⟨r.1, r.2⟩ k = match List.lookup k items with
      | some c => c
      | none => cont C ⟨s, h⟩ k := by
  induction items with
  | nil => intro s h r hr hg _ _; subst hr; exact ⟨hg, fun _ => rfl⟩
  | cons it t ih =>
    obtain ⟨k0, c0⟩ := it
    intro s h r hr hg hka hit
    have hk' := keysAsc_cons.mp hka
    obtain ⟨g1, g2, g3⟩ := putValues_spec ok p s h k0 c0 _ rfl hg (hit (k0, c0) mem_cons_self).1
      (hit (k0, c0) mem_cons_self).2
    obtain ⟨i1, i2⟩ := ih _ _ r hr g1 hk'.2 (fun it' h' => hit it' (mem_cons_of_mem _ h'))
    refine ⟨i1, fun k => ?_⟩
    rw [i2 k, lookup_cons_ite]
    by_cases e : k = k0
    · rw [if_pos e, e, lookup_eq_none_of_lt hk'.1]; exact g2
    · rw [if_neg e]
      cases List.lookup k t with
      | none => exact g3 k e
      | some c => rfl

theorem reload_spec {C : Coll σ} (ok : CollOK C) (p : Policy) (b : BM σ) (hg : Good C ok b) :
    Good C ok (reload C p b) ∧ slice C (reload C p b) = slice C b := by
  obtain ⟨hg1, hs1⟩ := optimize_spec ok p b hg
  have hL := cells_LOK hg1
  have hitems : views C (optimize C p b) = (cells C (optimize C p b)).filter (fun e => e.2.length != 0) := rfl
  have hka : KeysAsc (views C (optimize C p b)) := by
    rw [hitems]; unfold KeysAsc Asc; rw [pairwise_map]; exact Pairwise.filter _ hL.keys
  have hit : ∀ it ∈ views C (optimize C p b), it.1 < INVALID ∧ CellOK it.2 := by
    intro it hm
    rw [hitems] at hm
    obtain ⟨i, hl, hc⟩ := (mem_cells (k := it.1) (c := it.2) hg1).mp (mem_filter.mp hm).1
    exact ⟨ok.keyok _ it.1 i hg1.inv hl, hc ▸ hg1.heap.cell it.1 i hl⟩
  obtain ⟨hri, hre⟩ := ok.reset (optimize C p b).c
  have hg0 : Good C ok ⟨C.reset (optimize C p b).c, (optimize C p b).h⟩ := ⟨hri, HeapOK.of_ents_nil _ hre⟩
  have hc0 : ∀ k, cont C ⟨C.reset (optimize C p b).c, (optimize C p b).h⟩ k = [] := fun k =>
    cont_of_lk_none (by unfold lk; rw [hre]; rfl)
  obtain ⟨f1, f2⟩ := putValues_fold ok p (views C (optimize C p b)) _ _ _ rfl hg0 hka hit
  have hgr : Good C ok (reload C p b) := f1
  refine ⟨hgr, (slice_congr hg1 hgr (fun k => ?_)).trans hs1⟩
  -- a key gets back what the view held for it; keys without a view held nothing
  show cont C ⟨_, _⟩ k = _
  rw [f2 k]
  cases hlu : List.lookup k (views C (optimize C p b)) with
  | some c =>
    have hm := mem_of_lookup_eq_some hlu
    rw [hitems] at hm
    obtain ⟨i, hl, rfl⟩ := (mem_cells hg1).mp (mem_filter.mp hm).1
    exact (cont_of_lk_some hl).symm
  | none =>
    dsimp only
    rw [hc0]
    cases hl : lk C (optimize C p b).c k with
    | none => exact (cont_of_lk_none hl).symm
    | some i =>
      rw [cont_of_lk_some hl]
      by_cases hemp : (hget (optimize C p b).h i).length = 0
      · exact (length_eq_zero_iff.mp hemp).symm
      · have hm : (k, hget (optimize C p b).h i) ∈ views C (optimize C p b) := by
          rw [hitems, mem_filter]
          exact ⟨(mem_cells hg1).mpr ⟨i, hl, rfl⟩, by simpa using hemp⟩
        rw [lookup_eq_some_of_mem hka hm] at hlu
        cases hlu

/-- Well-formed operations: values are `uint64`, import payloads are well-formed roaring data. -/
def OpOK : Op → Prop
  | .add vs => ∀ v ∈ vs, v < 2 ^ 64
  | .remove vs => ∀ v ∈ vs, v < 2 ^ 64
  | .addN vs => ∀ v ∈ vs, v < 2 ^ 64
  | .removeN vs => ∀ v ∈ vs, v < 2 ^ 64
  | .importSet gs => GroupsOK gs
  | .importClear gs => GroupsOK gs
  | _ => True

theorem good_init (C : Coll σ) (ok : CollOK C) : Good C ok (BM.init C) :=
  ⟨ok.init, HeapOK.of_ents_nil _ ok.init_ents⟩

theorem slice_init (C : Coll σ) (ok : CollOK C) : slice C (BM.init C) = [] := by
  unfold slice iterEnts
  rw [show (BM.init C).c = C.init from rfl, ok.init_ents]; rfl

end PV.C02
