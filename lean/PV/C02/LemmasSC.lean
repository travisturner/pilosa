/-
The slice collection satisfies the collection laws.  Coherent (slice): a non-nil cached pointer
is the pointer stored under the cached key (`GetOrCreate` ignores a nil cache entry, so nil
carries no claim).
-/
import PV.C02.LemmasColl
namespace PV.C02
open List

def SC.Coherent (s : SC) : Prop := ∀ i, s.last = some i → List.lookup s.lastKey s.ents = some (some i)

def SC.Inv (s : SC) : Prop :=
  KeysAsc s.ents ∧ SC.Coherent s ∧ ∀ e ∈ s.ents, e.1 < INVALID

theorem lk_sc (s : SC) (k : Nat) : lk scColl s k = (List.lookup k s.ents).join := rfl

theorem join_eq_some {α : Type} {o : Option (Option α)} {a : α} : o.join = some a ↔ o = some (some a) := by
  cases o with
  | none => simp
  | some x => cases x <;> simp

theorem lk_eSet (es : Ents) (k k' : Nat) (c : Ptr) :
    (List.lookup k' (eSet es k c)).join = if k' = k then c else (List.lookup k' es).join := by
  unfold eSet; rw [lookup_aSet]; split <;> rfl

/-- Storing `c` under `k` keeps the invariant for any lookaside that is coherent with the new
entries (every writer of the slice collection is an instance). -/
theorem sc_inv_eSet {s : SC} {k : Nat} (c : Ptr) (lastKey : Nat) (last : Ptr) (hs : SC.Inv s)
    (hk : k < INVALID)
    (hcoh : ∀ i, last = some i → (if lastKey = k then some c else List.lookup lastKey s.ents) = some (some i)) :
    SC.Inv ⟨eSet s.ents k c, lastKey, last⟩ := by
  refine ⟨keysAsc_aSet k c hs.1, fun i hi => (lookup_aSet ..).trans (hcoh i hi), ?_⟩
  intro e he
  rcases mem_aSet _ _ _ _ he with rfl | he
  · exact hk
  · exact hs.2.2 e he

theorem refreshLast_eq (s : SC) (es : Ents) (k : Nat) (c : Ptr) :
    SC.refreshLast { s with ents := es } k c = ⟨es, s.lastKey, if k = s.lastKey then c else s.last⟩ := by
  unfold SC.refreshLast; split <;> rfl

theorem sc_inv_replace {s : SC} {k : Nat} (c : Ptr) (hs : SC.Inv s) (hk : k < INVALID) :
    SC.Inv ⟨eSet s.ents k c, s.lastKey, if k = s.lastKey then c else s.last⟩ := by
  apply sc_inv_eSet c _ _ hs hk
  intro i hi
  by_cases e : k = s.lastKey
  · rw [if_pos e] at hi; rw [if_pos e.symm, hi]
  · rw [if_neg e] at hi; rw [if_neg (fun e' => e e'.symm)]; exact hs.2.1 i hi

/-! ### Optimize through `UpdateEvery`

The loop is followed on the whole entry list: `pre` are the entries already visited, and every
visit stores the outcome of `cOptimize` for one key, refreshing the lookaside. -/

theorem scEvery_opt (p : Policy) (lkey : Nat) : ∀ (r pre : Ents) (h : Heap) (lc : Ptr) (q : Ents × Ptr × Heap),
    q = scEvery (optFn p) lkey h lc r →
    SC.Inv ⟨pre ++ r, lkey, lc⟩ → HeapOK scColl ⟨pre ++ r, lkey, lc⟩ h →
    SC.Inv ⟨pre ++ q.1, lkey, q.2.1⟩ ∧ HeapOK scColl ⟨pre ++ q.1, lkey, q.2.1⟩ q.2.2 ∧
    ∀ k, contentsOf scColl ⟨pre ++ q.1, lkey, q.2.1⟩ q.2.2 k = contentsOf scColl ⟨pre ++ r, lkey, lc⟩ h k := by
  intro r
  induction r with
  | nil => intro pre h lc q hq hi hh; subst hq; exact ⟨hi, hh, fun _ => rfl⟩
  | cons e r ih =>
    obtain ⟨k0, c0⟩ := e
    intro pre h lc q hq hi hh
    subst hq
    have hm : (k0, c0) ∈ pre ++ (k0, c0) :: r := mem_append_right _ mem_cons_self
    have hl0 : lk scColl ⟨pre ++ (k0, c0) :: r, lkey, lc⟩ k0 = c0 := by
      rw [lk_sc]; show (List.lookup k0 (pre ++ (k0, c0) :: r)).join = c0
      rw [lookup_eq_some_of_mem hi.1 hm]; rfl
    cases hco : cOptimize p h c0 with
    | mk h1 c1 =>
      have ho := cOptimize_outcome p h c0
      rw [hco, ← hl0] at ho
      -- the entries with the outcome stored for `k0`
      have hi1 := sc_inv_replace c1 hi (hi.2.2 _ hm)
      obtain ⟨hh1, hcont⟩ := hh.point_same
        (s' := ⟨eSet (pre ++ (k0, c0) :: r) k0 c1, lkey, if k0 = lkey then c1 else lc⟩)
        (fun k' => by exact lk_eSet _ k0 k' c1) ho
      have hset : eSet (pre ++ (k0, c0) :: r) k0 c1 = pre ++ [(k0, c1)] ++ r := by
        rw [← append_cons]; exact aSet_append_cons c1 hi.1
      dsimp only at hi1
      rw [hset] at hi1 hh1 hcont
      obtain ⟨j1, j2, j3⟩ := ih (pre ++ [(k0, c1)]) h1 (if k0 = lkey then c1 else lc) _ rfl hi1 hh1
      simp only [scEvery, optFn, hco, ↓reduceIte]
      simp only [append_assoc, singleton_append] at j1 j2 j3 hcont
      exact ⟨j1, j2, fun k => (j3 k).trans (hcont k)⟩

/-- The slice collection satisfies the collection laws. -/
def scOK : CollOK scColl where
  Inv := SC.Inv
  init := ⟨keysAsc_nil, (fun _ hi => nomatch hi), (fun _ he => nomatch he)⟩
  init_ents := by simp [scColl, SC.init]
  keys := fun s hs => hs.1
  keyok := by
    intro s k i hs hl
    exact hs.2.2 _ (mem_of_lookup_eq_some (join_eq_some.mp hl))
  get := by
    intro s k hs
    exact ⟨hs, rfl, rfl⟩
  put := by
    intro s k c hs hkv
    exact ⟨sc_inv_eSet c k c hs hkv (fun i hi => by rw [if_pos rfl, hi]), fun k' => lk_eSet s.ents k k' c⟩
  remove := by
    intro s k hs
    obtain ⟨hk, hc, hlt⟩ := hs
    show SC.Inv (SC.remove s k) ∧ ∀ k', lk scColl (SC.remove s k) k' = if k' = k then none else lk scColl s k'
    unfold SC.remove
    cases hl : List.lookup k s.ents with
    | none =>
      dsimp only
      refine ⟨⟨hk, hc, hlt⟩, ?_⟩
      intro k'; split
      · rename_i he; subst he; rw [lk_sc, hl]; rfl
      · rfl
    | some c =>
      dsimp only
      refine ⟨⟨keysAsc_filter _ hk, ?_, fun e he => hlt e (mem_filter.mp he).1⟩, ?_⟩
      · intro i hi
        by_cases he : k = s.lastKey
        · simp [he] at hi
        · simp only [he, ↓reduceIte] at hi ⊢
          rw [lookup_filter_ne, if_neg (fun e => he e.symm)]; exact hc i hi
      · intro k'
        show (List.lookup k' (s.ents.filter fun e => e.1 != k)).join = _
        rw [lookup_filter_ne, lk_sc]; split <;> rfl
  goc := by
    intro s h k hs hkv
    obtain ⟨hk, hc, hlt⟩ := hs
    show SC.Inv (SC.getOrCreate s h k).1 ∧ (SC.getOrCreate s h k).2.2 = lk scColl (SC.getOrCreate s h k).1 k ∧
      (∀ k', k' ≠ k → lk scColl (SC.getOrCreate s h k).1 k' = lk scColl s k') ∧
      (((SC.getOrCreate s h k).2.2 = lk scColl s k ∧ (SC.getOrCreate s h k).2.1 = h) ∨
       (lk scColl s k = none ∧ (SC.getOrCreate s h k).2.2 = some h.length ∧ (SC.getOrCreate s h k).2.1 = h ++ [[]]))
    unfold SC.getOrCreate
    split
    · rename_i hhit
      obtain ⟨i, hi⟩ := Option.isSome_iff_exists.mp hhit.2
      have hl := hc i hi
      rw [← hhit.1] at hl
      have : lk scColl s k = s.last := by rw [lk_sc, hl, hi]; rfl
      exact ⟨⟨hk, hc, hlt⟩, this.symm, fun _ _ => rfl, Or.inl ⟨this.symm, rfl⟩⟩
    · cases hl : List.lookup k s.ents with
      | none =>
        dsimp only
        have hself : lk scColl ⟨eSet s.ents k (some h.length), k, some h.length⟩ k = some h.length :=
          (lk_eSet ..).trans (if_pos rfl)
        exact ⟨sc_inv_eSet _ k _ ⟨hk, hc, hlt⟩ hkv (fun i hi => by rw [if_pos rfl, hi]), hself.symm,
          fun k' hne => (lk_eSet ..).trans (if_neg hne), Or.inr ⟨by rw [lk_sc, hl]; rfl, rfl, rfl⟩⟩
      | some c =>
        dsimp only
        have : c = lk scColl s k := by rw [lk_sc, hl]; rfl
        exact ⟨⟨hk, fun i hi => by rw [hl, show c = some i from hi], hlt⟩, this, fun _ _ => rfl,
          Or.inl ⟨this, rfl⟩⟩
  update := by
    intro α s k fn hs hkv
    show ∃ e, (∀ i, lk scColl s k = some i → e = true) ∧
      (SC.update s k fn).2 = (fn (lk scColl s k) e).1 ∧ SC.Inv (SC.update s k fn).1 ∧
      ∀ k', lk scColl (SC.update s k fn).1 k' =
        if k' = k ∧ (fn (lk scColl s k) e).2.2 = true then (fn (lk scColl s k) e).2.1 else lk scColl s k'
    unfold SC.update
    cases hl : List.lookup k s.ents with
    | some c =>
      have hlk : lk scColl s k = c := by rw [lk_sc, hl]; rfl
      rw [hlk]
      refine ⟨true, fun _ _ => rfl, ?_⟩
      dsimp only
      cases hw : (fn c true).2.2 with
      | true =>
        simp only [↓reduceIte, and_true, refreshLast_eq]
        exact ⟨trivial, sc_inv_replace _ hs hkv, fun k' => lk_eSet s.ents k k' _⟩
      | false => exact ⟨rfl, hs, fun k' => by simp⟩
    | none =>
      have hlk : lk scColl s k = none := by rw [lk_sc, hl]; rfl
      rw [hlk]
      refine ⟨false, (fun _ h => nomatch h), ?_⟩
      dsimp only
      by_cases hw : (fn none false).2.2 = true ∧ (fn none false).2.1.isSome = true
      · simp only [hw, and_self, ↓reduceIte, and_true]
        refine ⟨trivial, sc_inv_eSet _ _ _ hs hkv ?_, fun k' => lk_eSet s.ents k k' _⟩
        -- a coherent lookaside is not at `k`: nothing is stored there
        intro i hi
        have h1 := hs.2.1 i hi
        rw [if_neg (fun e => by rw [e, hl] at h1; cases h1)]; exact h1
      · simp only [hw, ↓reduceIte]
        refine ⟨trivial, hs, ?_⟩
        intro k'
        split
        · rename_i he
          obtain ⟨e1, e2⟩ := he
          subst e1
          have : (fn none false).2.1 = none := by
            cases h : (fn none false).2.1 with
            | none => rfl
            | some j => exact absurd ⟨e2, by rw [h]; rfl⟩ hw
          rw [this]; exact hlk
        · rfl
  everyOpt := by
    intro p s h hs hh
    obtain ⟨j1, j2, j3⟩ := scEvery_opt p s.lastKey s.ents [] h s.last _ rfl hs hh
    exact ⟨j1, j2, j3⟩
  reset := by
    intro s
    exact ⟨⟨keysAsc_nil, (fun _ hi => nomatch hi), (fun _ he => nomatch he)⟩, rfl⟩

end PV.C02
