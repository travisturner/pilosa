/-
Set-level facts: key-ordered containers flattened to one ascending value list (`flat`) and the
per-container views.
-/
import PV.C02.LemmasPol
namespace PV.C02
open List

/-- Values of a key-ordered list of (key, container contents). -/
def flat (L : List (Nat × Cell)) : List Nat :=
  L.flatMap (fun e => e.2.map (fun x => e.1 * W + x))

/-- Keys strictly ascending, every container `CellOK` (possibly empty). -/
structure LOK (L : List (Nat × Cell)) : Prop where
  keys : L.Pairwise (fun a b => a.1 < b.1)
  cells : ∀ e ∈ L, CellOK e.2

theorem W_pos : 0 < W := by unfold W; omega

theorem div_W {k x : Nat} (hx : x < W) : (k * W + x) / W = k := by
  rw [Nat.mul_comm, Nat.mul_add_div W_pos, Nat.div_eq_of_lt hx]; simp

theorem mod_W {k x : Nat} (hx : x < W) : (k * W + x) % W = x := by
  rw [Nat.mul_comm, Nat.mul_add_mod, Nat.mod_eq_of_lt hx]

theorem split_W (v : Nat) : v / W * W + v % W = v := by
  rw [Nat.mul_comm]; exact Nat.div_add_mod v W

theorem mod_lt_W (v : Nat) : v % W < W := Nat.mod_lt _ W_pos

theorem eq_iff_split {w v : Nat} : w = v ↔ w / W = v / W ∧ w % W = v % W :=
  ⟨fun e => e ▸ ⟨rfl, rfl⟩,
   fun h => (split_W w).symm.trans (h.1 ▸ h.2 ▸ split_W v)⟩

theorem mem_map_W {k : Nat} {c : Cell} (hc : ∀ x ∈ c, x < W) {v : Nat} :
    v ∈ c.map (fun x => k * W + x) ↔ v / W = k ∧ v % W ∈ c := by
  rw [mem_map]
  constructor
  · rintro ⟨x, hx, rfl⟩
    rw [div_W (hc x hx), mod_W (hc x hx)]; exact ⟨rfl, hx⟩
  · rintro ⟨h1, h2⟩
    exact ⟨v % W, h2, by rw [← h1]; exact split_W v⟩

theorem flat_cons (e : Nat × Cell) (L : List (Nat × Cell)) :
    flat (e :: L) = e.2.map (fun x => e.1 * W + x) ++ flat L := by
  unfold flat; rw [flatMap_cons]

theorem mem_flat {L : List (Nat × Cell)} (hL : LOK L) {v : Nat} :
    v ∈ flat L ↔ ∃ c, (v / W, c) ∈ L ∧ v % W ∈ c := by
  unfold flat
  rw [mem_flatMap]
  constructor
  · rintro ⟨⟨k, c⟩, he, hv⟩
    obtain ⟨h1, h2⟩ := (mem_map_W (hL.cells _ he).2).mp hv
    exact ⟨c, h1 ▸ he, h2⟩
  · rintro ⟨c, he, hx⟩
    exact ⟨(v / W, c), he, (mem_map_W (hL.cells _ he).2).mpr ⟨rfl, hx⟩⟩

theorem asc_flat {L : List (Nat × Cell)} (hL : LOK L) : Asc (flat L) := by
  unfold flat Asc
  rw [pairwise_flatMap]
  constructor
  · intro e he
    rw [pairwise_map]
    exact Pairwise.imp (fun {a b} h => by omega) (hL.cells e he).1
  · refine Pairwise.imp_of_mem ?_ hL.keys
    intro a b ha hb hab x hx y hy
    obtain ⟨x', hx', rfl⟩ := mem_map.mp hx
    obtain ⟨y', hy', rfl⟩ := mem_map.mp hy
    have := (hL.cells a ha).2 x' hx'
    have : a.1 * W + W ≤ b.1 * W := by
      have : (a.1 + 1) * W ≤ b.1 * W := Nat.mul_le_mul_right W hab
      rw [Nat.add_mul] at this; omega
    omega

theorem length_flat (L : List (Nat × Cell)) : (flat L).length = (L.map (fun e => e.2.length)).sum := by
  unfold flat; rw [length_flatMap]; simp

/-- A key holds at most one container. -/
theorem LOK.unique {L : List (Nat × Cell)} (hL : LOK L) {k : Nat} {c c' : Cell}
    (h1 : (k, c) ∈ L) (h2 : (k, c') ∈ L) : c = c' := by
  have hk := hL.keys
  clear hL
  induction L with
  | nil => cases h1
  | cons e r ih =>
    rw [pairwise_cons] at hk
    rcases mem_cons.mp h1 with e1 | m1 <;> rcases mem_cons.mp h2 with e2 | m2
    · rw [← e1] at e2; cases e2; rfl
    · have := hk.1 _ m2; rw [← e1] at this; simp at this
    · have := hk.1 _ m1; rw [← e2] at this; simp at this
    · exact ih m1 m2 hk.2

theorem keysOf_cons (v : Nat) (vs : List Nat) :
    Spec.keysOf (v :: vs) = match Spec.keysOf vs with
      | [] => [v / W]
      | k :: ks => if v / W = k then k :: ks else v / W :: k :: ks := rfl

theorem keysOf_mem {s : List Nat} {x : Nat} (hx : x ∈ Spec.keysOf s) : ∃ v ∈ s, v / W = x := by
  induction s generalizing x with
  | nil => cases hx
  | cons v t ih =>
    rw [keysOf_cons] at hx
    have htail : x ∈ Spec.keysOf t → ∃ w ∈ v :: t, w / W = x := fun h =>
      (ih h).imp fun w hw => ⟨mem_cons_of_mem _ hw.1, hw.2⟩
    cases hk : Spec.keysOf t with
    | nil =>
      rw [hk] at hx
      exact ⟨v, mem_cons_self, (mem_singleton.mp hx).symm⟩
    | cons k ks =>
      rw [hk] at hx htail
      dsimp only at hx
      split at hx
      · exact htail hx
      · rcases mem_cons.mp hx with e | hx'
        · exact ⟨v, mem_cons_self, e.symm⟩
        · exact htail hx'

theorem keysOf_block (k : Nat) (B s' : List Nat) (hB : ∀ v ∈ B, v / W = k) (hne : B ≠ [])
    (hs' : ∀ v ∈ s', v / W ≠ k) : Spec.keysOf (B ++ s') = k :: Spec.keysOf s' := by
  induction B with
  | nil => exact absurd rfl hne
  | cons v t ih =>
    have hv : v / W = k := hB v mem_cons_self
    rw [cons_append, keysOf_cons, hv]
    by_cases ht : t = []
    · subst ht
      rw [nil_append]
      cases hk : Spec.keysOf s' with
      | nil => rfl
      | cons k' ks =>
        obtain ⟨w, hw, hwk⟩ := keysOf_mem (s := s') (x := k') (by rw [hk]; exact mem_cons_self)
        have : ¬ k = k' := fun e => hs' w hw (hwk.trans e.symm)
        dsimp only; rw [if_neg this]
    · rw [ih (fun w hw => hB w (mem_cons_of_mem _ hw)) ht]
      dsimp only; rw [if_pos rfl]

theorem views_block {k : Nat} {c : Cell} {s' : List Nat} (hne : c ≠ []) (hc : ∀ x ∈ c, x < W)
    (hs' : ∀ v ∈ s', v / W ≠ k) :
    Spec.views (c.map (fun x => k * W + x) ++ s') = (k, c) :: Spec.views s' := by
  have hB : ∀ v ∈ c.map (fun x => k * W + x), v / W = k := fun v hv => ((mem_map_W hc).mp hv).1
  have hown : ((c.map (fun x => k * W + x) ++ s').filter (fun v => v / W == k)).map (fun v => v % W) = c := by
    rw [filter_append, filter_eq_self.mpr (fun v hv => by simp [hB v hv]),
      filter_eq_nil_iff.mpr (fun v hv => by simp [hs' v hv]), append_nil, map_map]
    exact (map_congr_left (fun x hx => mod_W (hc x hx))).trans (map_id _)
  have hother : ∀ k' ∈ Spec.keysOf s',
      (c.map (fun x => k * W + x) ++ s').filter (fun v => v / W == k') = s'.filter (fun v => v / W == k') := by
    intro k' hk'
    obtain ⟨w, hw, hwk⟩ := keysOf_mem hk'
    have hkk : ¬ k = k' := fun e => hs' w hw (hwk.trans e.symm)
    rw [filter_append, filter_eq_nil_iff.mpr (fun v hv => by simp [hB v hv, hkk]), nil_append]
  unfold Spec.views
  rw [keysOf_block k _ _ hB (by simpa using hne) hs', map_cons, hown]
  exact congrArg _ (map_congr_left (fun k' hk' => by rw [hother k' hk']))

theorem views_flat (L : List (Nat × Cell)) (hL : LOK L) :
    Spec.views (flat L) = L.filter (fun e => e.2.length != 0) := by
  induction L with
  | nil => rfl
  | cons e t ih =>
    obtain ⟨k, c⟩ := e
    have hkeys := pairwise_cons.mp hL.keys
    have hLt : LOK t := ⟨hkeys.2, fun e he => hL.cells e (mem_cons_of_mem _ he)⟩
    rw [flat_cons, filter_cons]
    cases c with
    | nil => exact ih hLt
    | cons x xs =>
      have hrest : ∀ v ∈ flat t, v / W ≠ k := by
        intro v hv
        obtain ⟨c', hm, _⟩ := (mem_flat hLt).mp hv
        exact fun e => Nat.lt_irrefl k (e ▸ hkeys.1 _ hm)
      rw [views_block (cons_ne_nil x xs) (hL.cells _ mem_cons_self).2 hrest, ih hLt]
      rfl

end PV.C02
