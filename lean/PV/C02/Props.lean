/-
C02 property theorems: bitmap reads stay consistent with every mutation applied.

Full-strength statement (proved below, no `_partial`): for BOTH container collections, for EVERY
aliasing policy (which kernels return a new object), for every history of Add / Remove / AddN /
RemoveN (and their Direct variants) / ImportRoaringBits set and clear / Optimize /
Containers.Remove / UnmarshalBinary(WriteTo) / Contains / Count / Slice / Iterator / per-container
views starting from the empty bitmap:
  * the lookaside stays coherent with the stored containers (`Good`, which contains
    `BT.Coherent` / `SC.Coherent`),
  * the value list read through the iterator equals the set obtained by applying the mutations in
    order, and every read and every return value equals the one computed from that set,
  * every mutation reports exactly how many bits it changed, and AddN / RemoveN leave exactly the
    changed values in `a[:changed]`.
The theorems are about the code as fixed on branch verif/a02; the witness theorems at the end show
that the original lookaside handling violates them.
-/
import PV.C02.LemmasReads
import PV.C02.LemmasBT
import PV.C02.LemmasSC
namespace PV.C02
open List

variable {σ : Type}

/-- **Refinement of one step.** Under the invariant, a step of the model of the code does to the
value list exactly what the set specification says, returns exactly what it says, and
re-establishes the invariant. -/
theorem C02_step_refines (C : Coll σ) (ok : CollOK C) (p : Policy) (b : BM σ) (op : Op)
    (hg : Good C ok b) (hop : OpOK op) :
    Good C ok (step C p b op).1 ∧
    slice C (step C p b op).1 = (Spec.step (slice C b) op).1 ∧
    (step C p b op).2 = (Spec.step (slice C b) op).2 := by
  cases op with
  | add vs =>
    obtain ⟨h1, h2, h3⟩ := put_fold ok true (directAdd C p) (directAdd_spec ok p) vs b false (bmAdd C p b vs) rfl hg hop
    exact ⟨h1, h2, congrArg Out.changed (h3.trans (Bool.false_or _))⟩
  | remove vs =>
    obtain ⟨h1, h2, h3⟩ := put_fold ok false (bmRemove C p) (bmRemove_spec ok p) vs b false (bmRemoveAll C p b vs) rfl hg hop
    exact ⟨h1, h2, congrArg Out.changed (h3.trans (Bool.false_or _))⟩
  | addN vs =>
    obtain ⟨h1, h2, h3⟩ := directAddN_spec ok p b vs hg hop
    refine ⟨h1, h2, ?_⟩
    show Out.changedN _ _ = Out.changedN _ _
    rw [h3]
  | removeN vs =>
    obtain ⟨h1, h2, h3⟩ := directRemoveN_spec ok p b vs hg hop
    refine ⟨h1, h2, ?_⟩
    show Out.changedN _ _ = Out.changedN _ _
    rw [h3]
  | importSet gs =>
    obtain ⟨h1, h2, h3⟩ := importSet_spec ok p b gs hg hop
    exact ⟨h1, h2, congrArg Out.imported h3⟩
  | importClear gs =>
    obtain ⟨h1, h2, h3⟩ := importClear_spec ok p b gs hg hop
    exact ⟨h1, h2, congrArg Out.imported h3⟩
  | optimize =>
    obtain ⟨h1, h2⟩ := optimize_spec ok p b hg
    exact ⟨h1, h2, rfl⟩
  | ctrRemove k =>
    obtain ⟨h1, h2⟩ := ctrRemove_spec ok b k hg
    exact ⟨h1, h2, rfl⟩
  | reload =>
    obtain ⟨h1, h2⟩ := reload_spec ok p b hg
    exact ⟨h1, h2, rfl⟩
  | contains v =>
    obtain ⟨h1, h2, h3⟩ := contains_spec hg v
    refine ⟨h1, slice_congr hg h1 h2, ?_⟩
    show Out.bool _ = Out.bool _
    rw [h3]
  | count =>
    refine ⟨hg, rfl, ?_⟩
    show Out.nat _ = Out.nat _
    rw [count_spec C b]
  | slice => exact ⟨hg, rfl, rfl⟩
  | iterFrom k =>
    refine ⟨hg, rfl, ?_⟩
    show Out.list _ = Out.list _
    rw [iterFrom_spec ok b k hg]
  | views =>
    refine ⟨hg, rfl, ?_⟩
    show Out.views _ = Out.views _
    rw [views_spec ok b hg]

/-- **The Coherent invariant is preserved by every step** (with heap well-formedness). -/
theorem C02_coherent_step (C : Coll σ) (ok : CollOK C) (p : Policy) (b : BM σ) (op : Op)
    (hg : Good C ok b) (hop : OpOK op) : Good C ok (step C p b op).1 :=
  (C02_step_refines C ok p b op hg hop).1

/-- B-tree collection: after every step the lookaside holds exactly what the tree stores under
the cached key. -/
theorem C02_coherent_step_btree (p : Policy) (b : BM BT) (op : Op)
    (hg : Good btColl btOK b) (hop : OpOK op) : BT.Coherent (step btColl p b op).1.c :=
  (C02_coherent_step btColl btOK p b op hg hop).inv.2.2

/-- Slice collection: after every step a cached pointer is the stored one. -/
theorem C02_coherent_step_slice (p : Policy) (b : BM SC) (op : Op)
    (hg : Good scColl scOK b) (hop : OpOK op) : SC.Coherent (step scColl p b op).1.c :=
  (C02_coherent_step scColl scOK p b op hg hop).inv.2.1

/-- Histories with an output accumulator (the induction behind `C02_history_from`). -/
theorem C02_history_acc (C : Coll σ) (ok : CollOK C) (p : Policy) (ops : List Op) :
    ∀ (b : BM σ) (outs : List Out), Good C ok b → (∀ op ∈ ops, OpOK op) →
    Good C ok (ops.foldl (fun acc op => ((step C p acc.1 op).1, acc.2 ++ [(step C p acc.1 op).2])) (b, outs)).1 ∧
    slice C (ops.foldl (fun acc op => ((step C p acc.1 op).1, acc.2 ++ [(step C p acc.1 op).2])) (b, outs)).1
      = (ops.foldl (fun acc op => ((Spec.step acc.1 op).1, acc.2 ++ [(Spec.step acc.1 op).2])) (slice C b, outs)).1 ∧
    (ops.foldl (fun acc op => ((step C p acc.1 op).1, acc.2 ++ [(step C p acc.1 op).2])) (b, outs)).2
      = (ops.foldl (fun acc op => ((Spec.step acc.1 op).1, acc.2 ++ [(Spec.step acc.1 op).2])) (slice C b, outs)).2 :=
  fun b outs hg hops =>
    foldl_rel (r := fun (x : BM σ × List Out) (y : Spec.S × List Out) => Good C ok x.1 ∧ slice C x.1 = y.1 ∧ x.2 = y.2)
      ⟨hg, rfl, rfl⟩ fun op hop x y ⟨g, e1, e2⟩ => by
        obtain ⟨s1, s2, s3⟩ := C02_step_refines C ok p x.1 op g (hops op hop)
        exact ⟨s1, e1 ▸ s2, e1 ▸ e2 ▸ congrArg _ (congrArg (fun o => [o]) s3)⟩

/-- **Every history.** From any good state, any list of well-formed operations keeps the
invariant, ends in the set the specification computes and produces the same outputs. -/
theorem C02_history_from (C : Coll σ) (ok : CollOK C) (p : Policy) (b : BM σ) (ops : List Op)
    (hg : Good C ok b) (hops : ∀ op ∈ ops, OpOK op) :
    Good C ok (run C p b ops).1 ∧
    slice C (run C p b ops).1 = (Spec.run (slice C b) ops).1 ∧
    (run C p b ops).2 = (Spec.run (slice C b) ops).2 :=
  C02_history_acc C ok p ops b [] hg hops

/-- **Every history from the empty bitmap**, any collection satisfying the laws. -/
theorem C02_history (C : Coll σ) (ok : CollOK C) (p : Policy) (ops : List Op)
    (hops : ∀ op ∈ ops, OpOK op) :
    Good C ok (run C p (BM.init C) ops).1 ∧
    slice C (run C p (BM.init C) ops).1 = (Spec.run [] ops).1 ∧
    (run C p (BM.init C) ops).2 = (Spec.run [] ops).2 := by
  have := C02_history_from C ok p (BM.init C) ops (good_init C ok) hops
  rw [slice_init C ok] at this
  exact this

/-- The property for `NewBTreeBitmap` / file-backed bitmaps. -/
theorem C02_history_btree (p : Policy) (ops : List Op) (hops : ∀ op ∈ ops, OpOK op) :
    slice btColl (run btColl p (BM.init btColl) ops).1 = (Spec.run [] ops).1 ∧
    (run btColl p (BM.init btColl) ops).2 = (Spec.run [] ops).2 :=
  (C02_history btColl btOK p ops hops).2

/-- The property for `NewBitmap` (slice collection). -/
theorem C02_history_slice (p : Policy) (ops : List Op) (hops : ∀ op ∈ ops, OpOK op) :
    slice scColl (run scColl p (BM.init scColl) ops).1 = (Spec.run [] ops).1 ∧
    (run scColl p (BM.init scColl) ops).2 = (Spec.run [] ops).2 :=
  (C02_history scColl scOK p ops hops).2

/-! ### Change counts -/

/-- `|new Δ old|` for two sets one of which contains the other. -/
def delta (s s' : List Nat) : Nat := (s'.length - s.length) + (s.length - s'.length)

theorem delta_addAll {s : Spec.S} (hs : Asc s) (vs : List Nat) :
    delta s (Spec.addAll s vs) = (Spec.newly s vs).length := by
  unfold delta; rw [(Spec.newly_spec s hs vs).2.2]; omega

theorem delta_removeAll {s : Spec.S} (hs : Asc s) (vs : List Nat) :
    delta s (Spec.removeAll s vs) = (Spec.gone s vs).length := by
  have := (Spec.gone_spec s hs vs).2.2
  unfold delta; omega

theorem any_eq_length_ne_zero {l m : List Nat} {q : Nat → Bool} (h : ∀ v, v ∈ m ↔ v ∈ l ∧ q v = true) :
    l.any q = decide (m.length ≠ 0) := by
  rw [Bool.eq_iff_iff, any_eq_true, decide_eq_true_eq, Ne, length_eq_zero_iff]
  constructor
  · rintro ⟨v, hv⟩ e
    exact absurd ((h v).mpr hv) (e ▸ not_mem_nil)
  · intro hne
    obtain ⟨v, hv⟩ := exists_mem_of_ne_nil m hne
    exact ⟨v, (h v).mp hv⟩

/-- **Each mutation reports exactly how many bits it changed.**  For a set `s` (ascending list):
`Add`/`Remove` report whether the set changed; `AddN`/`RemoveN`/imports report `|new Δ old|`, and
`AddN`/`RemoveN` leave exactly the changed values, without repetition, in `a[:changed]` and the
rest of `a` untouched. -/
theorem C02_changed_counts_spec (s : Spec.S) (hs : Asc s) :
    (∀ vs, (Spec.step s (.add vs)).2 = .changed (decide (delta s (Spec.step s (.add vs)).1 ≠ 0))) ∧
    (∀ vs, (Spec.step s (.remove vs)).2 = .changed (decide (delta s (Spec.step s (.remove vs)).1 ≠ 0))) ∧
    (∀ vs, ∃ a, (Spec.step s (.addN vs)).2 = .changedN (delta s (Spec.step s (.addN vs)).1) a ∧
        (a.take (delta s (Spec.step s (.addN vs)).1)).Nodup ∧
        (∀ v, v ∈ a.take (delta s (Spec.step s (.addN vs)).1) ↔ v ∈ vs ∧ v ∉ s) ∧
        a.drop (delta s (Spec.step s (.addN vs)).1) = vs.drop (delta s (Spec.step s (.addN vs)).1)) ∧
    (∀ vs, ∃ a, (Spec.step s (.removeN vs)).2 = .changedN (delta s (Spec.step s (.removeN vs)).1) a ∧
        (a.take (delta s (Spec.step s (.removeN vs)).1)).Nodup ∧
        (∀ v, v ∈ a.take (delta s (Spec.step s (.removeN vs)).1) ↔ v ∈ vs ∧ v ∈ s) ∧
        a.drop (delta s (Spec.step s (.removeN vs)).1) = vs.drop (delta s (Spec.step s (.removeN vs)).1)) ∧
    (∀ gs, GroupsOK gs →
        (Spec.step s (.importSet gs)).2 = .imported (delta s (Spec.step s (.importSet gs)).1)) ∧
    (∀ gs, GroupsOK gs →
        (Spec.step s (.importClear gs)).2 = .imported (delta s (Spec.step s (.importClear gs)).1)) := by
  refine ⟨fun vs => ?_, fun vs => ?_, fun vs => ?_, fun vs => ?_, fun gs hgs => ?_, fun gs hgs => ?_⟩
  · show Out.changed _ = Out.changed (decide (delta s (Spec.addAll s vs) ≠ 0))
    rw [delta_addAll hs, any_eq_length_ne_zero (m := Spec.newly s vs)
      (fun v => by rw [(Spec.newly_spec s hs vs).2.1 v]; simp)]
  · show Out.changed _ = Out.changed (decide (delta s (Spec.removeAll s vs) ≠ 0))
    rw [delta_removeAll hs, any_eq_length_ne_zero (m := Spec.gone s vs)
      (fun v => by rw [(Spec.gone_spec s hs vs).2.1 v]; simp)]
  · obtain ⟨n1, n2, _⟩ := Spec.newly_spec s hs vs
    have hd : delta s (Spec.step s (.addN vs)).1 = (Spec.newly s vs).length := delta_addAll hs vs
    refine ⟨Spec.newly s vs ++ vs.drop (Spec.newly s vs).length, ?_⟩
    rw [hd, take_left' rfl, drop_left' rfl]
    exact ⟨rfl, n1, n2, rfl⟩
  · obtain ⟨n1, n2, _⟩ := Spec.gone_spec s hs vs
    have hd : delta s (Spec.step s (.removeN vs)).1 = (Spec.gone s vs).length := delta_removeAll hs vs
    refine ⟨Spec.gone s vs ++ vs.drop (Spec.gone s vs).length, ?_⟩
    rw [hd, take_left' rfl, drop_left' rfl]
    exact ⟨rfl, n1, n2, rfl⟩
  · show Out.imported _ = Out.imported (delta s (Spec.addAll s (Spec.groupValues gs)))
    rw [delta_addAll hs, Spec.newly_of_nodup s _ (groupValues_nodup hgs)]
  · show Out.imported _ = Out.imported (delta s (Spec.removeAll s (Spec.groupValues gs)))
    rw [delta_removeAll hs, Spec.gone_of_nodup s _ (groupValues_nodup hgs)]

/-- What an output claims about the number of changed bits, for a step from set `s` to set `s'`. -/
def CountOK (s s' : List Nat) : Out → Prop
  | .changed c => c = decide (delta s s' ≠ 0)
  | .changedN n _ => n = delta s s'
  | .imported n => n = delta s s'
  | _ => True

/-- The same for the model of the code: whatever a mutation of the real data structure returns is
the change count of the set it represents. -/
theorem C02_changed_counts (C : Coll σ) (ok : CollOK C) (p : Policy) (b : BM σ) (op : Op)
    (hg : Good C ok b) (hop : OpOK op) :
    (step C p b op).2 = (Spec.step (slice C b) op).2 ∧
    slice C (step C p b op).1 = (Spec.step (slice C b) op).1 ∧
    (∀ n a, (step C p b op).2 = .changedN n a → n = delta (slice C b) (slice C (step C p b op).1)) ∧
    (∀ n, (step C p b op).2 = .imported n → n = delta (slice C b) (slice C (step C p b op).1)) ∧
    (∀ c, (step C p b op).2 = .changed c →
        c = decide (delta (slice C b) (slice C (step C p b op).1) ≠ 0)) := by
  obtain ⟨_, h2, h3⟩ := C02_step_refines C ok p b op hg hop
  obtain ⟨c1, c2, c3, c4, c5, c6⟩ := C02_changed_counts_spec (slice C b) (asc_slice hg)
  have h : CountOK (slice C b) (Spec.step (slice C b) op).1 (Spec.step (slice C b) op).2 := by
    cases op with
    | add vs => rw [c1 vs]; exact rfl
    | remove vs => rw [c2 vs]; exact rfl
    | addN vs => obtain ⟨a, e, _⟩ := c3 vs; rw [e]; exact rfl
    | removeN vs => obtain ⟨a, e, _⟩ := c4 vs; rw [e]; exact rfl
    | importSet gs => rw [c5 gs hop]; exact rfl
    | importClear gs => rw [c6 gs hop]; exact rfl
    | _ => trivial
  rw [← h2, ← h3] at h
  exact ⟨h3, h2, fun n a e => by rw [e] at h; exact h, fun n e => by rw [e] at h; exact h,
    fun c e => by rw [e] at h; exact h⟩

/-! ### Non-vacuity: the hypotheses are satisfied by non-trivial states -/

def polInPlace : Policy :=
  ⟨fun _ _ => false, fun _ _ => false, fun _ _ => false, fun _ => false, fun _ => false, fun _ _ => false⟩
def polFresh : Policy :=
  ⟨fun _ _ => true, fun _ _ => true, fun _ _ => true, fun _ => true, fun _ => true, fun _ _ => true⟩

/-- A history touching three containers, with a replacing import and a removal to nil. -/
def demoOps : List Op :=
  [.importSet [(0, [7, 9]), (2, [0, 65535])], .contains 7, .add [8, 65536 + 3], .removeN [7, 7, 99],
   .importClear [(0, [8, 9])], .optimize, .addN [9, 9, 131072], .reload, .contains 9]

example : ∀ op ∈ demoOps, OpOK op := by
  intro op hop
  simp only [demoOps, mem_cons, mem_nil_iff, or_false] at hop
  rcases hop with rfl | rfl | rfl | rfl | rfl | rfl | rfl | rfl | rfl <;>
    simp [OpOK, GroupsOK, KeysAsc, Asc, CellOK, INVALID, W]

example : (run btColl polFresh (BM.init btColl) demoOps).2 = (Spec.run [] demoOps).2 := by decide
example : slice scColl (run scColl polInPlace (BM.init scColl) demoOps).1 = [9, 65539, 131072, 196607] := by
  decide

/-! ### The code before the fixes violates the property (witnesses kept for the record)

`btCollOrig` / `scCollOrig` are the collections as they were: zero-valued B-tree lookaside that
`Update` / `UpdateEvery` do not touch; slice `Put` / `Update` that do not refresh the cache. -/

/-- DESIGN §8 #2: fresh `NewBTreeBitmap()`, `ImportRoaringBits({7,9})`, `Contains(7)`, `Add(8)`,
`Slice()`: the original code answers `false` and then `[8]` — the specification says `true` and
`[7, 8, 9]`. -/
theorem C02_orig_btree_fresh_import_witness :
    (run btCollOrig polInPlace (BM.init btCollOrig)
        [.importSet [(0, [7, 9])], .contains 7, .add [8], .slice]).2
      = [.imported 2, .bool false, .changed true, .list [8]] ∧
    (Spec.run [] [.importSet [(0, [7, 9])], .contains 7, .add [8], .slice]).2
      = [.imported 2, .bool true, .changed true, .list [7, 8, 9]] := by decide

instance (s : BT) : Decidable (BT.Coherent s) := by unfold BT.Coherent; exact inferInstance

/-- The lookaside of the original B-tree collection is incoherent right after that import. -/
theorem C02_orig_btree_incoherent_witness :
    ¬ BT.Coherent (run btCollOrig polInPlace (BM.init btCollOrig) [.importSet [(0, [7, 9])]]).1.c := by
  decide

/-- A replacing update (clear-import) after a lookup: the original code keeps reading and writing
the detached container (`Contains(65543)` stays true, `Add(65544)` is lost). -/
theorem C02_orig_btree_clear_import_witness :
    (run btCollOrig polInPlace (BM.init btCollOrig)
        [.add [65543, 65545], .contains 65543, .importClear [(1, [7])], .contains 65543, .add [65544], .slice]).2
      = [.changed true, .bool true, .imported 1, .bool true, .changed true, .list [65545]] ∧
    (Spec.run []
        [.add [65543, 65545], .contains 65543, .importClear [(1, [7])], .contains 65543, .add [65544], .slice]).2
      = [.changed true, .bool true, .imported 1, .bool false, .changed true, .list [65544, 65545]] := by
  decide

/-- Slice collection, original `Put`: `Add(5)`, `Remove(5)` (stores nil), `Add(6)` goes into the
detached old container: the bitmap stays empty. -/
theorem C02_orig_slice_put_witness :
    (run scCollOrig polInPlace (BM.init scCollOrig) [.add [5], .remove [5], .add [6], .slice]).2
      = [.changed true, .changed true, .changed true, .list []] ∧
    (Spec.run [] [.add [5], .remove [5], .add [6], .slice]).2
      = [.changed true, .changed true, .changed true, .list [6]] := by decide

end PV.C02
