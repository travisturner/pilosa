/-
C03: the heap invariant `Inv` ("Iso") and, for each kind of heap change the primitive actions are made
of, one statement `Step T h h'`: Iso still holds in `h'` and only the bitmaps in `T` changed their value.
-/
import PV.C03.Model
namespace PV.C03

@[simp] theorem aget_nil (k : Nat) : aget [] k = none := rfl

theorem aget_cons (x : Nat × Nat) (l : AList) (k : Nat) :
    aget (x :: l) k = if x.1 = k then some x.2 else aget l k := rfl

theorem aget_adel (l : AList) (k k' : Nat) :
    aget (adel l k) k' = if k' = k then none else aget l k' := by
  induction l with
  | nil => exact (ite_self _).symm
  | cons x xs ih =>
    unfold adel at ih ⊢
    rw [List.filter_cons, aget_cons]
    by_cases h : x.1 = k
    · have : ¬ (x.1 != k) = true := by simp [h]
      rw [if_neg this, ih]
      by_cases h' : k' = k
      · rw [if_pos h', if_pos h']
      · rw [if_neg h', if_neg h', if_neg (fun e => h' (e.symm.trans h))]
    · have : (x.1 != k) = true := by simp [h]
      rw [if_pos this, aget_cons, ih]
      by_cases h' : x.1 = k'
      · rw [if_pos h', if_pos h', if_neg (fun e => h (h'.trans e))]
      · rw [if_neg h', if_neg h']

theorem aget_ains (l : AList) (k c k' : Nat) (hk : aget l k = none) :
    aget (ains l k c) k' = if k' = k then some c else aget l k' := by
  induction l with
  | nil => rw [ains, aget_cons, aget_nil]; simp only [eq_comm]
  | cons x xs ih =>
    rw [aget_cons] at hk
    by_cases hx : x.1 = k
    · simp [hx] at hk
    · rw [if_neg hx] at hk
      rw [ains]
      by_cases hlt : k < x.1
      · rw [if_pos hlt, aget_cons]; simp only [eq_comm]
      · rw [if_neg hlt, aget_cons, aget_cons, ih hk]
        by_cases h3 : x.1 = k'
        · rw [if_pos h3, if_neg (fun e => hx (h3.trans e)), if_pos h3]
        · rw [if_neg h3, if_neg h3]

theorem aget_aput (l : AList) (k c k' : Nat) :
    aget (aput l k c) k' = if k' = k then some c else aget l k' := by
  rw [aput, aget_ains _ _ _ _ (by rw [aget_adel, if_pos rfl]), aget_adel]
  split <;> rfl

theorem aget_mem_keys (l : AList) (k c : Nat) (h : aget l k = some c) : k ∈ l.map (·.1) := by
  induction l with
  | nil => cases h
  | cons x xs ih =>
    rw [aget_cons] at h
    rw [List.map_cons, List.mem_cons]
    by_cases hk : x.1 = k
    · exact .inl hk.symm
    · rw [if_neg hk] at h; exact .inr (ih h)

@[simp] theorem upd_same {α : Type} (f : Nat → α) (i : Nat) (v : α) : upd f i v i = v := by simp [upd]
theorem upd_ne {α : Type} (f : Nat → α) (i j : Nat) (v : α) (h : j ≠ i) : upd f i v j = f j := by
  simp [upd, h]

def isMmap : Kind → Bool
  | .heap => false
  | .mmap _ => true

def Heap.ref (h : Heap) (b k c : Nat) : Prop := aget (h.bms b) k = some c

/-- `Iso`: (i) is `shared` with `storeInj`, (iii) is `region`; (ii), no write to frozen or mapped data,
is not a field but the way `Prim.write` is built (`thawAt_writable`).  That the tables at ids from `nB`
on are empty is not part of it. -/
structure Inv (h : Heap) : Prop where
  contLt : ∀ b k c, h.ref b k c → c < h.nC
  storeLt : ∀ c, c < h.nC → (h.conts c).store < h.nS
  storeInj : ∀ c₁ c₂, c₁ < h.nC → c₂ < h.nC → (h.conts c₁).store = (h.conts c₂).store → c₁ = c₂
  shared : ∀ b₁ k₁ b₂ k₂ c, h.ref b₁ k₁ c → h.ref b₂ k₂ c →
      (b₁ ≠ b₂ ∨ k₁ ≠ k₂) → (h.conts c).frozen = true
  frozenHeap : ∀ c, c < h.nC → (h.conts c).frozen = true → h.kindOf c = .heap
  mappedOk : ∀ c, c < h.nC → (h.conts c).mapped = isMmap (h.kindOf c)
  region : ∀ b k c g, h.ref b k c → h.kindOf c = .mmap g →
      h.live g = true ∧ h.owner g = b ∧ g < h.nR

theorem inv_empty : Inv Heap.empty := by
  constructor <;> intros <;> simp_all [Heap.empty, Heap.ref]

/-- data of bitmap `b` may lie in region `g` -/
def RegOk (h : Heap) (b g : Nat) : Prop := h.live g = true ∧ h.owner g = b ∧ g < h.nR

theorem RegOk.of_mmap_eq {h : Heap} {b g : Nat} (hg : RegOk h b g) (g' : Nat) (e : Kind.mmap g = .mmap g') :
    RegOk h b g' :=
  Kind.mmap.inj e ▸ hg

theorem kind_heap_of_unmapped {h : Heap} (hi : Inv h) {c : Nat} (hc : c < h.nC)
    (hm : (h.conts c).mapped = false) : h.kindOf c = .heap := by
  have := hi.mappedOk c hc
  rw [hm] at this
  cases hk : h.kindOf c with
  | heap => rfl
  | mmap g => rw [hk] at this; cases this

theorem ref_unique {h : Heap} (hi : Inv h) {b k c b' k' : Nat} (hr : h.ref b k c)
    (hf : (h.conts c).frozen = false) (hr' : h.ref b' k' c) : b' = b :=
  Decidable.byContradiction fun e => by
    rw [hi.shared b' k' b k c hr' hr (.inl e)] at hf; cases hf

/-- The value of bitmap `b` at key `k`. -/
def Heap.absAt (h : Heap) (b k : Nat) : Option (List Nat) := (aget (h.bms b) k).map h.vals

theorem absAt_congr {h h' : Heap} {b : Nat} (hb : h'.bms b = h.bms b)
    (hv : ∀ k c, h.ref b k c → h'.vals c = h.vals c) (k : Nat) : h'.absAt b k = h.absAt b k := by
  unfold Heap.absAt
  rw [hb]
  cases hr : aget (h.bms b) k with
  | none => rfl
  | some c => exact congrArg some (hv k c hr)

theorem absAt_live (h : Heap) (lv : Nat → Bool) (ow : Nat → Nat) (nR' : Nat) (b k : Nat) :
    ({ h with live := lv, owner := ow, nR := nR' } : Heap).absAt b k = h.absAt b k := rfl

/-- `T`: the bitmaps whose value may change from `h` to `h'`. -/
structure Step (T : Nat → Prop) (h h' : Heap) : Prop where
  inv : Inv h'
  nB : h.nB ≤ h'.nB
  frame : ∀ b, ¬ T b → ∀ k, h'.absAt b k = h.absAt b k

abbrev Same := Step (fun _ => False)

theorem Step.refl {T : Nat → Prop} {h : Heap} (hi : Inv h) : Step T h h :=
  ⟨hi, Nat.le_refl _, fun _ _ _ => rfl⟩

theorem Step.trans {T : Nat → Prop} {h₁ h₂ h₃ : Heap} (s : Step T h₁ h₂) (t : Step T h₂ h₃) :
    Step T h₁ h₃ :=
  ⟨t.inv, Nat.le_trans s.nB t.nB, fun b hb k => (t.frame b hb k).trans (s.frame b hb k)⟩

theorem Step.mono {T T' : Nat → Prop} {h h' : Heap} (s : Step T h h') (H : ∀ b, T b → T' b) :
    Step T' h h' :=
  ⟨s.inv, s.nB, fun b hb k => s.frame b (fun t => hb (H b t)) k⟩

theorem Step.weaken {T : Nat → Prop} {h h' : Heap} (s : Same h h') : Step T h h' :=
  s.mono fun _ => False.elim

/-- A loop: `P l` is what the body needs to know when the items `l` are still to do. -/
theorem Step.foldl {α : Type} {T : Nat → Prop} {f : Heap → α → Heap} {P : List α → Heap → Prop}
    (body : ∀ a l s, Inv s → P (a :: l) s → Step T s (f s a) ∧ P l (f s a)) :
    ∀ l s, Inv s → P l s → Step T s (l.foldl f s) ∧ P [] (l.foldl f s) := by
  intro l
  induction l with
  | nil => exact fun s hi hp => ⟨.refl hi, hp⟩
  | cons a l ih =>
    intro s hi hp
    obtain ⟨s1, p1⟩ := body a l s hi hp
    obtain ⟨s2, p2⟩ := ih (f s a) s1.inv p1
    exact ⟨s1.trans s2, p2⟩

/-- `c` gets the next free store; `n'` is the number of containers afterwards (`h.nC + 1` when
`c = h.nC` is a new object). -/
def Heap.moved (h : Heap) (c n' : Nat) (v : List Nat) (kd : Kind) (fr : Bool) : Heap :=
  { h with stores := upd h.stores h.nS ⟨v, kd⟩, nS := h.nS + 1,
           conts := upd h.conts c ⟨h.nS, fr, isMmap kd⟩, nC := n' }

section moved
variable {h : Heap} {c n' : Nat} {v : List Nat} {kd : Kind} {fr : Bool} {c' : Nat}

theorem moved_cont_same : (h.moved c n' v kd fr).conts c = ⟨h.nS, fr, isMmap kd⟩ := upd_same ..

theorem moved_cont_ne (e : c' ≠ c) : (h.moved c n' v kd fr).conts c' = h.conts c' := upd_ne _ _ _ _ e

theorem moved_store_same :
    (h.moved c n' v kd fr).stores ((h.moved c n' v kd fr).conts c).store = ⟨v, kd⟩ := by
  rw [moved_cont_same]; exact upd_same ..

theorem moved_store_ne (hs : (h.conts c').store < h.nS) (e : c' ≠ c) :
    (h.moved c n' v kd fr).stores ((h.moved c n' v kd fr).conts c').store =
      h.stores (h.conts c').store := by
  rw [moved_cont_ne e]; exact upd_ne _ _ _ _ (Nat.ne_of_lt hs)

theorem moved_kind_same : (h.moved c n' v kd fr).kindOf c = kd := congrArg Store.kind moved_store_same

theorem moved_kind_ne (hs : (h.conts c').store < h.nS) (e : c' ≠ c) :
    (h.moved c n' v kd fr).kindOf c' = h.kindOf c' := congrArg Store.kind (moved_store_ne hs e)

theorem moved_vals_same : (h.moved c n' v kd fr).vals c = v := congrArg Store.vals moved_store_same

theorem moved_vals_ne (hs : (h.conts c').store < h.nS) (e : c' ≠ c) :
    (h.moved c n' v kd fr).vals c' = h.vals c' := congrArg Store.vals (moved_store_ne hs e)

/-- A frozen container moves only within the heap and stays frozen; data moved into a region must
belong to the bitmaps that reach `c`. -/
theorem inv_moved (hi : Inv h) (hn : ∀ c', c' < n' ↔ c' < h.nC ∨ c' = c)
    (hfr : fr = true → kd = .heap)
    (hkeep : c < h.nC → (h.conts c).frozen = true → fr = true)
    (hk : ∀ g, kd = .mmap g → ∀ b k, h.ref b k c → RegOk h b g) :
    Inv (h.moved c n' v kd fr) := by
  have old : ∀ {c'}, c' < n' → c' ≠ c → c' < h.nC := fun h' e => ((hn _).1 h').resolve_right e
  have oldS : ∀ {c'}, c' < n' → c' ≠ c → (h.conts c').store < h.nS :=
    fun h' e => hi.storeLt _ (old h' e)
  constructor
  · exact fun b k c' hr => (hn c').2 (.inl (hi.contLt b k c' hr))
  · intro c' hc'
    show ((h.moved c n' v kd fr).conts c').store < h.nS + 1
    by_cases e : c' = c
    · rw [e, moved_cont_same]; exact Nat.lt_succ_self _
    · rw [moved_cont_ne e]; exact Nat.lt_succ_of_lt (oldS hc' e)
  · intro c₁ c₂ hc₁ hc₂ he
    by_cases e1 : c₁ = c <;> by_cases e2 : c₂ = c
    · rw [e1, e2]
    · rw [e1, moved_cont_same, moved_cont_ne e2] at he
      exact absurd he.symm (Nat.ne_of_lt (oldS hc₂ e2))
    · rw [e2, moved_cont_same, moved_cont_ne e1] at he
      exact absurd he (Nat.ne_of_lt (oldS hc₁ e1))
    · rw [moved_cont_ne e1, moved_cont_ne e2] at he
      exact hi.storeInj c₁ c₂ (old hc₁ e1) (old hc₂ e2) he
  · intro b₁ k₁ b₂ k₂ c' hr₁ hr₂ hne
    have hf := hi.shared b₁ k₁ b₂ k₂ c' hr₁ hr₂ hne
    by_cases e : c' = c
    · rw [e, moved_cont_same]; exact hkeep (e ▸ hi.contLt _ _ _ hr₁) (e ▸ hf)
    · rw [moved_cont_ne e]; exact hf
  · intro c' hc' hf
    by_cases e : c' = c
    · rw [e, moved_cont_same] at hf; rw [e, moved_kind_same]; exact hfr hf
    · rw [moved_cont_ne e] at hf
      rw [moved_kind_ne (oldS hc' e) e]; exact hi.frozenHeap c' (old hc' e) hf
  · intro c' hc'
    by_cases e : c' = c
    · rw [e, moved_cont_same, moved_kind_same]
    · rw [moved_cont_ne e, moved_kind_ne (oldS hc' e) e]; exact hi.mappedOk c' (old hc' e)
  · intro b k c' g hr hkd
    by_cases e : c' = c
    · rw [e, moved_kind_same] at hkd; exact hk g hkd b k (e ▸ hr)
    · rw [moved_kind_ne (hi.storeLt c' (hi.contLt b k c' hr)) e] at hkd
      exact hi.region b k c' g hr hkd

theorem same_moved (hi : Inv h) (hc : c < h.nC) (hfr : fr = true → kd = .heap)
    (hkeep : (h.conts c).frozen = true → fr = true)
    (hk : ∀ g, kd = .mmap g → ∀ b k, h.ref b k c → RegOk h b g) :
    Same h (h.moved c h.nC (h.vals c) kd fr) := by
  refine ⟨inv_moved hi (fun c' => ⟨.inl, fun o => o.elim id (· ▸ hc)⟩) hfr (fun _ => hkeep) hk,
    Nat.le_refl _, fun b _ => absAt_congr rfl fun k c' hr => ?_⟩
  by_cases e : c' = c
  · rw [e, moved_vals_same]
  · exact moved_vals_ne (hi.storeLt c' (hi.contLt b k c' hr)) e

end moved

abbrev Heap.alloc (h : Heap) (v : List Nat) (kd : Kind) : Heap := h.moved h.nC (h.nC + 1) v kd false

theorem same_alloc {h : Heap} (hi : Inv h) (v : List Nat) (kd : Kind) : Same h (h.alloc v kd) := by
  have fresh : ∀ {b k}, ¬ h.ref b k h.nC := fun hr => Nat.lt_irrefl _ (hi.contLt _ _ _ hr)
  refine ⟨inv_moved hi (fun c' => Nat.lt_succ_iff_lt_or_eq) (fun e => nomatch e)
      (fun e => absurd e (Nat.lt_irrefl _)) (fun _ _ _ _ hr => absurd hr fresh),
    Nat.le_refl _, fun b _ => absAt_congr rfl fun k c hr => ?_⟩
  have hc := hi.contLt b k c hr
  exact moved_vals_ne (hi.storeLt c hc) (Nat.ne_of_lt hc)

/-- `Put(k, c)` -/
def Heap.put (h : Heap) (b k c : Nat) : Heap := { h with bms := upd h.bms b (aput (h.bms b) k c) }

theorem put_aget (h : Heap) (b k c b' k' : Nat) :
    aget ((h.put b k c).bms b') k' = if b' = b ∧ k' = k then some c else aget (h.bms b') k' := by
  show aget (upd h.bms b (aput (h.bms b) k c) b') k' = _
  by_cases e : b' = b
  · rw [e, upd_same, aget_aput]
    by_cases e' : k' = k
    · rw [if_pos e', if_pos ⟨rfl, e'⟩]
    · rw [if_neg e', if_neg (fun a => e' a.2)]
  · rw [upd_ne _ _ _ _ e, if_neg (fun a => e a.1)]

theorem put_absAt (h : Heap) (b k c b' k' : Nat) :
    (h.put b k c).absAt b' k' = if b' = b ∧ k' = k then some (h.vals c) else h.absAt b' k' := by
  unfold Heap.absAt
  rw [put_aget]
  split <;> rfl

theorem step_put {h : Heap} (hi : Inv h) {b k c : Nat} (hc : c < h.nC)
    (hsh : (h.conts c).frozen = true ∨ ∀ b' k', ¬ h.ref b' k' c)
    (hreg : ∀ g, h.kindOf c = .mmap g → RegOk h b g) : Step (· = b) h (h.put b k c) := by
  have refs : ∀ {b' k' c'}, (h.put b k c).ref b' k' c' →
      (b' = b ∧ k' = k) ∧ c' = c ∨ h.ref b' k' c' := by
    intro b' k' c' hr
    rw [Heap.ref, put_aget] at hr
    by_cases p : b' = b ∧ k' = k
    · exact .inl ⟨p, (Option.some.inj ((if_pos p).symm.trans hr)).symm⟩
    · exact .inr ((if_neg p).symm.trans hr)
  have froz : ∀ {b' k'}, h.ref b' k' c → (h.conts c).frozen = true :=
    fun hr => hsh.elim id fun no => absurd hr (no _ _)
  refine ⟨{ hi with
    contLt := fun b' k' c' hr => ?_
    shared := fun b₁ k₁ b₂ k₂ c' hr₁ hr₂ hne => ?_
    region := fun b' k' c' g hr hk => ?_ }, Nat.le_refl _, fun b' e k' => ?_⟩
  · rcases refs hr with ⟨_, e⟩ | hr'
    · exact e ▸ hc
    · exact hi.contLt _ _ _ hr'
  · show (h.conts c').frozen = true
    rcases refs hr₁ with ⟨p₁, e₁⟩ | hr₁' <;> rcases refs hr₂ with ⟨p₂, e₂⟩ | hr₂'
    · exact absurd hne (by rw [p₁.1, p₁.2, p₂.1, p₂.2]; exact fun o => o.elim (· rfl) (· rfl))
    · exact e₁ ▸ froz (e₁ ▸ hr₂')
    · exact e₂ ▸ froz (e₂ ▸ hr₁')
    · exact hi.shared _ _ _ _ _ hr₁' hr₂' hne
  · rcases refs hr with ⟨p, e⟩ | hr'
    · rw [p.1]; exact hreg g (e ▸ hk)
    · exact hi.region _ _ _ _ hr' hk
  · rw [put_absAt, if_neg (fun a => e a.1)]

/-- `Put(k, c.Freeze())`: frozen data is on the heap, so no region is involved. -/
theorem step_putFrozen {h : Heap} (hi : Inv h) {b k c : Nat} (hc : c < h.nC)
    (hf : (h.conts c).frozen = true) : Step (· = b) h (h.put b k c) :=
  step_put hi hc (.inl hf) fun _ e => nomatch (hi.frozenHeap c hc hf).symm.trans e

/-- `Put(k, <new container holding v>)` -/
abbrev Heap.putNew (h : Heap) (b k : Nat) (v : List Nat) (kd : Kind) : Heap :=
  (h.alloc v kd).put b k h.nC

section putNew
variable {h : Heap} {b k : Nat} {v : List Nat} {kd : Kind}

theorem putNew_kind_new : (h.putNew b k v kd).kindOf h.nC = kd :=
  (moved_kind_same : (h.alloc v kd).kindOf h.nC = _)

theorem putNew_cont_new : (h.putNew b k v kd).conts h.nC = ⟨h.nS, false, isMmap kd⟩ :=
  (moved_cont_same : (h.alloc v kd).conts h.nC = _)

variable (hi : Inv h)
include hi

theorem putNew_kind_old {c : Nat} (hc : c < h.nC) : (h.putNew b k v kd).kindOf c = h.kindOf c :=
  (moved_kind_ne (hi.storeLt c hc) (Nat.ne_of_lt hc) : (h.alloc v kd).kindOf c = _)

theorem step_putNew (hk : ∀ g, kd = .mmap g → RegOk h b g) : Step (· = b) h (h.putNew b k v kd) :=
  have s := same_alloc hi v kd
  s.weaken.trans (step_put s.inv (Nat.lt_succ_self _)
    (.inr fun _ _ hr => Nat.lt_irrefl _ (hi.contLt _ _ _ hr))
    fun g e => hk g (moved_kind_same.symm.trans e))

/-- `halfCopy`, and `Thaw` of a frozen container: the key gets a copy of what it holds. -/
theorem same_putNew (hk : ∀ g, kd = .mmap g → RegOk h b g) (hv : h.absAt b k = some v) :
    Same h (h.putNew b k v kd) :=
  ⟨(step_putNew hi hk).inv, Nat.le_refl _, fun b' _ k' => by
    rw [put_absAt]
    split
    next p => rw [p.1, p.2, hv]; exact congrArg some moved_vals_same
    next => exact (same_alloc hi v kd).frame b' id k'⟩

end putNew

/-- `Remove`, a bitmap emptied or created: the table is replaced by part of itself. -/
theorem step_table {h : Heap} (hi : Inv h) {b nB' : Nat} {l : AList} (hn : h.nB ≤ nB')
    (H : ∀ k c, aget l k = some c → aget (h.bms b) k = some c) :
    Step (· = b) h { h with bms := upd h.bms b l, nB := nB' } := by
  have refs : ∀ {b' k c}, aget (upd h.bms b l b') k = some c → h.ref b' k c := by
    intro b' k c hr
    by_cases e : b' = b
    · rw [e, upd_same] at hr; exact e ▸ H k c hr
    · rwa [upd_ne _ _ _ _ e] at hr
  exact ⟨{ hi with
      contLt := fun _ _ _ hr => hi.contLt _ _ _ (refs hr)
      shared := fun _ _ _ _ _ hr₁ hr₂ => hi.shared _ _ _ _ _ (refs hr₁) (refs hr₂)
      region := fun _ _ _ _ hr => hi.region _ _ _ _ (refs hr) },
    hn, fun b' e => absAt_congr (upd_ne _ _ _ _ e) fun _ _ _ => rfl⟩

theorem inv_stores {h : Heap} (hi : Inv h) (st' : Nat → Store)
    (H : ∀ s, (st' s).kind = (h.stores s).kind) : Inv { h with stores := st' } :=
  { hi with
    frozenHeap := fun c hc hf => (H _).trans (hi.frozenHeap c hc hf)
    mappedOk := fun c hc => (hi.mappedOk c hc).trans (congrArg isMmap (H _).symm)
    region := fun b k c g hr hk => hi.region b k c g hr ((H _).symm.trans hk) }

/-- Only `b` changes: an unfrozen container is not shared, and neither is its store. -/
theorem step_setVals {h : Heap} (hi : Inv h) {b k c : Nat} (hr : h.ref b k c)
    (hf : (h.conts c).frozen = false) (hm : (h.conts c).mapped = false) (v : List Nat) :
    Step (· = b) h { h with stores := upd h.stores (h.conts c).store ⟨v, .heap⟩ } := by
  have hc := hi.contLt b k c hr
  refine ⟨inv_stores hi _ fun s => ?_, Nat.le_refl _, fun b' e => absAt_congr rfl fun k' c' hr' => ?_⟩
  · by_cases es : s = (h.conts c).store
    · rw [es, upd_same]; exact (kind_heap_of_unmapped hi hc hm).symm
    · rw [upd_ne _ _ _ _ es]
  · have ne : (h.conts c').store ≠ (h.conts c).store := fun es =>
      e (ref_unique hi hr hf (hi.storeInj c' c (hi.contLt b' k' c' hr') hc es ▸ hr'))
    exact congrArg Store.vals (upd_ne _ _ _ _ ne)

theorem same_newRegion {h : Heap} (hi : Inv h) (b : Nat) :
    Same h { h with live := upd h.live h.nR true, owner := upd h.owner h.nR b, nR := h.nR + 1 } := by
  refine ⟨{ hi with region := fun b' k c g hr hk => ?_ }, Nat.le_refl _, fun _ _ _ => rfl⟩
  obtain ⟨a1, a2, a3⟩ := hi.region b' k c g hr hk
  have e := Nat.ne_of_lt a3
  exact ⟨(upd_ne _ _ _ _ e).trans a1, (upd_ne _ _ _ _ e).trans a2, Nat.lt_succ_of_lt a3⟩

theorem regOk_newRegion (h : Heap) (b : Nat) :
    RegOk { h with live := upd h.live h.nR true, owner := upd h.owner h.nR b, nR := h.nR + 1 } b h.nR :=
  ⟨upd_same .., upd_same .., Nat.lt_succ_self _⟩

theorem same_killOwned {h : Heap} (hi : Inv h) (b : Nat) (keep : Option Nat)
    (hq : ∀ k c g, h.ref b k c → h.kindOf c = .mmap g → some g = keep) :
    Same h (h.killOwned b keep) := by
  refine ⟨{ hi with region := fun b' k c g hr hk => ?_ }, Nat.le_refl _, fun _ _ _ => rfl⟩
  obtain ⟨a1, a2, a3⟩ := hi.region b' k c g hr hk
  exact ⟨(if_neg fun ⟨eo, ek⟩ => ek (hq k c g (eo ▸ a2 ▸ hr) hk)).trans a1, a2, a3⟩

end PV.C03
