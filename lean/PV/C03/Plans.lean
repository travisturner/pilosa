/-
C03: the plan of a bitmap step consists of safe primitives aimed at the step's targets (`planB_ok`);
a row / fragment operation of Rows.lean reaches its new heap through safe primitives only (`reach_step`).
-/
import PV.C03.PrimInv
import PV.C03.Rows
namespace PV.C03

def Prim.okFor (T : List Nat) (p : Prim) : Prop :=
  p.isRaw = false ∧ ∀ t, p.target = some t → t ∈ T

theorem Prim.okFor.aimed {T : List Nat} {p : Prim} {b : Nat} (hr : p.isRaw = false)
    (ht : p.target = some b) (hb : b ∈ T) : p.okFor T :=
  ⟨hr, fun _ e => Option.some.inj (ht.symm.trans e) ▸ hb⟩

theorem Prim.okFor.aimless {T : List Nat} {p : Prim} (hr : p.isRaw = false) (ht : p.target = none) :
    p.okFor T :=
  ⟨hr, fun _ e => nomatch ht.symm.trans e⟩

section lists
variable {P : Prim → Prop}

theorem all_nil : ∀ p ∈ ([] : List Prim), P p := fun _ m => nomatch m

theorem all_one {q : Prim} (hq : P q) : ∀ p ∈ [q], P p := List.forall_mem_singleton.2 hq

theorem all_ite {c : Prop} [Decidable c] {a b : List Prim} (ha : ∀ p ∈ a, P p) (hb : ∀ p ∈ b, P p) :
    ∀ p ∈ (if c then a else b), P p := by
  split <;> assumption

end lists

theorem binBoth_ok (h : Heap) (op : BinOp) (d k ca cb : Nat) :
    ∀ p ∈ binBoth h op d k ca cb, p.okFor [d] := by
  have me : d ∈ [d] := List.mem_singleton_self d
  have fresh : ∀ v, ∀ p ∈ [Prim.fresh d k v], p.okFor [d] := fun _ => all_one (.aimed rfl rfl me)
  have share : ∀ c, ∀ p ∈ [Prim.share d k c], p.okFor [d] := fun _ => all_one (.aimed rfl rfl me)
  cases op
  · exact fresh _
  · exact all_ite all_nil (fresh _)
  · exact all_ite all_nil (all_ite (share _) (fresh _))
  · exact all_ite (share _) (all_ite (share _) (fresh _))

theorem binLeft_ok (op : BinOp) (d k c : Nat) : ∀ p ∈ binLeft op d k c, p.okFor [d] := by
  cases op
  case intersect => exact all_nil
  all_goals exact all_one (.aimed rfl rfl (List.mem_singleton_self d))

theorem binRight_ok (op : BinOp) (d k c : Nat) : ∀ p ∈ binRight op d k c, p.okFor [d] := by
  cases op
  case union | xor => exact all_one (.aimed rfl rfl (List.mem_singleton_self d))
  all_goals exact all_nil

theorem binPlan_ok (h : Heap) (op : BinOp) (d fuel : Nat) (la lb : AList) :
    ∀ p ∈ binPlan h op d fuel la lb, p.okFor [d] := by
  fun_induction binPlan h op d fuel la lb with
  | case1 | case2 => exact all_nil
  | case3 _ _ _ _ ih | case5 _ _ _ _ _ _ _ _ ih => exact List.forall_mem_append.2 ⟨binLeft_ok _ _ _ _, ih⟩
  | case4 _ _ _ _ ih | case6 _ _ _ _ _ _ _ _ _ ih => exact List.forall_mem_append.2 ⟨binRight_ok _ _ _ _, ih⟩
  | case7 _ _ _ _ _ _ _ _ _ ih => exact List.forall_mem_append.2 ⟨binBoth_ok _ _ _ _ _ _, ih⟩

theorem derive_ok {α : Type} (h : Heap) (l : List α) (f : α → Prim) (hf : ∀ a, (f a).okFor [h.nB]) :
    ∀ p ∈ Prim.newBm :: l.map f, p.okFor [h.nB] :=
  List.forall_mem_cons.2 ⟨.aimless rfl rfl, List.forall_mem_map.2 fun a _ => hf a⟩

/-- Every primitive of a step's plan is safe and targets one of the step's target bitmaps. -/
theorem planB_ok (h : Heap) (op : BOp) :
    ∀ p ∈ planB h op, p.isRaw = false ∧ ∀ t, p.target = some t → t ∈ op.targets h := by
  show ∀ p ∈ planB h op, p.okFor (op.targets h)
  have me : h.nB ∈ [h.nB] := List.mem_singleton_self _
  cases op with
  | new vals => exact derive_ok h _ _ fun _ => .aimed rfl rfl me
  | add b v => exact all_ite all_nil (all_one (.aimed rfl rfl (List.mem_singleton_self b)))
  | remove b v =>
    rw [planB]
    split
    · exact all_nil
    · exact all_ite (all_one (.aimed rfl rfl (List.mem_singleton_self b))) all_nil
  | clone s => exact derive_ok h _ _ fun _ => .aimed rfl rfl me
  | freeze s => exact derive_ok h _ _ fun _ => .aimed rfl rfl me
  | bin o a b => exact List.forall_mem_cons.2 ⟨.aimless rfl rfl, binPlan_ok _ _ _ _ _ _⟩
  | offsetRange s off start end_ => exact derive_ok h _ _ fun _ => .aimed rfl rfl me
  | mapFrom s => exact List.forall_mem_cons.2 ⟨.aimless rfl rfl, all_one (.aimed rfl rfl me)⟩
  | remap b => exact all_one (.aimless rfl rfl)
  | unmap b => exact all_one (.aimless rfl rfl)
  | drop b => exact all_one (.aimed rfl rfl (List.mem_singleton_self b))

theorem step_stepB {h : Heap} (hi : Inv h) (op : BOp) :
    Step (fun b => h.nB ≤ b ∨ b ∈ op.targets h) h (stepB h op) :=
  (step_applyPrims (planB h op) hi fun p hp => (planB_ok h op p hp).1).mono fun b =>
    Or.imp_right fun ⟨p, hp, e⟩ => (planB_ok h op p hp).2 b e

/-- `h'` is reached from `h` by safe primitives. -/
def Reach (h h' : Heap) : Prop := ∃ ps : List Prim, (∀ p ∈ ps, p.isRaw = false) ∧ h' = h.applyPrims ps

theorem Reach.refl (h : Heap) : Reach h h := ⟨[], all_nil, rfl⟩

theorem Reach.trans {h1 h2 h3 : Heap} (a : Reach h1 h2) (b : Reach h2 h3) : Reach h1 h3 := by
  obtain ⟨p1, s1, e1⟩ := a
  obtain ⟨p2, s2, e2⟩ := b
  exact ⟨p1 ++ p2, List.forall_mem_append.2 ⟨s1, s2⟩, by rw [e2, e1]; exact (List.foldl_append ..).symm⟩

theorem Reach.inv {h h' : Heap} (r : Reach h h') (hi : Inv h) : Inv h' := by
  obtain ⟨ps, s, e⟩ := r
  exact e ▸ (step_applyPrims ps hi s).inv

theorem reach_prims (h : Heap) (ps : List Prim) (hs : ∀ p ∈ ps, p.isRaw = false) :
    Reach h (h.applyPrims ps) :=
  ⟨ps, hs, rfl⟩

theorem reach_runB (w : World) (op : BOp) : Reach w.h (w.runB op).h :=
  reach_prims _ _ fun p hp => (planB_ok w.h op p hp).1

theorem reach_newRowSegs (ss cols : List Nat) : ∀ w : World, Reach w.h (w.newRowSegs ss cols).1.h := by
  induction ss with
  | nil => exact fun w => .refl _
  | cons s rest ih => exact fun w => (reach_runB w _).trans (ih _)

theorem reach_segSet (w : World) (seg : Seg) (col : Nat) : Reach w.h (w.segSet seg col).1.h := by
  unfold World.segSet
  split
  · exact reach_runB w _
  · exact (reach_runB w _).trans (reach_runB _ _)

theorem reach_rowSet (w : World) (segs : List Seg) (col : Nat) : Reach w.h (w.rowSet segs col).1.h := by
  unfold World.rowSet
  dsimp only
  split
  · exact reach_segSet w _ col
  · exact (reach_runB w _).trans (reach_segSet _ _ col)

theorem reach_segShared (w : World) (s : Seg) : Reach w.h (w.segShared s).1.h := reach_runB w _

theorem reach_segBin (w : World) (op : BinOp) (a b : Seg) : Reach w.h (w.segBin op a b).1.h := by
  refine (reach_runB w _).trans (reach_prims _ _ ?_)
  exact List.forall_mem_map.2 fun _ _ => rfl

theorem reach_takeShared (w : World) (keep : Bool) (s : Seg) : Reach w.h (w.takeShared keep s).1.h := by
  unfold World.takeShared
  split
  · exact reach_segShared w s
  · exact .refl _

theorem reach_rowBin (op : BinOp) (fuel : Nat) (w : World) (la lb : List Seg) :
    Reach w.h (w.rowBin op fuel la lb).1.h := by
  fun_induction World.rowBin w op fuel la lb with
  | case1 | case2 => exact .refl _
  | case3 _ _ _ _ _ _ ih | case4 _ _ _ _ _ _ ih | case5 _ _ _ _ _ _ _ _ _ ih
  | case6 _ _ _ _ _ _ _ _ _ _ ih => exact (reach_takeShared ..).trans ih
  | case7 _ _ _ _ _ _ _ _ _ _ ih => exact (reach_segBin ..).trans ih

theorem reach_segSet_fold (vs : List Nat) (acc : World × Seg) :
    Reach acc.1.h (vs.foldl (fun (acc : World × Seg) v => acc.1.segSet acc.2 v) acc).1.h :=
  List.foldlRecOn (motive := fun (a : World × Seg) => Reach acc.1.h a.1.h) vs _ (.refl _)
    fun a ha v _ => ha.trans (reach_segSet a.1 a.2 v)

theorem reach_rowMerge (fuel : Nat) (w : World) (lx ly : List Seg) :
    Reach w.h (w.rowMerge fuel lx ly).1.h := by
  fun_induction World.rowMerge w fuel lx ly with
  | case1 | case2 => exact .refl _
  | case3 _ _ _ _ _ _ ih => exact (reach_segShared ..).trans ih
  | case4 _ _ _ _ _ _ _ _ ih => exact ih
  | case5 _ _ _ _ _ _ _ _ _ _ ih => exact (reach_segShared ..).trans ih
  | case6 _ _ _ _ _ _ _ _ _ _ ih => exact (reach_segSet_fold _ (_, _)).trans ih

theorem reach_snapshot (w : World) (f : Frag) : Reach w.h (w.snapshot f).h := by
  refine (reach_prims _ _ ?_).trans (reach_prims _ [Prim.remapNew f.storage] (all_one rfl))
  exact List.forall_mem_map.2 fun _ _ => rfl

theorem reach_delRow (w : World) (st r : Nat) : Reach w.h (w.delRow st r).h :=
  reach_prims _ _ (List.forall_mem_map.2 fun _ _ => rfl)

theorem reach_putRow (w : World) (f : Frag) (r : Nat) (segs : List Seg) :
    Reach w.h (w.putRow f r segs).h := by
  refine reach_prims _ _ ?_
  unfold putRowPlan
  split
  · exact all_nil
  · exact List.forall_mem_map.2 fun _ _ => rfl

theorem reach_doSetRow (w : World) (f : Frag) (r : Nat) (segs : List Seg) :
    Reach w.h (w.doSetRow f r segs).h :=
  ((reach_delRow w f.storage r).trans (reach_putRow _ f r segs)).trans
    (reach_snapshot ((w.delRow f.storage r).putRow f r segs) { f with cache := cacheDel f.cache r })

theorem reach_doClearRow (w : World) (f : Frag) (r : Nat) : Reach w.h (w.doClearRow f r).h :=
  (reach_delRow w f.storage r).trans
    (reach_snapshot (w.delRow f.storage r) { f with cache := cacheDel f.cache r })

theorem reach_doImport (w : World) (f : Frag) (clear : Bool) (vals : List Nat) :
    Reach w.h (w.doImport f clear vals).h := by
  refine reach_prims _ _ fun p hp => ?_
  obtain ⟨kv, _, e⟩ := List.mem_filterMap.1 hp
  obtain ⟨v, _, e⟩ := Option.map_eq_some_iff.1 e
  exact e ▸ rfl

theorem reach_of_some {h : Heap} {w₁ w' : World} (hs : some w₁ = some w') (H : Reach h w₁.h) :
    Reach h w'.h :=
  Option.some.inj hs ▸ H

/-- an operation on one handle -/
theorem reach_of_map {α : Type} {h : Heap} {o : Option α} {f : α → World} {w' : World}
    (hs : o.map f = some w') (H : ∀ a, Reach h (f a).h) : Reach h w'.h := by
  obtain ⟨a, _, e⟩ := Option.map_eq_some_iff.1 hs
  exact e ▸ H a

theorem of_ite_none {α : Type} {c : Prop} [Decidable c] {o : Option α} {a : α}
    (hs : (if c then o else none) = some a) : o = some a := by
  split at hs
  · exact hs
  · cases hs

/-- an operation on the open fragment -/
theorem reach_of_open {h : Heap} {fr : Option Frag} {f : Frag → Option World} {w' : World}
    (hs : (match fr with
      | some fg => if fg.isOpen then f fg else none
      | none => none) = some w')
    (H : ∀ fg, f fg = some w' → Reach h w'.h) : Reach h w'.h := by
  cases fr with
  | none => cases hs
  | some fg => exact H fg (of_ite_none hs)

/-- Every operation of the row / fragment layer changes the heap through safe primitives only. -/
theorem reach_step (w w' : World) (op : Op) (hs : w.step op = some w') : Reach w.h w'.h := by
  cases op with
  | bnew vals => exact reach_of_some hs (reach_runB w _)
  | badd b v => exact reach_of_map hs fun _ => reach_runB w _
  | bremove b v => exact reach_of_map hs fun _ => reach_runB w _
  | bclone s => exact reach_of_map hs fun _ => reach_runB w _
  | bfreeze s => exact reach_of_map hs fun _ => reach_runB w _
  | bbin o a b =>
    dsimp only [World.step] at hs
    split at hs
    · exact reach_of_some hs (reach_runB w _)
    · cases hs
  | boffset s off start end_ => exact reach_of_map hs fun _ => reach_runB w _
  | bmap s => exact reach_of_map hs fun _ => reach_runB w _
  | bremap b => exact reach_of_map (of_ite_none hs) fun _ => reach_runB w _
  | bunmap b => exact reach_of_map (of_ite_none hs) fun _ => reach_runB w _
  | boptimize b =>
    exact reach_of_map hs fun _ => reach_prims _ _ (List.forall_mem_map.2 fun _ _ => rfl)
  | rnew cols => exact reach_of_some hs (reach_newRowSegs _ _ w)
  | rset x col => exact reach_of_map hs fun _ => reach_rowSet w _ col
  | rbin o a b =>
    dsimp only [World.step] at hs
    split at hs
    · exact reach_of_some hs (reach_rowBin o _ w _ _)
    · cases hs
  | rmerge x y =>
    dsimp only [World.step] at hs
    split at hs
    · exact reach_of_some hs (reach_rowMerge _ w _ _)
    · cases hs
  | fopen shard =>
    dsimp only [World.step] at hs
    split at hs
    · cases hs
    · exact reach_of_some hs (reach_runB w _)
  | fset r c => exact reach_of_open hs fun _ e => reach_of_some e (reach_runB w _)
  | fclear r c => exact reach_of_open hs fun _ e => reach_of_some e (reach_runB w _)
  | frow r =>
    refine reach_of_open hs fun _ e => ?_
    split at e
    · exact reach_of_some e (.refl _)
    · exact reach_of_some e (reach_runB w _)
  | fsetrow r y =>
    dsimp only [World.step] at hs
    split at hs
    · exact reach_of_some (of_ite_none hs) (reach_doSetRow w _ _ _)
    · cases hs
  | fclearrow r => exact reach_of_open hs fun _ e => reach_of_some e (reach_doClearRow w _ _)
  | fimport clear vals => exact reach_of_open hs fun _ e => reach_of_some e (reach_doImport w _ _ _)
  | fsnap => exact reach_of_open hs fun _ e => reach_of_some e (reach_snapshot w _)
  | fclose => exact reach_of_open hs fun _ e => reach_of_some e (reach_runB w _)
  | freopen =>
    dsimp only [World.step] at hs
    split at hs
    · split at hs
      · cases hs
      · exact reach_of_some hs (reach_prims _ _ (all_one rfl))
    · cases hs

end PV.C03
