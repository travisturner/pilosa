/-
C03: `step_applyPrim`: a primitive heap action other than `shareRaw`, applied to a heap satisfying Iso,
keeps Iso and changes the value of its target bitmap only.
-/
import PV.C03.Iso
namespace PV.C03

def Prim.isRaw : Prim → Bool
  | .shareRaw _ _ _ => true
  | _ => false

/-- the bitmap a primitive may change, evaluated in the heap it is applied to -/
def Prim.targetIn (h : Heap) : Prim → Option Nat
  | .newBm => some h.nB
  | p => p.target

theorem absAt_of_ref {h : Heap} {b k c : Nat} (hr : h.ref b k c) : h.absAt b k = some (h.vals c) :=
  congrArg (Option.map h.vals) hr

theorem freezeC_eq (h : Heap) (c : Nat) :
    h.freezeC c = if (h.conts c).frozen then h else h.moved c h.nC (h.vals c) .heap true := rfl

theorem same_freezeC {h : Heap} (hi : Inv h) {c : Nat} (hc : c < h.nC) : Same h (h.freezeC c) := by
  rw [freezeC_eq]
  split
  · exact .refl hi
  · exact same_moved hi hc (fun _ => rfl) (fun _ => rfl) (fun _ e => nomatch e)

theorem freezeC_frozen (h : Heap) (c : Nat) : ((h.freezeC c).conts c).frozen = true := by
  rw [freezeC_eq]
  split
  · assumption
  · rw [moved_cont_same]

theorem freezeC_nC (h : Heap) (c : Nat) : (h.freezeC c).nC = h.nC := by
  rw [freezeC_eq]; split <;> rfl

theorem freezeC_bms (h : Heap) (c : Nat) : (h.freezeC c).bms = h.bms := by
  rw [freezeC_eq]; split <;> rfl

theorem same_unmapInPlace {h : Heap} (hi : Inv h) {c : Nat} (hc : c < h.nC) :
    Same h (h.unmapInPlace c) :=
  same_moved hi hc (fun _ => rfl) id (fun _ e => nomatch e)

theorem thawAt_eq (h : Heap) (b k c : Nat) :
    h.thawAt b k c =
      if (h.conts c).frozen then (h.putNew b k (h.vals c) .heap, h.nC)
      else if (h.conts c).mapped then (h.unmapInPlace c, c) else (h, c) := rfl

theorem thawAt_writable (h : Heap) (b k c : Nat) :
    ((h.thawAt b k c).1.conts (h.thawAt b k c).2).frozen = false ∧
    ((h.thawAt b k c).1.conts (h.thawAt b k c).2).mapped = false := by
  rw [thawAt_eq]
  split
  · exact ⟨congrArg Cont.frozen putNew_cont_new, congrArg Cont.mapped putNew_cont_new⟩
  next hf =>
    split
    · have e : (h.moved c h.nC (h.vals c) .heap (h.conts c).frozen).conts c = _ := moved_cont_same
      exact ⟨(congrArg Cont.frozen e).trans (Bool.eq_false_iff.2 hf), congrArg Cont.mapped e⟩
    next hm => exact ⟨Bool.eq_false_iff.2 hf, Bool.eq_false_iff.2 hm⟩

theorem thawAt_spec {h : Heap} (hi : Inv h) {b k c : Nat} (hr : h.ref b k c) :
    Same h (h.thawAt b k c).1 ∧ (h.thawAt b k c).1.ref b k (h.thawAt b k c).2 := by
  rw [thawAt_eq]
  split
  · exact ⟨same_putNew hi (kd := .heap) (fun _ e => nomatch e) (absAt_of_ref hr),
      (put_aget ..).trans (if_pos ⟨rfl, rfl⟩)⟩
  · split
    · exact ⟨same_unmapInPlace hi (hi.contLt b k c hr), hr⟩
    · exact ⟨.refl hi, hr⟩

/-- In the walks of `load`, `remapNew`, `unmapAll` over the keys of `b`, with `K` still to do: the
containers of `b` at keys outside `K` have data of kind `kd`. -/
def Done (kd : Kind) (b : Nat) (K : List Nat) (h : Heap) : Prop :=
  ∀ k c, h.ref b k c → k ∈ K ∨ h.kindOf c = kd

theorem Done.kind {kd : Kind} {b : Nat} {h : Heap} (hd : Done kd b [] h) {k c : Nat}
    (hr : h.ref b k c) : h.kindOf c = kd :=
  (hd k c hr).resolve_left List.not_mem_nil

theorem Done.empty (kd : Kind) (b : Nat) (K : List Nat) (h : Heap) (nB' : Nat) :
    Done kd b K { h with bms := upd h.bms b [], nB := nB' } :=
  fun k _ hr => nomatch (congrArg (aget · k) (upd_same ..)).symm.trans hr

theorem Done.cons {kd : Kind} {b : Nat} {K : List Nat} {h : Heap} (hd : Done kd b K h) (k : Nat) :
    Done kd b (k :: K) h :=
  fun k' c hr => (hd k' c hr).imp_left (List.mem_cons_of_mem _)

theorem Done.next {kd : Kind} {b k : Nat} {K : List Nat} {h : Heap} (hd : Done kd b (k :: K) h)
    (H : ∀ c, h.ref b k c → h.kindOf c = kd) : Done kd b K h := by
  intro k' c hr
  rcases hd k' c hr with m | e
  · rcases List.mem_cons.1 m with e | m
    · exact .inr (H c (e ▸ hr))
    · exact .inl m
  · exact .inr e

theorem Done.putNew {kd : Kind} {b k : Nat} {K : List Nat} {h : Heap} (hi : Inv h)
    (hd : Done kd b (k :: K) h) (v : List Nat) : Done kd b K (h.putNew b k v kd) := by
  intro k' c hr
  rw [Heap.ref, put_aget] at hr
  split at hr
  · rw [← Option.some.inj hr]; exact .inr putNew_kind_new
  next ne =>
    rw [putNew_kind_old hi (hi.contLt b k' c hr)]
    refine (hd k' c hr).imp_left fun m => (List.mem_cons.1 m).resolve_left fun e => ne ⟨rfl, e⟩

theorem Done.moved {kd : Kind} {b k c : Nat} {K : List Nat} {h : Heap} (hi : Inv h)
    (hd : Done kd b (k :: K) h) (hr : h.ref b k c) (v : List Nat) (fr : Bool) :
    Done kd b K (h.moved c h.nC v kd fr) := by
  intro k' c' hr'
  by_cases e : c' = c
  · rw [e]; exact .inr moved_kind_same
  · rw [moved_kind_ne (hi.storeLt c' (hi.contLt b k' c' hr')) e]
    refine (hd k' c' hr').imp_left fun m => (List.mem_cons.1 m).resolve_left fun ek => e ?_
    exact Option.some.inj ((ek ▸ hr' : aget (h.bms b) k = some c').symm.trans hr)

theorem loadOne_step {h : Heap} (hi : Inv h) {b g : Nat} (hg : RegOk h b g)
    (hd : Done (.mmap g) b [] h) (kv : Nat × List Nat) :
    Step (· = b) h (h.loadOne b g kv) ∧ RegOk (h.loadOne b g kv) b g ∧
      Done (.mmap g) b [] (h.loadOne b g kv) :=
  -- `loadOne` leaves the regions alone: `hg` holds of the new heap by unfolding
  ⟨step_putNew hi hg.of_mmap_eq, hg, (hd.cons kv.1).putNew hi kv.2⟩

theorem remapKey_eq (h : Heap) (b g k : Nat) :
    h.remapKey b g k = match aget (h.bms b) k with
      | none => h
      | some c =>
        if (h.conts c).frozen then h.putNew b k (h.vals c) (.mmap g)
        else h.moved c h.nC (h.vals c) (.mmap g) false := rfl

theorem remapKey_step {h : Heap} (hi : Inv h) {b g k : Nat} {K : List Nat} (hg : RegOk h b g)
    (hd : Done (.mmap g) b (k :: K) h) :
    Same h (h.remapKey b g k) ∧ RegOk (h.remapKey b g k) b g ∧
      Done (.mmap g) b K (h.remapKey b g k) := by
  rw [remapKey_eq]
  split
  next hr => exact ⟨.refl hi, hg, hd.next fun c e => nomatch hr.symm.trans e⟩
  next c hr =>
    split
    next hf => exact ⟨same_putNew hi hg.of_mmap_eq (absAt_of_ref hr), hg, hd.putNew hi _⟩
    next hf =>
      have hf := Bool.eq_false_iff.2 hf
      exact ⟨same_moved (fr := false) hi (hi.contLt b k c hr) (fun e => nomatch e)
        (fun e => hf.symm.trans e) (fun g' e b' k' hr' => ref_unique hi hr hf hr' ▸ hg.of_mmap_eq g' e),
        hg, hd.moved hi hr _ _⟩

theorem unmapKey_step {h : Heap} (hi : Inv h) {b k : Nat} {K : List Nat}
    (hd : Done .heap b (k :: K) h) :
    Same h (h.unmapKey b k) ∧ Done .heap b K (h.unmapKey b k) := by
  unfold Heap.unmapKey
  split
  next hr => exact ⟨.refl hi, hd.next fun c e => nomatch hr.symm.trans e⟩
  next c hr =>
    have hc := hi.contLt b k c hr
    split
    next => exact ⟨same_unmapInPlace hi hc, hd.moved hi hr _ _⟩
    next hcond =>
      refine ⟨.refl hi, hd.next fun c' hr' => ?_⟩
      rw [← Option.some.inj (hr.symm.trans hr')]
      cases hm : (h.conts c).mapped with
      | false => exact kind_heap_of_unmapped hi hc hm
      | true =>
        cases hf : (h.conts c).frozen with
        | true => exact hi.frozenHeap c hc hf
        | false => rw [hm, hf] at hcond; exact absurd rfl hcond

theorem same_killOwned_done {h : Heap} (hi : Inv h) {kd : Kind} {b : Nat} (hd : Done kd b [] h)
    {keep : Option Nat} (hk : ∀ g, kd = .mmap g → some g = keep) : Same h (h.killOwned b keep) :=
  same_killOwned hi b keep fun _ _ g hr e => hk g ((hd.kind hr).symm.trans e)

theorem Step.aimedAt {b : Nat} {h h' : Heap} (s : Step (· = b) h h') :
    Step (fun b' => some b = some b') h h' :=
  s.mono fun _ e => e ▸ rfl

theorem step_applyPrim {h : Heap} (hi : Inv h) (p : Prim) (hp : p.isRaw = false) :
    Step (fun b' => p.targetIn h = some b') h (h.applyPrim p) := by
  have heap : ∀ {b : Nat} (g), Kind.heap = .mmap g → RegOk h b g := fun _ e => nomatch e
  cases p with
  | newBm => exact (step_table (l := []) hi (Nat.le_succ _) fun _ _ e => nomatch e).aimedAt
  | fresh b k vals => exact (step_putNew hi heap).aimedAt
  | share b k c =>
    rw [Heap.applyPrim]
    split
    next hc =>
      have s := same_freezeC hi hc
      have hc' : c < (h.freezeC c).nC := (freezeC_nC h c).symm ▸ hc
      exact (s.weaken.trans (step_putFrozen s.inv hc' (freezeC_frozen h c))).aimedAt
    next => exact .refl hi
  | shareRaw b k c => cases hp
  | write b k vals =>
    rw [Heap.applyPrim]
    split
    next => exact (step_putNew hi heap).aimedAt
    next c hr =>
      split
      next => exact .refl hi
      next =>
        obtain ⟨s, hr'⟩ := thawAt_spec hi hr
        obtain ⟨hf, hm⟩ := thawAt_writable h b k c
        exact (s.weaken.trans (step_setVals s.inv hr' hf hm vals)).aimedAt
  | del b k =>
    refine (step_table hi (Nat.le_refl _) fun k' c e => ?_).aimedAt
    rw [aget_adel] at e
    split at e
    · cases e
    · exact e
  | freezeAt c =>
    rw [Heap.applyPrim]
    split
    next hc => exact (same_freezeC hi hc).weaken
    next => exact .refl hi
  | load b kvs =>
    have s0 := same_newRegion hi b
    have s1 := step_table (b := b) (l := []) s0.inv (Nat.le_refl _) fun _ _ e => nomatch e
    obtain ⟨s2, hg, hd⟩ := Step.foldl (T := (· = b)) (f := fun s kv => s.loadOne b h.nR kv)
      (P := fun _ s => RegOk s b h.nR ∧ Done (.mmap h.nR) b [] s)
      (fun kv _ s hi p => loadOne_step hi p.1 p.2 kv)
      kvs _ s1.inv ⟨regOk_newRegion h b, .empty _ _ _ _ _⟩
    exact (s0.weaken.trans (s1.trans (s2.trans
      (same_killOwned_done s2.inv hd fun _ e => Kind.mmap.inj e ▸ rfl).weaken))).aimedAt
  | remapNew b =>
    have s0 := same_newRegion hi b
    obtain ⟨s1, hg, hd⟩ := Step.foldl (f := fun s k => s.remapKey b h.nR k)
      (P := fun K s => RegOk s b h.nR ∧ Done (.mmap h.nR) b K s)
      (fun k K s hi p => remapKey_step hi p.1 p.2)
      ((h.bms b).map (·.1)) _ s0.inv
      ⟨regOk_newRegion h b, fun k c hr => .inl (aget_mem_keys _ k c hr)⟩
    exact (s0.trans (s1.trans
      (same_killOwned_done s1.inv hd fun _ e => Kind.mmap.inj e ▸ rfl))).weaken
  | unmapAll b =>
    obtain ⟨s1, hd⟩ := Step.foldl (f := fun s k => s.unmapKey b k) (P := fun K s => Done .heap b K s)
      (fun k K s hi p => unmapKey_step hi p)
      ((h.bms b).map (·.1)) h hi fun k c hr => .inl (aget_mem_keys _ k c hr)
    exact (s1.trans (same_killOwned_done s1.inv hd fun _ e => nomatch e)).weaken
  | drop b =>
    have s1 := step_table (b := b) (l := []) hi (Nat.le_refl _) fun _ _ e => nomatch e
    exact (s1.trans (same_killOwned_done s1.inv (.empty .heap _ _ _ _) fun _ e => nomatch e).weaken).aimedAt

theorem inv_applyPrim (h : Heap) (hi : Inv h) (p : Prim) (hp : p.isRaw = false) :
    Inv (h.applyPrim p) :=
  (step_applyPrim hi p hp).inv

/-- Frame: a safe primitive changes the value of its target bitmap only. -/
theorem frame_applyPrim (h : Heap) (hi : Inv h) (p : Prim) (hp : p.isRaw = false)
    (b' : Nat) (hb : p.targetIn h ≠ some b') (k' : Nat) :
    (h.applyPrim p).absAt b' k' = h.absAt b' k' :=
  (step_applyPrim hi p hp).frame b' hb k'

theorem targetIn_some {h : Heap} {p : Prim} {b : Nat} (e : p.targetIn h = some b) :
    h.nB ≤ b ∨ p.target = some b := by
  cases p with
  | newBm => exact .inl (Nat.le_of_eq (Option.some.inj e))
  | _ => exact .inr e

/-- `Prim.targetIn` differs from the model's `Prim.target` only at `newBm`, which sets the table at
`h.nB`; over a sequence that id is among the bitmaps created on the way. -/
theorem step_applyPrims (ps : List Prim) : ∀ {h : Heap}, Inv h → (∀ p ∈ ps, p.isRaw = false) →
    Step (fun b => h.nB ≤ b ∨ ∃ p ∈ ps, p.target = some b) h (h.applyPrims ps) :=
  fun {h} hi hs =>
    List.foldlRecOn (motive := fun g => Step (fun b => h.nB ≤ b ∨ ∃ p ∈ ps, p.target = some b) h g)
      ps Heap.applyPrim (.refl hi) fun _ s p hp =>
        s.trans ((step_applyPrim s.inv p (hs p hp)).mono fun _ e =>
          (targetIn_some e).imp (Nat.le_trans s.nB) fun e => ⟨p, hp, e⟩)

end PV.C03
