/-
C03 property theorems: derived bitmaps, rows and query results are isolated values.

Full-strength statement (over the heap model of Model.lean / Rows.lean):
  * `Iso` (`Inv`, Iso.lean): a container reachable from two places is frozen; stores are never
    shared between container objects; frozen data lives on the heap; `mapped` says exactly that the
    data lies in a mapping; a reachable container with mapped data lies in a LIVE region owned by
    the bitmap that reaches it.
  * C03_iso_step     every step preserves Iso (every history starts from the empty heap, which
                     satisfies it: C03_iso_init, C03_iso_history).
  * C03_isolated     under Iso a step changes the value of its target bitmap only: a deriving step
                     (clone, freeze, union, intersect, difference, xor, offset range, decode from a
                     mapping) leaves EVERY existing bitmap unchanged, a mutation changes only the
                     bitmap it is applied to, remap / unmap (snapshot, close) change no value at all.
                     C03_isolated_history lifts it to any later sequence of steps not aimed at the bitmap:
                     a value derived at step i is unchanged by later operations on its sources and
                     the sources by later operations on it.
  * C03_no_use_after_unmap   under Iso no reachable container lies in an unmapped region, so no
                     read panics.
Everything is proved for an arbitrary heap satisfying Iso, i.e. for every history.
-/
import PV.C03.Plans
namespace PV.C03

/-- The heap every history starts from satisfies Iso. -/
theorem C03_iso_init : Inv Heap.empty := inv_empty

/-- Every primitive heap action the steps are made of (all but the raw, unfrozen share that
`unprotectedSetRow` used before the fix) preserves Iso. -/
theorem C03_iso_prim (h : Heap) (hi : Inv h) (p : Prim) (hp : p.isRaw = false) : Inv (h.applyPrim p) :=
  inv_applyPrim h hi p hp

/-- Iso is preserved by every step on bitmaps: create, add, remove, clone, freeze, union,
intersect, difference, xor, offset range, decode from a mapping, remap to a new file (snapshot),
unmap, drop (close). -/
theorem C03_iso_step (h : Heap) (hi : Inv h) (op : BOp) : Inv (stepB h op) :=
  (step_stepB hi op).inv

example : Inv (stepB (stepB Heap.empty (.new [1, 2, 70000])) (.freeze 0)) :=
  C03_iso_step _ (C03_iso_step _ C03_iso_init _) _

/-- Isolation, one step: a bitmap that is not a target of the step keeps its value at every key.
For a deriving step the only target is the new bitmap, so sources keep their value. -/
theorem C03_isolated (h : Heap) (hi : Inv h) (op : BOp) (b : Nat) (hb : b < h.nB)
    (hn : b ∉ op.targets h) (k : Nat) : (stepB h op).absAt b k = h.absAt b k :=
  (step_stepB hi op).frame b (fun o => o.elim (Nat.not_le_of_lt hb) hn) k

/-- A history (list of steps) run from a heap. -/
def runB (h : Heap) (ops : List BOp) : Heap := ops.foldl stepB h

/-- Bitmap ids are never given back: only `newBm` moves `nB`, and it moves it up.  Holds of every heap,
with or without the invariant. -/
theorem nB_applyPrim (h : Heap) (p : Prim) : h.nB ≤ (h.applyPrim p).nB := by
  have fold : ∀ {α : Type} (f : Heap → α → Heap), (∀ h a, (f h a).nB = h.nB) → ∀ (l : List α) h,
      (l.foldl f h).nB = h.nB :=
    fun f hf l h => List.foldlRecOn (motive := fun g => g.nB = h.nB) l f rfl fun g hg a _ => (hf g a).trans hg
  cases p with
  | newBm => exact Nat.le_succ _
  | fresh | shareRaw | del | drop => exact Nat.le_refl _
  | share b k c =>
    rw [Heap.applyPrim]; split
    · show h.nB ≤ (h.freezeC c).nB
      rw [freezeC_eq]; split <;> exact Nat.le_refl _
    · exact Nat.le_refl _
  | write b k vals =>
    rw [Heap.applyPrim]; split
    · exact Nat.le_refl _
    · split
      · exact Nat.le_refl _
      · unfold Heap.thawAt; split
        · exact Nat.le_refl _
        · split <;> exact Nat.le_refl _
  | freezeAt c =>
    rw [Heap.applyPrim]; split
    · rw [freezeC_eq]; split <;> exact Nat.le_refl _
    · exact Nat.le_refl _
  | load b kvs =>
    simp only [Heap.applyPrim, Heap.killOwned]
    rw [fold (fun s kv => s.loadOne b h.nR kv) (fun _ _ => rfl)]; exact Nat.le_refl _
  | remapNew b =>
    simp only [Heap.applyPrim, Heap.killOwned]
    rw [fold (fun s k => s.remapKey b h.nR k) (fun s k => ?_)]; exact Nat.le_refl _
    unfold Heap.remapKey; split
    · rfl
    · split <;> rfl
  | unmapAll b =>
    simp only [Heap.applyPrim, Heap.killOwned]
    rw [fold (fun s k => s.unmapKey b k) (fun s k => ?_)]; exact Nat.le_refl _
    unfold Heap.unmapKey; split
    · rfl
    · split <;> rfl

theorem nB_stepB (h : Heap) (op : BOp) : h.nB ≤ (stepB h op).nB :=
  List.foldlRecOn (motive := fun g => h.nB ≤ g.nB) (planB h op) Heap.applyPrim (Nat.le_refl _)
    fun g hg p _ => Nat.le_trans hg (nB_applyPrim g p)

/-- No step of the history is aimed at bitmap `b` (targets are evaluated where the step runs). -/
def untouched (b : Nat) : Heap → List BOp → Prop
  | _, [] => True
  | h, op :: rest => b ∉ op.targets h ∧ untouched b (stepB h op) rest

/-- A history is one `Step`: Iso is kept, and only new bitmaps and bitmaps some step was aimed at change. -/
theorem step_runB (ops : List BOp) : ∀ {h : Heap}, Inv h →
    Step (fun b => h.nB ≤ b ∨ ¬ untouched b h ops) h (runB h ops) := by
  induction ops with
  | nil => exact fun hi => .refl hi
  | cons op rest ih =>
    intro h hi
    have s := step_stepB hi op
    exact (s.mono fun b o => o.imp_right fun t u => u.1 t).trans
      ((ih s.inv).mono fun b o => o.imp (Nat.le_trans s.nB) fun t u => t u.2)

theorem C03_iso_history (ops : List BOp) : ∀ h, Inv h → Inv (runB h ops) :=
  fun _ hi => (step_runB ops hi).inv

/-- Isolation, any history: whatever is done later to other bitmaps — mutation of the sources
or of the derived values, snapshots, remaps, unmaps, closes — bitmap `b` keeps its value. -/
theorem C03_isolated_history (ops : List BOp) :
    ∀ h, Inv h → ∀ b, b < h.nB → untouched b h ops → ∀ k, (runB h ops).absAt b k = h.absAt b k :=
  fun _ hi b hb hu k => (step_runB ops hi).frame b (fun o => o.elim (Nat.not_le_of_lt hb) (· hu)) k

example : untouched 0 (stepB (stepB Heap.empty (.new [1, 2])) (.freeze 0)) [.add 1 5, .remap 1] := by
  simp [untouched, BOp.targets]

/-- Under Iso nothing reachable lies in an unmapped region: no read is a use-after-unmap. -/
theorem C03_no_use_after_unmap (h : Heap) (hi : Inv h) (b k c : Nat)
    (hr : aget (h.bms b) k = some c) : h.readable c = true := by
  unfold Heap.readable
  cases hk : h.kindOf c with
  | heap => rfl
  | mmap g => exact (hi.region b k c g hr hk).1

/-- (ii) of Iso: the only primitive that changes a store (`Prim.write`) does so through
`thawAt` (`Container.Thaw` + `Put`), and what `thawAt` hands back is neither frozen nor mapped:
no kernel writes a store whose container is frozen or mapped. -/
theorem C03_thaw_writable (h : Heap) (b k c : Nat) :
    ((h.thawAt b k c).1.conts (h.thawAt b k c).2).frozen = false ∧
    ((h.thawAt b k c).1.conts (h.thawAt b k c).2).mapped = false :=
  thawAt_writable h b k c

/-! ### rows, fragment storage, rowCache, snapshot, close, reopen (Rows.lean) -/

/-- Iso is preserved by every operation of the row / fragment layer: NewRow, Row.SetBit,
Row.Union/Intersect/Difference/Xor/Merge, fragment open, setBit, clearBit, row (rowFromStorage +
rowCache + the read-only copy handed out), setRow (Put(c.Freeze())), clearRow, snapshot
(drop empties, write, remap, munmap old), Close (munmap), reopen (mmap + decode), and the user-held
bitmap operations. -/
theorem C03_world_iso_step (w w' : World) (op : Op) (hi : Inv w.h) (hs : w.step op = some w') :
    Inv w'.h :=
  (reach_step w w' op hs).inv hi

/-- A history of row / fragment operations (an operation that refers to a missing handle is skipped,
as in the driver). -/
def World.run (w : World) : List Op → World
  | [] => w
  | op :: rest => match w.step op with
      | some w' => w'.run rest
      | none => w.run rest

theorem C03_world_iso_history (ops : List Op) : ∀ w : World, Inv w.h → Inv (w.run ops).h := by
  induction ops with
  | nil => intro w hi; exact hi
  | cons op rest ih =>
    intro w hi
    simp only [World.run]
    split
    next w' hs => exact ih w' (C03_world_iso_step w w' op hi hs)
    next => exact ih w hi

/-- After any history of row / fragment operations from the empty world, nothing that any bitmap
(row segment, cached row, fragment storage, user bitmap) refers to lies in an unmapped region. -/
theorem C03_world_no_use_after_unmap (ops : List Op) (b k c : Nat)
    (hr : aget ((({} : World).run ops).h.bms b) k = some c) :
    (({} : World).run ops).h.readable c = true :=
  C03_no_use_after_unmap _ (C03_world_iso_history ops {} C03_iso_init) b k c hr

example : (({} : World).run [.rnew [1, 2], .fopen 0, .fsetrow 5 0, .rset 0 9, .fclose]).h.isoCheck = true := by
  decide

/-! ### the defect that was repaired: `unprotectedSetRow` stored the caller's container unfrozen -/

/-- Witness (pre-fix behaviour, `Prim.shareRaw`): after putting bitmap 0's container into bitmap 1
without freezing it, adding a value through bitmap 0 changes bitmap 1. -/
def rawHeap : Heap := (stepB (stepB Heap.empty (.new [1])) (.new [])).applyPrim (.shareRaw 1 0 0)

theorem C03_setRow_unfrozen_witness :
    (stepB rawHeap (.add 0 5)).absAt 1 0 = some [1, 5] ∧ rawHeap.absAt 1 0 = some [1] := by
  decide

/-- The same history with the repaired primitive (`share` = `Put(k, c.Freeze())`) is isolated. -/
theorem C03_setRow_frozen_example :
    (stepB ((stepB (stepB Heap.empty (.new [1])) (.new [])).applyPrim (.share 1 0 0)) (.add 0 5)).absAt 1 0
      = some [1] := by
  decide

end PV.C03
