/- One access and one container at a time: checked accesses at a position whose content is known, and each
container decoder on a container written in its format. -/
import PV.C04.Model
namespace PV.C04

@[simp] theorem Res.ok_bind {α β : Type} (a : α) (f : α → Res β) : (Res.ok a >>= f) = f a := rfl
@[simp] theorem Res.err_bind {α β : Type} (e : Err) (f : α → Res β) : (Res.err e >>= f) = Res.err e := rfl
@[simp] theorem Res.panic_bind {α β : Type} (s : String) (f : α → Res β) : (Res.panic s >>= f) = Res.panic s := rfl
@[simp] theorem Res.pure_eq {α : Type} (a : α) : (pure a : Res α) = Res.ok a := rfl

theorem Res.bind_eq_ok {α β : Type} {x : Res α} {f : α → Res β} {b : β} :
    (x >>= f) = .ok b ↔ ∃ a, x = .ok a ∧ f a = .ok b := by
  cases x with
  | ok a => exact ⟨fun h => ⟨a, rfl, h⟩, fun ⟨_, e, h⟩ => by cases e; exact h⟩
  | err e => exact ⟨(fun h => nomatch h), fun ⟨_, e, _⟩ => nomatch e⟩
  | panic s => exact ⟨(fun h => nomatch h), fun ⟨_, e, _⟩ => nomatch e⟩

theorem leBytes_length (k n : Nat) : (leBytes k n).length = k := by
  induction k generalizing n with
  | zero => rfl
  | succ k ih => simp [leBytes, ih]

theorem leVal_leBytes (k n : Nat) : leVal (leBytes k n) = n % 256 ^ k := by
  induction k generalizing n with
  | zero => simp [leBytes, leVal, Nat.mod_one]
  | succ k ih =>
    simp only [leBytes, leVal, ih]
    rw [Nat.pow_succ, Nat.mul_comm (256 ^ k) 256, Nat.mod_mul]

theorem leVal_leBytes_lt (k n : Nat) (h : n < 256 ^ k) : leVal (leBytes k n) = n := by
  rw [leVal_leBytes, Nat.mod_eq_of_lt h]

theorem leVal_append (a b : Bytes) : leVal (a ++ b) = leVal a + 256 ^ a.length * leVal b := by
  induction a with
  | nil => simp [leVal]
  | cons x r ih =>
    simp only [List.cons_append, leVal, ih, List.length_cons, Nat.pow_succ]
    rw [Nat.mul_add, ← Nat.mul_assoc, Nat.mul_comm 256 (256 ^ r.length), Nat.add_assoc]

theorem leBytes_ok (k n : Nat) : bytesOk (leBytes k n) := by
  induction k generalizing n with
  | zero => intro b hb; simp [leBytes] at hb
  | succ k ih =>
    intro b hb
    simp only [leBytes, List.mem_cons] at hb
    rcases hb with h | h
    · subst h; exact Nat.mod_lt _ (by decide)
    · exact ih _ b h

theorem length_flatMap_const {α : Type} (f : α → Bytes) (k : Nat) (hf : ∀ a, (f a).length = k) (l : List α) :
    (l.flatMap f).length = k * l.length := by
  induction l with
  | nil => rfl
  | cons a l ih => rw [List.flatMap_cons, List.length_append, hf, ih, List.length_cons, Nat.mul_succ, Nat.add_comm]

section access
variable {site : String} {d pl rest : Bytes} {off : Nat}

theorem length_of_drop (h : d.drop off = pl ++ rest) (hoff : off ≤ d.length) :
    off + pl.length + rest.length = d.length := by
  have := congrArg List.length h
  rw [List.length_drop, List.length_append] at this
  omega

theorem drop_add_of_drop {k : Nat} (h : d.drop off = pl ++ rest) (hk : pl.length = k) :
    d.drop (off + k) = rest := by
  rw [← List.drop_drop, h]
  exact List.drop_left' hk

theorem sub_of_drop {hi : Nat} (h : d.drop off = pl ++ rest) (hi_eq : off + pl.length = hi)
    (hoff : off ≤ d.length) : sub site d off hi = .ok pl := by
  have := length_of_drop h hoff
  unfold sub
  rw [if_pos (by omega), h, ← hi_eq, Nat.add_sub_cancel_left, List.take_left]

theorem rd_val_of_drop {k : Nat} (h : d.drop off = pl ++ rest) (hk : pl.length = k) (hoff : off ≤ d.length) :
    rd site d off k = .ok (leVal pl) := by
  unfold rd
  rw [sub_of_drop h (by rw [hk]) hoff]
  rfl

theorem rd_of_drop {k n : Nat} (h : d.drop off = leBytes k n ++ rest) (hoff : off ≤ d.length)
    (hn : n < 256 ^ k) : rd site d off k = .ok n := by
  rw [rd_val_of_drop h (leBytes_length k n) hoff, leVal_leBytes_lt k n hn]

theorem view_of_drop {k : Nat} (h : d.drop off = pl ++ rest) (hk : pl.length = k) (hoff : off < d.length) :
    view site d off k = .ok pl := by
  have := length_of_drop h (Nat.le_of_lt hoff)
  unfold view
  rw [if_pos (by omega), h, ← hk, List.take_left]

theorem sub_tail (site : String) (d : Bytes) (k : Nat) (hk : k ≤ d.length) :
    sub site d k d.length = .ok (d.drop k) := by
  unfold sub
  rw [if_pos (by omega), List.take_of_length_le (by simp)]

theorem sub_drop_left {k : Nat} (hk : pl.length = k) :
    sub site (pl ++ rest) k (pl ++ rest).length = .ok rest := by
  rw [sub_tail _ _ _ (by rw [List.length_append]; omega), List.drop_left' hk]

theorem at1_of_drop {b : Nat} (h : d.drop off = b :: rest) : at1 site d off = .ok b := by
  unfold at1
  have : d[off]? = some b := by
    rw [← Nat.add_zero off, ← List.getElem?_drop, h]
    rfl
  rw [this]

end access

theorem at1_lt (site : String) (d : Bytes) (i : Nat) (h : i < d.length) : ∃ b, at1 site d i = .ok b := by
  unfold at1
  rw [List.getElem?_eq_getElem h]
  exact ⟨_, rfl⟩

theorem le2_val (v : Nat) (hv : v < 65536) : v % 256 + 256 * (v / 256 % 256) = v :=
  leVal_leBytes_lt 2 v hv

theorem u16s_flatMap (vs : List Nat) (h : ∀ v ∈ vs, v < 65536) :
    u16s (vs.flatMap (leBytes 2)) = vs := by
  induction vs with
  | nil => rfl
  | cons v vs ih =>
    show (v % 256 + 256 * (v / 256 % 256)) :: u16s (vs.flatMap (leBytes 2)) = _
    rw [le2_val v (h v (by simp)), ih (fun w hw => h w (by simp [hw]))]

theorem runsP_flatMap (rs : List (Nat × Nat)) (h : ∀ r ∈ rs, r.1 < 65536 ∧ r.2 < 65536) :
    runsP (rs.flatMap encRun) = rs := by
  induction rs with
  | nil => rfl
  | cons r rs ih =>
    have hr := h r (by simp)
    show (r.1 % 256 + 256 * (r.1 / 256 % 256), r.2 % 256 + 256 * (r.2 / 256 % 256)) :: runsP (rs.flatMap encRun) = _
    rw [le2_val r.1 hr.1, le2_val r.2 hr.2, ih (fun w hw => h w (by simp [hw]))]

/-- A run of the official format: start, length - 1. -/
def encRunO (r : Nat × Nat) : Bytes := leBytes 2 r.1 ++ leBytes 2 (r.2 - r.1)

theorem runsO_flatMap (rs : List (Nat × Nat)) (h : ∀ r ∈ rs, r.1 ≤ r.2 ∧ r.2 < 65536) :
    runsO (rs.flatMap encRunO) = rs := by
  induction rs with
  | nil => rfl
  | cons r rs ih =>
    have hr := h r (by simp)
    show (r.1 % 256 + 256 * (r.1 / 256 % 256),
      (r.1 % 256 + 256 * (r.1 / 256 % 256) + ((r.2 - r.1) % 256 + 256 * ((r.2 - r.1) / 256 % 256))) % 65536)
        :: runsO (rs.flatMap encRunO) = _
    rw [le2_val r.1 (by omega), le2_val (r.2 - r.1) (by omega), ih (fun w hw => h w (by simp [hw])),
      Nat.add_sub_cancel' hr.1, Nat.mod_eq_of_lt hr.2]

theorem payload_length (c : Cont) : c.payload.length = c.size := by
  cases c with
  | array vs => exact length_flatMap_const _ 2 (leBytes_length 2) vs
  | bitmap bs => rfl
  | run rs =>
    show (leBytes 2 rs.length ++ rs.flatMap encRun).length = 4 * rs.length + 2
    rw [List.length_append, leBytes_length, length_flatMap_const _ 4 (fun _ => rfl), Nat.add_comm]

/-- What the byte format can carry of a container. -/
def contEnc : Cont → Prop
  | .array vs => ∀ v ∈ vs, v < 65536
  | .bitmap bs => bs.length = bitmapBytes
  | .run rs => rs ≠ [] ∧ rs.length < 65536 ∧ ∀ r ∈ rs, r.1 < 65536 ∧ r.2 < 65536

/-- `Container.WriteTo` in the coding of either format. -/
def Cont.wire (official : Bool) : Cont → Bytes
  | .run rs => leBytes 2 rs.length ++ rs.flatMap (if official then encRunO else encRun)
  | c => c.payload

theorem wire_false (c : Cont) : c.wire false = c.payload := by cases c <;> rfl

/-- A container the decoders of the format `official` read back under a header announcing `n` values. -/
structure ContReadable (official : Bool) (n : Nat) (c : Cont) : Prop where
  enc : contEnc c
  npos : 1 ≤ n
  arr : ∀ vs, c = .array vs → vs.length = n
  ord : official = true → ∀ rs, c = .run rs → ∀ r ∈ rs, r.1 ≤ r.2

section cont
variable {official : Bool} {n : Nat} {c : Cont} {d rest : Bytes} {off : Nat}

theorem wire_length (official : Bool) (c : Cont) : (c.wire official).length = c.size := by
  cases c with
  | array vs => exact payload_length (.array vs)
  | bitmap bs => rfl
  | run rs =>
    show (leBytes 2 rs.length ++ rs.flatMap _).length = 4 * rs.length + 2
    rw [List.length_append, leBytes_length, length_flatMap_const _ 4 (fun r => by cases official <;> rfl), Nat.add_comm]

theorem ContReadable.two_le_size (hc : ContReadable official n c) : 2 ≤ c.size := by
  cases c with
  | array vs => have := hc.arr vs rfl; have := hc.npos; show 2 ≤ 2 * vs.length; omega
  | bitmap bs => have : bs.length = 8192 := hc.enc; show 2 ≤ bs.length; omega
  | run rs => show 2 ≤ 4 * rs.length + 2; omega

theorem ContReadable.bounds (hc : ContReadable official n c) (h : d.drop off = c.wire official ++ rest)
    (hoff : off ≤ d.length) : off + c.size ≤ d.length ∧ off < d.length := by
  have := length_of_drop h hoff
  have := hc.two_le_size
  rw [wire_length] at *
  omega

theorem run_reads {rs : List (Nat × Nat)} (hc : ContReadable official n (.run rs))
    (h : d.drop off = (Cont.run rs).wire official ++ rest) (hoff : off ≤ d.length) :
    off + 2 < d.length ∧ off + 2 + rs.length * 4 ≤ d.length
    ∧ (∀ site, rd site d off 2 = .ok rs.length)
    ∧ (∀ site, view site d (off + 2) (rs.length * 4) = .ok (rs.flatMap (if official then encRunO else encRun))) := by
  obtain ⟨hne, hlt, _⟩ := hc.enc
  have hl : off + (4 * rs.length + 2) ≤ d.length := (hc.bounds h hoff).1
  have hpos : 0 < rs.length := List.length_pos_iff.mpr hne
  have h : d.drop off = leBytes 2 rs.length ++ (rs.flatMap (if official then encRunO else encRun) ++ rest) :=
    h.trans (List.append_assoc ..)
  refine ⟨by omega, by omega, fun _ => rd_of_drop h hoff hlt,
    fun _ => view_of_drop (drop_add_of_drop h (leBytes_length 2 _)) ?_ (by omega)⟩
  rw [length_flatMap_const _ 4 (fun r => by cases official <;> rfl), Nat.mul_comm]

theorem at1_bind_const {α : Type} (site : String) (x : Res α) (h : off < d.length) :
    (at1 site d off >>= fun _ => x) = x := by
  obtain ⟨b, hb⟩ := at1_lt site d off h
  rw [hb]; rfl

theorem pAttach_ok (hc : ContReadable false n c) (h : d.drop off = c.payload ++ rest) (hoff : off ≤ d.length) :
    pAttach d c.typ n off = .ok (c, off + c.size) := by
  rw [← wire_false] at h
  obtain ⟨hle, hlt⟩ := hc.bounds h hoff
  cases c with
  | array vs =>
    have hn : n * 2 = (Cont.array vs).size := by rw [← hc.arr vs rfl]; exact Nat.mul_comm ..
    simp only [pAttach, Cont.typ, cArray, cRun, Nat.reduceEqDiff, ↓reduceIte, hn]
    rw [if_neg (Nat.not_lt.mpr hle), view_of_drop h (wire_length false _) hlt]
    exact congrArg (fun x => Res.ok (Cont.array x, _)) (u16s_flatMap vs hc.enc)
  | bitmap bs =>
    have hb : bitmapBytes = (Cont.bitmap bs).size := Eq.symm hc.enc
    simp only [pAttach, Cont.typ, cArray, cRun, cBitmap, Nat.reduceEqDiff, ↓reduceIte, hb]
    rw [if_neg (Nat.not_lt.mpr hle), view_of_drop h (wire_length false _) hlt]
    rfl
  | run rs =>
    obtain ⟨hlt2, hle2, hrd, hview⟩ := run_reads hc h hoff
    simp only [pAttach, Cont.typ, cRun, ↓reduceIte]
    rw [if_neg (Nat.not_le.mpr hlt2), hrd]
    simp only [Res.ok_bind]
    rw [if_neg (Nat.not_lt.mpr hle2), hview]
    simp only [Res.ok_bind, Res.pure_eq, Bool.false_eq_true, ↓reduceIte, runsP_flatMap rs hc.enc.2.2, Cont.size]
    congr 2; omega

theorem nextBody_ok (key : Nat) (hc : ContReadable official n c) (h : d.drop off = c.wire official ++ rest)
    (hoff : off ≤ d.length) (h8 : 8 ≤ off) :
    nextBody official d key c.typ n off = .ok (⟨key, c.typ, n, c⟩, off + c.size) := by
  obtain ⟨hle, hlt⟩ := hc.bounds h hoff
  have hg : ¬(off ≥ d.length ∨ off < 8) := by omega
  cases c with
  | array vs =>
    have hn : n * 2 = (Cont.array vs).size := by rw [← hc.arr vs rfl]; exact Nat.mul_comm ..
    simp only [nextBody, Cont.typ, cArray, cRun, Nat.reduceEqDiff, ↓reduceIte, Res.pure_eq, Res.ok_bind, hn]
    rw [if_neg hg, at1_bind_const _ _ hlt, if_neg (Nat.not_lt.mpr hle), view_of_drop h (wire_length _ _) hlt]
    exact congrArg (fun x => Res.ok (Item.mk key 1 n (Cont.array x), _)) (u16s_flatMap vs hc.enc)
  | bitmap bs =>
    have hb : bitmapBytes = (Cont.bitmap bs).size := Eq.symm hc.enc
    simp only [nextBody, Cont.typ, cArray, cRun, cBitmap, Nat.reduceEqDiff, ↓reduceIte, Res.pure_eq, Res.ok_bind, hb]
    rw [if_neg hg, at1_bind_const _ _ hlt, if_neg (Nat.not_lt.mpr hle), view_of_drop h (wire_length _ _) hlt]
    rfl
  | run rs =>
    obtain ⟨hlt2, hle2, hrd, hview⟩ := run_reads hc h hoff
    have hg2 : ¬(off + 2 ≥ d.length ∨ off + 2 < 8) := by omega
    simp only [nextBody, Cont.typ, cRun, cArray, cBitmap, Nat.reduceEqDiff, ↓reduceIte]
    rw [if_neg (Nat.not_lt.mpr (Nat.le_of_lt hlt2)), hrd]
    simp only [Res.ok_bind, Res.pure_eq]
    rw [if_neg hg2, at1_bind_const _ _ hlt2, if_neg (Nat.not_lt.mpr hle2), hview]
    have hruns : (if official then runsO (rs.flatMap (if official then encRunO else encRun))
        else runsP (rs.flatMap (if official then encRunO else encRun))) = rs := by
      cases official with
      | false => exact runsP_flatMap rs hc.enc.2.2
      | true => exact runsO_flatMap rs (fun r hr => ⟨hc.ord rfl rs rfl r hr, (hc.enc.2.2 r hr).2⟩)
    simp only [Res.ok_bind, hruns, Cont.size]
    congr 2; omega

/-- `readWithRuns`, one container. -/
theorem oRunAttach_ok (hc : ContReadable true n c) (h : d.drop off = c.wire true ++ rest) (hoff : off ≤ d.length) :
    oRunAttach d c.typ n off = .ok (some c, off + c.size) := by
  obtain ⟨hle, hlt⟩ := hc.bounds h hoff
  cases c with
  | array vs =>
    have hn : n * 2 = (Cont.array vs).size := by rw [← hc.arr vs rfl]; exact Nat.mul_comm ..
    simp only [oRunAttach, Cont.typ, cArray, cRun, Nat.reduceEqDiff, ↓reduceIte, hn]
    rw [if_neg (Nat.not_lt.mpr hle), view_of_drop h (wire_length _ _) hlt]
    exact congrArg (fun x => Res.ok (some (Cont.array x), _)) (u16s_flatMap vs hc.enc)
  | bitmap bs =>
    have hb : bitmapBytes = (Cont.bitmap bs).size := Eq.symm hc.enc
    simp only [oRunAttach, Cont.typ, cArray, cRun, cBitmap, Nat.reduceEqDiff, ↓reduceIte, hb]
    rw [if_neg (Nat.not_lt.mpr hle), view_of_drop h (wire_length _ _) hlt]
    rfl
  | run rs =>
    obtain ⟨hlt2, hle2, hrd, hview⟩ := run_reads hc h hoff
    simp only [oRunAttach, Cont.typ, cRun, ↓reduceIte]
    rw [if_neg (Nat.not_le.mpr hlt2), hrd]
    simp only [Res.ok_bind]
    rw [if_neg (Nat.not_lt.mpr hle2), hview]
    simp only [Res.ok_bind, Res.pure_eq, ↓reduceIte, Cont.size,
      runsO_flatMap rs (fun r hr => ⟨hc.ord rfl rs rfl r hr, (hc.enc.2.2 r hr).2⟩)]
    congr 2; omega

/-- `readOffsets`, one container. -/
theorem oOffAttach_ok (hc : ContReadable true n c) (hnr : c.typ ≠ cRun) (h : d.drop off = c.wire true ++ rest)
    (hoff : off ≤ d.length) : oOffAttach d c.typ n off = .ok c := by
  obtain ⟨hle, hlt⟩ := hc.bounds h hoff
  cases c with
  | array vs =>
    have hn : n * 2 = (Cont.array vs).size := by rw [← hc.arr vs rfl]; exact Nat.mul_comm ..
    simp only [oOffAttach, Cont.typ, cArray, ↓reduceIte, hn]
    rw [if_neg (Nat.not_lt.mpr hle), view_of_drop h (wire_length _ _) hlt]
    exact congrArg (fun x => Res.ok (Cont.array x)) (u16s_flatMap vs hc.enc)
  | bitmap bs =>
    have hb : bitmapBytes = (Cont.bitmap bs).size := Eq.symm hc.enc
    simp only [oOffAttach, Cont.typ, cArray, cBitmap, Nat.reduceEqDiff, ↓reduceIte, hb]
    rw [if_neg (Nat.not_lt.mpr hle), view_of_drop h (wire_length _ _) hlt]
    rfl
  | run rs => exact absurd rfl hnr

end cont

theorem offset_reads (off : Nat) (hoff : off < 2 ^ 32) (rest : Bytes) (s1 s2 : String) :
    rd s1 (leBytes 4 off ++ rest) 0 4 = .ok off
    ∧ sub s2 (leBytes 4 off ++ rest) 4 (leBytes 4 off ++ rest).length = .ok rest :=
  ⟨rd_of_drop (off := 0) rfl (Nat.zero_le _) hoff, sub_drop_left (leBytes_length 4 off)⟩

/-- `nle`: the header stores `n - 1` in 16 bits. -/
structure EntryEnc (e : Entry) : Prop where
  c : contEnc e.c
  npos : 1 ≤ e.n
  nle : e.n ≤ 65536
  key : e.key < 2 ^ 64
  arr : ∀ vs, e.c = .array vs → vs.length = e.n

theorem EntryEnc.readable {e : Entry} (he : EntryEnc e) : ContReadable false e.n e.c :=
  ⟨he.c, he.npos, he.arr, fun h => Bool.noConfusion h⟩

theorem typ_lt (c : Cont) : c.typ < 256 := by cases c <;> simp [Cont.typ, cArray, cBitmap, cRun]

theorem typ_known (c : Cont) : ¬(c.typ ≠ cArray ∧ c.typ ≠ cBitmap ∧ c.typ ≠ cRun) := by
  cases c <;> simp [Cont.typ]

theorem encHeader_length (e : Entry) : (encHeader e).length = 12 := by
  simp [encHeader, leBytes_length]

theorem encHeader_reads (e : Entry) (he : EntryEnc e) (rest : Bytes) (s1 s2 s3 s4 : String) :
    rd s1 (encHeader e ++ rest) 0 8 = .ok e.key ∧ rd s2 (encHeader e ++ rest) 8 2 = .ok e.c.typ
    ∧ rd s3 (encHeader e ++ rest) 10 2 = .ok (e.n - 1)
    ∧ sub s4 (encHeader e ++ rest) 12 (encHeader e ++ rest).length = .ok rest := by
  have h0 : (encHeader e ++ rest).drop 0 = leBytes 8 e.key ++ (leBytes 2 e.c.typ ++ (leBytes 2 (e.n - 1) ++ rest)) := by
    simp only [encHeader, List.append_assoc, List.drop_zero]
  have h8 := drop_add_of_drop h0 (leBytes_length 8 _)
  have h10 := drop_add_of_drop h8 (leBytes_length 2 _)
  have hl : 12 ≤ (encHeader e ++ rest).length := by rw [List.length_append, encHeader_length]; omega
  have := typ_lt e.c
  have := he.nle
  exact ⟨rd_of_drop h0 (Nat.zero_le _) he.key, rd_of_drop h8 (by omega) (by omega : e.c.typ < 256 ^ 2),
    rd_of_drop h10 (by omega) (by omega : e.n - 1 < 256 ^ 2), sub_drop_left (encHeader_length e)⟩

def slotOf (e : Entry) : Slot := { key := e.key, typ := e.c.typ, n := e.n, c := none }
def slotDone (e : Entry) : Slot := { key := e.key, typ := e.c.typ, n := e.n, c := some e.c }

theorem putCVd_cons (key typ n : Nat) (slots : List Slot) (h : ∀ s ∈ slots, s.key < key) :
    putCVd key typ n slots = { key, typ, n } :: slots := by
  cases slots with
  | nil => rfl
  | cons s r => simp only [putCVd]; rw [if_pos (h s (by simp))]

theorem slotsToEntries_done (cs : List Entry) : slotsToEntries (cs.map slotDone) = cs := by
  induction cs with
  | nil => rfl
  | cons e t ih => simp [slotsToEntries, slotDone, ih]

def itemOf (e : Entry) : Item := { key := e.key, typ := e.c.typ, n := e.n, c := e.c }

/-- `UnmarshalBinary` hands the caller's slice back as it got it, whatever it decodes. -/
theorem unmarshal_eq (d : Bytes) :
    unmarshal d = (if d.length < 8 then (.err .tooSmall : Res Decoded)
      else rd "unmarshal.magic" d 0 2 >>= fun magic =>
        if magic = magicPilosa then unmarshalPilosa d else unmarshalOfficial d) >>= fun r => pure (r, d) := by
  unfold unmarshal
  split
  · rfl
  · cases rd "unmarshal.magic" d 0 2 with
    | ok magic =>
      by_cases hm : magic = magicPilosa
      · simp only [Res.ok_bind, if_pos hm]
      · simp only [Res.ok_bind, if_neg hm]
    | err e => rfl
    | panic s => rfl

/-- `ImportRoaringBits` returns `changed` exactly for a payload whose walk ends in io.EOF over consistent containers,
and then has applied the updater to each of them. -/
theorem importBits_ok_iff (m : VMap) (d : Bytes) (clear : Bool) (r : VMap × Nat) :
    importBits m d clear = .ok r ↔ ∃ w, iterate d = .ok w ∧ walkVerdict w = none ∧ r = importItems clear m w.items := by
  unfold importBits importBitsSt
  cases iterate d with
  | panic s => exact ⟨(fun h => nomatch h), fun ⟨_, e, _⟩ => nomatch e⟩
  | err e => exact ⟨(fun h => nomatch h), fun ⟨_, e, _⟩ => nomatch e⟩
  | ok w =>
    simp only []
    cases hv : walkVerdict w with
    | some e => exact ⟨(fun h => nomatch h), fun ⟨w', e, hv', _⟩ => by cases e; rw [hv] at hv'; cases hv'⟩
    | none => exact ⟨fun h => ⟨w, rfl, hv, by cases h; rfl⟩, fun ⟨w', e, _, hr⟩ => by cases e; rw [hr]⟩

end PV.C04
