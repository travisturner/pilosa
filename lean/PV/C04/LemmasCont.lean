/- The contents of containers: bitmap bytes <-> values, runs <-> values, the kernels' invariant against the import
check, and `Optimize` at the value level. -/
import PV.C04.LemmasSet
import PV.C04.Lemmas
namespace PV.C04

theorem shiftRight_mod_two (b t : Nat) : (b >>> t) % 2 = 1 ↔ b.testBit t = true := by
  rw [Nat.testBit_eq_decide_div_mod_eq, Nat.shiftRight_eq_div_pow, decide_eq_true_iff]

theorem bitSum_spec (p : Nat → Bool) (k : Nat) :
    ((List.range k).map (fun t => if p t then 2 ^ t else 0)).sum < 2 ^ k
    ∧ ∀ t, t < k → ((List.range k).map (fun t => if p t then 2 ^ t else 0)).sum.testBit t = p t := by
  induction k with
  | zero => simp
  | succ k ih =>
    rw [List.range_succ, List.map_append, List.sum_append, Nat.pow_succ]
    simp only [List.map_cons, List.map_nil, List.sum_cons, List.sum_nil, Nat.add_zero]
    refine ⟨by split <;> omega, fun t ht => ?_⟩
    -- the new summand is the digit above the `k` low bits the induction hypothesis describes
    have h := Nat.testBit_two_pow_mul_add (if p k then 1 else 0) ih.1 t
    have e : (if p k then 2 ^ k else 0) = 2 ^ k * (if p k then 1 else 0) := by split <;> simp
    rw [Nat.add_comm, e, h]
    by_cases htk : t < k
    · rw [if_pos htk, ih.2 t htk]
    · have : t = k := by omega
      subst this
      rw [if_neg htk, Nat.sub_self]
      cases p t <;> rfl

theorem bitsOfByte_eq (base b : Nat) :
    bitsOfByte base b = ((List.range 8).filter b.testBit).map (base + ·) := by
  unfold bitsOfByte
  simp only [shiftRight_mod_two]
  split
  · next h => subst h; simp
  · generalize List.range 8 = l
    induction l with
    | nil => rfl
    | cons t l ih => cases h : b.testBit t <;> simp [h, ih]

theorem bitsOfByte_byteOf (base : Nat) (here : List Nat) :
    bitsOfByte base (byteOf base here) = (List.range' base 8).filter (fun v => here.contains v) := by
  rw [bitsOfByte_eq, List.range'_eq_map_range, List.filter_map]
  congr 1
  apply List.filter_congr
  intro t ht
  exact (bitSum_spec (fun t => here.contains (base + t)) 8).2 t (List.mem_range.mp ht)

theorem filter_false_eq_nil (l : List Nat) : l.filter (fun v => ([] : List Nat).contains v) = [] := by
  induction l with
  | nil => rfl
  | cons a r ih => simp

theorem filter_range'_contains (n : Nat) (l : List Nat) (base : Nat) (ha : Asc l)
    (hb : ∀ v ∈ l, base ≤ v ∧ v < base + n) :
    (List.range' base n).filter (fun v => l.contains v) = l := by
  apply asc_ext _ _ (List.Pairwise.filter _ List.pairwise_lt_range') ha
  intro x
  rw [List.mem_filter, List.mem_range'_1, List.contains_iff_mem]
  exact ⟨fun h => h.2, fun hx => ⟨hb x hx, hx⟩⟩

theorem takeWhile_lt (c : Nat) (vs : List Nat) : ∀ v ∈ vs.takeWhile (· < c), v < c := by
  induction vs with
  | nil => simp
  | cons a r ih =>
    rw [List.takeWhile_cons]
    split
    · next h =>
      intro v hv
      rcases List.mem_cons.mp hv with e | e
      · subst e; simpa using h
      · exact ih v e
    · simp

theorem dropWhile_ge (c : Nat) (vs : List Nat) (ha : Asc vs) : ∀ v ∈ vs.dropWhile (· < c), c ≤ v := by
  induction vs with
  | nil => simp
  | cons a r ih =>
    have ha' := List.pairwise_cons.mp ha
    rw [List.dropWhile_cons]
    split
    · exact ih ha'.2
    · next h =>
      intro v hv
      have hca : c ≤ a := by simpa using h
      rcases List.mem_cons.mp hv with e | e
      · omega
      · have := ha'.1 v e; omega

theorem packFrom_length (k base : Nat) (vs : List Nat) : (packFrom k base vs).length = k := by
  induction k generalizing base vs with
  | zero => rfl
  | succ k ih => simp [packFrom, ih]

theorem bitmapValuesFrom_packFrom (k : Nat) : ∀ (base : Nat) (vs : List Nat), Asc vs →
    (∀ v ∈ vs, base ≤ v ∧ v < base + 8 * k) →
    bitmapValuesFrom base (packFrom k base vs) = vs := by
  induction k with
  | zero =>
    intro base vs _ hb
    cases vs with
    | nil => rfl
    | cons a r => have := hb a (by simp); omega
  | succ k ih =>
    intro base vs ha hb
    simp only [packFrom, bitmapValuesFrom]
    rw [bitsOfByte_byteOf]
    have hhere : (List.range' base 8).filter (fun v => (vs.takeWhile (· < base + 8)).contains v)
        = vs.takeWhile (· < base + 8) := by
      apply filter_range'_contains 8 _ base (ha.sublist (List.takeWhile_sublist _))
      intro v hv
      have h1 := takeWhile_lt (base + 8) vs v hv
      have h2 := hb v ((List.takeWhile_sublist _).subset hv)
      omega
    rw [hhere]
    rw [ih (base + 8) (vs.dropWhile (· < base + 8)) (ha.sublist (List.dropWhile_sublist _))]
    · exact List.takeWhile_append_dropWhile
    · intro v hv
      have h1 := dropWhile_ge (base + 8) vs ha v hv
      have h2 := hb v ((List.dropWhile_sublist _).subset hv)
      omega

theorem bitsOfByte_ok (base b : Nat) :
    Asc (bitsOfByte base b) ∧ ∀ v ∈ bitsOfByte base b, base ≤ v ∧ v < base + 8 := by
  rw [bitsOfByte_eq]
  refine ⟨(List.pairwise_lt_range.filter _).map _ (fun a b h => by omega), fun v hv => ?_⟩
  obtain ⟨t, ht, rfl⟩ := List.mem_map.mp hv
  have := List.mem_range.mp (List.mem_filter.mp ht).1
  omega

theorem bitmapValuesFrom_ok (bs : Bytes) : ∀ base,
    Asc (bitmapValuesFrom base bs) ∧ ∀ v ∈ bitmapValuesFrom base bs, base ≤ v ∧ v < base + 8 * bs.length := by
  induction bs with
  | nil => intro base; simp [bitmapValuesFrom]
  | cons b r ih =>
    intro base
    have h1 := bitsOfByte_ok base b
    have h2 := ih (base + 8)
    simp only [bitmapValuesFrom]
    constructor
    · refine List.pairwise_append.mpr ⟨h1.1, h2.1, ?_⟩
      intro a ha c hc
      have := h1.2 a ha; have := h2.2 c hc; omega
    · intro v hv
      simp only [List.length_cons]
      rcases List.mem_append.mp hv with e | e
      · have := h1.2 v e; omega
      · have := h2.2 v e; omega

structure RunsOk (rs : List (Nat × Nat)) : Prop where
  sep : rs.Pairwise (fun a b => a.2 < b.1)
  each : ∀ r ∈ rs, r.1 ≤ r.2 ∧ r.2 < 65536

theorem mem_runValues (rs : List (Nat × Nat)) (x : Nat) :
    x ∈ runValues rs ↔ ∃ r ∈ rs, r.1 ≤ x ∧ x ≤ r.2 := by
  unfold runValues
  simp only [List.mem_flatMap, List.mem_range'_1]
  constructor
  · rintro ⟨r, hr, h1, h2⟩; exact ⟨r, hr, h1, by omega⟩
  · rintro ⟨r, hr, h1, h2⟩; exact ⟨r, hr, h1, by omega⟩

theorem runValues_cons (r : Nat × Nat) (t : List (Nat × Nat)) :
    runValues (r :: t) = List.range' r.1 (r.2 + 1 - r.1) ++ runValues t := by
  simp [runValues]

theorem runValues_ok (rs : List (Nat × Nat)) (h : RunsOk rs) :
    Asc (runValues rs) ∧ ∀ v ∈ runValues rs, v < 65536 := by
  constructor
  · induction rs with
    | nil => simp [runValues]
    | cons r t ih =>
      have hs := List.pairwise_cons.mp h.sep
      rw [runValues_cons]
      refine List.pairwise_append.mpr ⟨List.pairwise_lt_range', ih ⟨hs.2, fun x hx => h.each x (by simp [hx])⟩, ?_⟩
      intro a ha b hb
      have ha' := List.mem_range'_1.mp ha
      obtain ⟨r', hr', h1, h2⟩ := (mem_runValues t b).mp hb
      have := hs.1 r' hr'
      have := h.each r (by simp)
      omega
  · intro v hv
    obtain ⟨r, hr, h1, h2⟩ := (mem_runValues rs v).mp hv
    have := h.each r hr
    omega

theorem toRunsAcc_values (vs : List Nat) : ∀ s l, s ≤ l → Asc (l :: vs) →
    runValues (toRunsAcc s l vs) = List.range' s (l + 1 - s) ++ vs := by
  induction vs with
  | nil => intro s l _ _; simp [toRunsAcc, runValues]
  | cons v r ih =>
    intro s l hsl ha
    have ha' := List.pairwise_cons.mp ha
    have hlv : l < v := ha'.1 v (by simp)
    simp only [toRunsAcc]
    split
    · next h =>
      rw [ih s v (by omega) ha'.2]
      have : v + 1 - s = (l + 1 - s) + 1 := by omega
      rw [this, List.range'_concat]
      simp only [List.append_assoc, List.cons_append, List.nil_append, Nat.one_mul]
      congr 2
      omega
    · next h =>
      rw [runValues_cons, ih v v (Nat.le_refl _) ha'.2]
      simp

theorem toRuns_values (vs : List Nat) (ha : Asc vs) : runValues (toRuns vs) = vs := by
  cases vs with
  | nil => rfl
  | cons v r =>
    simp only [toRuns]
    rw [toRunsAcc_values r v v (Nat.le_refl _) ha]
    simp

theorem toRunsAcc_ok (vs : List Nat) : ∀ s l, s ≤ l → Asc (l :: vs) → (∀ v ∈ l :: vs, v < 65536) →
    RunsOk (toRunsAcc s l vs) ∧ ∀ b ∈ toRunsAcc s l vs, s ≤ b.1 := by
  induction vs with
  | nil =>
    intro s l hsl _ hb
    simp only [toRunsAcc, List.mem_singleton, forall_eq]
    exact ⟨⟨by simp, fun r hr => by rw [List.mem_singleton.mp hr]; exact ⟨hsl, hb l (by simp)⟩⟩, Nat.le_refl _⟩
  | cons v r ih =>
    intro s l hsl ha hb
    have ha' := List.pairwise_cons.mp ha
    have hlv : l < v := ha'.1 v (by simp)
    simp only [toRunsAcc]
    split
    · exact ih s v (by omega) ha'.2 (fun w hw => hb w (by simp [hw]))
    · obtain ⟨ih1, ih2⟩ := ih v v (Nat.le_refl _) ha'.2 (fun w hw => hb w (by simp [hw]))
      refine ⟨⟨List.pairwise_cons.mpr ⟨fun b hb' => ?_, ih1.sep⟩, fun b hb' => ?_⟩, fun b hb' => ?_⟩
      · have := ih2 b hb'
        show l < b.1; omega
      · rcases List.mem_cons.mp hb' with e | e
        · subst e; exact ⟨hsl, hb l (by simp)⟩
        · exact ih1.each b e
      · rcases List.mem_cons.mp hb' with e | e
        · subst e; exact Nat.le_refl _
        · have := ih2 b e
          omega

theorem toRuns_ok (vs : List Nat) (ha : Asc vs) (hb : ∀ v ∈ vs, v < 65536) : RunsOk (toRuns vs) := by
  cases vs with
  | nil => exact ⟨by simp [toRuns], by simp [toRuns]⟩
  | cons v r => exact (toRunsAcc_ok r v v (Nat.le_refl _) ha hb).1

theorem toRunsAcc_ne_nil (vs : List Nat) : ∀ s l, toRunsAcc s l vs ≠ [] := by
  induction vs with
  | nil => intro s l; simp [toRunsAcc]
  | cons v r ih =>
    intro s l
    simp only [toRunsAcc]
    split
    · exact ih s v
    · simp

theorem toRuns_ne_nil (vs : List Nat) (h : vs ≠ []) : toRuns vs ≠ [] := by
  cases vs with
  | nil => exact absurd rfl h
  | cons v r => exact toRunsAcc_ne_nil r v v

/-- Maximal runs start at least two apart, so there are at most 32768 of them. -/
theorem toRunsAcc_length_le (vs : List Nat) : ∀ s l M, s ≤ l → Asc (l :: vs) → (∀ x ∈ l :: vs, x ≤ M) →
    (toRunsAcc s l vs).length * 2 ≤ M - s + 2 := by
  induction vs with
  | nil => intro s l M hsl _ hM; have := hM l (by simp); simp [toRunsAcc]
  | cons v r ih =>
    intro s l M hsl ha hM
    have ha' := List.pairwise_cons.mp ha
    have hlv : l < v := ha'.1 v (by simp)
    have hvM := hM v (by simp)
    simp only [toRunsAcc]
    split
    · exact ih s v M (by omega) ha'.2 (fun x hx => hM x (by simp [hx]))
    · have := ih v v M (Nat.le_refl _) ha'.2 (fun x hx => hM x (by simp [hx]))
      simp only [List.length_cons]
      omega

theorem toRuns_length_lt (vs : List Nat) (ha : Asc vs) (hb : ∀ v ∈ vs, v < 65536) :
    (toRuns vs).length < 65536 := by
  cases vs with
  | nil => simp [toRuns]
  | cons v r =>
    have := toRunsAcc_length_le r v v 65535 (Nat.le_refl _) ha (fun x hx => by have := hb x hx; omega)
    simp only [toRuns]
    omega

/-- A container as the kernels keep it, with cardinality `n`. -/
def ContWf (n : Nat) : Cont → Prop
  | .array vs => Asc vs ∧ (∀ v ∈ vs, v < 65536) ∧ vs.length = n
  | .bitmap bs => bs.length = bitmapBytes ∧ (bitmapValuesFrom 0 bs).length = n
  | .run rs => RunsOk rs ∧ (runValues rs).length = n

/-- `key`: container keys are `value >> 16` of a uint64 value. -/
structure EntryWf (e : Entry) : Prop where
  c : ContWf e.n e.c
  key : e.key < 2 ^ 48

structure BitmapWf (b : Bitmap) : Prop where
  entries : ∀ e ∈ b.cs, EntryWf e
  keys : b.cs.Pairwise (fun a b => a.key < b.key)

theorem ContWf.values_ok {n : Nat} {c : Cont} (h : ContWf n c) :
    Asc c.values ∧ (∀ v ∈ c.values, v < 65536) ∧ c.values.length = n := by
  cases c with
  | array vs => exact h
  | bitmap bs =>
    have := bitmapValuesFrom_ok bs 0
    refine ⟨this.1, fun v hv => ?_, h.2⟩
    have h2 := (this.2 v hv).2
    have : bs.length = 8192 := h.1
    omega
  | run rs =>
    have := runValues_ok rs h.1
    exact ⟨this.1, this.2, h.2⟩

theorem itemOf_ok (e : Entry) (he : EntryWf e) : ItemOk (itemOf e) := by
  obtain ⟨h1, h2, h3⟩ := he.c.values_ok
  exact ⟨h1, h2, h3.symm⟩

theorem strictAsc_iff (l : List Nat) : strictAsc l = true ↔ Asc l := by
  induction l with
  | nil => simp [strictAsc]
  | cons a r ih =>
    cases r with
    | nil => simp [strictAsc]
    | cons b r' =>
      simp only [strictAsc, Bool.and_eq_true, decide_eq_true_eq, ih]
      refine ⟨fun h => List.pairwise_cons.mpr ⟨fun x hx => ?_, h.2⟩,
        fun h => ⟨(List.pairwise_cons.mp h).1 b (by simp), (List.pairwise_cons.mp h).2⟩⟩
      rcases List.mem_cons.mp hx with e | e
      · omega
      · have := (List.pairwise_cons.mp h.2).1 x e; omega

theorem runsOk_iff (rs : List (Nat × Nat)) :
    runsOk rs = true ↔ rs.Pairwise (fun a b => a.2 < b.1) ∧ ∀ r ∈ rs, r.1 ≤ r.2 := by
  induction rs with
  | nil => simp [runsOk]
  | cons a r ih =>
    cases r with
    | nil => simp [runsOk]
    | cons b r' =>
      simp only [runsOk, Bool.and_eq_true, decide_eq_true_eq, ih]
      constructor
      · rintro ⟨⟨h1, h2⟩, i1, i2⟩
        refine ⟨List.pairwise_cons.mpr ⟨fun x hx => ?_, i1⟩, fun x hx => ?_⟩
        · rcases List.mem_cons.mp hx with e | e
          · subst e; exact h2
          · have := (List.pairwise_cons.mp i1).1 x e
            have := i2 b (by simp)
            show a.2 < x.1; omega
        · rcases List.mem_cons.mp hx with e | e
          · subst e; exact h1
          · exact i2 x e
      · rintro ⟨hp, he⟩
        have hp' := List.pairwise_cons.mp hp
        exact ⟨⟨he a (by simp), hp'.1 b (by simp)⟩, hp'.2, fun x hx => he x (by simp [hx])⟩

theorem wf_contWf (n : Nat) (c : Cont) (h : c.wf n = true) : ContWf n c := by
  cases c with
  | array vs =>
    simp only [Cont.wf, Bool.and_eq_true, beq_iff_eq, List.all_eq_true, decide_eq_true_eq, strictAsc_iff] at h
    exact ⟨h.1.1, h.2, h.1.2⟩
  | bitmap bs =>
    simp only [Cont.wf, Bool.and_eq_true, beq_iff_eq] at h
    exact h
  | run rs =>
    simp only [Cont.wf, Bool.and_eq_true, beq_iff_eq, List.all_eq_true, decide_eq_true_eq, runsOk_iff] at h
    exact ⟨⟨h.1.1.2.1, fun r hr => ⟨h.1.1.2.2 r hr, h.2 r hr⟩⟩, h.1.2⟩

/-- `hn`: the check of `ImportRoaringBits` refuses an empty run list. -/
theorem contWf_wf (n : Nat) (c : Cont) (h : ContWf n c) (hn : 0 < n) : c.wf n = true := by
  cases c with
  | array vs =>
    simp only [Cont.wf, Bool.and_eq_true, beq_iff_eq, List.all_eq_true, decide_eq_true_eq, strictAsc_iff]
    exact ⟨⟨h.1, h.2.2⟩, h.2.1⟩
  | bitmap bs =>
    simp only [Cont.wf, Bool.and_eq_true, beq_iff_eq]
    exact h
  | run rs =>
    simp only [Cont.wf, Bool.and_eq_true, beq_iff_eq, List.all_eq_true, decide_eq_true_eq, bne_iff_ne, ne_eq,
      runsOk_iff]
    refine ⟨⟨⟨?_, h.1.sep, fun r hr => (h.1.each r hr).1⟩, h.2⟩, fun r hr => (h.1.each r hr).2⟩
    intro e
    have := h.2
    rw [e] at this
    exact absurd this (by simp [runValues]; omega)

theorem walkVerdict_none (w : Walk) (h : walkVerdict w = none) :
    w.err = none ∧ ∀ it ∈ w.items, ItemOk it := by
  unfold walkVerdict at h
  split at h
  · next hall =>
    refine ⟨h, fun it hit => ?_⟩
    obtain ⟨h1, h2, h3⟩ := (wf_contWf it.n it.c (List.all_eq_true.mp hall it hit)).values_ok
    exact ⟨h1, h2, h3.symm⟩
  · cases h

theorem walkVerdict_itemOf (cs : List Entry) (h : ∀ e ∈ cs, ContWf e.n e.c ∧ 0 < e.n) :
    walkVerdict ⟨cs.map itemOf, none⟩ = none := by
  unfold walkVerdict
  rw [if_pos]
  apply List.all_eq_true.mpr
  intro it hit
  obtain ⟨e, he, rfl⟩ := List.mem_map.mp hit
  exact contWf_wf _ _ (h e he).1 (h e he).2

theorem values_entriesToVMap (cs : List Entry) : VMap.values (entriesToVMap cs) = cs.flatMap Entry.values := by
  induction cs with
  | nil => rfl
  | cons e t ih =>
    simp only [entriesToVMap, List.map_cons, VMap.values, List.flatMap_cons] at ih ⊢
    rw [ih]; rfl

theorem itemsValues_itemOf (cs : List Entry) : itemsValues (cs.map itemOf) = cs.flatMap Entry.values := by
  induction cs with
  | nil => rfl
  | cons e t ih =>
    simp only [itemsValues, List.map_cons, List.flatMap_cons] at ih ⊢
    rw [ih]; rfl

section ofValues
variable (t : Nat) {vs : List Nat} (ha : Asc vs) (hb : ∀ v ∈ vs, v < 65536)
include ha hb

theorem ofValues_values : (Cont.ofValues t vs).values = vs := by
  unfold Cont.ofValues
  split
  · exact toRuns_values vs ha
  · split
    · rfl
    · exact bitmapValuesFrom_packFrom bitmapBytes 0 vs ha (fun v hv => ⟨Nat.zero_le _, by
        have := hb v hv; simp only [bitmapBytes]; omega⟩)

theorem ofValues_contWf : ContWf vs.length (Cont.ofValues t vs) := by
  have hv := ofValues_values t ha hb
  unfold Cont.ofValues at hv ⊢
  split
  · next h => rw [if_pos h] at hv; exact ⟨toRuns_ok vs ha hb, by rw [show runValues (toRuns vs) = vs from hv]⟩
  · next h =>
    rw [if_neg h] at hv
    split
    · exact ⟨ha, hb, rfl⟩
    · next h' => rw [if_neg h'] at hv; exact ⟨packFrom_length _ _ _, by rw [show bitmapValuesFrom 0 _ = vs from hv]⟩

theorem ofValues_readable (official : Bool) (hne : vs ≠ []) : ContReadable official vs.length (Cont.ofValues t vs) := by
  have hok := toRuns_ok vs ha hb
  refine ⟨?_, List.length_pos_iff.mpr hne, ?_, ?_⟩ <;> unfold Cont.ofValues
  · split
    · exact ⟨toRuns_ne_nil vs hne, toRuns_length_lt vs ha hb, fun r hr => by have := hok.each r hr; omega⟩
    · split
      · exact hb
      · exact packFrom_length _ _ _
  · intro ws hc
    split at hc
    · cases hc
    · split at hc
      · cases hc; rfl
      · cases hc
  · intro _ rs hc r hr
    split at hc
    · cases hc; exact (hok.each r hr).1
    · split at hc <;> cases hc
end ofValues

theorem EntryWf.key64 {e : Entry} (h : EntryWf e) : e.key < 2 ^ 64 :=
  Nat.lt_trans h.key (by decide)

theorem optType_run (n r : Nat) (h : optType n r = cRun) : r ≤ 2048 := by
  unfold optType at h
  split at h
  · next h1 => exact h1.1
  · split at h <;> cases h

theorem optimize_some (e : Entry) (he : EntryWf e) (hn : 0 < e.n) :
    ∃ c', e.optimize = some { e with c := c' } ∧ c'.values = e.c.values ∧ ContWf e.n c'
      ∧ EntryEnc { e with c := c' } := by
  obtain ⟨hasc, hbound, hlen⟩ := he.c.values_ok
  have henc : ∀ c', ContReadable false e.n c' → EntryEnc { e with c := c' } := fun c' h =>
    ⟨h.enc, hn, hlen ▸ asc_length_le _ hasc hbound, he.key64, h.arr⟩
  have hne : e.c.values ≠ [] := fun h => by rw [h] at hlen; exact absurd hlen (by simp; omega)
  unfold Entry.optimize
  rw [if_neg (by omega)]
  simp only []
  split
  · next ht =>
    refine ⟨e.c, rfl, rfl, he.c, henc _ ⟨?_, hn, ?_, fun h => Bool.noConfusion h⟩⟩
    · cases hc : e.c with
      | array vs => have := he.c; rw [hc] at this; exact this.2.1
      | bitmap bs => have := he.c; rw [hc] at this; exact this.1
      | run rs =>
        have hw := he.c
        rw [hc] at hw ht hne
        have := optType_run _ _ ht
        exact ⟨fun h => hne (by rw [h]; rfl), by simp only [Cont.countRuns] at this; omega,
          fun r hr => by have := hw.1.each r hr; omega⟩
    · intro vs hc; have := he.c; rw [hc] at this; exact this.2.2
  · exact ⟨_, rfl, ofValues_values _ hasc hbound, hlen ▸ ofValues_contWf _ hasc hbound,
      henc _ (hlen ▸ ofValues_readable _ hasc hbound false hne)⟩

theorem optimize_spec (e : Entry) (he : EntryWf e) (hn : 0 < e.n) :
    ∃ e', e.optimize = some e' ∧ e'.key = e.key ∧ e'.n = e.n ∧ e'.c.values = e.c.values ∧ EntryEnc e' := by
  obtain ⟨c', h1, h2, _, h4⟩ := optimize_some e he hn
  exact ⟨_, h1, rfl, rfl, h2, h4⟩

theorem optimize_key (e e' : Entry) (h : e.optimize = some e') : e'.key = e.key := by
  unfold Entry.optimize at h
  split at h
  · cases h
  · simp only [] at h
    split at h <;> cases h <;> rfl

theorem optimize_bitmap (b : Bitmap) (hb : BitmapWf b) :
    (∀ e' ∈ b.optimize.cs, EntryEnc e' ∧ 0 < e'.n ∧ ContWf e'.n e'.c)
    ∧ b.optimize.cs.Pairwise (fun a b => a.key < b.key)
    ∧ b.optimize.cs.flatMap Entry.values = b.values := by
  refine ⟨fun e' he' => ?_, ?_, ?_⟩
  · obtain ⟨e, he, h⟩ := List.mem_filterMap.mp he'
    have hn : 0 < e.n := Nat.pos_of_ne_zero fun h0 => by simp [Entry.optimize, h0] at h
    obtain ⟨c', h1, _, h3, h4⟩ := optimize_some e (hb.entries e he) hn
    cases h.symm.trans h1
    exact ⟨h4, hn, h3⟩
  · refine List.Pairwise.filterMap _ (fun a a' haa' x hx x' hx' => ?_) hb.keys
    rw [optimize_key a x hx, optimize_key a' x' hx']
    exact haa'
  · have hw := hb.entries
    unfold Bitmap.optimize Bitmap.values
    generalize b.cs = cs at hw
    induction cs with
    | nil => rfl
    | cons e t ih =>
      have ih := ih (fun x hx => hw x (by simp [hx]))
      rw [List.filterMap_cons, List.flatMap_cons, ← ih]
      by_cases hn : e.n = 0
      · have hv : e.c.values = [] := List.length_eq_zero_iff.mp (by rw [(hw e (by simp)).c.values_ok.2.2, hn])
        simp [Entry.optimize, hn, Entry.values, hv]
      · obtain ⟨c', h1, h2, _⟩ := optimize_some e (hw e (by simp)) (by omega)
        rw [h1, List.flatMap_cons]
        simp only [Entry.values, h2]

end PV.C04
