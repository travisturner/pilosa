/-
Helper lemmas for C04: ImportRoaringBits on encoded payloads.  Core Lean only.
-/
import PV.C04.LemmasCont
import PV.C04.Spec
namespace PV.C04

theorem entriesToVMap_ok (cs : List Entry) (hw : ∀ e ∈ cs, EntryWf e)
    (hk : cs.Pairwise (fun a b => a.key < b.key)) : VMapOk (entriesToVMap cs) := by
  constructor
  · unfold entriesToVMap
    exact List.Pairwise.map _ (fun a b h => h) hk
  · intro kv hkv
    unfold entriesToVMap at hkv
    obtain ⟨e, he, rfl⟩ := List.mem_map.mp hkv
    obtain ⟨h1, h2, _⟩ := (hw e he).c.values_ok
    exact ⟨h1, h2⟩

theorem bitmap_values_asc (b : Bitmap) (hb : BitmapWf b) : Asc b.values := by
  have := values_asc _ (entriesToVMap_ok b.cs hb.entries hb.keys)
  rw [values_entriesToVMap] at this
  exact this

/-- The general statement: a payload that `ImportRoaringBits` accepts (its walk ends in EOF over
consistent containers) is merged exactly like the set it carries. -/
theorem importBits_spec (m : VMap) (hm : VMapOk m) (d : Bytes) (clear : Bool) (w : Walk)
    (hw : iterate d = .ok w) (hv : walkVerdict w = none)
    (S : List Nat) (hS : Asc S) (hmem : ∀ x, x ∈ S ↔ x ∈ itemsValues w.items) :
    ∃ m' ch, importBits m d clear = .ok (m', ch) ∧ VMapOk m'
      ∧ m'.values = (if clear then Spec.diff m.values S else Spec.union m.values S)
      ∧ ch = Spec.delta m.values m'.values := by
  obtain ⟨_, hit⟩ := walkVerdict_none w hv
  refine ⟨_, _, (importBits_ok_iff m d clear _).mpr ⟨w, hw, hv, rfl⟩, ?_⟩
  cases clear with
  | false =>
    obtain ⟨h1, h2, h3⟩ := importItems_set_spec w.items m hm hit
    refine ⟨h1, ?_, ?_⟩
    · simp only [Bool.false_eq_true, ↓reduceIte, Spec.union]
      apply asc_ext _ _ (values_asc _ h1) (asc_unionAsc _ _ (values_asc _ hm) hS)
      intro x
      rw [h2 x, mem_unionAsc, hmem x]
    · unfold Spec.delta
      split <;> omega
  | true =>
    obtain ⟨h1, h2, h3⟩ := importItems_clear_spec w.items m hm hit
    refine ⟨h1, ?_, ?_⟩
    · simp only [↓reduceIte, Spec.diff]
      apply asc_ext _ _ (values_asc _ h1) (asc_diffAsc _ _ (values_asc _ hm))
      intro x
      rw [h2 x, mem_diffAsc _ _ (values_asc _ hm) hS, hmem x]
    · unfold Spec.delta
      split <;> omega

theorem delta_union (a b : List Nat) : Spec.delta a (Spec.union a b) = (Spec.union a b).length - a.length := by
  have := length_unionAsc_ge a b
  unfold Spec.delta Spec.union
  split <;> omega

theorem delta_diff (a b : List Nat) : Spec.delta a (Spec.diff a b) = a.length - (Spec.diff a b).length := by
  have := length_diffAsc_le a b
  unfold Spec.delta Spec.diff
  split <;> omega

/-! ### rowSet -/

theorem rowDelta_addRow (row : Nat) (d : Int) (rows : List (Nat × Int)) (r : Nat) :
    rowDelta (addRow row d rows) r = rowDelta rows r + (if row = r then d else 0) := by
  induction rows with
  | nil =>
    simp only [addRow, rowDelta, List.filter_cons, List.filter_nil]
    by_cases h : row = r <;> simp [h]
  | cons x t ih =>
    simp only [addRow]
    split
    · simp only [rowDelta, List.filter_cons]
      by_cases h : row = r <;> simp [h] <;> omega
    · split
      · next h1 h2 =>
        simp only [rowDelta, List.filter_cons]
        by_cases h : x.1 = r
        · have : row = r := by omega
          simp [h, this]; omega
        · have : ¬ row = r := by omega
          simp [h, this]
      · simp only [rowDelta, List.filter_cons] at ih ⊢
        by_cases h : x.1 = r
        · simp only [h, decide_true, ↓reduceIte, List.map_cons, List.sum_cons]
          rw [ih]; omega
        · simp only [h, decide_false, Bool.false_eq_true, ↓reduceIte]
          exact ih

theorem importSetItem_rows (m : VMap) (hm : VMapOk m) (it : Item) (hit : ItemOk it) (rowSize r : Nat) :
    (rowCount rowSize (importSetItem m it).1 r : Int)
      = rowCount rowSize m r + (if rowOf rowSize it.key = r then ((importSetItem m it).2 : Int) else 0) := by
  rw [importSetItem_eq m hm it hit]
  have h1 := rowCount_put m hm rowSize it.key (unionAsc (oldOf m it.key) it.c.values) r
  have h2 := length_unionAsc_ge (oldOf m it.key) it.c.values
  simp only []
  split at h1 <;> simp [*] <;> omega

theorem importClearItem_rows (m : VMap) (hm : VMapOk m) (it : Item) (rowSize r : Nat) :
    (rowCount rowSize (importClearItem m it).1 r : Int)
      = rowCount rowSize m r - (if rowOf rowSize it.key = r then ((importClearItem m it).2 : Int) else 0) := by
  rw [importClearItem_eq m hm it]
  have h2 := length_diffAsc_le (oldOf m it.key) it.c.values
  cases h : m.get? it.key with
  | none =>
    have ho : oldOf m it.key = [] := by simp [oldOf, h]
    simp [ho, diffAsc]
  | some old =>
    have h1 := rowCount_put m hm rowSize it.key (diffAsc (oldOf m it.key) it.c.values) r
    simp only [Option.isSome_some, ↓reduceIte]
    split at h1 <;> simp [*] <;> omega

/-- `rowSet` is exact: for every row, its entry is the number of bits the import set (minus: cleared)
in that row. -/
theorem importRows_spec (clear : Bool) (rowSize : Nat) (items : List Item) (m : VMap) (hm : VMapOk m)
    (hit : ∀ it ∈ items, ItemOk it) (r : Nat) :
    rowDelta (importRows clear rowSize m items) r
      = (rowCount rowSize (importItems clear m items).1 r : Int) - rowCount rowSize m r := by
  induction items generalizing m with
  | nil => simp [importRows, importItems, rowDelta]
  | cons it t ih =>
    have hi := hit it (by simp)
    cases clear with
    | false =>
      obtain ⟨h1, _, _⟩ := importSetItem_spec m hm it hi
      have hr := importSetItem_rows m hm it hi rowSize r
      have := ih (importSetItem m it).1 h1 (fun x hx => hit x (by simp [hx]))
      simp only [importRows, importItems, Bool.false_eq_true, ↓reduceIte] at this ⊢
      split
      · next h0 => rw [this, hr, h0]; simp
      · rw [rowDelta_addRow, this, hr]
        split <;> omega
    | true =>
      obtain ⟨h1, _, _⟩ := importClearItem_spec m hm it hi
      have hr := importClearItem_rows m hm it rowSize r
      have := ih (importClearItem m it).1 h1 (fun x hx => hit x (by simp [hx]))
      simp only [importRows, importItems, ↓reduceIte] at this ⊢
      split
      · next h0 => rw [this, hr, h0]; simp
      · rw [rowDelta_addRow, this, hr]
        split <;> omega

end PV.C04
