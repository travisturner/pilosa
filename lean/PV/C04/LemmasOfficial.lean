/- The official Roaring format: both readers on what the reference encoder (`Spec.encodeOfficial`) wrote.
Bare `payload` is `Spec.payload` (official run coding); the Pilosa coding is written `c.payload`. -/
import PV.C04.LemmasCont
import PV.C04.Spec
namespace PV.C04
open Spec

theorem packBits_length (bs : List Bool) : (packBits bs).length = (bs.length + 7) / 8 := by
  simp [packBits]

theorem packBits_bit (bs : List Bool) (i : Nat) (hi : i < bs.length) :
    ∃ B, at1 "otyper.isRun" (packBits bs) (i / 8) = .ok B ∧ ((B >>> (i % 8)) % 2 = 1 ↔ bs.getD i false = true) := by
  have hj : i / 8 < (bs.length + 7) / 8 := by omega
  have hB : (packBits bs)[i / 8]?
      = some ((List.range 8).map (fun t => if bs.getD (8 * (i / 8) + t) false then 2 ^ t else 0)).sum := by
    have hw : ∀ (a : Nat) (c : Prop) [Decidable c], (a * if c then 1 else 0) = if c then a else 0 := by
      intro a c _; split <;> simp
    unfold packBits
    rw [List.getElem?_map, List.getElem?_range hj]
    simp only [Option.map_some, bitAt, List.range_succ, List.range_zero, List.nil_append, List.cons_append,
      List.map_cons, List.map_nil, List.sum_cons, List.sum_nil, Nat.add_zero, hw,
      Nat.reducePow, Nat.pow_zero, Nat.add_assoc]
  refine ⟨_, by unfold at1; rw [hB], ?_⟩
  rw [shiftRight_mod_two, (bitSum_spec (fun t => bs.getD (8 * (i / 8) + t) false) 8).2 _ (Nat.mod_lt _ (by decide)),
    Nat.div_add_mod]

/-- The container the reference encoder writes for a group. -/
def ocont (mode : Nat) (vs : List Nat) : Cont :=
  if useRun mode vs then .run (toRuns vs)
  else if vs.length ≤ 4096 then .array vs
  else .bitmap (packFrom bitmapBytes 0 vs)

structure GroupOk (kv : Nat × List Nat) : Prop where
  key : kv.1 < 65536
  ne : kv.2 ≠ []
  asc : Asc kv.2
  bound : ∀ v ∈ kv.2, v < 65536

theorem GroupOk.len {kv : Nat × List Nat} (h : GroupOk kv) : 1 ≤ kv.2.length ∧ kv.2.length ≤ 65536 :=
  ⟨List.length_pos_iff.mpr h.ne, asc_length_le _ h.asc h.bound⟩

theorem ocont_eq (mode : Nat) (vs : List Nat) :
    ocont mode vs
      = Cont.ofValues (if useRun mode vs then cRun else if vs.length ≤ 4096 then cArray else cBitmap) vs := by
  unfold ocont Cont.ofValues
  by_cases h1 : useRun mode vs = true
  · rw [if_pos h1, if_pos h1, if_pos rfl]
  · rw [if_neg h1, if_neg h1]
    by_cases h2 : vs.length ≤ 4096
    · rw [if_pos h2, if_pos h2, if_neg (by decide), if_pos rfl]
    · rw [if_neg h2, if_neg h2, if_neg (by decide), if_neg (by decide)]

theorem ocont_values (mode : Nat) (vs : List Nat) (ha : Asc vs) (hb : ∀ v ∈ vs, v < 65536) :
    (ocont mode vs).values = vs := by
  rw [ocont_eq]; exact ofValues_values _ ha hb

theorem ocont_readable (mode : Nat) {kv : Nat × List Nat} (hk : GroupOk kv) :
    ContReadable true kv.2.length (ocont mode kv.2) := by
  rw [ocont_eq]; exact ofValues_readable _ hk.asc hk.bound true hk.ne

theorem groupPayload_eq_wire (mode : Nat) (vs : List Nat) : payload mode vs = (ocont mode vs).wire true := by
  unfold payload ocont
  split
  · rfl
  · split <;> rfl

theorem groupPayload_length (mode : Nat) (vs : List Nat) : (payload mode vs).length = (ocont mode vs).size := by
  rw [groupPayload_eq_wire, wire_length]

def gentry (mode : Nat) (kv : Nat × List Nat) : Entry := ⟨kv.1, kv.2.length, ocont mode kv.2⟩
def gdesc (kv : Nat × List Nat) : Bytes := leBytes 2 kv.1 ++ leBytes 2 (kv.2.length - 1)

def gitem (mode : Nat) (kv : Nat × List Nat) : Item :=
  { key := kv.1, typ := (ocont mode kv.2).typ, n := kv.2.length, c := ocont mode kv.2 }

theorem gdesc_length (kv : Nat × List Nat) : (gdesc kv).length = 4 := by simp [gdesc, leBytes_length]

theorem gdesc_reads (kv : Nat × List Nat) (hk : GroupOk kv) (rest : Bytes) (s1 s2 s3 : String) :
    rd s1 (gdesc kv ++ rest) 0 2 = .ok kv.1 ∧ rd s2 (gdesc kv ++ rest) 2 2 = .ok (kv.2.length - 1)
    ∧ sub s3 (gdesc kv ++ rest) 4 (gdesc kv ++ rest).length = .ok rest := by
  have h0 : (gdesc kv ++ rest).drop 0 = leBytes 2 kv.1 ++ (leBytes 2 (kv.2.length - 1) ++ rest) := by
    simp only [gdesc, List.append_assoc, List.drop_zero]
  have h2 := drop_add_of_drop h0 (leBytes_length 2 _)
  have hl : 4 ≤ (gdesc kv ++ rest).length := by rw [List.length_append, gdesc_length]; omega
  have := hk.len.2
  exact ⟨rd_of_drop h0 (Nat.zero_le _) hk.key, rd_of_drop h2 (by omega) (by omega : _ < 256 ^ 2),
    sub_drop_left (gdesc_length kv)⟩

theorem officialType_group (mode : Nat) (g : VMap) (h : OffHeader)
    (hib : h.haveRuns = true → h.isRun = packBits (g.map (fun kv => useRun mode kv.2)))
    (hnr : h.haveRuns = false → ∀ kv ∈ g, useRun mode kv.2 = false)
    (j : Nat) (kv : Nat × List Nat) (hj : g[j]? = some kv) :
    officialType h j kv.2.length = .ok (ocont mode kv.2).typ := by
  have hcard : ∀ vs : List Nat, useRun mode vs = false →
      (if vs.length ≤ arrayMaxSize then cArray else cBitmap) = (ocont mode vs).typ := by
    intro vs hu
    unfold ocont
    rw [hu]
    by_cases h4 : vs.length ≤ 4096
    · rw [if_pos (show vs.length ≤ arrayMaxSize from h4), if_neg Bool.false_ne_true, if_pos h4]; rfl
    · rw [if_neg (show ¬vs.length ≤ arrayMaxSize from h4), if_neg Bool.false_ne_true, if_neg h4]; rfl
  unfold officialType
  cases hr : h.haveRuns with
  | false =>
    simp only [Bool.false_eq_true, ↓reduceIte, Res.pure_eq]
    rw [hcard _ (hnr hr kv (List.mem_of_getElem? hj))]
  | true =>
    obtain ⟨B, hB, hbit⟩ := packBits_bit (g.map (fun kv => useRun mode kv.2)) j
      (by rw [List.length_map]; exact (List.getElem?_eq_some_iff.mp hj).1)
    have hgd : (g.map (fun kv => useRun mode kv.2)).getD j false = useRun mode kv.2 := by
      simp [List.getD, List.getElem?_map, hj]
    rw [hgd] at hbit
    simp only [↓reduceIte, hib hr, hB, Res.ok_bind, Res.pure_eq]
    cases hu : useRun mode kv.2 with
    | true => rw [if_pos (hbit.mpr hu)]; unfold ocont; rw [hu]; rfl
    | false => rw [if_neg (fun hc => by rw [hbit.mp hc] at hu; cases hu), hcard _ hu]

section loops
variable (mode : Nat)

theorem oHdrLoop_ok (h : OffHeader) (todo : VMap) (acc : List Slot) (i : Nat) (rest : Bytes)
    (hg : ∀ kv ∈ todo, GroupOk kv) (hasc : todo.Pairwise (fun a b => a.1 < b.1))
    (hacc : ∀ s ∈ acc, ∀ kv ∈ todo, s.key < kv.1)
    (htyp : ∀ j kv, todo[j]? = some kv → officialType h (i + j) kv.2.length = .ok (ocont mode kv.2).typ) :
    oHdrLoop h todo.length i (todo.flatMap gdesc ++ rest) acc
      = .ok (acc.reverse ++ (todo.map (gentry mode)).map slotOf) := by
  induction todo generalizing acc i with
  | nil => simp [oHdrLoop]
  | cons kv t ih =>
    have hk := hg kv (by simp)
    have hasc' := List.pairwise_cons.mp hasc
    obtain ⟨r1, r2, r3⟩ := gdesc_reads kv hk (t.flatMap gdesc ++ rest)
      "official.hdr.key" "official.hdr.n" "official.hdr.next"
    simp only [List.length_cons, oHdrLoop, List.flatMap_cons, List.append_assoc]
    rw [r2, r1]
    simp only [Res.ok_bind, Nat.sub_add_cancel hk.len.1]
    rw [show officialType h i kv.2.length = _ from htyp 0 kv rfl]
    simp only [Res.ok_bind]
    rw [r3]
    simp only [Res.ok_bind]
    rw [putCVd_cons _ _ _ _ (fun s hs => hacc s hs kv (by simp)),
      ih (_ :: acc) (i + 1) (fun x hx => hg x (by simp [hx])) hasc'.2]
    · simp [slotOf, gentry]
    · intro s hs x hx
      rcases List.mem_cons.mp hs with rfl | hs
      · exact hasc'.1 x hx
      · exact hacc s hs x (by simp [hx])
    · intro j kv' hj
      rw [Nat.add_assoc, Nat.add_comm 1 j]
      exact htyp (j + 1) kv' hj

theorem offsetsFrom_length (off : Nat) (pls : List Bytes) : (offsetsFrom off pls).length = 4 * pls.length := by
  induction pls generalizing off with
  | nil => rfl
  | cons p r ih => simp only [offsetsFrom, List.length_append, leBytes_length, ih, List.length_cons]; omega

variable (d : Bytes)

/-- `readOffsets`. -/
theorem oOffLoop_ok (todo : VMap) (done : List Slot) (off : Nat) (rest : Bytes)
    (hg : ∀ kv ∈ todo, GroupOk kv) (hu : ∀ kv ∈ todo, useRun mode kv.2 = false)
    (hdrop : d.drop off = (todo.map (fun kv => payload mode kv.2)).flatten)
    (hoff : off ≤ d.length) (hd : d.length < 2 ^ 32) :
    oOffLoop d todo.length (offsetsFrom off (todo.map (fun kv => payload mode kv.2)) ++ rest) done
        ((todo.map (gentry mode)).map slotOf)
      = .ok (done.reverse ++ (todo.map (gentry mode)).map slotDone) := by
  induction todo generalizing done off with
  | nil => simp [oOffLoop]
  | cons kv t ih =>
    have hc := ocont_readable mode (hg kv (by simp))
    rw [List.map_cons, List.flatten_cons, groupPayload_eq_wire] at hdrop
    have hb := hc.bounds hdrop hoff
    obtain ⟨r1, r2⟩ := offset_reads off (by omega)
      (offsetsFrom (off + (payload mode kv.2).length) (t.map (fun kv => payload mode kv.2)) ++ rest)
      "official.off" "official.off.next"
    have hnr : (ocont mode kv.2).typ ≠ cRun := by
      unfold ocont; rw [hu kv (by simp)]; simp only [Bool.false_eq_true, ↓reduceIte]
      split <;> simp [Cont.typ, cArray, cBitmap, cRun]
    simp only [List.length_cons, oOffLoop, List.map_cons, offsetsFrom, List.append_assoc]
    rw [if_neg (by rw [List.length_append, leBytes_length]; omega), r1]
    simp only [Res.ok_bind]
    rw [if_neg (Nat.not_le.mpr hb.2), show (slotOf (gentry mode kv)).typ = (ocont mode kv.2).typ from rfl,
      show (slotOf (gentry mode kv)).n = kv.2.length from rfl, oOffAttach_ok hc hnr hdrop hoff]
    simp only [Res.ok_bind]
    rw [r2]
    simp only [Res.ok_bind]
    have hdrop2 := drop_add_of_drop hdrop (wire_length true _)
    rw [← groupPayload_length] at hdrop2 hb
    cases t with
    | nil => simp [oOffLoop, Slot.attach, slotOf, slotDone, gentry]
    | cons kv2 t2 =>
      have := ih (slotDone (gentry mode kv) :: done) (off + (payload mode kv.2).length)
        (fun x hx => hg x (by simp [hx])) (fun x hx => hu x (by simp [hx])) hdrop2 hb.1
      simp only [List.map_cons, List.length_cons] at this ⊢
      rw [show (slotOf (gentry mode kv)).attach (ocont mode kv.2) = slotDone (gentry mode kv) from rfl, this]
      simp

/-- `readWithRuns`. -/
theorem oRunLoop_ok (todo : VMap) (done : List Slot) (pos : Nat)
    (hg : ∀ kv ∈ todo, GroupOk kv)
    (hdrop : d.drop pos = (todo.map (fun kv => payload mode kv.2)).flatten) (hpos : pos ≤ d.length) :
    oRunLoop d todo.length done ((todo.map (gentry mode)).map slotOf) pos
      = .ok (done.reverse ++ (todo.map (gentry mode)).map slotDone) := by
  induction todo generalizing done pos with
  | nil => simp [oRunLoop]
  | cons kv t ih =>
    have hc := ocont_readable mode (hg kv (by simp))
    rw [List.map_cons, List.flatten_cons, groupPayload_eq_wire] at hdrop
    have hb := hc.bounds hdrop hpos
    simp only [List.length_cons, oRunLoop, List.map_cons]
    rw [show (slotOf (gentry mode kv)).typ = (ocont mode kv.2).typ from rfl,
      show (slotOf (gentry mode kv)).n = kv.2.length from rfl, oRunAttach_ok hc hdrop hpos]
    simp only [Res.ok_bind]
    have hdrop2 := drop_add_of_drop hdrop (wire_length true _)
    cases t with
    | nil => simp [oRunLoop, Slot.attach, slotOf, slotDone, gentry]
    | cons kv2 t2 =>
      have := ih (slotDone (gentry mode kv) :: done) (pos + (ocont mode kv.2).size)
        (fun x hx => hg x (by simp [hx])) hdrop2 hb.1
      simp only [List.map_cons, List.length_cons] at this ⊢
      rw [show (slotOf (gentry mode kv)).attach (ocont mode kv.2) = slotDone (gentry mode kv) from rfl, this]
      simp

end loops

/-- `officialRoaringIterator.Next`, one container. -/
theorem nextBody_official_ok (d rest : Bytes) (mode : Nat) (kv : Nat × List Nat) (hk : GroupOk kv) (off : Nat)
    (h : d.drop off = payload mode kv.2 ++ rest) (hoff : off ≤ d.length) (h8 : 8 ≤ off) :
    nextBody true d kv.1 (ocont mode kv.2).typ kv.2.length off
      = .ok (gitem mode kv, off + (payload mode kv.2).length) := by
  rw [groupPayload_eq_wire] at h
  rw [groupPayload_length]
  exact nextBody_ok kv.1 (ocont_readable mode hk) h hoff h8

/-- `hsrc`: with run containers the iterator tracks the data position itself, without it reads each offset. -/
theorem officialWalk_ok (mode : Nat) (d : Bytes) (h : OffHeader) (todo : VMap) (i : Nat) (hrest offs : Bytes) (pos cur : Nat)
    (hg : ∀ kv ∈ todo, GroupOk kv)
    (htyp : ∀ j kv, todo[j]? = some kv → officialType h (i + j) kv.2.length = .ok (ocont mode kv.2).typ)
    (hdrop : d.drop pos = (todo.map (fun kv => payload mode kv.2)).flatten)
    (hpos : pos ≤ d.length) (h8 : 8 ≤ pos)
    (hsrc : if h.haveRuns then cur = pos
      else (∃ orest, offs = offsetsFrom pos (todo.map (fun kv => payload mode kv.2)) ++ orest) ∧ d.length < 2 ^ 32) :
    officialWalk d h todo.length i (todo.flatMap gdesc ++ hrest) offs cur
      = .ok ⟨todo.map (gitem mode), none⟩ := by
  induction todo generalizing i offs pos cur with
  | nil => simp [officialWalk]
  | cons kv t ih =>
    have hk := hg kv (by simp)
    rw [List.map_cons, List.flatten_cons] at hdrop
    have hb := (ocont_readable mode hk).bounds (groupPayload_eq_wire mode kv.2 ▸ hdrop) hpos
    rw [← groupPayload_length] at hb
    obtain ⟨r1, r2, r3⟩ := gdesc_reads kv hk (t.flatMap gdesc ++ hrest) "oiter.key" "oiter.n" "oiter.hdr.next"
    have hnb := nextBody_official_ok d _ mode kv hk pos hdrop hpos h8
    have hih := fun offs' hsrc' => ih (i + 1) offs' (pos + (payload mode kv.2).length)
      (pos + (payload mode kv.2).length) (fun x hx => hg x (by simp [hx]))
      (fun j kv' hj => by rw [Nat.add_assoc, Nat.add_comm 1 j]; exact htyp (j + 1) kv' hj)
      (drop_add_of_drop hdrop rfl) hb.1 (by omega) hsrc'
    simp only [List.length_cons, officialWalk, List.flatMap_cons, List.append_assoc]
    rw [r1, r2]
    simp only [Res.ok_bind, Nat.sub_add_cancel hk.len.1]
    rw [show officialType h i kv.2.length = _ from htyp 0 kv rfl]
    cases hr : h.haveRuns with
    | true =>
      rw [hr] at hsrc hih
      simp only [↓reduceIte] at hsrc hih
      simp only [Res.ok_bind, ↓reduceIte, Res.pure_eq, hsrc, hnb]
      rw [r3]
      simp only [Res.ok_bind]
      rw [hih offs trivial]
      rfl
    | false =>
      rw [hr] at hsrc hih
      simp only [Bool.false_eq_true, ↓reduceIte] at hsrc hih
      obtain ⟨⟨orest, rfl⟩, hd⟩ := hsrc
      obtain ⟨o1, o2⟩ := offset_reads pos (by omega)
        (offsetsFrom (pos + (payload mode kv.2).length) (t.map (fun kv => payload mode kv.2)) ++ orest)
        "oiter.off" "oiter.off.next"
      simp only [Res.ok_bind, Bool.false_eq_true, ↓reduceIte, List.map_cons, offsetsFrom, List.append_assoc]
      rw [o1]
      simp only [Res.ok_bind, hnb]
      rw [r3, o2]
      simp only [Res.ok_bind]
      rw [hih _ ⟨⟨orest, rfl⟩, hd⟩]
      rfl

theorem officialWalk_run_ok (d : Bytes) (h : OffHeader) (hr : h.haveRuns = true) (mode : Nat)
    (todo : VMap) (i : Nat) (hrest : Bytes) (offs : Bytes) (cur : Nat)
    (hg : ∀ kv ∈ todo, GroupOk kv)
    (htyp : ∀ j kv, todo[j]? = some kv → officialType h (i + j) kv.2.length = .ok (ocont mode kv.2).typ)
    (hdrop : d.drop cur = (todo.map (fun kv => payload mode kv.2)).flatten)
    (hcur : cur ≤ d.length) (h8 : 8 ≤ cur) :
    officialWalk d h todo.length i (todo.flatMap gdesc ++ hrest) offs cur
      = .ok ⟨todo.map (gitem mode), none⟩ :=
  officialWalk_ok mode d h todo i hrest offs cur cur hg htyp hdrop hcur h8 (by rw [hr]; rfl)

theorem officialWalk_off_ok (d : Bytes) (h : OffHeader) (hr : h.haveRuns = false) (mode : Nat)
    (todo : VMap) (i : Nat) (hrest orest : Bytes) (off : Nat) (cur : Nat)
    (hg : ∀ kv ∈ todo, GroupOk kv)
    (htyp : ∀ j kv, todo[j]? = some kv → officialType h (i + j) kv.2.length = .ok (ocont mode kv.2).typ)
    (hdrop : d.drop off = (todo.map (fun kv => payload mode kv.2)).flatten)
    (hoff : off ≤ d.length) (h8 : 8 ≤ off) (hd : d.length < 2 ^ 32) :
    officialWalk d h todo.length i (todo.flatMap gdesc ++ hrest)
        (offsetsFrom off (todo.map (fun kv => payload mode kv.2)) ++ orest) cur
      = .ok ⟨todo.map (gitem mode), none⟩ :=
  officialWalk_ok mode d h todo i hrest _ off cur hg htyp hdrop hoff h8 (by rw [hr]; exact ⟨⟨orest, rfl⟩, hd⟩)

/-- `hrest`: the descriptors fit, and something follows them if there are any. -/
theorem readOfficialHeader_noRun (n : Nat) (rest : Bytes) (hn : n ≤ 65536)
    (hrest : 4 * n ≤ rest.length ∧ (0 < n → 4 * n < rest.length)) :
    readOfficialHeader (leBytes 4 cookieNoRun ++ (leBytes 4 n ++ rest)) = .ok ⟨n, false, [], 8, 8 + 4 * n⟩ := by
  have hl : (leBytes 4 cookieNoRun ++ (leBytes 4 n ++ rest)).length = 8 + rest.length := by
    simp only [List.length_append, leBytes_length]; omega
  have h0 : (leBytes 4 cookieNoRun ++ (leBytes 4 n ++ rest)).drop 0 = _ := rfl
  unfold readOfficialHeader
  rw [if_neg (by omega), rd_of_drop h0 (Nat.zero_le _) (by decide)]
  simp only [Res.ok_bind, ↓reduceIte]
  rw [rd_of_drop (drop_add_of_drop h0 (leBytes_length 4 _)) (by omega) (by omega : n < 256 ^ 4)]
  simp only [Res.ok_bind, Res.pure_eq]
  rw [if_neg (by omega), if_neg (by omega)]

/-- The 32-bit run cookie: 12347 below, the container count - 1 above. -/
theorem cookieRun_fields (m : Nat) (hm : m < 65536) :
    cookieRun + 65536 * m ≠ cookieNoRun ∧ (cookieRun + 65536 * m) % 65536 = cookieRun
    ∧ (cookieRun + 65536 * m) / 65536 % 65536 = m := by
  simp only [cookieRun, cookieNoRun]; omega

theorem readOfficialHeader_run (n : Nat) (ib rest : Bytes) (hn1 : 1 ≤ n) (hn : n ≤ 65536)
    (hib : ib.length = (n + 7) / 8) (hrest : 4 * n < rest.length) :
    readOfficialHeader ((leBytes 2 cookieRun ++ leBytes 2 (n - 1)) ++ (ib ++ rest))
      = .ok ⟨n, true, ib, 4 + (n + 7) / 8, 4 + (n + 7) / 8 + 4 * n⟩ := by
  generalize hnb : (n + 7) / 8 = nb at hib ⊢
  generalize hd : (leBytes 2 cookieRun ++ leBytes 2 (n - 1)) ++ (ib ++ rest) = d
  have hl : d.length = 4 + nb + rest.length := by
    rw [← hd]; simp only [List.length_append, leBytes_length, hib]; omega
  have h0 : d.drop 0 = (leBytes 2 cookieRun ++ leBytes 2 (n - 1)) ++ (ib ++ rest) := hd.symm
  have hcookie : rd "ohdr.cookie" d 0 4 = .ok (cookieRun + 65536 * (n - 1)) := by
    rw [rd_val_of_drop h0 (by rw [List.length_append, leBytes_length, leBytes_length]) (Nat.zero_le _), leVal_append,
      leVal_leBytes_lt 2 cookieRun (by decide), leVal_leBytes_lt 2 (n - 1) (by omega : _ < 256 ^ 2), leBytes_length]
  have hib' := sub_of_drop (site := "ohdr.isRun") (hi := 4 + nb) (drop_add_of_drop (k := 4) h0 rfl)
    (by rw [hib]) (by omega)
  have ⟨g1, g2, g3, g4⟩ : ¬d.length < 8 ∧ ¬4 + nb > d.length ∧ ¬n > 65536
      ∧ ¬(4 + nb + 4 * n > d.length ∨ n > 0 ∧ 4 + nb + 4 * n = d.length) := by omega
  obtain ⟨c1, c2, c3⟩ := cookieRun_fields (n - 1) (by omega)
  unfold readOfficialHeader
  rw [if_neg g1, hcookie]
  simp only [Res.ok_bind]
  rw [if_neg c1, if_pos c2, c3, Nat.sub_add_cancel hn1, hnb, if_neg g2, hib']
  simp only [Res.ok_bind, Res.pure_eq]
  rw [if_neg g3, if_neg g4]

theorem payloads_two_le (mode : Nat) (g : VMap) (hg : ∀ kv ∈ g, GroupOk kv) (hn : 0 < g.length) :
    2 ≤ ((g.map (fun kv => payload mode kv.2)).flatten).length := by
  cases g with
  | nil => simp at hn
  | cons kv t =>
    have := (ocont_readable mode (hg kv (by simp))).two_le_size
    rw [List.map_cons, List.flatten_cons, List.length_append, groupPayload_length]
    omega

theorem groups_length_le (g : VMap) (hg : ∀ kv ∈ g, GroupOk kv) (hk : g.Pairwise (fun a b => a.1 < b.1)) :
    g.length ≤ 65536 := by
  have := asc_length_le (g.map (·.1)) (List.Pairwise.map _ (fun a b h => h) hk) (fun v hv => by
    obtain ⟨kv, hkv, rfl⟩ := List.mem_map.mp hv
    exact (hg kv hkv).key)
  simpa using this

/-- `r`: run cookie, `ib`: is-run bitmap, `c`: length of the cookie section, `offs`: the offset section (absent with
the run cookie and fewer than four containers). -/
structure OffSections (mode : Nat) (g : VMap) (d : Bytes) (r : Bool) (ib : Bytes) (c : Nat) (offs : Bytes) :
    Prop where
  hdr : readOfficialHeader d = .ok ⟨g.length, r, ib, c, c + 4 * g.length⟩
  magic : ∃ m, (∀ s, rd s d 0 2 = .ok m) ∧ (m = cookieRun ∨ m = cookieNoRun)
  c8 : 8 ≤ c + 4 * g.length
  typ : ∀ j kv, g[j]? = some kv →
    officialType ⟨g.length, r, ib, c, c + 4 * g.length⟩ j kv.2.length = .ok (ocont mode kv.2).typ
  desc : d.drop c = g.flatMap gdesc ++ (offs ++ (g.map (fun kv => payload mode kv.2)).flatten)
  offsOk : if r then 1 ≤ g.length ∧ offs.length = (if g.length ≥ 4 then 4 * g.length else 0)
    else (∀ kv ∈ g, useRun mode kv.2 = false)
      ∧ offs = offsetsFrom (c + 4 * g.length + 4 * g.length) (g.map (fun kv => payload mode kv.2))
  len : d.length = c + 4 * g.length + offs.length + ((g.map (fun kv => payload mode kv.2)).flatten).length

section sections
variable {mode : Nat} {g : VMap} {d : Bytes} {r : Bool} {ib : Bytes} {c : Nat} {offs : Bytes}

theorem OffSections.drops (hs : OffSections mode g d r ib c offs) :
    d.drop (c + 4 * g.length) = offs ++ (g.map (fun kv => payload mode kv.2)).flatten
    ∧ d.drop (c + 4 * g.length + offs.length) = (g.map (fun kv => payload mode kv.2)).flatten := by
  have h1 := drop_add_of_drop hs.desc (length_flatMap_const _ 4 gdesc_length g)
  exact ⟨h1, drop_add_of_drop h1 rfl⟩

/-- With the run cookie only four or more containers have an offset section. -/
theorem OffSections.start (hs : OffSections mode g d true ib c offs) :
    (if g.length ≥ noOffsetThreshold then c + 4 * g.length + g.length * 4 else c + 4 * g.length)
      = c + 4 * g.length + offs.length := by
  have ho := hs.offsOk
  simp only [↓reduceIte] at ho
  unfold noOffsetThreshold
  by_cases h4 : g.length ≥ 4
  · rw [if_pos h4] at ho ⊢; omega
  · rw [if_neg h4] at ho ⊢; omega

theorem sections_noRun (hg : ∀ kv ∈ g, GroupOk kv) (hk : g.Pairwise (fun a b => a.1 < b.1))
    (hu : ∀ kv ∈ g, useRun mode kv.2 = false)
    (hd : d = (leBytes 4 cookieNoRun ++ leBytes 4 g.length) ++ (g.flatMap gdesc
        ++ (offsetsFrom (8 + 4 * g.length + 4 * g.length) (g.map (fun kv => payload mode kv.2))
          ++ (g.map (fun kv => payload mode kv.2)).flatten))) :
    OffSections mode g d false [] 8
      (offsetsFrom (8 + 4 * g.length + 4 * g.length) (g.map (fun kv => payload mode kv.2))) := by
  have hpl := payloads_two_le mode g hg
  rw [List.append_assoc] at hd
  have h0 : d.drop 0 = _ := hd
  have h8 := drop_add_of_drop (drop_add_of_drop h0 (leBytes_length 4 _)) (leBytes_length 4 _)
  have hl := length_flatMap_const _ 4 gdesc_length g
  have ho := offsetsFrom_length (8 + 4 * g.length + 4 * g.length) (g.map (fun kv => payload mode kv.2))
  rw [List.length_map] at ho
  refine ⟨?_, ⟨cookieNoRun, fun _ => rd_of_drop (k := 2) (rest := [0, 0] ++ _) h0 (Nat.zero_le _) (by decide),
    Or.inr rfl⟩, by omega, officialType_group mode g _ (fun h => nomatch h) (fun _ => hu), h8, ⟨hu, rfl⟩, ?_⟩
  · rw [hd]
    exact readOfficialHeader_noRun g.length _ (groups_length_le g hg hk)
      (by simp only [List.length_append, hl, ho]; omega)
  · rw [hd]
    simp only [List.length_append, leBytes_length, hl, ho]
    omega

theorem sections_run (hg : ∀ kv ∈ g, GroupOk kv) (hk : g.Pairwise (fun a b => a.1 < b.1)) (hn1 : 1 ≤ g.length)
    (hoffs : offs.length = if g.length ≥ 4 then 4 * g.length else 0)
    (hd : d = (leBytes 2 cookieRun ++ (leBytes 2 (g.length - 1) ++ packBits (g.map (fun kv => useRun mode kv.2))))
        ++ (g.flatMap gdesc ++ (offs ++ (g.map (fun kv => payload mode kv.2)).flatten))) :
    OffSections mode g d true (packBits (g.map (fun kv => useRun mode kv.2))) (4 + (g.length + 7) / 8) offs := by
  have hpl := payloads_two_le mode g hg hn1
  have hbl : (packBits (g.map (fun kv => useRun mode kv.2))).length = (g.length + 7) / 8 := by
    rw [packBits_length, List.length_map]
  have hl := length_flatMap_const _ 4 gdesc_length g
  have hd : d = (leBytes 2 cookieRun ++ leBytes 2 (g.length - 1)) ++ (packBits (g.map (fun kv => useRun mode kv.2))
      ++ (g.flatMap gdesc ++ (offs ++ (g.map (fun kv => payload mode kv.2)).flatten))) := by
    rw [hd]; simp only [List.append_assoc]
  have h0 : d.drop 0 = _ := hd
  refine ⟨?_, ⟨cookieRun, fun _ => rd_of_drop (List.append_assoc .. ▸ h0) (Nat.zero_le _) (by decide), Or.inl rfl⟩,
    by omega, officialType_group mode g _ (fun _ => rfl) (fun h => nomatch h),
    drop_add_of_drop (drop_add_of_drop (k := 4) h0 rfl) hbl, ⟨hn1, hoffs⟩, ?_⟩
  · rw [hd]
    exact readOfficialHeader_run g.length _ _ hn1 (groups_length_le g hg hk) hbl
      (by simp only [List.length_append, hl]; omega)
  · rw [hd]
    simp only [List.length_append, leBytes_length, hl, hbl]
    omega

theorem iterate_sections (hg : ∀ kv ∈ g, GroupOk kv) (hs : OffSections mode g d r ib c offs)
    (hsize : d.length < 2 ^ 32) :
    iterate d = .ok ⟨g.map (gitem mode), none⟩ := by
  obtain ⟨m, hm, hmc⟩ := hs.magic
  obtain ⟨h1, h2⟩ := hs.drops
  have hlen := hs.len
  have hc8 := hs.c8
  have hl := length_flatMap_const _ 4 gdesc_length g
  unfold iterate
  rw [if_neg (by omega), hm]
  simp only [Res.ok_bind]
  rw [if_pos hmc, hs.hdr]
  simp only []
  by_cases hz : g.length = 0
  · rw [if_pos hz, List.length_eq_zero_iff.mp hz]; rfl
  · rw [if_neg hz, sub_of_drop hs.desc (by rw [hl]) (by omega)]
    simp only [Res.ok_bind]
    have hW := fun offs' cur hsrc => officialWalk_ok mode d ⟨g.length, r, ib, c, c + 4 * g.length⟩ g 0 [] offs'
      (c + 4 * g.length + offs.length) cur hg (fun j kv hj => by rw [Nat.zero_add]; exact hs.typ j kv hj) h2
      (by omega) (by omega) hsrc
    rw [List.append_nil] at hW
    have ho := hs.offsOk
    cases r with
    | true =>
      simp only [↓reduceIte]
      rw [hs.start]
      exact hW [] _ rfl
    | false =>
      simp only [Bool.false_eq_true, ↓reduceIte] at ho ⊢
      have hol : offs.length = 4 * g.length := by rw [ho.2, offsetsFrom_length, List.length_map]
      rw [if_neg (by omega), sub_of_drop h1 (by omega) (by omega)]
      simp only [Res.ok_bind]
      refine hW offs 0 ?_
      simp only [Bool.false_eq_true, ↓reduceIte]
      exact ⟨⟨[], by rw [List.append_nil, hol]; exact ho.2⟩, hsize⟩

theorem unmarshalOfficial_sections (hg : ∀ kv ∈ g, GroupOk kv) (hk : g.Pairwise (fun a b => a.1 < b.1))
    (hs : OffSections mode g d r ib c offs) (hsize : d.length < 2 ^ 32) :
    unmarshalOfficial d
      = .ok (⟨0, g.map (gentry mode), entriesToVMap (g.map (gentry mode)), 0, 0⟩ : Decoded) := by
  obtain ⟨h1, h2⟩ := hs.drops
  have hlen := hs.len
  have hpl := payloads_two_le mode g hg
  unfold unmarshalOfficial
  rw [hs.hdr]
  simp only [Res.ok_bind]
  rw [sub_tail _ d c (by omega), hs.desc]
  simp only [Res.ok_bind]
  rw [oHdrLoop_ok mode _ g [] 0 _ hg hk (fun _ h => nomatch h) (fun j kv hj => by rw [Nat.zero_add]; exact hs.typ j kv hj)]
  simp only [Res.ok_bind, List.reverse_nil, List.nil_append]
  have ho := hs.offsOk
  unfold oAttachAll
  cases r with
  | true =>
    simp only [↓reduceIte] at ho ⊢
    rw [if_neg (by have := hpl (by omega); omega), hs.start, oRunLoop_ok mode d g [] _ hg h2 (by omega)]
    simp only [Res.ok_bind, Res.pure_eq, List.reverse_nil, List.nil_append]
    rw [slotsToEntries_done]
  | false =>
    simp only [Bool.false_eq_true, ↓reduceIte] at ho ⊢
    have hol : offs.length = 4 * g.length := by rw [ho.2, offsetsFrom_length, List.length_map]
    rw [sub_tail _ d _ (by omega), h1]
    simp only [Res.ok_bind]
    rw [ho.2, oOffLoop_ok mode d g [] _ _ hg ho.1 (hol ▸ h2) (by omega) hsize]
    simp only [Res.ok_bind, Res.pure_eq, List.reverse_nil, List.nil_append]
    rw [slotsToEntries_done]
end sections

theorem encodeOfficial_noRun (mode : Nat) (g : VMap)
    (h : (g.map (fun kv => useRun mode kv.2)).any id = false) :
    encodeOfficial mode g = (leBytes 4 cookieNoRun ++ leBytes 4 g.length) ++ (g.flatMap gdesc
        ++ (offsetsFrom (8 + 4 * g.length + 4 * g.length) (g.map (fun kv => payload mode kv.2))
          ++ (g.map (fun kv => payload mode kv.2)).flatten)) := by
  unfold encodeOfficial
  simp only [h, Bool.false_eq_true, ↓reduceIte, Bool.not_false, Bool.true_or, List.length_append,
    leBytes_length, List.append_assoc]
  rw [show (g.flatMap (fun kv => leBytes 2 kv.1 ++ leBytes 2 (kv.2.length - 1))) = g.flatMap gdesc from rfl,
    length_flatMap_const _ 4 gdesc_length]

theorem encodeOfficial_run (mode : Nat) (g : VMap)
    (h : (g.map (fun kv => useRun mode kv.2)).any id = true) :
    ∃ offs : Bytes, (offs.length = if g.length ≥ 4 then 4 * g.length else 0) ∧
      encodeOfficial mode g = (leBytes 2 cookieRun ++ (leBytes 2 (g.length - 1) ++ packBits (g.map (fun kv => useRun mode kv.2))))
        ++ (g.flatMap gdesc ++ (offs ++ (g.map (fun kv => payload mode kv.2)).flatten)) := by
  unfold encodeOfficial
  simp only [h, ↓reduceIte, Bool.not_true, Bool.false_or, List.append_assoc]
  refine ⟨_, ?_, rfl⟩
  by_cases h4 : g.length ≥ 4
  · simp only [h4, decide_true, ↓reduceIte]
    rw [offsetsFrom_length, List.length_map]
  · simp only [h4, decide_false, Bool.false_eq_true, ↓reduceIte, List.length_nil]

theorem encodeOfficial_sections (mode : Nat) (g : VMap) (hg : ∀ kv ∈ g, GroupOk kv)
    (hk : g.Pairwise (fun a b => a.1 < b.1)) :
    ∃ r ib c offs, OffSections mode g (encodeOfficial mode g) r ib c offs := by
  cases hany : (g.map (fun kv => useRun mode kv.2)).any id with
  | true =>
    obtain ⟨offs, hoffs, henc⟩ := encodeOfficial_run mode g hany
    have hn1 : 1 ≤ g.length := by
      cases g with
      | nil => simp at hany
      | cons _ _ => simp
    exact ⟨_, _, _, _, sections_run hg hk hn1 hoffs henc⟩
  | false =>
    have hu : ∀ kv ∈ g, useRun mode kv.2 = false := fun kv hkv => by
      simpa using List.any_eq_false.mp hany (useRun mode kv.2) (List.mem_map.mpr ⟨kv, hkv, rfl⟩)
    exact ⟨_, _, _, _, sections_noRun hg hk hu (encodeOfficial_noRun mode g hany)⟩

theorem unmarshal_encodeOfficial (mode : Nat) (g : VMap) (hg : ∀ kv ∈ g, GroupOk kv)
    (hk : g.Pairwise (fun a b => a.1 < b.1)) (hsize : (encodeOfficial mode g).length < 2 ^ 32) :
    unmarshal (encodeOfficial mode g) =
      .ok ((⟨0, g.map (gentry mode), entriesToVMap (g.map (gentry mode)), 0, 0⟩ : Decoded), encodeOfficial mode g) := by
  obtain ⟨r, ib, c, offs, hs⟩ := encodeOfficial_sections mode g hg hk
  obtain ⟨m, hm, hmc⟩ := hs.magic
  have := hs.len
  have := hs.c8
  rw [unmarshal_eq, if_neg (by omega), hm]
  simp only [Res.ok_bind]
  rw [if_neg (by rcases hmc with rfl | rfl <;> decide), unmarshalOfficial_sections hg hk hs hsize]
  rfl

theorem iterate_official_noRun (mode : Nat) (g : VMap) (hg : ∀ kv ∈ g, GroupOk kv)
    (hk : g.Pairwise (fun a b => a.1 < b.1))
    (hu : ∀ kv ∈ g, useRun mode kv.2 = false)
    (d : Bytes)
    (hd : d = (leBytes 4 cookieNoRun ++ leBytes 4 g.length) ++ (g.flatMap gdesc
        ++ (offsetsFrom (8 + 4 * g.length + 4 * g.length) (g.map (fun kv => payload mode kv.2))
          ++ (g.map (fun kv => payload mode kv.2)).flatten)))
    (hsize : d.length < 2 ^ 32) :
    iterate d = .ok ⟨g.map (gitem mode), none⟩ :=
  iterate_sections hg (sections_noRun hg hk hu hd) hsize

/-- `newOfficialRoaringIterator` + `Next` to the end, over what the reference encoder wrote: one
item per group, in order, with the container the encoder chose, and io.EOF. -/
theorem iterate_encodeOfficial (mode : Nat) (g : VMap) (hg : ∀ kv ∈ g, GroupOk kv)
    (hk : g.Pairwise (fun a b => a.1 < b.1)) (hsize : (encodeOfficial mode g).length < 2 ^ 32) :
    iterate (encodeOfficial mode g) = .ok ⟨g.map (gitem mode), none⟩ := by
  obtain ⟨r, ib, c, offs, hs⟩ := encodeOfficial_sections mode g hg hk
  exact iterate_sections hg hs hsize

theorem walkVerdict_official (mode : Nat) (g : VMap) (hg : ∀ kv ∈ g, GroupOk kv) :
    walkVerdict ⟨g.map (gitem mode), none⟩ = none := by
  have := walkVerdict_itemOf (g.map (gentry mode)) (fun e he => by
    obtain ⟨kv, hkv, rfl⟩ := List.mem_map.mp he
    have hk := hg kv hkv
    exact ⟨by rw [gentry, ocont_eq]; exact ofValues_contWf _ hk.asc hk.bound, hk.len.1⟩)
  rwa [List.map_map] at this

theorem values_gentry (mode : Nat) (g : VMap) (hg : ∀ kv ∈ g, GroupOk kv) :
    VMap.values (entriesToVMap (g.map (gentry mode))) = VMap.values g := by
  induction g with
  | nil => rfl
  | cons kv t ih =>
    have hk := hg kv (by simp)
    simp only [List.map_cons, entriesToVMap, VMap.values, List.flatMap_cons] at ih ⊢
    rw [ih (fun x hx => hg x (by simp [hx]))]
    simp only [gentry]
    rw [ocont_values mode kv.2 hk.asc hk.bound]

theorem itemsValues_gitem (mode : Nat) (g : VMap) (hg : ∀ kv ∈ g, GroupOk kv) :
    itemsValues (g.map (gitem mode)) = VMap.values g := by
  rw [← values_gentry mode g hg, values_entriesToVMap, ← itemsValues_itemOf, List.map_map]
  rfl

theorem groups_vmapOk (g : VMap) (hg : ∀ kv ∈ g, GroupOk kv) (hk : g.Pairwise (fun a b => a.1 < b.1)) :
    VMapOk g :=
  ⟨hk, fun kv hkv => ⟨(hg kv hkv).asc, (hg kv hkv).bound⟩⟩

end PV.C04
