/- The Pilosa format: both readers on the output of `writeToUnoptimized`, then on `WriteTo` = Optimize + that. -/
import PV.C04.LemmasCont
namespace PV.C04

theorem pHdrLoop_ok (cs : List Entry) (acc : List Slot) (rest : Bytes)
    (hcs : ∀ e ∈ cs, EntryEnc e) (hasc : cs.Pairwise (fun a b => a.key < b.key))
    (hacc : ∀ s ∈ acc, ∀ e ∈ cs, s.key < e.key) :
    pHdrLoop cs.length (cs.flatMap encHeader ++ rest) acc = .ok (acc.reverse ++ cs.map slotOf) := by
  induction cs generalizing acc with
  | nil => simp [pHdrLoop]
  | cons e t ih =>
    have he := hcs e (by simp)
    have hasc' := List.pairwise_cons.mp hasc
    obtain ⟨r1, r2, r3, r4⟩ := encHeader_reads e he (t.flatMap encHeader ++ rest)
      "pilosa.hdr.key" "pilosa.hdr.typ" "pilosa.hdr.n" "pilosa.hdr.next"
    have hn : e.n - 1 + 1 = e.n := Nat.sub_add_cancel he.npos
    simp only [List.length_cons, pHdrLoop, List.flatMap_cons, List.append_assoc]
    rw [r1, r2, r3]
    simp only [Res.ok_bind, Nat.mod_eq_of_lt (typ_lt e.c), hn]
    rw [if_neg (typ_known e.c), r4]
    simp only [Res.ok_bind]
    rw [putCVd_cons _ _ _ _ (fun s hs => hacc s hs e (by simp)),
      ih (_ :: acc) (fun x hx => hcs x (by simp [hx])) hasc'.2]
    · simp [slotOf]
    · intro s hs x hx
      rcases List.mem_cons.mp hs with rfl | hs
      · exact hasc'.1 x hx
      · exact hacc s hs x (by simp [hx])

theorem encOffsets_length (off : Nat) (cs : List Entry) : (encOffsets off cs).length = 4 * cs.length := by
  induction cs generalizing off with
  | nil => rfl
  | cons v vs ih => simp only [encOffsets, List.length_append, leBytes_length, ih, List.length_cons]; omega

/-- The last container's end is the new opsOffset. -/
theorem pOffLoop_ok (d : Bytes) (todo : List Entry) (done : List Slot) (off oo : Nat) (rest : Bytes)
    (hcs : ∀ e ∈ todo, EntryEnc e)
    (hdrop : d.drop off = todo.flatMap (fun e => e.c.payload))
    (hoff : off ≤ d.length) (hd : d.length < 2 ^ 32) :
    pOffLoop d todo.length (encOffsets off todo ++ rest) done (todo.map slotOf) oo
      = .ok (done.reverse ++ todo.map slotDone, if todo = [] then oo else d.length) := by
  induction todo generalizing done off oo with
  | nil => simp [pOffLoop]
  | cons e t ih =>
    have he := (hcs e (by simp)).readable
    rw [List.flatMap_cons] at hdrop
    have hb := he.bounds (by rw [wire_false]; exact hdrop) hoff
    obtain ⟨r1, r2⟩ := offset_reads off (by omega) (encOffsets (off + e.c.size) t ++ rest) "pilosa.off" "pilosa.off.next"
    simp only [List.length_cons, pOffLoop, encOffsets, List.append_assoc, List.map_cons]
    rw [r1]
    simp only [Res.ok_bind]
    rw [if_neg (Nat.not_le.mpr hb.2), show (slotOf e).typ = e.c.typ from rfl, show (slotOf e).n = e.n from rfl,
      pAttach_ok he hdrop hoff]
    simp only [Res.ok_bind]
    rw [r2]
    simp only [Res.ok_bind]
    cases t with
    | nil =>
      have := length_of_drop hdrop hoff
      rw [payload_length] at this
      simp only [List.map_nil, List.length_nil, pOffLoop, Res.pure_eq]
      exact congrArg (fun x => Res.ok (done.reverse ++ [slotDone e], x)) (by simpa using this)
    | cons e2 t2 =>
      have := ih (slotDone e :: done) (off + e.c.size) (off + e.c.size) (fun x hx => hcs x (by simp [hx]))
        (drop_add_of_drop hdrop (payload_length e.c)) hb.1
      simp only [List.map_cons, List.length_cons] at this ⊢
      rw [show (slotOf e).attach e.c = slotDone e from rfl, this]
      simp

theorem pilosaWalk_ok (d : Bytes) (todo : List Entry) (off : Nat) (hrest orest : Bytes)
    (hcs : ∀ e ∈ todo, EntryEnc e)
    (hdrop : d.drop off = todo.flatMap (fun e => e.c.payload))
    (hoff : off ≤ d.length) (h8 : 8 ≤ off) (hd : d.length < 2 ^ 32) :
    pilosaWalk d todo.length (todo.flatMap encHeader ++ hrest) (encOffsets off todo ++ orest)
      = .ok ⟨todo.map itemOf, none⟩ := by
  induction todo generalizing off with
  | nil => simp [pilosaWalk]
  | cons e t ih =>
    have he := hcs e (by simp)
    rw [List.flatMap_cons] at hdrop
    have hdw : d.drop off = e.c.wire false ++ t.flatMap (fun e => e.c.payload) := by rw [wire_false]; exact hdrop
    have hb := he.readable.bounds hdw hoff
    obtain ⟨r1, r2, r3, r4⟩ := encHeader_reads e he (t.flatMap encHeader ++ hrest)
      "piter.key" "piter.typ" "piter.n" "piter.hdr.next"
    obtain ⟨o1, o2⟩ := offset_reads off (by omega) (encOffsets (off + e.c.size) t ++ orest) "piter.off" "piter.off.next"
    have hn : e.n - 1 + 1 = e.n := Nat.sub_add_cancel he.npos
    simp only [List.length_cons, pilosaWalk, List.flatMap_cons, encOffsets, List.append_assoc]
    rw [r1, r2, r3, o1]
    simp only [Res.ok_bind, Nat.mod_eq_of_lt (typ_lt e.c), hn]
    rw [nextBody_ok e.key he.readable hdw hoff h8]
    simp only []
    rw [r4, o2]
    simp only [Res.ok_bind]
    rw [ih (off + e.c.size) (fun x hx => hcs x (by simp [hx])) (drop_add_of_drop hdrop (payload_length e.c)) hb.1
      (by omega)]
    rfl

/-- `writeToUnoptimized` once the empty containers are dropped: `writeUnopt b` is
`writeCs b.flags (b.cs.filter (·.n > 0))` by unfolding. -/
def writeCs (flags : Nat) (cs : List Entry) : Bytes :=
  leBytes 2 magicPilosa ++ [0, flags % 256] ++ leBytes 4 cs.length ++ cs.flatMap encHeader
    ++ encOffsets (8 + cs.length * 16) cs ++ cs.flatMap (fun e => e.c.payload)

section pilosa
variable (flags : Nat) (cs : List Entry)

structure PilosaSections (d : Bytes) : Prop where
  len : d.length = 8 + cs.length * 16 + (cs.flatMap (fun e => e.c.payload)).length
  magic : ∀ s, rd s d 0 2 = .ok magicPilosa
  version : ∀ s, at1 s d 2 = .ok 0
  flag : ∀ s, at1 s d 3 = .ok (flags % 256)
  keys : ∀ s, rd s d 4 4 = .ok cs.length
  hdrs : d.drop 8 = cs.flatMap encHeader ++ (encOffsets (8 + cs.length * 16) cs ++ cs.flatMap (fun e => e.c.payload))
  offs : d.drop (8 + cs.length * 12) = encOffsets (8 + cs.length * 16) cs ++ cs.flatMap (fun e => e.c.payload)
  data : d.drop (8 + cs.length * 16) = cs.flatMap (fun e => e.c.payload)

theorem writeCs_sections (hsize : (writeCs flags cs).length < 2 ^ 32) :
    PilosaSections flags cs (writeCs flags cs) := by
  have hlen : (writeCs flags cs).length = 8 + cs.length * 16 + (cs.flatMap (fun e => e.c.payload)).length := by
    simp only [writeCs, List.length_append, leBytes_length, List.length_cons, List.length_nil,
      length_flatMap_const _ 12 encHeader_length, encOffsets_length]
    omega
  have h0 : (writeCs flags cs).drop 0 = leBytes 2 magicPilosa ++ ([0] ++ ([flags % 256] ++ (leBytes 4 cs.length
      ++ (cs.flatMap encHeader ++ (encOffsets (8 + cs.length * 16) cs ++ cs.flatMap (fun e => e.c.payload)))))) := by
    simp only [writeCs, List.append_assoc, List.cons_append, List.nil_append, List.drop_zero]
  have h2 := drop_add_of_drop h0 (leBytes_length 2 _)
  have h3 := drop_add_of_drop (k := 1) h2 rfl
  have h4 := drop_add_of_drop (k := 1) h3 rfl
  have h8 := drop_add_of_drop h4 (leBytes_length 4 _)
  have h8' := drop_add_of_drop h8 (length_flatMap_const _ 12 encHeader_length cs)
  have h8'' := drop_add_of_drop h8' (encOffsets_length _ cs)
  refine ⟨hlen, fun _ => rd_of_drop h0 (Nat.zero_le _) (by decide), fun _ => at1_of_drop h2,
    fun _ => at1_of_drop h3, fun _ => rd_of_drop h4 (by omega) (by omega), h8, ?_, ?_⟩
  · rw [← h8']; congr 1; omega
  · rw [← h8'']; congr 1; omega

theorem unmarshalPilosa_writeCs (hcs : ∀ e ∈ cs, EntryEnc e) (hasc : cs.Pairwise (fun a b => a.key < b.key))
    (hsize : (writeCs flags cs).length < 2 ^ 32) :
    unmarshalPilosa (writeCs flags cs)
      = .ok { flags := flags % 256, cs := cs, vals := entriesToVMap cs, ops := 0, opN := 0 } := by
  have hs := writeCs_sections flags cs hsize
  have hlen := hs.len
  have hP := pOffLoop_ok _ cs [] (8 + cs.length * 16) (8 + cs.length * 12) (cs.flatMap (fun e => e.c.payload)) hcs hs.data
    (by omega) hsize
  have hoo : (if cs = [] then 8 + cs.length * 12 else (writeCs flags cs).length) = (writeCs flags cs).length := by
    split
    · next h => subst h; exact hlen.symm
    · rfl
  unfold unmarshalPilosa loadPilosa
  rw [if_neg (by omega), hs.magic, hs.version, hs.flag]
  simp only [Res.ok_bind]
  rw [if_neg (fun h => h rfl), if_neg (fun h => h rfl), hs.keys]
  simp only [Res.ok_bind]
  rw [if_neg (by omega), if_neg (by omega), sub_tail _ _ 8 (by omega), hs.hdrs]
  simp only [Res.ok_bind]
  rw [pHdrLoop_ok cs [] _ hcs hasc (fun _ h => nomatch h)]
  simp only [Res.ok_bind, List.reverse_nil, List.nil_append]
  rw [sub_tail _ _ (8 + cs.length * 12) (by omega), hs.offs]
  simp only [Res.ok_bind]
  rw [hP]
  simp only [Res.ok_bind, Res.pure_eq, List.reverse_nil, List.nil_append, slotsToEntries_done]
  rw [hoo, sub_tail _ _ _ (Nat.le_refl _)]
  simp [opsLoop]

theorem iterate_writeCs (hcs : ∀ e ∈ cs, EntryEnc e) (hsize : (writeCs flags cs).length < 2 ^ 32) :
    iterate (writeCs flags cs) = .ok ⟨cs.map itemOf, none⟩ := by
  have hs := writeCs_sections flags cs hsize
  have hlen := hs.len
  unfold iterate
  rw [if_neg (by omega), hs.magic]
  simp only [Res.ok_bind, cookieRun, cookieNoRun, magicPilosa, Nat.reduceEqDiff, or_self, ↓reduceIte]
  rw [hs.version]
  simp only [Res.ok_bind, ne_eq, not_true_eq_false, ↓reduceIte]
  rw [hs.keys]
  simp only [Res.ok_bind]
  by_cases hz : cs.length = 0
  · rw [if_pos hz, List.length_eq_zero_iff.mp hz]; rfl
  · rw [if_neg hz, if_neg (by omega),
      sub_of_drop hs.hdrs (by rw [length_flatMap_const _ 12 encHeader_length]; omega) (by omega),
      sub_of_drop hs.offs (by rw [encOffsets_length]; omega) (by omega)]
    simp only [Res.ok_bind]
    have := pilosaWalk_ok _ cs (8 + cs.length * 16) [] [] hcs hs.data (by omega) (by omega) hsize
    rwa [List.append_nil, List.append_nil] at this
end pilosa

theorem encodeP_eq (b : Bitmap) (hb : BitmapWf b) : encodeP b = writeCs b.flags b.optimize.cs := by
  show writeCs b.flags (b.optimize.cs.filter (fun e => e.n > 0)) = _
  rw [List.filter_eq_self.mpr fun e he => by simpa using ((optimize_bitmap b hb).1 e he).2.1]

theorem unmarshal_encodeP (b : Bitmap) (hb : BitmapWf b) (hsize : (encodeP b).length < 2 ^ 32) :
    unmarshal (encodeP b) =
      .ok ({ flags := b.flags % 256, cs := b.optimize.cs, vals := entriesToVMap b.optimize.cs, ops := 0, opN := 0 },
           encodeP b) := by
  obtain ⟨h1, h2, _⟩ := optimize_bitmap b hb
  rw [encodeP_eq b hb] at hsize ⊢
  have hs := writeCs_sections b.flags b.optimize.cs hsize
  have hlen := hs.len
  rw [unmarshal_eq, if_neg (by omega), hs.magic]
  simp only [Res.ok_bind, ↓reduceIte]
  rw [unmarshalPilosa_writeCs _ _ (fun e he => (h1 e he).1) h2 hsize]
  rfl

theorem iterate_encodeP (b : Bitmap) (hb : BitmapWf b) (hsize : (encodeP b).length < 2 ^ 32) :
    iterate (encodeP b) = .ok ⟨b.optimize.cs.map itemOf, none⟩ := by
  rw [encodeP_eq b hb] at hsize ⊢
  exact iterate_writeCs _ _ (fun e he => ((optimize_bitmap b hb).1 e he).1) hsize

theorem items_encodeP (b : Bitmap) (hb : BitmapWf b) :
    walkVerdict ⟨b.optimize.cs.map itemOf, none⟩ = none
    ∧ itemsValues (b.optimize.cs.map itemOf) = b.values :=
  ⟨walkVerdict_itemOf _ (fun e he => ⟨((optimize_bitmap b hb).1 e he).2.2, ((optimize_bitmap b hb).1 e he).2.1⟩),
    (itemsValues_itemOf _).trans (optimize_bitmap b hb).2.2⟩

end PV.C04
