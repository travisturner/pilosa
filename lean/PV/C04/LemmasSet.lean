/- Ascending lists (union / difference by merging), value-level bitmaps, and the updaters of ImportRoaringBits. -/
import PV.C04.Model
import PV.Common.AscMap
namespace PV.C04

abbrev Asc (l : List Nat) : Prop := l.Pairwise (· < ·)

theorem mem_unionAsc (xs ys : List Nat) (a : Nat) : a ∈ unionAsc xs ys ↔ a ∈ xs ∨ a ∈ ys := by
  induction xs, ys using unionAsc.induct with
  | case1 ys => simp [unionAsc]
  | case2 xs h => simp [unionAsc]
  | case3 x xs y ys hlt ih => rw [unionAsc, if_pos hlt, List.mem_cons, ih, List.mem_cons (a := a) (b := x), or_assoc]
  | case4 x xs y ys h1 h2 ih =>
    rw [unionAsc, if_neg h1, if_pos h2, List.mem_cons, ih, List.mem_cons (a := a) (b := y) (l := ys), or_left_comm]
  | case5 x xs y ys h1 h2 ih =>
    have : y = x := by omega
    subst this
    rw [unionAsc, if_neg h1, if_neg h2, List.mem_cons, ih, List.mem_cons, List.mem_cons]
    exact or_or_distrib_left

theorem unionAsc_eq_merge (xs ys : List Nat) : unionAsc xs ys = Common.Asc.merge (· || ·) xs ys := by
  fun_induction unionAsc xs ys <;> simp [Common.Asc.merge, Common.Asc.keep, *]

theorem diffAsc_eq_merge (xs ys : List Nat) : diffAsc xs ys = Common.Asc.merge (fun a b => a && !b) xs ys := by
  fun_induction diffAsc xs ys <;> simp [Common.Asc.merge, Common.Asc.keep, *]

theorem asc_unionAsc (xs ys : List Nat) (hx : Asc xs) (hy : Asc ys) : Asc (unionAsc xs ys) :=
  unionAsc_eq_merge xs ys ▸ Common.Asc.asc_merge _ hx hy

theorem length_unionAsc_ge (xs ys : List Nat) : xs.length ≤ (unionAsc xs ys).length := by
  induction xs, ys using unionAsc.induct with
  | case1 ys => simp [unionAsc]
  | case2 xs h => simp [unionAsc]
  | case3 x xs y ys hlt ih => rw [unionAsc, if_pos hlt]; simp only [List.length_cons]; omega
  | case4 x xs y ys h1 h2 ih => rw [unionAsc, if_neg h1, if_pos h2]; simp only [List.length_cons] at *; omega
  | case5 x xs y ys h1 h2 ih => rw [unionAsc, if_neg h1, if_neg h2]; simp only [List.length_cons]; omega

theorem unionAsc_eq_left_of_length (xs ys : List Nat) (h : (unionAsc xs ys).length = xs.length) :
    unionAsc xs ys = xs := by
  induction xs, ys using unionAsc.induct with
  | case1 ys => simp [unionAsc] at h ⊢; exact h
  | case2 xs h' => simp [unionAsc]
  | case3 x xs y ys hlt ih =>
    rw [unionAsc, if_pos hlt] at h ⊢; simp only [List.length_cons] at h; rw [ih (by omega)]
  | case4 x xs y ys h1 h2 ih =>
    rw [unionAsc, if_neg h1, if_pos h2] at h
    have := length_unionAsc_ge (x :: xs) ys
    simp only [List.length_cons] at h this; omega
  | case5 x xs y ys h1 h2 ih =>
    rw [unionAsc, if_neg h1, if_neg h2] at h ⊢; simp only [List.length_cons] at h; rw [ih (by omega)]

theorem unionAsc_nil_left (ys : List Nat) : unionAsc [] ys = ys := by simp [unionAsc]

theorem mem_diffAsc (xs ys : List Nat) (hx : Asc xs) (hy : Asc ys) (a : Nat) :
    a ∈ diffAsc xs ys ↔ a ∈ xs ∧ a ∉ ys := by
  rw [diffAsc_eq_merge, Common.Asc.mem_merge rfl hx hy]; simp

theorem diffAsc_sublist (xs ys : List Nat) : (diffAsc xs ys).Sublist xs := by
  induction xs, ys using diffAsc.induct with
  | case1 ys => simp [diffAsc]
  | case2 xs h => simp [diffAsc]
  | case3 x xs y ys hlt ih => rw [diffAsc, if_pos hlt]; exact ih.cons_cons x
  | case4 x xs y ys h1 h2 ih => rw [diffAsc, if_neg h1, if_pos h2]; exact ih
  | case5 x xs y ys h1 h2 ih => rw [diffAsc, if_neg h1, if_neg h2]; exact ih.cons x

theorem asc_diffAsc (xs ys : List Nat) (hx : Asc xs) : Asc (diffAsc xs ys) :=
  hx.sublist (diffAsc_sublist xs ys)

theorem length_diffAsc_le (xs ys : List Nat) : (diffAsc xs ys).length ≤ xs.length :=
  (diffAsc_sublist xs ys).length_le

theorem diffAsc_eq_left_of_length (xs ys : List Nat) (h : (diffAsc xs ys).length = xs.length) :
    diffAsc xs ys = xs :=
  (diffAsc_sublist xs ys).eq_of_length h

theorem asc_ext (xs ys : List Nat) (hx : Asc xs) (hy : Asc ys) (h : ∀ a, a ∈ xs ↔ a ∈ ys) : xs = ys :=
  Common.Asc.ext hx hy h

structure VMapOk (m : VMap) : Prop where
  keys : m.Pairwise (fun a b => a.1 < b.1)
  vals : ∀ kv ∈ m, Asc kv.2 ∧ ∀ v ∈ kv.2, v < 65536

theorem VMapOk.tail {kv : Nat × List Nat} {r : VMap} (h : VMapOk (kv :: r)) : VMapOk r :=
  ⟨(List.pairwise_cons.mp h.keys).2, fun x hx => h.vals x (List.mem_cons_of_mem _ hx)⟩

theorem put_eq (k : Nat) (vs : List Nat) (m : VMap) : VMap.put k vs m = Common.AscMap.put k vs m := by
  induction m <;> simp [VMap.put, Common.AscMap.put, *]

theorem get?_eq (m : VMap) (k : Nat) : VMap.get? m k = m.lookup k := by
  induction m with
  | nil => rfl
  | cons e r ih =>
    rw [Common.AscMap.lookup_cons, ← ih]; unfold VMap.get?; rw [List.find?_cons]
    by_cases h : e.1 = k
    · simp [h]
    · simp [h, Ne.symm h]

theorem get?_cons (kv : Nat × List Nat) (r : VMap) (k : Nat) :
    VMap.get? (kv :: r) k = if kv.1 = k then some kv.2 else VMap.get? r k := by
  rw [get?_eq, get?_eq, Common.AscMap.lookup_cons]; simp only [eq_comm]

theorem get?_none_of_lt (m : VMap) (k : Nat) (h : ∀ kv ∈ m, k < kv.1) : VMap.get? m k = none :=
  (get?_eq m k).trans (Common.AscMap.lookup_eq_none_of_lt h)

theorem get?_put_same (m : VMap) (k : Nat) (vs : List Nat) :
    VMap.get? (VMap.put k vs m) k = some vs := by
  rw [get?_eq, put_eq, Common.AscMap.lookup_put, if_pos rfl]

theorem get?_put_ne (m : VMap) (k k' : Nat) (vs : List Nat) (hne : k' ≠ k) :
    VMap.get? (VMap.put k vs m) k' = VMap.get? m k' := by
  rw [get?_eq, put_eq, Common.AscMap.lookup_put, if_neg hne, get?_eq]

theorem mem_put_sub {k : Nat} {vs : List Nat} {m : VMap} {kv : Nat × List Nat} (h : kv ∈ VMap.put k vs m) :
    kv = (k, vs) ∨ kv ∈ m :=
  Common.AscMap.mem_put (put_eq k vs m ▸ h)

theorem put_keys (k : Nat) (vs : List Nat) (m : VMap) (hm : m.Pairwise (fun a b => a.1 < b.1)) :
    (VMap.put k vs m).Pairwise (fun a b => a.1 < b.1) :=
  put_eq k vs m ▸ Common.AscMap.keysAsc_put k vs hm

theorem put_ok (m : VMap) (hm : VMapOk m) (k : Nat) (vs : List Nat) (ha : Asc vs) (hb : ∀ v ∈ vs, v < 65536) :
    VMapOk (VMap.put k vs m) :=
  ⟨put_keys k vs m hm.keys, fun kv hkv => (mem_put_sub hkv).elim (fun e => e ▸ ⟨ha, hb⟩) (hm.vals kv)⟩

theorem values_cons (kv : Nat × List Nat) (r : VMap) :
    VMap.values (kv :: r) = kv.2.map (kv.1 * 65536 + ·) ++ VMap.values r := by
  simp [VMap.values]

theorem mem_map_key (k : Nat) (vs : List Nat) (hb : ∀ v ∈ vs, v < 65536) (x : Nat) :
    x ∈ vs.map (k * 65536 + ·) ↔ x / 65536 = k ∧ x % 65536 ∈ vs := by
  constructor
  · intro h
    obtain ⟨v, hv, rfl⟩ := List.mem_map.mp h
    have := hb v hv
    have e : (k * 65536 + v) % 65536 = v := by omega
    exact ⟨by omega, by rw [e]; exact hv⟩
  · rintro ⟨h1, h2⟩
    exact List.mem_map.mpr ⟨x % 65536, h2, by have := Nat.div_add_mod x 65536; omega⟩

theorem mem_values_iff (m : VMap) (hm : VMapOk m) (x : Nat) :
    x ∈ m.values ↔ ∃ vs, m.get? (x / 65536) = some vs ∧ x % 65536 ∈ vs := by
  induction m with
  | nil => simp [VMap.values, VMap.get?]
  | cons kv r ih =>
    have hk := List.pairwise_cons.mp hm.keys
    rw [values_cons, List.mem_append, mem_map_key _ _ (hm.vals kv (by simp)).2, get?_cons, ih hm.tail]
    by_cases e : kv.1 = x / 65536
    · -- the key is at the head, and not in the tail, whose keys are larger
      rw [if_pos e, get?_none_of_lt r (x / 65536) (fun y hy => e ▸ hk.1 y hy)]
      simp [e]
    · rw [if_neg e]
      simp [Ne.symm e]

theorem asc_length_le (l : List Nat) (ha : Asc l) (hb : ∀ v ∈ l, v < 65536) : l.length ≤ 65536 :=
  Common.Asc.length_le (lo := 0) ha (fun v hv => ⟨Nat.zero_le _, hb v hv⟩) (Nat.zero_le _)

theorem put_of_get? (m : VMap) (hm : VMapOk m) (k : Nat) (old : List Nat) (h : m.get? k = some old) :
    VMap.put k old m = m :=
  (put_eq k old m).trans (Common.AscMap.put_of_lookup hm.keys (get?_eq m k ▸ h))

/-- `[]` for an absent key: `oldC == nil` of the Go updaters. -/
def oldOf (m : VMap) (k : Nat) : List Nat := (m.get? k).getD []

theorem rowCount_cons (rowSize : Nat) (kv : Nat × List Nat) (t : VMap) (r : Nat) :
    rowCount rowSize (kv :: t) r = (if rowOf rowSize kv.1 = r then kv.2.length else 0) + rowCount rowSize t r := by
  simp only [rowCount, List.filter_cons]
  by_cases h : rowOf rowSize kv.1 = r <;> simp [h]

theorem rowCount_put (m : VMap) (hm : VMapOk m) (rowSize k : Nat) (vs : List Nat) (r : Nat) :
    rowCount rowSize (VMap.put k vs m) r + (if rowOf rowSize k = r then (oldOf m k).length else 0)
      = rowCount rowSize m r + (if rowOf rowSize k = r then vs.length else 0) := by
  unfold oldOf
  induction m with
  | nil =>
    simp only [VMap.put, rowCount_cons]
    simp [rowCount, VMap.get?]
  | cons kv t ih =>
    have hk := List.pairwise_cons.mp hm.keys
    simp only [VMap.put]
    split
    · next hlt =>
      rw [get?_none_of_lt (kv :: t) k (by
        intro y hy
        rcases List.mem_cons.mp hy with e | e
        · subst e; exact hlt
        · have := hk.1 y e; omega)]
      simp only [rowCount_cons, Option.getD_none, List.length_nil]
      split <;> omega
    · split
      · next h1 h2 =>
        rw [get?_cons, if_pos (show kv.1 = k from h2.symm)]
        subst h2
        simp only [rowCount_cons, Option.getD_some]
        split <;> omega
      · next h1 h2 =>
        rw [get?_cons, if_neg (show ¬ kv.1 = k by omega)]
        have := ih hm.tail
        simp only [rowCount_cons]
        omega

theorem rowCount_zero (m : VMap) : rowCount 0 m 0 = m.values.length := by
  induction m with
  | nil => rfl
  | cons kv t ih => rw [rowCount_cons, values_cons, List.length_append, List.length_map, ← ih]; rfl

theorem values_length_put (m : VMap) (hm : VMapOk m) (k : Nat) (vs : List Nat) :
    (VMap.put k vs m).values.length + (oldOf m k).length = m.values.length + vs.length := by
  have h0 : rowOf 0 k = 0 := rfl
  have := rowCount_put m hm 0 k vs 0
  rwa [rowCount_zero, rowCount_zero, if_pos h0, if_pos h0] at this

structure ItemOk (it : Item) : Prop where
  asc : Asc it.c.values
  bound : ∀ v ∈ it.c.values, v < 65536
  n : it.n = it.c.values.length

theorem oldOf_ok (m : VMap) (hm : VMapOk m) (k : Nat) : Asc (oldOf m k) ∧ ∀ v ∈ oldOf m k, v < 65536 := by
  unfold oldOf
  cases h : m.get? k with
  | none => simp
  | some old =>
    simp only [Option.getD_some]
    unfold VMap.get? at h
    obtain ⟨kv, hkv, rfl⟩ := Option.map_eq_some_iff.mp h
    exact hm.vals kv (List.mem_of_find?_eq_some hkv)

theorem unionAsc_ok {xs ys : List Nat} (hx : Asc xs ∧ ∀ v ∈ xs, v < 65536) (hy : Asc ys ∧ ∀ v ∈ ys, v < 65536) :
    Asc (unionAsc xs ys) ∧ ∀ v ∈ unionAsc xs ys, v < 65536 :=
  ⟨asc_unionAsc xs ys hx.1 hy.1, fun v hv => ((mem_unionAsc xs ys v).mp hv).elim (hx.2 v) (hy.2 v)⟩

/-- Every branch of the set updater is `put key (old ∪ new)`: the shortcuts of the Go code are the cases where
the union is known without computing it. -/
theorem importSetItem_eq (m : VMap) (hm : VMapOk m) (it : Item) (hit : ItemOk it) :
    importSetItem m it =
      (VMap.put it.key (unionAsc (oldOf m it.key) it.c.values) m,
       (unionAsc (oldOf m it.key) it.c.values).length - (oldOf m it.key).length) := by
  have hold := oldOf_ok m hm it.key
  unfold importSetItem
  unfold oldOf at *
  cases h : m.get? it.key with
  | none => simp [unionAsc_nil_left, hit.n]
  | some old =>
    rw [h] at hold
    simp only [Option.getD_some] at hold ⊢
    have hnw := unionAsc_ok hold ⟨hit.asc, hit.bound⟩
    have hge := length_unionAsc_ge old it.c.values
    split
    · next h65 =>
      -- a full container: the union cannot be longer, hence equals it
      have hle := asc_length_le _ hnw.1 hnw.2
      have := unionAsc_eq_left_of_length old it.c.values (by omega)
      rw [this, put_of_get? m hm _ _ h]; simp
    · split
      · next h65 h0 =>
        have : old = [] := List.length_eq_zero_iff.mp h0
        subst this
        simp [unionAsc_nil_left, hit.n]
      · split
        · rfl
        · next hne =>
          have hne' : (unionAsc old it.c.values).length = old.length := by
            simpa using hne
          have := unionAsc_eq_left_of_length old it.c.values hne'
          rw [this, put_of_get? m hm _ _ h]; simp

/-- Likewise `put key (old \ new)` on a present key. -/
theorem importClearItem_eq (m : VMap) (hm : VMapOk m) (it : Item) :
    importClearItem m it =
      (if (m.get? it.key).isSome then VMap.put it.key (diffAsc (oldOf m it.key) it.c.values) m else m,
       (oldOf m it.key).length - (diffAsc (oldOf m it.key) it.c.values).length) := by
  unfold importClearItem oldOf
  cases h : m.get? it.key with
  | none => simp [diffAsc]
  | some old =>
    simp only [Option.getD_some, Option.isSome_some, ↓reduceIte]
    split
    · next h0 =>
      have : old = [] := List.length_eq_zero_iff.mp h0
      subst this
      simp [diffAsc, put_of_get? m hm _ _ h]
    · split
      · rfl
      · next hne =>
        have hne' : (diffAsc old it.c.values).length = old.length := by simpa using hne
        have := diffAsc_eq_left_of_length old it.c.values hne'
        rw [this, put_of_get? m hm _ _ h]; simp

theorem values_asc (m : VMap) (hm : VMapOk m) : Asc m.values := by
  refine List.pairwise_flatMap.mpr ⟨fun kv hkv => (hm.vals kv hkv).1.map _ (fun a b hab => by omega), ?_⟩
  refine hm.keys.imp_of_mem (fun {a b} ha _ hab x hx y hy => ?_)
  obtain ⟨v, hv, rfl⟩ := List.mem_map.mp hx
  obtain ⟨w, _, rfl⟩ := List.mem_map.mp hy
  have := (hm.vals a ha).2 v hv
  omega

def Item.gvalues (it : Item) : List Nat := it.c.values.map (it.key * 65536 + ·)

theorem mem_gvalues (it : Item) (hit : ItemOk it) (x : Nat) :
    x ∈ it.gvalues ↔ x / 65536 = it.key ∧ x % 65536 ∈ it.c.values :=
  mem_map_key it.key it.c.values hit.bound x

theorem mem_oldOf (m : VMap) (hm : VMapOk m) (x : Nat) : x ∈ m.values ↔ x % 65536 ∈ oldOf m (x / 65536) := by
  rw [mem_values_iff m hm]
  unfold oldOf
  cases h : m.get? (x / 65536) with
  | none => simp
  | some old => simp

theorem mem_put (m : VMap) (hm : VMapOk m) (k : Nat) (vs : List Nat) (ha : Asc vs) (hb : ∀ v ∈ vs, v < 65536)
    (x : Nat) :
    x ∈ (VMap.put k vs m).values ↔ (x / 65536 = k ∧ x % 65536 ∈ vs) ∨ (x / 65536 ≠ k ∧ x ∈ m.values) := by
  have hok := put_ok m hm k vs ha hb
  rw [mem_values_iff _ hok, mem_values_iff m hm]
  by_cases hk : x / 65536 = k
  · rw [hk, get?_put_same]; simp
  · rw [get?_put_ne m k _ vs hk]; simp [hk]

theorem importSetItem_spec (m : VMap) (hm : VMapOk m) (it : Item) (hit : ItemOk it) :
    VMapOk (importSetItem m it).1
    ∧ (∀ x, x ∈ (importSetItem m it).1.values ↔ x ∈ m.values ∨ x ∈ it.gvalues)
    ∧ (importSetItem m it).2 + m.values.length = (importSetItem m it).1.values.length := by
  rw [importSetItem_eq m hm it hit]
  have hold := oldOf_ok m hm it.key
  obtain ⟨hnw, hnwb⟩ := unionAsc_ok hold ⟨hit.asc, hit.bound⟩
  refine ⟨put_ok m hm _ _ hnw hnwb, ?_, ?_⟩
  · intro x
    simp only []
    rw [mem_put m hm _ _ hnw hnwb, mem_unionAsc, mem_gvalues it hit, mem_oldOf m hm]
    by_cases hk : x / 65536 = it.key
    · rw [hk]; simp
    · simp [hk]
  · have h1 := values_length_put m hm it.key (unionAsc (oldOf m it.key) it.c.values)
    have h2 := length_unionAsc_ge (oldOf m it.key) it.c.values
    unfold oldOf at *
    simp only []
    omega

theorem importClearItem_spec (m : VMap) (hm : VMapOk m) (it : Item) (hit : ItemOk it) :
    VMapOk (importClearItem m it).1
    ∧ (∀ x, x ∈ (importClearItem m it).1.values ↔ x ∈ m.values ∧ x ∉ it.gvalues)
    ∧ (importClearItem m it).2 + (importClearItem m it).1.values.length = m.values.length := by
  rw [importClearItem_eq m hm it]
  have hold := oldOf_ok m hm it.key
  have hnw := asc_diffAsc (oldOf m it.key) it.c.values hold.1
  have hnwb : ∀ v ∈ diffAsc (oldOf m it.key) it.c.values, v < 65536 := by
    intro v hv
    exact hold.2 v ((diffAsc_sublist _ _).subset hv)
  cases h : m.get? it.key with
  | none =>
    simp only [Option.isSome_none, Bool.false_eq_true, ↓reduceIte]
    have ho : oldOf m it.key = [] := by simp [oldOf, h]
    refine ⟨hm, ?_, by simp [ho, diffAsc]⟩
    intro x
    rw [mem_gvalues it hit, mem_oldOf m hm]
    constructor
    · intro hx
      refine ⟨hx, ?_⟩
      rintro ⟨h1, _⟩
      rw [h1, ho] at hx; simp at hx
    · exact fun hx => hx.1
  | some old =>
    simp only [Option.isSome_some, ↓reduceIte]
    refine ⟨put_ok m hm _ _ hnw hnwb, ?_, ?_⟩
    · intro x
      rw [mem_put m hm _ _ hnw hnwb, mem_diffAsc _ _ hold.1 hit.asc, mem_gvalues it hit, mem_oldOf m hm]
      by_cases hk : x / 65536 = it.key
      · rw [hk]; simp
      · simp [hk]
    · have h1 := values_length_put m hm it.key (diffAsc (oldOf m it.key) it.c.values)
      have h2 := length_diffAsc_le (oldOf m it.key) it.c.values
      unfold oldOf at *
      omega

def itemsValues (items : List Item) : List Nat := items.flatMap Item.gvalues

theorem importItems_set_spec (items : List Item) (m : VMap) (hm : VMapOk m)
    (hit : ∀ it ∈ items, ItemOk it) :
    VMapOk (importItems false m items).1
    ∧ (∀ x, x ∈ (importItems false m items).1.values ↔ x ∈ m.values ∨ x ∈ itemsValues items)
    ∧ (importItems false m items).2 + m.values.length = (importItems false m items).1.values.length := by
  induction items generalizing m with
  | nil => simp [importItems, itemsValues, hm]
  | cons it r ih =>
    obtain ⟨h1, h2, h3⟩ := importSetItem_spec m hm it (hit it (by simp))
    obtain ⟨i1, i2, i3⟩ := ih (importSetItem m it).1 h1 (fun x hx => hit x (by simp [hx]))
    simp only [importItems, Bool.false_eq_true, ↓reduceIte]
    refine ⟨i1, ?_, ?_⟩
    · intro x
      rw [i2 x, h2 x]
      simp only [itemsValues, List.flatMap_cons, List.mem_append]
      exact or_assoc
    · omega

theorem importItems_clear_spec (items : List Item) (m : VMap) (hm : VMapOk m)
    (hit : ∀ it ∈ items, ItemOk it) :
    VMapOk (importItems true m items).1
    ∧ (∀ x, x ∈ (importItems true m items).1.values ↔ x ∈ m.values ∧ x ∉ itemsValues items)
    ∧ (importItems true m items).2 + (importItems true m items).1.values.length = m.values.length := by
  induction items generalizing m with
  | nil => simp [importItems, itemsValues, hm]
  | cons it r ih =>
    obtain ⟨h1, h2, h3⟩ := importClearItem_spec m hm it (hit it (by simp))
    obtain ⟨i1, i2, i3⟩ := ih (importClearItem m it).1 h1 (fun x hx => hit x (by simp [hx]))
    simp only [importItems, ↓reduceIte]
    refine ⟨i1, ?_, ?_⟩
    · intro x
      rw [i2 x, h2 x]
      simp only [itemsValues, List.flatMap_cons, List.mem_append, not_or]
      exact and_assoc
    · omega

end PV.C04
