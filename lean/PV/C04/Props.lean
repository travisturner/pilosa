/-
C04 property theorems.  Core Lean only.

Property: decoding the encoding of any bitmap yields the same set and flags; decoding valid
official-format bytes yields the set the format describes and leaves the input unmodified, so
decoding twice gives the same set; importing encoded bytes in set (clear) mode = union with
(difference from) the decoded set, and `changed` = the number of bits that changed.

The model (Model.lean) follows roaring/roaring.go on branch verif/a03, i.e. after the `fix:`
commits listed in design/C04.md.  `Res.panic` is the outcome of any out-of-bounds access.
-/
import PV.C04.LemmasImport
import PV.C04.LemmasPilosa
import PV.C04.LemmasOfficial
namespace PV.C04

/-- `UnmarshalBinary(WriteTo(b))` succeeds, leaves the bytes alone, yields the same set and the
same flags, and finds no op log.  `BitmapWf`: containers as the kernels keep them (ascending
arrays, 8192-byte bitmaps, ordered disjoint runs; cardinality field = number of values; empty
containers allowed), ascending keys < 2^48 (keys are value >> 16).  The size hypothesis: offsets are uint32. -/
theorem C04_roundtrip (b : Bitmap) (hb : BitmapWf b) (hsize : (encodeP b).length < 2 ^ 32) :
    ∃ r, unmarshal (encodeP b) = .ok (r, encodeP b)
      ∧ r.vals.values = b.values ∧ r.flags = b.flags % 256 ∧ r.ops = 0 ∧ r.opN = 0 := by
  refine ⟨_, unmarshal_encodeP b hb hsize, ?_, rfl, rfl, rfl⟩
  show VMap.values (entriesToVMap b.optimize.cs) = b.values
  rw [values_entriesToVMap]
  exact (optimize_bitmap b hb).2.2

/-- The same without the Optimize pass (`writeToUnoptimized`): every container comes back in
the encoding it was written in. -/
theorem C04_roundtrip_unoptimized (b : Bitmap)
    (hcs : ∀ e ∈ b.cs.filter (fun e => e.n > 0), EntryEnc e)
    (hasc : (b.cs.filter (fun e => e.n > 0)).Pairwise (fun a b => a.key < b.key))
    (hsize : (writeUnopt b).length < 2 ^ 32) :
    unmarshalPilosa (writeUnopt b) =
      .ok { flags := b.flags % 256, cs := b.cs.filter (fun e => e.n > 0),
            vals := entriesToVMap (b.cs.filter (fun e => e.n > 0)), ops := 0, opN := 0 } :=
  unmarshalPilosa_writeCs b.flags _ hcs hasc hsize

/-- Decoding what the reference encoder of the official format (`Spec.encodeOfficial`, written
from the RoaringFormatSpec: cookie 12346 / 12347 + container count, is-run bitmap, key and
cardinality-1 per container, offset header unless there are run containers and fewer than four
containers, arrays up to and including 4096 values, runs as start/length-1) wrote for the set
grouped as `g`, in each of its three modes (no runs / runs where smaller / all runs), yields
exactly that set, with flags 0 and no op log, and leaves the bytes alone.  `GroupOk`: key
< 65536, non-empty ascending values < 65536 — every set of 32-bit values has such a grouping;
up to all 65536 containers and full containers (65536 values) included.  The size hypothesis:
offsets are uint32. -/
theorem C04_official (mode : Nat) (g : VMap) (hg : ∀ kv ∈ g, GroupOk kv)
    (hk : g.Pairwise (fun a b => a.1 < b.1)) (hsize : (Spec.encodeOfficial mode g).length < 2 ^ 32) :
    ∃ r, unmarshal (Spec.encodeOfficial mode g) = .ok (r, Spec.encodeOfficial mode g)
      ∧ r.vals.values = VMap.values g ∧ r.flags = 0 ∧ r.ops = 0 ∧ r.opN = 0 :=
  ⟨_, unmarshal_encodeOfficial mode g hg hk hsize, values_gentry mode g hg, rfl, rfl, rfl⟩

/-- Decoding never changes the caller's bytes (any input, either format). -/
theorem C04_input_unmodified (d d' : Bytes) (r : Decoded) (h : unmarshal d = .ok (r, d')) : d' = d := by
  rw [unmarshal_eq] at h
  obtain ⟨_, _, e⟩ := Res.bind_eq_ok.mp h
  cases e
  rfl

/-- Decoding the same slice a second time gives the same result. -/
theorem C04_decode_twice (d d' : Bytes) (r : Decoded) (h : unmarshal d = .ok (r, d')) :
    unmarshal d' = .ok (r, d') := by
  have := C04_input_unmodified d d' r h
  subst this
  exact h

/-- Regression witness for the defect fixed by
`fix: official-format run containers are decoded without rewriting the caller's buffer`: the
pre-fix `readWithRuns` step (kept in Model.lean as `oldReadWithRuns1`) rewrote the buffer for a
container of three runs — DESIGN section 8 #3; the same bytes are `corpus/C04/official-3runs.ops`. -/
theorem C04_old_readWithRuns_witness :
    let d : Bytes := [59, 48, 0, 0, 1, 0, 0, 8, 0, 3, 0, 1, 0, 2, 0, 10, 0, 2, 0, 20, 0, 2, 0]
    (oldReadWithRuns1 d 9).map (·.2) ≠ some d ∧
    (unmarshal d).isPanic = false ∧ (match unmarshal d with | .ok (_, d') => d' == d | _ => false) = true := by
  decide

/-- The specification's union / difference are characterised by membership. -/
theorem C04_spec_union_mem (a b : List Nat) (x : Nat) : x ∈ Spec.union a b ↔ x ∈ a ∨ x ∈ b :=
  mem_unionAsc a b x

theorem C04_spec_diff_mem (a b : List Nat) (ha : Asc a) (hb : Asc b) (x : Nat) :
    x ∈ Spec.diff a b ↔ x ∈ a ∧ x ∉ b :=
  mem_diffAsc a b ha hb x

/-- Any payload (either format) that `ImportRoaringBits` accepts — its walk ends in io.EOF and
every container is consistent with its header (`walkVerdict w = none`) — is merged exactly like
the set `S` it carries: set mode = union, clear mode = difference, `changed` = number of bits by
which the bitmap changed.  `m`: the target, any well-formed value-level bitmap (either collection
kind: the model is the key ↦ values map). -/
theorem C04_import (m : VMap) (hm : VMapOk m) (d : Bytes) (clear : Bool) (w : Walk)
    (hw : iterate d = .ok w) (hv : walkVerdict w = none)
    (S : List Nat) (hS : Asc S) (hmem : ∀ x, x ∈ S ↔ x ∈ itemsValues w.items) :
    ∃ m' ch, importBits m d clear = .ok (m', ch)
      ∧ m'.values = (if clear then Spec.diff m.values S else Spec.union m.values S)
      ∧ ch = Spec.delta m.values m'.values := by
  obtain ⟨m', ch, h1, _, h3, h4⟩ := importBits_spec m hm d clear w hw hv S hS hmem
  exact ⟨m', ch, h1, h3, h4⟩

/-- Importing the Pilosa encoding of `b` in set mode = union with `b`'s set. -/
theorem C04_import_set (m : VMap) (hm : VMapOk m) (b : Bitmap) (hb : BitmapWf b)
    (hsize : (encodeP b).length < 2 ^ 32) :
    ∃ m' ch, importBits m (encodeP b) false = .ok (m', ch)
      ∧ m'.values = Spec.union m.values b.values
      ∧ ch = m'.values.length - m.values.length := by
  obtain ⟨h2, h3⟩ := items_encodeP b hb
  obtain ⟨m', ch, i1, _, i3, i4⟩ := importBits_spec m hm (encodeP b) false _ (iterate_encodeP b hb hsize) h2
    b.values (bitmap_values_asc b hb) (fun x => by rw [h3])
  have i3 : m'.values = Spec.union m.values b.values := i3
  exact ⟨m', ch, i1, i3, by rw [i4, i3, delta_union]⟩

/-- Importing the Pilosa encoding of `b` in clear mode = difference from `b`'s set. -/
theorem C04_import_clear (m : VMap) (hm : VMapOk m) (b : Bitmap) (hb : BitmapWf b)
    (hsize : (encodeP b).length < 2 ^ 32) :
    ∃ m' ch, importBits m (encodeP b) true = .ok (m', ch)
      ∧ m'.values = Spec.diff m.values b.values
      ∧ ch = m.values.length - m'.values.length := by
  obtain ⟨h2, h3⟩ := items_encodeP b hb
  obtain ⟨m', ch, i1, _, i3, i4⟩ := importBits_spec m hm (encodeP b) true _ (iterate_encodeP b hb hsize) h2
    b.values (bitmap_values_asc b hb) (fun x => by rw [h3])
  have i3 : m'.values = Spec.diff m.values b.values := i3
  exact ⟨m', ch, i1, i3, by rw [i4, i3, delta_diff]⟩

/-- `rowSet` is exact: for an accepted payload and every row (`rowSize` containers per row, as
fragment.importRoaring passes it; 0 = a single row), the entry ImportRoaringBits reports is the
number of bits set in that row (clear mode: minus the number cleared); rows without an entry did
not change. -/
theorem C04_import_rowset (m : VMap) (hm : VMapOk m) (d : Bytes) (clear : Bool) (rowSize : Nat) (w : Walk)
    (hw : iterate d = .ok w) (hv : walkVerdict w = none) (r : Nat) :
    ∃ m' ch, importBits m d clear = .ok (m', ch)
      ∧ rowDelta (importRowSet m d clear rowSize) r
          = (rowCount rowSize m' r : Int) - (rowCount rowSize m r : Int) := by
  obtain ⟨_, hit⟩ := walkVerdict_none w hv
  refine ⟨_, _, (importBits_ok_iff m d clear _).mpr ⟨w, hw, hv, rfl⟩, ?_⟩
  unfold importRowSet
  rw [hw]
  simp only [hv]
  exact importRows_spec clear rowSize w.items m hm hit r

/-- The Pilosa-format iterator (`newPilosaRoaringIterator` + `Next`, as ImportRoaringBits uses it)
over `WriteTo(b)` yields exactly b's (optimized, non-empty) containers, in key order, then io.EOF;
each is consistent with its header and together they carry b's set. -/
theorem C04_iterate_pilosa (b : Bitmap) (hb : BitmapWf b) (hsize : (encodeP b).length < 2 ^ 32) :
    iterate (encodeP b) = .ok ⟨b.optimize.cs.map itemOf, none⟩
    ∧ walkVerdict ⟨b.optimize.cs.map itemOf, none⟩ = none
    ∧ itemsValues (b.optimize.cs.map itemOf) = b.values :=
  ⟨iterate_encodeP b hb hsize, items_encodeP b hb⟩

/-- The official-format iterator (`newOfficialRoaringIterator` + `Next`) over what the reference
encoder wrote yields exactly the groups of `g`: one item per group, in order, with the container
the encoder chose (array up to 4096 values, bitmap above, run containers converted from
start/length-1 to start/last in a copy), for all three encoder modes, with the offset header
skipped when the run cookie comes with four or more containers; then io.EOF. -/
theorem C04_iterate_official (mode : Nat) (g : VMap) (hg : ∀ kv ∈ g, GroupOk kv)
    (hk : g.Pairwise (fun a b => a.1 < b.1)) (hsize : (Spec.encodeOfficial mode g).length < 2 ^ 32) :
    iterate (Spec.encodeOfficial mode g) = .ok ⟨g.map (gitem mode), none⟩
    ∧ (∀ kv ∈ g, (gitem mode kv).key = kv.1 ∧ (gitem mode kv).n = kv.2.length ∧ (gitem mode kv).c.values = kv.2)
    ∧ walkVerdict ⟨g.map (gitem mode), none⟩ = none
    ∧ itemsValues (g.map (gitem mode)) = VMap.values g :=
  ⟨iterate_encodeOfficial mode g hg hk hsize,
   fun kv hkv => ⟨rfl, rfl, ocont_values mode kv.2 (hg kv hkv).asc (hg kv hkv).bound⟩,
   walkVerdict_official mode g hg, itemsValues_gitem mode g hg⟩

/-- Importing the official encoding of the set grouped as `g` (any of the three encoder modes)
into any well-formed bitmap: set mode = union with that set, clear mode = difference from it,
and `changed` = the number of bits by which the bitmap changed. -/
theorem C04_import_official (m : VMap) (hm : VMapOk m) (mode : Nat) (g : VMap) (clear : Bool)
    (hg : ∀ kv ∈ g, GroupOk kv) (hk : g.Pairwise (fun a b => a.1 < b.1))
    (hsize : (Spec.encodeOfficial mode g).length < 2 ^ 32) :
    ∃ m' ch, importBits m (Spec.encodeOfficial mode g) clear = .ok (m', ch)
      ∧ m'.values = (if clear then Spec.diff m.values (VMap.values g) else Spec.union m.values (VMap.values g))
      ∧ ch = Spec.delta m.values m'.values
      ∧ ch = (if clear then m.values.length - m'.values.length else m'.values.length - m.values.length) := by
  obtain ⟨m', ch, i1, _, i3, i4⟩ := importBits_spec m hm (Spec.encodeOfficial mode g) clear _
    (iterate_encodeOfficial mode g hg hk hsize) (walkVerdict_official mode g hg) (VMap.values g)
    (values_asc g (groups_vmapOk g hg hk)) (fun x => by rw [itemsValues_gitem mode g hg])
  refine ⟨m', ch, i1, i3, i4, ?_⟩
  rw [i4, i3]
  cases clear with
  | false => exact delta_union _ _
  | true => exact delta_diff _ _

/-- A bitmap with an array, a bitmap-encoded, a run and an empty container satisfies the
hypotheses of `C04_roundtrip`. -/
example : BitmapWf ⟨5, [⟨0, 3, .array [1, 2, 9]⟩, ⟨2, 0, .array []⟩, ⟨7, 4, .run [(0, 1), (10, 11)]⟩]⟩ :=
  ⟨by
    intro e he
    simp only [List.mem_cons, List.mem_nil_iff, or_false] at he
    rcases he with rfl | rfl | rfl
    · exact ⟨⟨by simp, by simp, rfl⟩, by decide⟩
    · exact ⟨⟨by simp, by simp, rfl⟩, by decide⟩
    · exact ⟨⟨⟨by simp, by simp⟩, by decide⟩, by decide⟩,
   by simp⟩

/-- Groups for `C04_official`: a short run and a single value at the top key. -/
example : ∀ kv ∈ ([(0, [1, 2, 3]), (65535, [65535])] : VMap), GroupOk kv := by
  intro kv hkv
  simp only [List.mem_cons, List.mem_nil_iff, or_false] at hkv
  rcases hkv with rfl | rfl
  · exact ⟨by decide, by simp, by simp, by simp⟩
  · exact ⟨by decide, by simp, by simp, by simp⟩

example : VMapOk [(0, [1, 5]), (3, [])] :=
  ⟨by simp, by
    intro kv hkv
    simp only [List.mem_cons, List.mem_nil_iff, or_false] at hkv
    rcases hkv with rfl | rfl <;> simp⟩

end PV.C04
