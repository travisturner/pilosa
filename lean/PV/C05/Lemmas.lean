/-
The codec of one op: little-endian round trip, `decode (encode o ++ more) = some (o, o.size)`.
-/
import PV.C05.Model
namespace PV.C05
open List PV.C02

theorem length_le (n x : Nat) : (le n x).length = n := by
  induction n generalizing x with
  | zero => rfl
  | succ n ih => simp [le, ih]

theorem unle_le (n x : Nat) (hx : x < 256 ^ n) : unle (le n x) = x := by
  induction n generalizing x with
  | zero => simp at hx; subst hx; rfl
  | succ n ih =>
    simp only [le, unle]
    have : x / 256 < 256 ^ n := by
      rw [Nat.div_lt_iff_lt_mul (by omega)]
      rw [Nat.pow_succ] at hx; omega
    rw [ih _ this]; omega

theorem fnvStep_lt (h b : Nat) : fnvStep h b < 4294967296 := by
  unfold fnvStep; exact Nat.mod_lt _ (by omega)

theorem fnv32a_lt (bs : Bytes) : fnv32a bs < 2 ^ 32 := by
  unfold fnv32a
  suffices h : ∀ (bs : Bytes) (h0 : Nat), h0 < 4294967296 → bs.foldl fnvStep h0 < 4294967296 by
    have := h bs 2166136261 (by omega); omega
  intro bs
  induction bs with
  | nil => intro h0 h; simpa
  | cons b t ih => intro h0 _; simp only [foldl_cons]; exact ih _ (fnvStep_lt _ _)

theorem take_append_len {α : Type} (a b : List α) (n : Nat) (h : a.length = n) : (a ++ b).take n = a := by
  subst h; simp

theorem drop_append_len {α : Type} (a b : List α) (n : Nat) (h : a.length = n) : (a ++ b).drop n = b := by
  subst h; simp

theorem unchunk_flatMap (vs : List Nat) (rest : Bytes) (hv : ∀ v ∈ vs, v < 2 ^ 64) :
    unchunk vs.length (vs.flatMap (le 8) ++ rest) = vs := by
  induction vs with
  | nil => rfl
  | cons v t ih =>
    simp only [length_cons, flatMap_cons, unchunk, append_assoc]
    rw [take_append_len _ _ 8 (length_le 8 v), drop_append_len _ _ 8 (length_le 8 v)]
    rw [unle_le 8 v (by have := hv v (by simp); omega), ih (fun w hw => hv w (by simp [hw]))]

theorem length_flatMap_le8 (vs : List Nat) : (vs.flatMap (le 8)).length = vs.length * 8 := by
  induction vs with
  | nil => rfl
  | cons v t ih => simp only [flatMap_cons, length_append, length_le, ih, length_cons]; omega

/-- Sizes and values an op can carry on the wire. -/
def OpWF : LOp → Prop
  | .add v => v < 2 ^ 64
  | .remove v => v < 2 ^ 64
  | .addBatch vs => (∀ v ∈ vs, v < 2 ^ 64) ∧ vs.length ≤ 2 ^ 59
  | .removeBatch vs => (∀ v ∈ vs, v < 2 ^ 64) ∧ vs.length ≤ 2 ^ 59
  | .addRoaring pl n => pl.length < 2 ^ 64 ∧ n < 2 ^ 32
  | .removeRoaring pl n => pl.length < 2 ^ 64 ∧ n < 2 ^ 32

theorem length_frame (H : Bytes → Nat) (typ val : Nat) (tail extra : Bytes) :
    (frame H typ val tail extra).length = 13 + tail.length := by
  simp [frame, length_le]; omega

theorem length_encode (H : Bytes → Nat) (o : LOp) : (encode H o).length = o.size := by
  cases o <;> simp only [encode, LOp.size, length_frame, length_flatMap_le8, length_le, length_append,
    length_nil] <;> omega

theorem frame_parts (H : Bytes → Nat) (typ val : Nat) (tail extra more : Bytes)
    (hval : val < 2 ^ 64) (hH : ∀ bs, H bs < 2 ^ 32) :
    let data := frame H typ val tail extra ++ more
    data.headD 0 = typ ∧ unle ((data.drop 1).take 8) = val ∧
    unle ((data.drop 9).take 4) = H ((typ :: le 8 val) ++ tail ++ extra) ∧
    data.take 9 = typ :: le 8 val ∧ data.drop 13 = tail ++ more := by
  simp only [frame]
  have h8 := length_le 8 val
  have h4 := length_le 4 (H ((typ :: le 8 val) ++ tail ++ extra))
  have h9 : (typ :: le 8 val).length = 9 := by rw [length_cons, h8]
  refine ⟨rfl, ?_, ?_, ?_, ?_⟩
  · simp only [cons_append, drop_succ_cons, drop_zero, append_assoc]
    rw [take_append_len _ _ 8 h8, unle_le 8 val (by omega)]
  · rw [append_assoc, append_assoc, drop_append_len _ _ 9 h9, take_append_len _ _ 4 h4,
      unle_le 4 _ (by have := hH ((typ :: le 8 val) ++ tail ++ extra); omega)]
  · rw [append_assoc, append_assoc, take_append_len _ _ 9 h9]
  · rw [append_assoc, drop_append_len _ _ 13 (by rw [length_append, h9, h4])]

theorem decode_frame (H : Bytes → Nat) (hH : ∀ bs, H bs < 2 ^ 32) (typ val : Nat) (tail extra more : Bytes)
    (hval : val < 2 ^ 64) :
    decode H (frame H typ val tail extra ++ more)
      = decodeParts H (13 + tail.length + more.length) typ val (H ((typ :: le 8 val) ++ tail ++ extra))
          (typ :: le 8 val) (tail ++ more) := by
  obtain ⟨p1, p2, p3, p4, p5⟩ := frame_parts H typ val tail extra more hval hH
  have hlen : (frame H typ val tail extra ++ more).length = 13 + tail.length + more.length := by
    rw [length_append, length_frame]
  unfold decode
  rw [if_neg (by omega), hlen, p1, p2, p3, p4, p5]

/- Stated on exactly the arguments `decode_frame` produces (hence `++ []`, `13 + (le 4 n).length + …`). -/
theorem decodeParts_single (H : Bytes → Nat) (len typ val : Nat) (pre rest : Bytes) (ht : typ = 0 ∨ typ = 1) :
    decodeParts H len typ val (H pre) pre rest = some (if typ = 0 then .add val else .remove val, 13) := by
  rcases ht with rfl | rfl <;> simp [decodeParts]

theorem decodeParts_batch (H : Bytes → Nat) (typ : Nat) (pre more : Bytes) (vs : List Nat) (ht : typ = 2 ∨ typ = 3)
    (hv : ∀ v ∈ vs, v < 2 ^ 64) (hn : vs.length ≤ 2 ^ 59) :
    decodeParts H (13 + (vs.flatMap (le 8)).length + more.length) typ vs.length (H (pre ++ vs.flatMap (le 8) ++ []))
        pre (vs.flatMap (le 8) ++ more)
      = some (if typ = 2 then .addBatch vs else .removeBatch vs, 13 + vs.length * 8) := by
  have h0 : ¬ typ = 0 := by omega
  have h1 : ¬ typ = 1 := by omega
  have h2 : ¬ vs.length > 2 ^ 59 := by omega
  have hl := length_flatMap_le8 vs
  have hbody : (vs.flatMap (le 8) ++ more).take (vs.length * 8) = vs.flatMap (le 8) := take_append_len _ _ _ hl
  have hun : unchunk vs.length (vs.flatMap (le 8)) = vs := by
    have := unchunk_flatMap vs [] hv; rwa [append_nil] at this
  unfold decodeParts
  rw [if_neg h0, if_neg h1, if_pos ht, if_neg h2, if_neg (by omega), hbody, append_nil, if_pos rfl, hun]

theorem decodeParts_roaring (H : Bytes → Nat) (typ n : Nat) (pre pl more : Bytes) (ht : typ = 4 ∨ typ = 5)
    (hn : n < 2 ^ 32) :
    decodeParts H (13 + (le 4 n).length + (pl ++ more).length) typ pl.length (H (pre ++ le 4 n ++ pl))
        pre (le 4 n ++ (pl ++ more))
      = some (if typ = 4 then .addRoaring pl n else .removeRoaring pl n, 17 + pl.length) := by
  have h0 : ¬ typ = 0 := by omega
  have h1 : ¬ typ = 1 := by omega
  have h23 : ¬ (typ = 2 ∨ typ = 3) := by omega
  have h4 := length_le 4 n
  have hopn : unle ((le 4 n ++ (pl ++ more)).take 4) = n := by
    rw [take_append_len _ _ 4 h4, unle_le 4 n (by omega)]
  have hbody : (le 4 n ++ (pl ++ more)).take (4 + pl.length) = le 4 n ++ pl := by
    rw [← append_assoc]; exact take_append_len _ _ _ (by rw [length_append, h4])
  have hpl : ((le 4 n ++ (pl ++ more)).drop 4).take pl.length = pl := by
    rw [drop_append_len _ _ 4 h4]; exact take_append_len _ _ _ rfl
  unfold decodeParts
  rw [if_neg h0, if_neg h1, if_neg h23, if_pos ht, if_neg (by rw [h4, length_append]; omega), hbody, append_assoc,
    if_pos rfl, hopn, hpl]

theorem decode_encode (H : Bytes → Nat) (hH : ∀ bs, H bs < 2 ^ 32) (o : LOp) (hwf : OpWF o) (more : Bytes) :
    decode H (encode H o ++ more) = some (o, o.size) := by
  cases o with
  | add v => exact (decode_frame H hH 0 v [] [] more hwf).trans (decodeParts_single H _ 0 v _ _ (Or.inl rfl))
  | remove v => exact (decode_frame H hH 1 v [] [] more hwf).trans (decodeParts_single H _ 1 v _ _ (Or.inr rfl))
  | addBatch vs =>
    exact (decode_frame H hH 2 vs.length _ [] more (by have := hwf.2; omega)).trans
      (decodeParts_batch H 2 _ more vs (Or.inl rfl) hwf.1 hwf.2)
  | removeBatch vs =>
    exact (decode_frame H hH 3 vs.length _ [] more (by have := hwf.2; omega)).trans
      (decodeParts_batch H 3 _ more vs (Or.inr rfl) hwf.1 hwf.2)
  | addRoaring pl n =>
    rw [show encode H (.addRoaring pl n) ++ more = frame H 4 pl.length (le 4 n) pl ++ (pl ++ more) from append_assoc ..]
    exact (decode_frame H hH 4 pl.length _ pl _ hwf.1).trans (decodeParts_roaring H 4 n _ pl more (Or.inl rfl) hwf.2)
  | removeRoaring pl n =>
    rw [show encode H (.removeRoaring pl n) ++ more = frame H 5 pl.length (le 4 n) pl ++ (pl ++ more) from append_assoc ..]
    exact (decode_frame H hH 5 pl.length _ pl _ hwf.1).trans (decodeParts_roaring H 5 n _ pl more (Or.inr rfl) hwf.2)

end PV.C05
