/-
Logged commands, the step function of a logged bitmap, the log invariant `LInv`; the per-value
paths `Add` / `Remove` and the batch paths `AddN` / `RemoveN` keep it, also when a write to the OpWriter
fails cleanly.  Each pair of paths is one function of the bitmap operation and the op constructor
(`lOpN`, `lOpNW`; for the recursions `lAddW` / `lRemoveW`, any function with their two equations).
-/
import PV.C05.LemmasReplay
namespace PV.C05
open List PV.C02

variable {σ : Type}

inductive LCmd where
  | add (vs : List Nat)
  | remove (vs : List Nat)
  | addN (vs : List Nat)
  | removeN (vs : List Nat)
  /-- `ImportRoaringBits(pl, clear, log=true)`; `gs` = the containers `pl` decodes to -/
  | importR (clear : Bool) (pl : Bytes) (gs : List (Nat × Cell))
  /-- re-encode: the snapshot becomes the current set (WriteTo optimizes), the log restarts -/
  | snap
  /-- reopen: the live bitmap is replaced by the one decoded from snapshot ++ log -/
  | reopen

def CmdOK (dec : Bytes → Option (List (Nat × Cell))) : LCmd → Prop
  | .add vs => ∀ v ∈ vs, v < 2 ^ 64
  | .remove vs => ∀ v ∈ vs, v < 2 ^ 64
  | .addN vs => (∀ v ∈ vs, v < 2 ^ 64) ∧ vs.length ≤ 2 ^ 59
  | .removeN vs => (∀ v ∈ vs, v < 2 ^ 64) ∧ vs.length ≤ 2 ^ 59
  | .importR _ pl gs => dec pl = some gs ∧ GroupsOK gs ∧ pl.length < 2 ^ 64 ∧ (Spec.groupValues gs).length < 2 ^ 32
  | .snap => True
  | .reopen => True

/-- State: the logged bitmap and the set held by the current snapshot. -/
def lstep (C : Coll σ) (p : Policy) (H : Bytes → Nat) (dec : Bytes → Option (List (Nat × Cell)))
    (load : Spec.S → BM σ) (st : LB σ × Spec.S) : LCmd → LB σ × Spec.S
  | .add vs => ((lAdd C p H st.1 vs).1, st.2)
  | .remove vs => ((lRemove C p H st.1 vs).1, st.2)
  | .addN vs => ((lAddN C p H st.1 vs).1, st.2)
  | .removeN vs => ((lRemoveN C p H st.1 vs).1, st.2)
  | .importR clear pl gs => ((lImport C p H st.1 clear pl gs).1, st.2)
  | .snap => (⟨optimize C p st.1.bm, [], 0, 0⟩, slice C st.1.bm)
  | .reopen =>
    match replay C p dec H (st.1.log.length + 1) (load st.2, 0, 0) st.1.log with
    | some r => (⟨r.1, st.1.log, r.2.1, r.2.2⟩, st.2)
    | none => st

/-- The invariant: the log is the encoding of a list of ops that explains the live bitmap. -/
def LInv (C : Coll σ) (ok : CollOK C) (H : Bytes → Nat) (dec : Bytes → Option (List (Nat × Cell)))
    (st : LB σ × Spec.S) : Prop :=
  ∃ ghost, LInvG C ok H dec st.2 st.1 ghost

def linit (C : Coll σ) : LB σ × Spec.S := (⟨BM.init C, [], 0, 0⟩, [])

/-- Writing an op and applying it (what `Add` / `Remove` do per value, and what replay does). -/
theorem linv_apply (C : Coll σ) (ok : CollOK C) (p : Policy) (H : Bytes → Nat)
    (dec : Bytes → Option (List (Nat × Cell))) (snap : Spec.S) (st : LB σ) (ghost : List LOp) (o : LOp)
    (hi : LInvG C ok H dec snap st ghost) (hwf : OpWF o) (hv : OpValid dec o) :
    LInvG C ok H dec snap { (writeOp H st o) with bm := applyOp C p dec st.bm o } (ghost ++ [o]) :=
  linv_write C ok H dec snap st ghost o _ hi hwf hv (applyOp_refines C ok p dec st.bm o hi.good hv).1
    (applyOp_refines C ok p dec st.bm o hi.good hv).2

theorem linv_congr {C : Coll σ} {ok : CollOK C} {H : Bytes → Nat} {dec : Bytes → Option (List (Nat × Cell))}
    {snap : Spec.S} {st st' : LB σ} {ghost : List LOp} (hi : LInvG C ok H dec snap st ghost)
    (hg : Good C ok st'.bm) (hs : slice C st'.bm = slice C st.bm) (hl : st'.log = st.log)
    (ho : st'.ops = st.ops) (hn : st'.opN = st.opN) : LInvG C ok H dec snap st' ghost :=
  ⟨hg, hl.trans hi.log, hi.wf, hs.trans hi.set, ho.trans hi.ops, hn.trans hi.opN⟩

/-- One op per value, logged and then applied (`Add`: `.add`, `directAdd`; `Remove`: `.remove`, `bmRemove`). -/
theorem lOps_inv (C : Coll σ) (ok : CollOK C) (p : Policy) (H : Bytes → Nat)
    (dec : Bytes → Option (List (Nat × Cell))) (snap : Spec.S) (mk : Nat → LOp) (f : BM σ → Nat → BM σ × Bool)
    (hf : ∀ b v, (f b v).1 = applyOp C p dec b (mk v))
    (hmk : ∀ v, v < 2 ^ 64 → OpWF (mk v) ∧ OpValid dec (mk v)) (vs : List Nat) :
    ∀ (st : LB σ) (c0 : Bool) (ghost : List LOp), LInvG C ok H dec snap st ghost → (∀ v ∈ vs, v < 2 ^ 64) →
    ∃ ghost', LInvG C ok H dec snap (vs.foldl (fun acc v =>
        ({ (writeOp H acc.1 (mk v)) with bm := (f (writeOp H acc.1 (mk v)).bm v).1 },
          acc.2 || (f (writeOp H acc.1 (mk v)).bm v).2)) (st, c0)).1 ghost' := by
  induction vs with
  | nil => intro st c0 ghost hi _; exact ⟨ghost, hi⟩
  | cons v t ih =>
    intro st c0 ghost hi hv
    obtain ⟨hwf, hval⟩ := hmk v (hv v mem_cons_self)
    have hstep := linv_apply C ok p H dec snap st ghost (mk v) hi hwf hval
    rw [← hf] at hstep
    exact ih _ _ _ hstep (fun w hw => hv w (mem_cons_of_mem _ hw))

theorem linv_init (C : Coll σ) (ok : CollOK C) (H : Bytes → Nat) (dec : Bytes → Option (List (Nat × Cell))) :
    LInv C ok H dec (linit C) :=
  ⟨[], ⟨good_init C ok, rfl, (fun _ h => nomatch h), slice_init C ok, rfl, rfl⟩⟩

/-- A write that succeeds or fails without leaving bytes behind. -/
def CleanOut (o : WOut) : Prop := o = .ok ∨ o = .fail 0

theorem lb_log_nil (st : LB σ) : ({ st with log := st.log ++ [] } : LB σ) = st := by
  cases st; simp

theorem cleanOut_head {outs : List WOut} (ho : ∀ o ∈ outs, CleanOut o) :
    CleanOut (outs.headD .ok) ∧ ∀ o ∈ outs.tail, CleanOut o := by
  cases outs with
  | nil => exact ⟨Or.inl rfl, fun _ h => nomatch h⟩
  | cons o t => exact ⟨ho o mem_cons_self, fun o' h => ho o' (mem_cons_of_mem _ h)⟩

/-- `Add(vs...)` / `Remove(vs...)` under clean write failures, for any function `F` that satisfies
the two defining equations of `lAddW` / `lRemoveW` with op constructor `mk` and bitmap step `f`. -/
theorem lOpW_inv (C : Coll σ) (ok : CollOK C) (p : Policy) (H : Bytes → Nat)
    (dec : Bytes → Option (List (Nat × Cell))) (snap : Spec.S) (mk : Nat → LOp) (f : BM σ → Nat → BM σ × Bool)
    (F : LB σ → Bool → List Nat → List WOut → LB σ × Bool × Bool)
    (hnil : ∀ st c outs, F st c [] outs = (st, c, false))
    (hcons : ∀ st c v vs outs, F st c (v :: vs) outs =
      let w := writeOpW H st (mk v) (outs.headD .ok)
      if w.2 then (w.1, false, true)
      else F { w.1 with bm := (f w.1.bm v).1 } (c || (f w.1.bm v).2) vs outs.tail)
    (hf : ∀ b v, (f b v).1 = applyOp C p dec b (mk v))
    (hmk : ∀ v, v < 2 ^ 64 → OpWF (mk v) ∧ OpValid dec (mk v)) (vs : List Nat) :
    ∀ (st : LB σ) (c0 : Bool) (outs : List WOut) (ghost : List LOp), LInvG C ok H dec snap st ghost →
    (∀ v ∈ vs, v < 2 ^ 64) → (∀ o ∈ outs, CleanOut o) →
    ∃ ghost', LInvG C ok H dec snap (F st c0 vs outs).1 ghost' := by
  induction vs with
  | nil => intro st c0 outs ghost hi _ _; rw [hnil]; exact ⟨ghost, hi⟩
  | cons v t ih =>
    intro st c0 outs ghost hi hv ho
    obtain ⟨hwf, hval⟩ := hmk v (hv v mem_cons_self)
    obtain ⟨hhead, htail⟩ := cleanOut_head ho
    rw [hcons]
    rcases hhead with e | e <;> rw [e]
    · have hstep := linv_apply C ok p H dec snap st ghost (mk v) hi hwf hval
      rw [← hf] at hstep
      exact ih _ _ _ _ hstep (fun w hw => hv w (mem_cons_of_mem _ hw)) htail
    · simp only [writeOpW, ↓reduceIte, take_zero, lb_log_nil]
      exact ⟨ghost, hi⟩

/-- `lAddN C p H` is `lOpN (directAddN C p) .addBatch H`, `lRemoveN C p H` is
`lOpN (directRemoveN C p) .removeBatch H`, by unfolding. -/
def lOpN (fwd : BM σ → List Nat → BM σ × List Nat) (mk : List Nat → LOp) (H : Bytes → Nat)
    (st : LB σ) (vs : List Nat) : LB σ × List Nat :=
  if vs.isEmpty then (st, [])
  else
    let r := fwd st.bm vs
    (writeOp H { st with bm := r.1 } (mk r.2), r.2)

/-- `lAddNW C p H` is `lOpNW (directAddN C p) (directRemoveN C p) .addBatch H`, `lRemoveNW C p H` is
`lOpNW (directRemoveN C p) (directAddN C p) .removeBatch H`, by unfolding. -/
def lOpNW (fwd back : BM σ → List Nat → BM σ × List Nat) (mk : List Nat → LOp) (H : Bytes → Nat)
    (st : LB σ) (vs : List Nat) (out : WOut) : LB σ × List Nat × Nat × Bool :=
  if vs.isEmpty then (st, [], 0, false)
  else
    let r := fwd st.bm vs
    let w := writeOpW H { st with bm := r.1 } (mk r.2) out
    let a := r.2 ++ vs.drop r.2.length
    if w.2 then
      let bk := back w.1.bm r.2
      ({ w.1 with bm := bk.1 }, bk.2 ++ a.drop bk.2.length, 0, true)
    else (w.1, a, r.2.length, false)

/-- The op a batch path of polarity `pol` logs: what it means for the set, and that it is well formed
for `uint64` values that fit a batch. -/
structure BatchOp (dec : Bytes → Option (List (Nat × Cell))) (pol : Bool) (mk : List Nat → LOp) : Prop where
  apply : ∀ s vs, specApply dec s (mk vs) = Spec.putAll pol s vs
  wf : ∀ vs, (∀ v ∈ vs, v < 2 ^ 64) → vs.length ≤ 2 ^ 59 → OpWF (mk vs) ∧ OpValid dec (mk vs)

theorem batchOp_add (dec : Bytes → Option (List (Nat × Cell))) : BatchOp dec true .addBatch :=
  ⟨fun _ _ => rfl, fun _ h1 h2 => ⟨⟨h1, h2⟩, h1⟩⟩

theorem batchOp_remove (dec : Bytes → Option (List (Nat × Cell))) : BatchOp dec false .removeBatch :=
  ⟨fun _ _ => rfl, fun _ h1 h2 => ⟨⟨h1, h2⟩, h1⟩⟩

section batch
variable {C : Coll σ} {ok : CollOK C} {H : Bytes → Nat} {dec : Bytes → Option (List (Nat × Cell))}
  {snap : Spec.S} {pol : Bool} {fwd back : BM σ → List Nat → BM σ × List Nat} {mk : List Nat → LOp}
  {st : LB σ} {ghost : List LOp} {vs : List Nat}

/-- `AddN` / `RemoveN`: apply, then log the changed values. -/
theorem lOpN_inv (hf : BatchSpec C ok pol fwd) (hm : BatchOp dec pol mk) (hi : LInvG C ok H dec snap st ghost)
    (hvs : ∀ v ∈ vs, v < 2 ^ 64) (hlen : vs.length ≤ 2 ^ 59) :
    ∃ ghost', LInvG C ok H dec snap (lOpN fwd mk H st vs).1 ghost' := by
  unfold lOpN
  by_cases he : vs.isEmpty = true
  · rw [if_pos he]; exact ⟨ghost, hi⟩
  · rw [if_neg he]
    obtain ⟨d1, d2, d3, d4⟩ := batch_logged hf st.bm vs hi.good hvs
    obtain ⟨w1, w2⟩ := hm.wf _ d3 (Nat.le_trans d4 hlen)
    exact ⟨_, linv_write C ok H dec snap st ghost _ _ hi w1 w2 d1 (d2.trans (hm.apply _ _).symm)⟩

/-- The write fails after `k` bytes: the inverse operation on exactly the changed values restores the set. -/
theorem lOpNW_failed (hf : BatchSpec C ok pol fwd) (hb : BatchSpec C ok (!pol) back) (mk : List Nat → LOp)
    (H : Bytes → Nat) (k : Nat) (hg : Good C ok st.bm) (hvs : ∀ v ∈ vs, v < 2 ^ 64) (hne : vs.isEmpty = false) :
    Good C ok (lOpNW fwd back mk H st vs (.fail k)).1.bm ∧
    slice C (lOpNW fwd back mk H st vs (.fail k)).1.bm = slice C st.bm ∧
    (lOpNW fwd back mk H st vs (.fail k)).1.ops = st.ops ∧ (lOpNW fwd back mk H st vs (.fail k)).1.opN = st.opN ∧
    (lOpNW fwd back mk H st vs (.fail k)).1.log
      = st.log ++ (encode H (mk (Spec.changed pol (slice C st.bm) vs))).take k ∧
    (lOpNW fwd back mk H st vs (.fail k)).2.2.1 = 0 ∧ (lOpNW fwd back mk H st vs (.fail k)).2.2.2 = true := by
  obtain ⟨d1, d2, d3⟩ := hf st.bm vs hg hvs
  obtain ⟨r1, r2, _⟩ := hb (fwd st.bm vs).1 (fwd st.bm vs).2 d1
    (fun v hv => hvs v ((Spec.mem_changed (asc_slice hg)).mp (d3 ▸ hv)).1)
  unfold lOpNW
  rw [if_neg (by rw [hne]; exact Bool.false_ne_true)]
  dsimp only [writeOpW]
  rw [if_pos rfl]
  refine ⟨r1, ?_, rfl, rfl, by rw [d3], rfl, rfl⟩
  show slice C (back (fwd st.bm vs).1 (fwd st.bm vs).2).1 = _
  rw [r2, d2, d3]; exact Spec.putAll_undo pol _ (asc_slice hg) vs

/-- `AddN` / `RemoveN` with a writer that succeeds or fails cleanly: logged, or rolled back. -/
theorem lOpNW_clean_inv (hf : BatchSpec C ok pol fwd) (hb : BatchSpec C ok (!pol) back) (hm : BatchOp dec pol mk)
    (hi : LInvG C ok H dec snap st ghost) (hvs : ∀ v ∈ vs, v < 2 ^ 64) (hlen : vs.length ≤ 2 ^ 59) {out : WOut}
    (ho : CleanOut out) : ∃ ghost', LInvG C ok H dec snap (lOpNW fwd back mk H st vs out).1 ghost' := by
  rcases ho with e | e <;> rw [e]
  · have heq : (lOpNW fwd back mk H st vs .ok).1 = (lOpN fwd mk H st vs).1 := by
      unfold lOpNW lOpN; split <;> rfl
    rw [heq]; exact lOpN_inv hf hm hi hvs hlen
  · by_cases hne : vs.isEmpty = true
    · have : (lOpNW fwd back mk H st vs (.fail 0)).1 = st := by unfold lOpNW; rw [if_pos hne]
      rw [this]; exact ⟨ghost, hi⟩
    · obtain ⟨f1, f2, f3, f4, f5, _, _⟩ := lOpNW_failed hf hb mk H 0 hi.good hvs (by simpa using hne)
      exact ⟨ghost, linv_congr hi f1 f2 (by rw [f5, take_zero, append_nil]) f3 f4⟩

end batch

end PV.C05
