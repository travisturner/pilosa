/-
The replay loop over a concatenation of encoded ops; ops refine the set semantics; the log invariant.
-/
import PV.C05.Lemmas
import PV.C02.LemmasReads
namespace PV.C05
open List PV.C02

variable {σ : Type}

def encodeAll (H : Bytes → Nat) (ol : List LOp) : Bytes := ol.flatMap (encode H)

/-- What the replay loop computes for a list of ops. -/
def foldOps (C : Coll σ) (p : Policy) (dec : Bytes → Option (List (Nat × Cell)))
    (st : BM σ × Nat × Nat) (ol : List LOp) : BM σ × Nat × Nat :=
  ol.foldl (fun st o => (applyOp C p dec st.1 o, st.2.1 + 1, st.2.2 + o.count)) st

theorem size_pos (o : LOp) : 13 ≤ o.size := by cases o <;> simp only [LOp.size] <;> omega

theorem replay_encodeAll (C : Coll σ) (p : Policy) (dec : Bytes → Option (List (Nat × Cell)))
    (H : Bytes → Nat) (hH : ∀ bs, H bs < 2 ^ 32) (ol : List LOp) (hwf : ∀ o ∈ ol, OpWF o) :
    ∀ (fuel : Nat) (st : BM σ × Nat × Nat), (encodeAll H ol).length ≤ fuel →
    replay C p dec H fuel st (encodeAll H ol) = some (foldOps C p dec st ol) := by
  induction ol with
  | nil =>
    intro fuel st _
    cases fuel <;> simp [encodeAll, replay, foldOps]
  | cons o t ih =>
    intro fuel st hf
    have henc : encodeAll H (o :: t) = encode H o ++ encodeAll H t := by
      unfold encodeAll; rw [flatMap_cons]
    rw [henc] at hf ⊢
    have hlen := length_encode H o
    have hpos := size_pos o
    rw [length_append, hlen] at hf
    cases fuel with
    | zero => omega
    | succ f =>
      have hne : (encode H o ++ encodeAll H t).isEmpty = false := by
        cases h : encode H o ++ encodeAll H t with
        | nil => have := congrArg length h; rw [length_append, hlen] at this; simp at this; omega
        | cons _ _ => rfl
      unfold replay
      rw [hne]
      simp only [Bool.false_eq_true, ↓reduceIte]
      rw [decode_encode H hH o (hwf o (by simp)) (encodeAll H t)]
      simp only
      rw [drop_append_len _ _ _ hlen]
      rw [ih (fun o' ho' => hwf o' (by simp [ho'])) f _ (by omega)]
      rfl

/-- Ops whose effect on the set is defined: values are uint64, payloads decode to well-formed data. -/
def OpValid (dec : Bytes → Option (List (Nat × Cell))) : LOp → Prop
  | .add v => v < 2 ^ 64
  | .remove v => v < 2 ^ 64
  | .addBatch vs => ∀ v ∈ vs, v < 2 ^ 64
  | .removeBatch vs => ∀ v ∈ vs, v < 2 ^ 64
  | .addRoaring pl _ => ∀ gs, dec pl = some gs → GroupsOK gs
  | .removeRoaring pl _ => ∀ gs, dec pl = some gs → GroupsOK gs

theorem applyOp_refines (C : Coll σ) (ok : CollOK C) (p : Policy) (dec : Bytes → Option (List (Nat × Cell)))
    (b : BM σ) (o : LOp) (hg : Good C ok b) (hv : OpValid dec o) :
    Good C ok (applyOp C p dec b o) ∧ slice C (applyOp C p dec b o) = specApply dec (slice C b) o := by
  cases o with
  | add v => obtain ⟨h1, h2, _⟩ := directAdd_spec ok p b v hg hv; exact ⟨h1, h2⟩
  | remove v => obtain ⟨h1, h2, _⟩ := bmRemove_spec ok p b v hg hv; exact ⟨h1, h2⟩
  | addBatch vs => obtain ⟨h1, h2, _⟩ := directAddN_spec ok p b vs hg hv; exact ⟨h1, h2⟩
  | removeBatch vs => obtain ⟨h1, h2, _⟩ := directRemoveN_spec ok p b vs hg hv; exact ⟨h1, h2⟩
  | addRoaring pl n =>
    simp only [applyOp, specApply]
    cases hd : dec pl with
    | none => exact ⟨hg, rfl⟩
    | some gs =>
      obtain ⟨h1, h2, _⟩ := importSet_spec ok p b gs hg (hv gs hd)
      exact ⟨h1, h2⟩
  | removeRoaring pl n =>
    simp only [applyOp, specApply]
    cases hd : dec pl with
    | none => exact ⟨hg, rfl⟩
    | some gs =>
      obtain ⟨h1, h2, _⟩ := importClear_spec ok p b gs hg (hv gs hd)
      exact ⟨h1, h2⟩

theorem foldOps_refines (C : Coll σ) (ok : CollOK C) (p : Policy) (dec : Bytes → Option (List (Nat × Cell)))
    (ol : List LOp) (hv : ∀ o ∈ ol, OpValid dec o) :
    ∀ (b : BM σ) (n m : Nat), Good C ok b →
    Good C ok (foldOps C p dec (b, n, m) ol).1 ∧
    slice C (foldOps C p dec (b, n, m) ol).1 = ol.foldl (specApply dec) (slice C b) ∧
    (foldOps C p dec (b, n, m) ol).2.1 = n + ol.length ∧
    (foldOps C p dec (b, n, m) ol).2.2 = m + (ol.map LOp.count).sum := by
  induction ol with
  | nil => intro b n m hg; exact ⟨hg, rfl, rfl, rfl⟩
  | cons o t ih =>
    intro b n m hg
    obtain ⟨a1, a2⟩ := applyOp_refines C ok p dec b o hg (hv o (by simp))
    obtain ⟨i1, i2, i3, i4⟩ := ih (fun o' ho' => hv o' (by simp [ho'])) _ (n + 1) (m + o.count) a1
    unfold foldOps at *
    simp only [foldl_cons, map_cons, sum_cons, length_cons]
    refine ⟨i1, ?_, ?_, ?_⟩
    · rw [i2, a2]
    · rw [i3]; omega
    · rw [i4]; omega

theorem addAll_newly (s : Spec.S) (hs : Asc s) (vs : List Nat) :
    Spec.addAll s (Spec.newly s vs) = Spec.addAll s vs := Spec.putAll_changed true s hs vs

theorem removeAll_gone (s : Spec.S) (hs : Asc s) (vs : List Nat) :
    Spec.removeAll s (Spec.gone s vs) = Spec.removeAll s vs := Spec.putAll_changed false s hs vs

/-- A batch operation of polarity `pol` on the bitmap (`DirectAddN`: `true`, `DirectRemoveN`: `false`):
it puts the values and hands back those that changed. -/
def BatchSpec (C : Coll σ) (ok : CollOK C) (pol : Bool) (f : BM σ → List Nat → BM σ × List Nat) : Prop :=
  ∀ b vs, Good C ok b → (∀ v ∈ vs, v < 2 ^ 64) →
    Good C ok (f b vs).1 ∧ slice C (f b vs).1 = Spec.putAll pol (slice C b) vs ∧
    (f b vs).2 = Spec.changed pol (slice C b) vs

theorem directAddN_batch {C : Coll σ} (ok : CollOK C) (p : Policy) : BatchSpec C ok true (directAddN C p) :=
  directAddN_spec ok p

theorem directRemoveN_batch {C : Coll σ} (ok : CollOK C) (p : Policy) : BatchSpec C ok false (directRemoveN C p) :=
  directRemoveN_spec ok p

/-- What `AddN` / `RemoveN` log explains the bitmap afterwards, holds `uint64` values and is no longer
than the argument. -/
theorem batch_logged {C : Coll σ} {ok : CollOK C} {pol : Bool} {f : BM σ → List Nat → BM σ × List Nat}
    (hf : BatchSpec C ok pol f) (b : BM σ) (vs : List Nat) (hg : Good C ok b) (hvs : ∀ v ∈ vs, v < 2 ^ 64) :
    Good C ok (f b vs).1 ∧ slice C (f b vs).1 = Spec.putAll pol (slice C b) (f b vs).2 ∧
    (∀ v ∈ (f b vs).2, v < 2 ^ 64) ∧ (f b vs).2.length ≤ vs.length := by
  obtain ⟨d1, d2, d3⟩ := hf b vs hg hvs
  rw [d3]
  exact ⟨d1, d2.trans (Spec.putAll_changed pol _ (asc_slice hg) vs).symm,
    fun v hv => hvs v ((Spec.mem_changed (asc_slice hg)).mp hv).1, Spec.length_changed_le pol _ vs⟩

/-- The live logged bitmap `st` with snapshot set `snap` is explained by the op list `ghost`. -/
structure LInvG (C : Coll σ) (ok : CollOK C) (H : Bytes → Nat) (dec : Bytes → Option (List (Nat × Cell)))
    (snap : Spec.S) (st : LB σ) (ghost : List LOp) : Prop where
  good : Good C ok st.bm
  log : st.log = encodeAll H ghost
  wf : ∀ o ∈ ghost, OpWF o ∧ OpValid dec o
  set : slice C st.bm = ghost.foldl (specApply dec) snap
  ops : st.ops = ghost.length
  opN : st.opN = (ghost.map LOp.count).sum

/-- Appending one op whose set effect is what the bitmap did. -/
theorem linv_write (C : Coll σ) (ok : CollOK C) (H : Bytes → Nat) (dec : Bytes → Option (List (Nat × Cell)))
    (snap : Spec.S) (st : LB σ) (ghost : List LOp) (o : LOp) (bm' : BM σ)
    (hi : LInvG C ok H dec snap st ghost) (hwf : OpWF o) (hv : OpValid dec o)
    (hg : Good C ok bm') (hs : slice C bm' = specApply dec (slice C st.bm) o) :
    LInvG C ok H dec snap { (writeOp H st o) with bm := bm' } (ghost ++ [o]) where
  good := hg
  log := by
    show st.log ++ encode H o = _
    rw [hi.log]; unfold encodeAll; rw [flatMap_append]; simp
  wf := by
    intro o' ho'
    rcases mem_append.mp ho' with h | h
    · exact hi.wf o' h
    · simp at h; subst h; exact ⟨hwf, hv⟩
  set := by
    show slice C bm' = _
    rw [foldl_append, hs, hi.set]; rfl
  ops := by show st.ops + 1 = _; rw [hi.ops]; simp
  opN := by show st.opN + o.count = _; rw [hi.opN]; simp

end PV.C05
