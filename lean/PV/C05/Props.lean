/-
C05 property theorems: replaying the operation log reproduces the in-memory bitmap.

Full-strength statement (proved below): for every history of logged mutations (Add / Remove one op
per value, logged before applying; AddN / RemoveN logging `a[:changed]` after applying;
ImportRoaringBits set / clear logging payload + changed count; re-encoding; reopening from
snapshot ++ log) on either container collection, decoding the bytes the OpWriter received on top
of the snapshot's set yields a bitmap with exactly the live set, and the decoded `(ops, opN)`
equal the live counters — whatever collection the decoding bitmap uses and whatever aliasing
policy the kernels follow.

Parameters (trusted base, see design/C05.md): the checksum `H` is any function into uint32 (the
driver uses FNV-1a 32); `dec` is the roaring payload decoder of property C04, `load` the snapshot
decoder of C04 (a bitmap holding exactly the snapshot's set).
-/
import PV.C05.LemmasLogged
import PV.C02.LemmasBT
import PV.C02.LemmasSC
namespace PV.C05
open List PV.C02

variable {σ : Type}

/-- **Op round trip**: what `op.WriteTo` writes, followed by anything, decodes to the op and to
its size; the size is the number of bytes written. -/
theorem C05_op_roundtrip (H : Bytes → Nat) (hH : ∀ bs, H bs < 2 ^ 32) (o : LOp) (hwf : OpWF o) (more : Bytes) :
    decode H (encode H o ++ more) = some (o, o.size) ∧ (encode H o).length = o.size :=
  ⟨decode_encode H hH o hwf more, length_encode H o⟩

theorem C05_fnv32a_range (bs : Bytes) : fnv32a bs < 2 ^ 32 := fnv32a_lt bs

/-- **Replay.** Under the invariant, decoding the log on top of ANY well-formed bitmap that holds
the snapshot's set (any collection `C'`, any policy) succeeds, yields exactly the live set, and
counts exactly the live `(ops, opN)`. -/
theorem C05_replay (C : Coll σ) (ok : CollOK C) (H : Bytes → Nat) (hH : ∀ bs, H bs < 2 ^ 32)
    (dec : Bytes → Option (List (Nat × Cell))) (st : LB σ × Spec.S) (hi : LInv C ok H dec st)
    {σ' : Type} (C' : Coll σ') (ok' : CollOK C') (p' : Policy) (b0 : BM σ')
    (hg0 : Good C' ok' b0) (hs0 : slice C' b0 = st.2) :
    ∃ r, replay C' p' dec H (st.1.log.length + 1) (b0, 0, 0) st.1.log = some r ∧
      Good C' ok' r.1 ∧ slice C' r.1 = slice C st.1.bm ∧ r.2.1 = st.1.ops ∧ r.2.2 = st.1.opN := by
  obtain ⟨ghost, hg⟩ := hi
  have hrep := replay_encodeAll C' p' dec H hH ghost (fun o ho => (hg.wf o ho).1)
    (st.1.log.length + 1) (b0, 0, 0) (by rw [hg.log]; omega)
  obtain ⟨f1, f2, f3, f4⟩ := foldOps_refines C' ok' p' dec ghost (fun o ho => (hg.wf o ho).2) b0 0 0 hg0
  refine ⟨_, by rw [hg.log] at hrep ⊢; exact hrep, f1, ?_, ?_, ?_⟩
  · rw [f2, hs0, hg.set]
  · rw [f3, hg.ops, Nat.zero_add]
  · rw [f4, hg.opN, Nat.zero_add]

/-- **Every logged step keeps the invariant** (hence `C05_replay` holds after it). `load` is the
snapshot decoder: a well-formed bitmap holding exactly the given set. -/
theorem C05_logged_step (C : Coll σ) (ok : CollOK C) (p : Policy) (H : Bytes → Nat) (hH : ∀ bs, H bs < 2 ^ 32)
    (dec : Bytes → Option (List (Nat × Cell))) (load : Spec.S → BM σ)
    (hload : ∀ s, Good C ok (load s) ∧ slice C (load s) = s)
    (st : LB σ × Spec.S) (cmd : LCmd) (hi : LInv C ok H dec st) (hc : CmdOK dec cmd) :
    LInv C ok H dec (lstep C p H dec load st cmd) := by
  obtain ⟨ghost, hg⟩ := hi
  cases cmd with
  | add vs =>
    exact lOps_inv C ok p H dec st.2 .add (directAdd C p) (fun _ _ => rfl) (fun _ h => ⟨h, h⟩) vs st.1 false ghost hg hc
  | remove vs =>
    exact lOps_inv C ok p H dec st.2 .remove (bmRemove C p) (fun _ _ => rfl) (fun _ h => ⟨h, h⟩) vs st.1 false ghost hg hc
  | addN vs => exact lOpN_inv (directAddN_batch ok p) (batchOp_add dec) hg hc.1 hc.2
  | removeN vs => exact lOpN_inv (directRemoveN_batch ok p) (batchOp_remove dec) hg hc.1 hc.2
  | importR clear pl gs =>
    obtain ⟨hd, hgs, hpl, hn⟩ := hc
    have hv : ∀ gs', dec pl = some gs' → GroupsOK gs' := fun gs' hd' => by rw [hd] at hd'; cases hd'; exact hgs
    show ∃ ghost', LInvG C ok H dec st.2 (lImport C p H st.1 clear pl gs).1 ghost'
    unfold lImport
    -- the import is what replaying its op does; the logged count fits in 32 bits
    have hcnt : (importBits C p clear st.1.bm gs).2 < 2 ^ 32 := by
      rw [(importBits_spec ok p clear st.1.bm gs hg.good hgs).2.2]
      exact Nat.lt_of_le_of_lt (length_filter_le _ _) hn
    cases clear with
    | false =>
      have := linv_apply C ok p H dec st.2 st.1 ghost (.addRoaring pl (importBits C p false st.1.bm gs).2) hg
        ⟨hpl, hcnt⟩ hv
      simp only [applyOp, hd] at this
      exact ⟨_, this⟩
    | true =>
      have := linv_apply C ok p H dec st.2 st.1 ghost (.removeRoaring pl (importBits C p true st.1.bm gs).2) hg
        ⟨hpl, hcnt⟩ hv
      simp only [applyOp, hd] at this
      exact ⟨_, this⟩
  | snap =>
    obtain ⟨o1, o2⟩ := optimize_spec ok p st.1.bm hg.good
    exact ⟨[], ⟨o1, rfl, fun _ h => absurd h (by simp), o2, rfl, rfl⟩⟩
  | reopen =>
    obtain ⟨hl1, hl2⟩ := hload st.2
    obtain ⟨r, hr, r1, r2, r3, r4⟩ := C05_replay C ok H hH dec st ⟨ghost, hg⟩ C ok p (load st.2) hl1 hl2
    show LInv C ok H dec (match replay C p dec H (st.1.log.length + 1) (load st.2, 0, 0) st.1.log with
      | some r => (⟨r.1, st.1.log, r.2.1, r.2.2⟩, st.2)
      | none => st)
    rw [hr]
    exact ⟨ghost, linv_congr hg r1 r2 rfl r3 r4⟩

/-- **Every history of logged mutations**, from the empty bitmap: the invariant holds at the end,
so (by `C05_replay`) snapshot ++ log decodes to the live set with the live counters. -/
theorem C05_history (C : Coll σ) (ok : CollOK C) (p : Policy) (H : Bytes → Nat) (hH : ∀ bs, H bs < 2 ^ 32)
    (dec : Bytes → Option (List (Nat × Cell))) (load : Spec.S → BM σ)
    (hload : ∀ s, Good C ok (load s) ∧ slice C (load s) = s)
    (cmds : List LCmd) (hc : ∀ c ∈ cmds, CmdOK dec c) :
    LInv C ok H dec (cmds.foldl (lstep C p H dec load) (linit C)) :=
  List.foldlRecOn cmds _ (linv_init C ok H dec) fun st hi c hc' =>
    C05_logged_step C ok p H hH dec load hload st c hi (hc c hc')

/-- The property, end to end, for the real checksum: after any history, decoding on a B-tree or a
slice bitmap gives the live set and counters. -/
theorem C05_history_replay (C : Coll σ) (ok : CollOK C) (p : Policy)
    (dec : Bytes → Option (List (Nat × Cell))) (load : Spec.S → BM σ)
    (hload : ∀ s, Good C ok (load s) ∧ slice C (load s) = s)
    (cmds : List LCmd) (hc : ∀ c ∈ cmds, CmdOK dec c)
    {σ' : Type} (C' : Coll σ') (ok' : CollOK C') (p' : Policy) (b0 : BM σ') (hg0 : Good C' ok' b0)
    (hs0 : slice C' b0 = (cmds.foldl (lstep C p fnv32a dec load) (linit C)).2) :
    ∃ r, replay C' p' dec fnv32a ((cmds.foldl (lstep C p fnv32a dec load) (linit C)).1.log.length + 1) (b0, 0, 0)
        (cmds.foldl (lstep C p fnv32a dec load) (linit C)).1.log = some r ∧
      slice C' r.1 = slice C (cmds.foldl (lstep C p fnv32a dec load) (linit C)).1.bm ∧
      r.2.1 = (cmds.foldl (lstep C p fnv32a dec load) (linit C)).1.ops ∧
      r.2.2 = (cmds.foldl (lstep C p fnv32a dec load) (linit C)).1.opN := by
  have hi := C05_history C ok p fnv32a fnv32a_lt dec load hload cmds hc
  obtain ⟨r, h1, _, h3, h4, h5⟩ := C05_replay C ok fnv32a fnv32a_lt dec _ hi C' ok' p' b0 hg0 hs0
  exact ⟨r, h1, h3, h4, h5⟩

/-! ### Writer failures

`WOut` = what one `Write` on the OpWriter does (`Model.lean`): `ok`, or an error after `k` bytes.

Full-strength statement one would like (NOT true of the code, see the two witnesses below):
  *every logged mutation whose write fails leaves the set, `ops`, `opN` and the log exactly as
  they were, and reports the error.*
What the code guarantees, and what is proved:
  * `C05_failed_write_unchanged`: AddN / RemoveN whose write fails — after any number of bytes —
    roll the bitmap back to exactly the set it held, count nothing and report `(0, err)`; the only
    trace is the `k` bytes the writer took.
  * `C05_failing_step_partial`: under clean failures (`k = 0`) Add / Remove / AddN / RemoveN keep
    the log invariant, so `C05_replay` still holds after them (for Add / Remove: the values before
    the failing write are logged and applied, the failing one and the later ones are neither).
Excluded, with witnesses: (a) `ImportRoaringBits(log=true)` applies the import, then logs it, and
on a failed write returns the error without undoing anything (`C05_import_failed_write_witness`);
(b) a short write (`k > 0`) leaves a torn op in the log, which the replay loop refuses
(`C05_short_write_witness`). -/

/-- **A failed write leaves AddN / RemoveN without effect.** -/
theorem C05_failed_write_unchanged (C : Coll σ) (ok : CollOK C) (p : Policy) (H : Bytes → Nat) (st : LB σ)
    (vs : List Nat) (k : Nat) (hg : Good C ok st.bm) (hvs : ∀ v ∈ vs, v < 2 ^ 64) (hne : vs.isEmpty = false) :
    (Good C ok (lAddNW C p H st vs (.fail k)).1.bm ∧
     slice C (lAddNW C p H st vs (.fail k)).1.bm = slice C st.bm ∧
     (lAddNW C p H st vs (.fail k)).1.ops = st.ops ∧ (lAddNW C p H st vs (.fail k)).1.opN = st.opN ∧
     (lAddNW C p H st vs (.fail k)).1.log
       = st.log ++ (encode H (.addBatch (Spec.newly (slice C st.bm) vs))).take k ∧
     (lAddNW C p H st vs (.fail k)).2.2.1 = 0 ∧ (lAddNW C p H st vs (.fail k)).2.2.2 = true) ∧
    (Good C ok (lRemoveNW C p H st vs (.fail k)).1.bm ∧
     slice C (lRemoveNW C p H st vs (.fail k)).1.bm = slice C st.bm ∧
     (lRemoveNW C p H st vs (.fail k)).1.ops = st.ops ∧ (lRemoveNW C p H st vs (.fail k)).1.opN = st.opN ∧
     (lRemoveNW C p H st vs (.fail k)).1.log
       = st.log ++ (encode H (.removeBatch (Spec.gone (slice C st.bm) vs))).take k ∧
     (lRemoveNW C p H st vs (.fail k)).2.2.1 = 0 ∧ (lRemoveNW C p H st vs (.fail k)).2.2.2 = true) :=
  ⟨lOpNW_failed (directAddN_batch ok p) (directRemoveN_batch ok p) .addBatch H k hg hvs hne,
   lOpNW_failed (directRemoveN_batch ok p) (directAddN_batch ok p) .removeBatch H k hg hvs hne⟩

/-- **Clean write failures keep the log invariant** for Add / Remove / AddN / RemoveN. -/
theorem C05_failing_step_partial (C : Coll σ) (ok : CollOK C) (p : Policy) (H : Bytes → Nat) (hH : ∀ bs, H bs < 2 ^ 32)
    (dec : Bytes → Option (List (Nat × Cell))) (load : Spec.S → BM σ)
    (hload : ∀ s, Good C ok (load s) ∧ slice C (load s) = s)
    (st : LB σ × Spec.S) (hi : LInv C ok H dec st) :
    (∀ vs outs c0, (∀ v ∈ vs, v < 2 ^ 64) → (∀ o ∈ outs, CleanOut o) →
        LInv C ok H dec ((lAddW C p H st.1 c0 vs outs).1, st.2)) ∧
    (∀ vs outs c0, (∀ v ∈ vs, v < 2 ^ 64) → (∀ o ∈ outs, CleanOut o) →
        LInv C ok H dec ((lRemoveW C p H st.1 c0 vs outs).1, st.2)) ∧
    (∀ vs out, CmdOK dec (.addN vs) → CleanOut out → LInv C ok H dec ((lAddNW C p H st.1 vs out).1, st.2)) ∧
    (∀ vs out, CmdOK dec (.removeN vs) → CleanOut out → LInv C ok H dec ((lRemoveNW C p H st.1 vs out).1, st.2)) ∧
    (∀ clear pl gs, CmdOK dec (.importR clear pl gs) →
        LInv C ok H dec ((lImportW C p H st.1 clear pl gs .ok).1, st.2)) := by
  obtain ⟨ghost, hg⟩ := hi
  refine ⟨?_, ?_, ?_, ?_, ?_⟩
  · intro vs outs c0 hv ho
    exact lOpW_inv C ok p H dec st.2 .add (directAdd C p) (lAddW C p H) (fun _ _ _ => rfl) (fun _ _ _ _ _ => rfl)
      (fun _ _ => rfl) (fun _ h => ⟨h, h⟩) vs st.1 c0 outs ghost hg hv ho
  · intro vs outs c0 hv ho
    exact lOpW_inv C ok p H dec st.2 .remove (bmRemove C p) (lRemoveW C p H) (fun _ _ _ => rfl) (fun _ _ _ _ _ => rfl)
      (fun _ _ => rfl) (fun _ h => ⟨h, h⟩) vs st.1 c0 outs ghost hg hv ho
  · intro vs out hc ho
    exact lOpNW_clean_inv (directAddN_batch ok p) (directRemoveN_batch ok p) (batchOp_add dec) hg hc.1 hc.2 ho
  · intro vs out hc ho
    exact lOpNW_clean_inv (directRemoveN_batch ok p) (directAddN_batch ok p) (batchOp_remove dec) hg hc.1 hc.2 ho
  · intro clear pl gs hc
    exact C05_logged_step C ok p H hH dec load hload st (.importR clear pl gs) ⟨ghost, hg⟩ hc

def polA : Policy :=
  ⟨fun _ _ => false, fun _ _ => false, fun _ _ => false, fun _ => false, fun _ => false, fun _ _ => false⟩

/-- Witness (a): a set-import of `{7}` whose write fails cleanly — the bitmap now holds 7, the log
is empty and nothing was counted: snapshot ++ log decodes to the empty set, not to the live one. -/
theorem C05_import_failed_write_witness :
    slice btColl (lImportW btColl polA fnv32a (linit btColl).1 false [1, 2, 3] [(0, [7])] (.fail 0)).1.bm = [7] ∧
    (lImportW btColl polA fnv32a (linit btColl).1 false [1, 2, 3] [(0, [7])] (.fail 0)).1.log = [] ∧
    (lImportW btColl polA fnv32a (linit btColl).1 false [1, 2, 3] [(0, [7])] (.fail 0)).1.ops = 0 ∧
    (lImportW btColl polA fnv32a (linit btColl).1 false [1, 2, 3] [(0, [7])] (.fail 0)).2.2 = true := by
  decide

/-- Witness (b): `AddN(7)` whose write returns an error after 5 bytes — the bitmap is rolled back,
but the 5 bytes stay in the log and the replay loop cannot decode them any more. -/
theorem C05_short_write_witness :
    slice btColl (lAddNW btColl polA fnv32a (linit btColl).1 [7] (.fail 5)).1.bm = [] ∧
    (lAddNW btColl polA fnv32a (linit btColl).1 [7] (.fail 5)).1.log.length = 5 ∧
    decode fnv32a (lAddNW btColl polA fnv32a (linit btColl).1 [7] (.fail 5)).1.log = none := by
  decide

/-! ### Non-vacuity -/

/-- A concrete op survives the round trip with the real checksum (batch with a duplicate). -/
example : decode fnv32a (encode fnv32a (.addBatch [7, 65536, 7]) ++ [1, 2, 3]) = some (.addBatch [7, 65536, 7], 37) := by
  decide

example : OpWF (.addBatch [7, 65536, 7]) := by simp [OpWF]

example : CmdOK (fun _ => some [(0, [7, 9])]) (.importR false [60, 48] [(0, [7, 9])]) := by
  simp [CmdOK, GroupsOK, KeysAsc, Asc, CellOK, INVALID, W, Spec.groupValues]

end PV.C05
