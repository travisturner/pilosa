/-
Property: any byte string supplied as an import payload (Pilosa or official roaring), as stored
bitmap data, as PQL text or as an internal cluster message is accepted or rejected with an
error; the process never panics outside a recovered request and never hangs; a rejected request
leaves stored data unchanged.

What is PROVED here, for ALL inputs: the roaring decoders (import iterators, ImportRoaringBits,
UnmarshalBinary incl. the op-log loop, both formats) never perform an out-of-bounds access —
`Res.panic` is the outcome of every slice/index/unchecked-view expression that leaves the buffer —
and they terminate (structural recursion; the op-log loop carries fuel = remaining bytes, and
running out of it is the outcome `panic "ops.fuel"`, which the theorem excludes); a rejected import
leaves the bitmap unchanged and an accepted one hands only header-consistent containers to the
kernels; the cluster-message guards extracted from the source never dereference nil / index an
empty body; the recover filter of `pql.Parse` converts every named panic of the action machine and
re-panics exactly the listed invariant sites.
What is NOT proved (observed by the child-process harness only): memory exhaustion, the protobuf
codec, the handler bodies behind the guards, that the invariant sites of the PQL action machine are
unreachable, and the container kernels on a stored bitmap whose containers contradict their headers
(see the finding below).
-/
import PV.C06.Total
import PV.C06.Model
import PV.C04.LemmasCont
namespace PV.C06
open PV.C04 PV.C06.Gen

/-- newRoaringIterator + Next until the end: no panic, whatever the bytes. -/
theorem C06_iterate_total (d : Bytes) (s : String) : iterate d ≠ .panic s :=
  iterate_NP d s

/-- ImportRoaringBits (either format, set or clear, any target): no panic. -/
theorem C06_import_total (m : VMap) (d : Bytes) (clear : Bool) (s : String) :
    importBits m d clear ≠ .panic s :=
  importBits_NP m d clear s

/-- UnmarshalBinary — Pilosa format incl. the op-log loop (replayed roaring ops included) and
the official format with and without runs: no panic and no `ops.fuel`, whatever the bytes. -/
theorem C06_unmarshal_total (d : Bytes) (s : String) : unmarshal d ≠ .panic s :=
  unmarshal_NP d s

/-- The op decoder alone, with the size bound that makes the op-log loop terminate. -/
theorem C06_op_total (buf : Bytes) :
    (∀ s, parseOp buf ≠ .panic s) ∧ ∀ op size, parseOp buf = .ok (op, size) → 13 ≤ size ∧ size ≤ buf.length :=
  parseOp_spec buf

/-- `importBitsSt` returns the bitmap after the call together with the call's result. -/
theorem C06_reject_unchanged (m : VMap) (d : Bytes) (clear : Bool) (e : Err)
    (h : (importBitsSt m d clear).2 = .err e) : (importBitsSt m d clear).1 = m := by
  unfold importBitsSt at h ⊢
  cases hi : iterate d with
  | panic s => rfl
  | err e' => rfl
  | ok w =>
    rw [hi] at h
    simp only [] at h ⊢
    cases hv : walkVerdict w with
    | some e' => rfl
    | none => rw [hv] at h; simp at h

/-- An accepted import only ever hands consistent containers to the union / difference kernels. -/
theorem C06_import_accepts_only_consistent (m : VMap) (d : Bytes) (clear : Bool) (r : VMap × Nat)
    (h : importBits m d clear = .ok r) :
    ∃ w, iterate d = .ok w ∧ w.err = none ∧ ∀ it ∈ w.items, ItemOk it := by
  obtain ⟨w, hw, hv, _⟩ := (importBits_ok_iff m d clear r).mp h
  exact ⟨w, hw, walkVerdict_none w hv⟩

/-- Regression witness for `fix: ImportRoaringBits validates the whole payload before changing
the bitmap`: the pre-fix loop (`importBitsStOld`) applied the containers in front of a malformed
one.  Payload: Pilosa format, two array containers, the second with an offset past the end. -/
theorem C06_old_import_partial_witness :
    let d : Bytes := [60, 48, 0, 0, 2, 0, 0, 0,
                      0, 0, 0, 0, 0, 0, 0, 0, 1, 0, 0, 0,   1, 0, 0, 0, 0, 0, 0, 0, 1, 0, 0, 0,
                      40, 0, 0, 0,   200, 0, 0, 0,   7, 0]
    (importBitsStOld [] d false).2 = .err .iterOffset ∧ (importBitsStOld [] d false).1 = [(0, [7])]
    ∧ (importBitsSt [] d false).2 = .err .iterOffset ∧ (importBitsSt [] d false).1 = [] := by
  decide

/-! ### stored data: containers that contradict their header (recorded finding)

Full-strength statement (NOT provable for the current code):
  theorem C06_unmarshal_rejects_inconsistent (d) (r) (d') :
      unmarshal d = .ok (r, d') → entriesWf r.cs = true
UnmarshalBinary checks that every container lies inside the buffer, not that its contents match
the header (cardinality, order): that would mean reading the whole memory-mapped file when a
fragment is opened.  The kernels trust the header, so a later operation on such a bitmap can
panic (Optimize / snapshot: index out of range in runToArray).  The import path does validate
(`C06_import_accepts_only_consistent`). -/

theorem C06_unmarshal_consistent_partial (d d' : Bytes) (r : Decoded)
    (h : unmarshal d = .ok (r, d')) (hw : entriesWf r.cs = true) :
    ∀ e ∈ r.cs, e.c.wf e.n = true :=
  fun e he => List.all_eq_true.mp hw e he

/-- Witness: a Pilosa-format file whose only container announces 3 array values and holds
`5, 1, 9` (not ascending) is accepted. -/
theorem C06_illformed_accepted_witness :
    let d : Bytes := [60, 48, 0, 0, 1, 0, 0, 0,  0, 0, 0, 0, 0, 0, 0, 0, 1, 0, 2, 0,  24, 0, 0, 0,  5, 0, 1, 0, 9, 0]
    (match unmarshal d with
     | .ok (r, _) => !entriesWf r.cs
     | _ => false) = true := by
  decide

theorem runLookups_no_panic (ls : List Lookup) (h : ∀ l ∈ ls, l.nilChecked = true) (ie fe : Bool) (s : String) :
    runLookups ls ie fe ≠ .panic s := by
  induction ls with
  | nil => simp [runLookups]
  | cons l r ih =>
    simp only [runLookups]
    split
    · exact ih (fun x hx => h x (by simp [hx]))
    · rw [if_pos (h l (by simp))]; simp

/-- For every first byte (or none), every decode outcome and every holder state, the
cluster-message entry point returns; it does not index an empty body, panic on an unknown type
or dereference a missing index / field.  (The table is regenerated from the source on every
run; the three facts it must contain are decided here.) -/
theorem C06_dispatch (typ : Option Nat) (wireOk ie fe : Bool) (s : String) :
    clusterMessage typ wireOk ie fe ≠ .panic s := by
  have h1 : bodyLenChecked = true := by decide
  have h2 : unknownTypeChecked = true := by decide
  have h3 : ∀ p ∈ handlers, ∀ l ∈ p.2, l.nilChecked = true := by decide +kernel
  unfold clusterMessage
  cases typ with
  | none => simp [h1]
  | some t =>
    simp only []
    cases msgTypes.lookup t with
    | none => simp [h2]
    | some name =>
      simp only []
      split
      · simp
      · cases hl : handlers.lookup name with
        | none => simp
        | some ls =>
          simp only []
          apply runLookups_no_panic
          intro l hl'
          have hm : (name, ls) ∈ handlers := by
            have := List.lookup_eq_some_iff.mp hl
            obtain ⟨l1, l2, h, _⟩ := this
            rw [h]; simp
          exact h3 (name, ls) hm l hl'

/-- importWorker never slices a payload shorter than two bytes. -/
theorem C06_importWorker_guard (len : Nat) (s : String) : importWorkerGuard len ≠ .panic s := by
  have h : viewDataChecked = true := by decide
  unfold importWorkerGuard
  split
  · simp
  · split
    · simp [h]
    · simp

/-! ### PQL text: the recover filter of parser.Parse over the panic sites of the action machine

The PEG grammar and the action machine are modelled by C26 (lean/PV/C26); here the table of
panic sites of pql/ast.go and the filter of pql/parser.go are regenerated from the source. -/

/-- A message that starts with a filtered prefix is returned as an error. -/
theorem parseFilter_prefix (p : String) (hp : p ∈ pqlFilterPrefixes) (tail : List Char) (s : String) :
    parseFilter (.str (p.toList ++ tail)) ≠ .panic s := by
  have : (pqlFilterPrefixes.any fun q => q.toList.isPrefixOf (p.toList ++ tail)) = true := by
    apply List.any_eq_true.mpr
    exact ⟨p, hp, List.isPrefixOf_iff_prefix.mpr (List.prefix_append _ _)⟩
  simp only [parseFilter]
  rw [if_pos this]
  simp

/-- Every panic site of the action machine whose message starts with a named string constant
(duplicate argument, integer out of range, invalid string literal — whatever the current source
has) is one the filter converts into an error, whatever follows the constant in the message; and
a runtime error inside Execute is returned as an error too. -/
theorem C06_pql_named_panics_converted :
    (∀ site ∈ pqlPanicSites, site.2.1 = "const" →
      ∀ (tail : List Char) (s : String), parseFilter (.str (site.2.2.toList ++ tail)) ≠ .panic s)
    ∧ (∀ s, parseFilter .nonString ≠ .panic s) ∧ (∀ s, parseFilter .none ≠ .panic s) := by
  have hall : ∀ site ∈ pqlPanicSites, site.2.1 = "const" → site.2.2 ∈ pqlFilterPrefixes := by decide +kernel
  refine ⟨fun site hs hk tail s => parseFilter_prefix _ (hall site hs hk) tail s, ?_, ?_⟩
  · intro s
    have : pqlNonStringIsError = true := by decide
    simp [parseFilter, this]
  · intro s; simp [parseFilter]

/-- Full-strength statement (NOT proved here): `Parse` never re-panics, i.e. the remaining panic
sites of the action machine (kind `invariant`: "conditional of wrong length", "addField called
… while element is nil / field is not empty", "addVal / addIntVal called … when lastField is
empty") are unreachable for every action trace the grammar can emit.  That is a property of the
grammar together with the action machine (C26 models both; its `repanic` outcome is exactly
these sites) and is observed, not proved: no `pql` line of the malformed-text stream has ever
produced a panic.  Where PQL text reaches the server (the HTTP query endpoints) a re-panic would be
inside the handler's recovered request.  Proved: the filter does re-panic exactly those sites —
the excluded region is this finite list. -/
theorem C06_pql_filter_partial :
    ∀ site ∈ pqlPanicSites, site.2.1 = "invariant" →
      parseFilter (.str site.2.2.toList) = .panic "repanic" := by
  decide +kernel

/-- A payload that is rejected after its first container was walked (hypothesis of
`C06_reject_unchanged`). -/
example : (importBitsSt [(3, [1])] [60, 48, 0, 0, 2, 0, 0, 0,
      0, 0, 0, 0, 0, 0, 0, 0, 1, 0, 0, 0,   1, 0, 0, 0, 0, 0, 0, 0, 1, 0, 0, 0,
      40, 0, 0, 0,   200, 0, 0, 0,   7, 0] false).2 = .err .iterOffset := by decide

/-- An accepted payload (hypothesis of `C06_import_accepts_only_consistent`). -/
example : importBits [] [60, 48, 0, 0, 1, 0, 0, 0,  0, 0, 0, 0, 0, 0, 0, 0, 1, 0, 1, 0,  24, 0, 0, 0,  5, 0, 9, 0] false
    = .ok ([(0, [5, 9])], 2) := by decide

end PV.C06
