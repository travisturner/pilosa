/- No roaring decoder of PV.C04.Model reaches `Res.panic`, for ANY input.  Every theorem walks its decoder with the
rules of `Sat P r`; what a later access needs of an earlier result is the postcondition `P`. -/
import PV.C04.Lemmas
namespace PV.C04

def NP {α : Type} (r : Res α) : Prop := ∀ s, r ≠ .panic s

theorem NP_ok {α : Type} (a : α) : NP (Res.ok a) := fun _ h => by cases h
theorem NP_pure {α : Type} (a : α) : NP (pure a : Res α) := fun _ h => by cases h
theorem NP_err {α : Type} (e : Err) : NP (Res.err e : Res α) := fun _ h => by cases h

def Sat {α : Type} (P : α → Prop) : Res α → Prop
  | .ok a => P a
  | .err _ => True
  | .panic _ => False

section rules
variable {α β : Type} {P : α → Prop} {r : Res α}

theorem Sat.ok {a : α} (h : P a) : Sat P (.ok a) := h
theorem Sat.pure {a : α} (h : P a) : Sat P (pure a) := h
theorem Sat.err {e : Err} : Sat P (.err e) := trivial
theorem Sat.pure_bind {Q : β → Prop} {a : α} {f : α → Res β} (h : Sat Q (f a)) :
    Sat Q ((Pure.pure a : Res α) >>= f) := h

theorem Sat.bind {Q : β → Prop} {f : α → Res β} (hr : Sat P r) (hf : ∀ a, P a → Sat Q (f a)) :
    Sat Q (r >>= f) := by
  cases r with
  | ok a => exact hf a hr
  | err e => trivial
  | panic s => exact hr.elim

theorem Sat.ite {c : Prop} [Decidable c] {a b : Res α} (ht : c → Sat P a) (he : ¬c → Sat P b) :
    Sat P (if c then a else b) := by
  split
  · next h => exact ht h
  · next h => exact he h

theorem sat_iff : Sat P r ↔ NP r ∧ ∀ a, r = .ok a → P a := by
  cases r with
  | ok a => exact ⟨fun h => And.intro (fun _ h' => nomatch h') (fun _ e => by cases e; exact h), fun h => h.2 a rfl⟩
  | err e => exact ⟨fun _ => And.intro (fun _ h' => nomatch h') (fun _ e => nomatch e), fun _ => trivial⟩
  | panic s => exact ⟨fun h => h.elim, fun h => h.1 s rfl⟩

theorem Sat.mono {Q : α → Prop} (h : Sat P r) (hpq : ∀ a, P a → Q a) : Sat Q r := by
  cases r with
  | ok a => exact hpq a h
  | err e => trivial
  | panic s => exact h.elim

theorem NP.sat (h : NP r) : Sat (fun _ => True) r := sat_iff.mpr ⟨h, fun _ _ => trivial⟩
theorem Sat.np (h : Sat P r) : NP r := (sat_iff.mp h).1
end rules

section access
variable {site : String} {d : Bytes}

theorem sub_sat {lo hi : Nat} (h1 : lo ≤ hi) (h2 : hi ≤ d.length) :
    Sat (fun s => s.length = hi - lo) (sub site d lo hi) := by
  unfold sub
  rw [if_pos ⟨h1, h2⟩]
  show ((d.drop lo).take (hi - lo)).length = hi - lo
  rw [List.length_take, List.length_drop]; omega

theorem rd_sat {off k : Nat} (h : off + k ≤ d.length) : Sat (fun _ => True) (rd site d off k) :=
  (sub_sat (by omega) h).bind fun _ _ => trivial

theorem view_sat {off n : Nat} (h1 : off < d.length) (h2 : off + n ≤ d.length) :
    Sat (fun _ => True) (view site d off n) := by
  unfold view
  rw [if_pos ⟨h1, h2⟩]
  trivial

theorem at1_sat {i : Nat} (h : i < d.length) : Sat (fun _ => True) (at1 site d i) := by
  obtain ⟨b, hb⟩ := at1_lt site d i h
  rw [hb]
  trivial
end access

theorem nextBody_NP (official : Bool) (d : Bytes) (key typ n off : Nat) :
    NP (nextBody official d key typ n off) := by
  refine Sat.np (P := fun _ => True) ?_
  unfold nextBody
  -- `rest`: what follows once run count and data offset are known
  extract_lets _ rest
  have hrest : ∀ rc off', Sat (fun _ => True) (rest (rc, off')) := fun rc off' => by
    refine .ite (fun _ => .err) fun h => .bind (at1_sat (by omega)) fun _ _ => ?_
    have hview : ∀ (site : String) (e : Err) (len : Nat) (k : Bytes → Res (Item × Nat)),
        (∀ pl, Sat (fun _ => True) (k pl)) →
        Sat (fun _ => True) (if off' + len > d.length then .err e else view site d off' len >>= k) :=
      fun _ _ _ _ hk => .ite (fun _ => .err) fun _ => .bind (view_sat (by omega) (by omega)) fun pl _ => hk pl
    refine .ite (fun _ => hview _ _ _ _ fun _ => trivial) fun _ => ?_
    refine .ite (fun _ => hview _ _ _ _ fun _ => trivial) fun _ => ?_
    exact .ite (fun _ => hview _ _ _ _ fun _ => trivial) fun _ => .err
  refine .ite (fun _ => ?_) fun _ => .pure_bind (hrest _ _)
  refine .ite (fun _ => .err) fun h => ?_
  exact .bind (rd_sat (by omega)) fun _ _ => .pure_bind (hrest _ _)

theorem pilosaWalk_NP (d : Bytes) (k : Nat) : ∀ (hdr offs : Bytes), 12 * k ≤ hdr.length → 4 * k ≤ offs.length →
    NP (pilosaWalk d k hdr offs) := by
  intro hdr offs h1 h2
  refine Sat.np (P := fun _ => True) ?_
  induction k generalizing hdr offs with
  | zero => trivial
  | succ k ih =>
    unfold pilosaWalk
    refine .bind (rd_sat (by omega)) fun key _ => .bind (rd_sat (by omega)) fun t _ =>
      .bind (rd_sat (by omega)) fun n1 _ => .bind (rd_sat (by omega)) fun off _ => ?_
    have hnb := nextBody_NP false d key (t % 256) (n1 + 1) off
    cases hb : nextBody false d key (t % 256) (n1 + 1) off with
    | panic s => exact absurd hb (hnb s)
    | err e => trivial
    | ok r =>
      refine .bind (sub_sat (by omega) (Nat.le_refl _)) fun hdr' hh =>
        .bind (sub_sat (by omega) (Nat.le_refl _)) fun offs' ho => .bind (ih hdr' offs' (by omega) (by omega)) fun _ _ => trivial

structure OffHeaderOk (d : Bytes) (h : OffHeader) : Prop where
  pos : h.pos = h.header + 4 * h.size
  le : h.pos ≤ d.length
  lt : 0 < h.size → h.pos < d.length
  isRun : h.haveRuns = true → h.isRun.length = (h.size + 7) / 8
  size : h.size ≤ 65536

theorem readOfficialHeader_sat (d : Bytes) : Sat (OffHeaderOk d) (readOfficialHeader d) := by
  unfold readOfficialHeader
  refine .ite (fun _ => .err) fun h8 => .bind (rd_sat (by omega)) fun cookie _ => ?_
  -- `rest`: the checks on the container count
  extract_lets rest
  have hrest : ∀ size hr ib pos, pos ≤ d.length → (hr = true → ib.length = (size + 7) / 8) →
      Sat (OffHeaderOk d) (rest (size, hr, ib, pos)) := fun size hr ib pos hp hib =>
    .ite (fun _ => .err) fun hs => .ite (fun _ => .err) fun he =>
      .pure ⟨rfl, (by omega : pos + 4 * size ≤ _), fun (h0 : 0 < size) => (by omega : pos + 4 * size < _), hib,
        (by omega : size ≤ _)⟩
  refine .ite (fun _ => ?_) fun _ => .ite (fun _ => ?_) fun _ => .err
  · -- cookie 12346
    exact .bind (rd_sat (by omega)) fun sz _ => .pure_bind (hrest _ _ _ _ (by omega) (fun h => nomatch h))
  · -- cookie 12347, then the is-run bitmap
    refine .ite (fun _ => .err) fun hb => ?_
    exact .bind (sub_sat (by omega) (by omega)) fun bm hbm => .pure_bind (hrest _ _ _ _ (by omega) (fun _ => by omega))

theorem readOfficialHeader_spec (d : Bytes) :
    NP (readOfficialHeader d) ∧ ∀ h, readOfficialHeader d = .ok h → OffHeaderOk d h :=
  sat_iff.mp (readOfficialHeader_sat d)

theorem officialType_sat {d : Bytes} {h : OffHeader} (hh : OffHeaderOk d h) (i card : Nat) (hi : i < h.size) :
    Sat (fun _ => True) (officialType h i card) := by
  unfold officialType
  split
  · next hr => exact .bind (at1_sat (by rw [hh.isRun hr]; omega)) fun _ _ => .ite (fun _ => trivial) fun _ => trivial
  · trivial

theorem officialWalk_NP (d : Bytes) (h : OffHeader) (hh : OffHeaderOk d h) (k : Nat) :
    ∀ (i : Nat) (hdr offs : Bytes) (cur : Nat), i + k = h.size → 4 * k ≤ hdr.length →
      (h.haveRuns = false → 4 * k ≤ offs.length) →
      NP (officialWalk d h k i hdr offs cur) := by
  intro i hdr offs cur hik h1 h2
  refine Sat.np (P := fun _ => True) ?_
  induction k generalizing i hdr offs cur with
  | zero => trivial
  | succ k ih =>
    unfold officialWalk
    refine .bind (rd_sat (by omega)) fun key _ => .bind (rd_sat (by omega)) fun n1 _ =>
      .bind (officialType_sat hh i _ (by omega)) fun typ _ => ?_
    have hnb := nextBody_NP true d key typ (n1 + 1)
    cases hr : h.haveRuns with
    | true =>
      simp only [↓reduceIte]
      refine .pure_bind ?_
      cases hb : nextBody true d key typ (n1 + 1) cur with
      | panic s => exact absurd hb (hnb _ s)
      | err e => trivial
      | ok r =>
        exact .bind (sub_sat (by omega) (Nat.le_refl _)) fun hdr' hh' => .pure_bind <|
          .bind (ih (i + 1) hdr' offs r.2 (by omega) (by omega) (fun hf => by rw [hr] at hf; cases hf)) fun _ _ => trivial
    | false =>
      have := h2 hr
      simp only [Bool.false_eq_true, ↓reduceIte]
      refine .bind (rd_sat (by omega)) fun off _ => ?_
      cases hb : nextBody true d key typ (n1 + 1) off with
      | panic s => exact absurd hb (hnb _ s)
      | err e => trivial
      | ok r =>
        exact .bind (sub_sat (by omega) (Nat.le_refl _)) fun hdr' hh' =>
          .bind (sub_sat (by omega) (Nat.le_refl _)) fun offs' ho =>
            .bind (ih (i + 1) hdr' offs' r.2 (by omega) (by omega) (fun _ => by omega)) fun _ _ => trivial

theorem iterate_NP (d : Bytes) : NP (iterate d) := by
  refine Sat.np (P := fun _ => True) ?_
  unfold iterate
  refine .ite (fun _ => .err) fun h8 => .bind (rd_sat (by omega)) fun magic _ => .ite (fun _ => ?_) fun _ =>
    .ite (fun _ => ?_) fun _ => .err
  · obtain ⟨hnp, hspec⟩ := readOfficialHeader_spec d
    cases hh : readOfficialHeader d with
    | panic s => exact absurd hh (hnp s)
    | err e => trivial
    | ok h =>
      have hok := hspec h hh
      have := hok.pos
      have := hok.le
      refine .ite (fun _ => trivial) fun hz => .bind (sub_sat (by omega) hok.le) fun hdr hhl => ?_
      refine .ite (fun hr => (officialWalk_NP d h hok h.size 0 hdr [] _ (by omega) (by omega)
        (fun hf => by rw [hr] at hf; cases hf)).sat) fun hr => .ite (fun _ => .err) fun hc => ?_
      exact .bind (sub_sat (by omega) (by omega)) fun offs ho =>
        (officialWalk_NP d h hok h.size 0 hdr offs 0 (by omega) (by omega) (fun _ => by omega)).sat
  · refine .bind (at1_sat (by omega)) fun ver _ => .ite (fun _ => .err) fun _ => .bind (rd_sat (by omega)) fun keys _ =>
      .ite (fun _ => trivial) fun _ => .ite (fun _ => .err) fun hl => ?_
    exact .bind (sub_sat (by omega) (by omega)) fun hdr hh => .bind (sub_sat (by omega) (by omega)) fun offs ho =>
      (pilosaWalk_NP d keys hdr offs (by omega) (by omega)).sat

theorem importBits_NP (m : VMap) (d : Bytes) (clear : Bool) : NP (importBits m d clear) := by
  have := iterate_NP d
  unfold importBits importBitsSt
  cases h : iterate d with
  | panic s => exact absurd h (this s)
  | err e => exact NP_err e
  | ok w =>
    simp only []
    cases walkVerdict w with
    | some e => exact NP_err e
    | none => exact NP_ok _

theorem parseOp_sat (buf : Bytes) : Sat (fun p => 13 ≤ p.2 ∧ p.2 ≤ buf.length) (parseOp buf) := by
  unfold parseOp
  refine .ite (fun _ => .err) fun h13 => .bind (at1_sat (by omega)) fun typ _ => .bind (rd_sat (by omega)) fun value _ =>
    .bind (sub_sat (by omega) (by omega)) fun h0 _ => .bind (rd_sat (by omega)) fun chk _ => ?_
  refine .ite (fun _ => .ite (fun _ => .err) fun _ => .pure (by omega)) fun _ => .ite (fun _ => ?_) fun _ =>
    .ite (fun _ => ?_) fun _ => .err
  · exact .ite (fun _ => .err) fun _ => .ite (fun _ => .err) fun _ => .bind (sub_sat (by omega) (by omega)) fun pl _ =>
      .ite (fun _ => .err) fun _ => .pure (by omega)
  · exact .ite (fun _ => .err) fun _ => .bind (rd_sat (by omega)) fun opN _ =>
      .bind (sub_sat (by omega) (by omega)) fun ro _ => .bind (sub_sat (by omega) (by omega)) fun hd _ =>
        .ite (fun _ => .err) fun _ => .pure (by omega)

theorem parseOp_spec (buf : Bytes) :
    NP (parseOp buf) ∧ ∀ op size, parseOp buf = .ok (op, size) → 13 ≤ size ∧ size ≤ buf.length :=
  ⟨(parseOp_sat buf).np, fun op size e => (sat_iff.mp (parseOp_sat buf)).2 (op, size) e⟩

theorem applyImport_NP (m : VMap) (d : Bytes) (clear : Bool) :
    NP (match importBits m d clear with
      | .ok (m', _) => pure m'
      | .err _ => pure m
      | .panic s => .panic s) := by
  have := importBits_NP m d clear
  cases h : importBits m d clear with
  | panic s => exact absurd h (this s)
  | err e => exact NP_ok m
  | ok r => exact NP_ok r.1

theorem opApply_NP (m : VMap) (op : Op) : NP (op.apply m) := by
  cases op with
  | addRoaring d n => exact applyImport_NP m d false
  | removeRoaring d n => exact applyImport_NP m d true
  | add v => exact NP_ok _
  | remove v => exact NP_ok _
  | addBatch vs => exact NP_ok _
  | removeBatch vs => exact NP_ok _

theorem opsLoop_NP (fuel : Nat) : ∀ (buf : Bytes) (m : VMap) (ops opN : Nat), buf.length ≤ fuel →
    NP (opsLoop fuel buf m ops opN) := by
  intro buf m ops opN h
  refine Sat.np (P := fun _ => True) ?_
  induction fuel generalizing buf m ops opN with
  | zero => unfold opsLoop; exact .ite (fun _ => trivial) fun h0 => absurd (by omega) h0
  | succ fuel ih =>
    unfold opsLoop
    refine .ite (fun _ => trivial) fun h0 => .bind (parseOp_sat buf) fun ⟨op, size⟩ hs => ?_
    exact .bind (opApply_NP m op).sat fun m' _ => .bind (sub_sat hs.2 (Nat.le_refl _)) fun rest hr =>
      ih rest m' _ _ (by omega)

theorem pAttach_sat (d : Bytes) (typ n off : Nat) (hoff : off < d.length) :
    Sat (fun p => p.2 ≤ d.length) (pAttach d typ n off) := by
  unfold pAttach
  refine .ite (fun _ => .ite (fun _ => .err) fun h2 => .bind (rd_sat (by omega)) fun rc _ => .ite (fun _ => .err) fun h3 =>
    .bind (view_sat (by omega) (by omega)) fun pl _ => .pure (by omega)) fun _ => ?_
  refine .ite (fun _ => .ite (fun _ => .err) fun h2 => .bind (view_sat hoff (by omega)) fun pl _ => .pure (by omega))
    fun _ => .ite (fun _ => ?_) fun _ => .err
  exact .ite (fun _ => .err) fun h2 => .bind (view_sat hoff (by omega)) fun pl _ => .pure (by omega)

theorem pAttach_spec (d : Bytes) (typ n off : Nat) (hoff : off < d.length) :
    NP (pAttach d typ n off) ∧ ∀ c o, pAttach d typ n off = .ok (c, o) → o ≤ d.length :=
  ⟨(pAttach_sat d typ n off hoff).np, fun c o e => (sat_iff.mp (pAttach_sat d typ n off hoff)).2 (c, o) e⟩

theorem putCVd_ne_nil (key typ n : Nat) (l : List Slot) : putCVd key typ n l ≠ [] := by
  cases l with
  | nil => simp [putCVd]
  | cons s r =>
    simp only [putCVd]
    split
    · simp
    · split <;> simp

theorem pHdrLoop_sat (k : Nat) (buf : Bytes) (slots : List Slot) (hl : 12 * k ≤ buf.length) :
    Sat (fun r => (0 < k ∨ slots ≠ []) → r ≠ []) (pHdrLoop k buf slots) := by
  induction k generalizing buf slots with
  | zero => exact .pure fun hk => hk.elim (fun h => absurd h (Nat.lt_irrefl 0)) (fun h => by simpa using h)
  | succ k ih =>
    unfold pHdrLoop
    refine .bind (rd_sat (by omega)) fun key _ => .bind (rd_sat (by omega)) fun t _ => .bind (rd_sat (by omega)) fun n1 _ =>
      .ite (fun _ => .err) fun _ => .bind (sub_sat (by omega) (Nat.le_refl _)) fun rest hr => ?_
    exact (ih rest _ (by omega)).mono fun r h _ => h (Or.inr (putCVd_ne_nil _ _ _ _))

theorem pHdrLoop_spec (k : Nat) : ∀ (buf : Bytes) (slots : List Slot), 12 * k ≤ buf.length →
    NP (pHdrLoop k buf slots) ∧
    ∀ r, pHdrLoop k buf slots = .ok r → (0 < k ∨ slots ≠ []) → r ≠ [] :=
  fun buf slots hl => sat_iff.mp (pHdrLoop_sat k buf slots hl)

theorem pOffLoop_sat (d : Bytes) (k : Nat) (buf : Bytes) (done rem : List Slot) (oo : Nat)
    (hl : 4 * k ≤ buf.length) (ho : oo ≤ d.length) :
    Sat (fun p => p.2 ≤ d.length) (pOffLoop d k buf done rem oo) := by
  induction k generalizing buf done rem oo with
  | zero => exact .pure ho
  | succ k ih =>
    unfold pOffLoop
    refine .bind (rd_sat (by omega)) fun off _ => .ite (fun _ => .err) fun hlt => ?_
    have hrest := sub_sat (site := "pilosa.off.next") (d := buf) (lo := 4) (by omega) (Nat.le_refl _)
    cases rem with
    | nil => exact .bind hrest fun rest hr => ih rest done [] oo (by omega) ho
    | cons s r =>
      refine .bind (pAttach_sat d s.typ s.n off (by omega)) fun ⟨c, o⟩ hco => .bind hrest fun rest hr => ?_
      cases r with
      | nil => exact ih rest done _ o (by omega) hco
      | cons s2 r2 => exact ih rest _ _ o (by omega) hco

theorem pOffLoop_spec (d : Bytes) (k : Nat) : ∀ (buf : Bytes) (done rem : List Slot) (oo : Nat),
    4 * k ≤ buf.length → oo ≤ d.length →
    NP (pOffLoop d k buf done rem oo) ∧
    ∀ slots o, pOffLoop d k buf done rem oo = .ok (slots, o) → o ≤ d.length :=
  fun buf done rem oo hl ho =>
    ⟨(pOffLoop_sat d k buf done rem oo hl ho).np,
      fun c o e => (sat_iff.mp (pOffLoop_sat d k buf done rem oo hl ho)).2 (c, o) e⟩

theorem unmarshalPilosa_NP (d : Bytes) : NP (unmarshalPilosa d) := by
  refine Sat.np (P := fun _ => True) ?_
  unfold unmarshalPilosa
  have hload : Sat (fun p => p.2.2 ≤ d.length) (loadPilosa d) := by
    unfold loadPilosa
    refine .ite (fun _ => .err) fun h8 => .bind (rd_sat (by omega)) fun magic _ => .bind (at1_sat (by omega)) fun ver _ =>
      .bind (at1_sat (by omega)) fun flags _ => .ite (fun _ => .err) fun _ => .ite (fun _ => .err) fun _ =>
      .bind (rd_sat (by omega)) fun keyN _ => .ite (fun _ => .err) fun h12 => .ite (fun _ => .err) fun h16 => ?_
    refine .bind (sub_sat (by omega) (Nat.le_refl _)) fun hbuf hh =>
      .bind (pHdrLoop_sat keyN hbuf [] (by omega)) fun slots _ =>
      .bind (sub_sat (by omega) (Nat.le_refl _)) fun obuf ho => ?_
    exact .bind (pOffLoop_sat d keyN obuf [] slots _ (by omega) (by omega)) fun p hp => .pure hp
  refine .bind hload fun ⟨flags, cs, oo⟩ hoo => .bind (sub_sat hoo (Nat.le_refl _)) fun lbuf _ => ?_
  exact .bind (opsLoop_NP lbuf.length lbuf _ 0 0 (Nat.le_refl _)).sat fun _ _ => trivial

theorem putCVd_npos (key typ n : Nat) (hn : 0 < n) (l : List Slot) (hl : ∀ s ∈ l, 0 < s.n) :
    ∀ s ∈ putCVd key typ n l, 0 < s.n := by
  induction l with
  | nil => intro s hs; simp [putCVd] at hs; subst hs; exact hn
  | cons a r ih =>
    intro s hs
    simp only [putCVd] at hs
    split at hs
    · rcases List.mem_cons.mp hs with e | e
      · subst e; exact hn
      · exact hl s e
    · split at hs
      · rcases List.mem_cons.mp hs with e | e
        · subst e; exact hn
        · exact hl s (List.mem_cons_of_mem _ e)
      · rcases List.mem_cons.mp hs with e | e
        · subst e; exact hl _ (by simp)
        · exact ih (fun x hx => hl x (List.mem_cons_of_mem _ hx)) s e

theorem oHdrLoop_sat (d : Bytes) (h : OffHeader) (hh : OffHeaderOk d h) (k i : Nat) (buf : Bytes) (slots : List Slot)
    (hik : i + k = h.size) (hl : 4 * k ≤ buf.length) :
    Sat (fun r => ((0 < k ∨ slots ≠ []) → r ≠ []) ∧ ((∀ s ∈ slots, 0 < s.n) → ∀ s ∈ r, 0 < s.n))
      (oHdrLoop h k i buf slots) := by
  induction k generalizing i buf slots with
  | zero =>
    exact .pure ⟨fun hk => hk.elim (fun h => absurd h (Nat.lt_irrefl 0)) (fun h => by simpa using h),
      fun hs s hs' => hs s (List.mem_reverse.mp hs')⟩
  | succ k ih =>
    unfold oHdrLoop
    refine .bind (rd_sat (by omega)) fun n1 _ => .bind (rd_sat (by omega)) fun key _ =>
      .bind (officialType_sat hh i _ (by omega)) fun typ _ => .bind (sub_sat (by omega) (Nat.le_refl _)) fun rest hr => ?_
    exact (ih (i + 1) rest _ (by omega) (by omega)).mono fun r hr =>
      ⟨fun _ => hr.1 (Or.inr (putCVd_ne_nil _ _ _ _)), fun hs => hr.2 (putCVd_npos _ _ _ (by omega) _ hs)⟩

theorem oHdrLoop_spec (d : Bytes) (h : OffHeader) (hh : OffHeaderOk d h) (k : Nat) :
    ∀ (i : Nat) (buf : Bytes) (slots : List Slot), i + k = h.size → 4 * k ≤ buf.length →
    NP (oHdrLoop h k i buf slots) ∧
    ∀ r, oHdrLoop h k i buf slots = .ok r → (0 < k ∨ slots ≠ []) → r ≠ [] := fun i buf slots hik hl =>
  sat_iff.mp ((oHdrLoop_sat d h hh k i buf slots hik hl).mono fun _ hr => hr.1)

theorem oOffLoop_NP (d : Bytes) (k : Nat) : ∀ (buf : Bytes) (done rem : List Slot),
    (0 < k → rem ≠ []) → NP (oOffLoop d k buf done rem) := by
  intro buf done rem hrem
  refine Sat.np (P := fun _ => True) ?_
  induction k generalizing buf done rem with
  | zero => trivial
  | succ k ih =>
    unfold oOffLoop
    refine .ite (fun _ => .err) fun h4 => .bind (rd_sat (by omega)) fun off _ => .ite (fun _ => .err) fun hlt => ?_
    cases rem with
    | nil => exact absurd rfl (hrem (by omega))
    | cons s r =>
      have hatt : Sat (fun _ => True) (oOffAttach d s.typ s.n off) := by
        unfold oOffAttach
        exact .ite (fun _ => .ite (fun _ => .err) fun _ => .bind (view_sat (by omega) (by omega)) fun _ _ => trivial)
          fun _ => .ite (fun _ => .ite (fun _ => .err) fun _ => .bind (view_sat (by omega) (by omega)) fun _ _ => trivial)
            fun _ => .err
      refine .bind hatt fun c _ => .bind (sub_sat (by omega) (Nat.le_refl _)) fun rest _ => ?_
      cases r with
      | nil => exact ih rest done _ (fun _ => by simp)
      | cons s2 r2 => exact ih rest _ _ (fun _ => by simp)

theorem oRunAttach_sat (d : Bytes) (typ n pos : Nat) (hn : 0 < n) : Sat (fun _ => True) (oRunAttach d typ n pos) := by
  unfold oRunAttach
  refine .ite (fun _ => .ite (fun _ => .err) fun h2 => .bind (rd_sat (by omega)) fun rc _ => .ite (fun _ => .err) fun h3 =>
    .bind (view_sat (by omega) (by omega)) fun pl _ => trivial) fun _ => ?_
  exact .ite (fun _ => .ite (fun _ => .err) fun h2 => .bind (view_sat (by omega) (by omega)) fun pl _ => trivial)
    fun _ => .ite (fun _ => .ite (fun _ => .err) fun h2 => .bind (view_sat (by simp only [bitmapBytes] at h2; omega)
      (by omega)) fun pl _ => trivial) fun _ => trivial

theorem oRunLoop_NP (d : Bytes) (k : Nat) : ∀ (done rem : List Slot) (pos : Nat),
    (0 < k → rem ≠ []) → (∀ s ∈ rem, 0 < s.n) → NP (oRunLoop d k done rem pos) := by
  intro done rem pos hrem hn
  refine Sat.np (P := fun _ => True) ?_
  induction k generalizing done rem pos with
  | zero => trivial
  | succ k ih =>
    unfold oRunLoop
    cases rem with
    | nil => exact absurd rfl (hrem (by omega))
    | cons s r =>
      refine .bind (oRunAttach_sat d s.typ s.n pos (hn s (by simp))) fun ⟨c, pos'⟩ _ => ?_
      cases r with
      | nil =>
        refine ih done _ pos' (fun _ => by simp) fun x hx => ?_
        rw [List.mem_singleton.mp hx]
        cases c <;> exact hn s (by simp)
      | cons s2 r2 => exact ih _ _ pos' (fun _ => by simp) fun x hx => hn x (List.mem_cons_of_mem _ hx)

theorem unmarshalOfficial_NP (d : Bytes) : NP (unmarshalOfficial d) := by
  refine Sat.np (P := fun _ => True) ?_
  unfold unmarshalOfficial
  refine .bind (readOfficialHeader_sat d) fun h hok => ?_
  have := hok.pos
  have := hok.le
  refine .bind (sub_sat (by omega) (Nat.le_refl _)) fun hbuf hb =>
    .bind (oHdrLoop_sat d h hok h.size 0 hbuf [] (by omega) (by omega)) fun slots hs => ?_
  have hne : 0 < h.size → slots ≠ [] := fun hp => hs.1 (Or.inl hp)
  refine .bind (P := fun _ => True) ?_ fun _ _ => trivial
  unfold oAttachAll
  refine .ite (fun _ => ?_) fun _ => ?_
  · -- `readWithRuns`
    refine .ite (fun _ => .err) fun _ => ?_
    exact (oRunLoop_NP d h.size [] slots _ hne (hs.2 (fun _ h => nomatch h))).sat
  · -- `readOffsets`
    refine .bind (sub_sat hok.le (Nat.le_refl _)) fun obuf _ => ?_
    exact (oOffLoop_NP d h.size obuf [] slots hne).sat

theorem unmarshal_NP (d : Bytes) : NP (unmarshal d) := by
  refine Sat.np (P := fun _ => True) ?_
  unfold unmarshal
  refine .ite (fun _ => .err) fun h8 => .bind (rd_sat (by omega)) fun magic _ => ?_
  split
  · exact .bind (unmarshalPilosa_NP d).sat fun _ _ => trivial
  · exact .bind (unmarshalOfficial_NP d).sat fun _ _ => trivial

end PV.C04
