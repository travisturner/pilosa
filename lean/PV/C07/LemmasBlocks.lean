/-
`Blocks()`: the iterator walk with the contiguous-cached-checksum shortcut computes, under
ChecksumInv, exactly the list "every non-empty block with the hash of its current bits".
Both branches of the loop skip a run of blocks `b .. b+n-1` that are all non-empty (`n = 1`: the
block of the current value is hashed; `n` = number of contiguous cached checksums: they are
copied), so one splitting lemma for the expected answer serves both.
-/
import PV.C07.LemmasInv
namespace PV.C07
open List

variable {η : Type}

theorem mem_dedup {x : Nat} {l : List Nat} : x ∈ dedup l ↔ x ∈ l := by
  induction l with
  | nil => simp [dedup]
  | cons a t ih =>
    cases t with
    | nil => simp [dedup]
    | cons b t =>
      simp only [dedup]
      split
      · subst_vars; rw [ih]; simp
      · rw [mem_cons, ih]; simp

theorem sorted_dedup {l : List Nat} (h : l.Pairwise (· ≤ ·)) : Sorted (dedup l) := by
  induction l with
  | nil => simp [dedup, Sorted]
  | cons a t ih =>
    have hp := pairwise_cons.mp h
    have ih := ih hp.2
    cases t with
    | nil => simp [dedup, Sorted]
    | cons b t =>
      simp only [dedup]
      split
      · exact ih
      · rename_i hne
        refine pairwise_cons.mpr ⟨fun x hx => ?_, ih⟩
        have hab : a ≤ b := hp.1 b (by simp)
        have hbx : b ≤ x :=
          (mem_cons.mp (mem_dedup.mp hx)).elim (fun e => Nat.le_of_eq e.symm) ((pairwise_cons.mp hp.2).1 x)
        omega

theorem blockOf_mono {a b : Nat} (h : a ≤ b) : blockOf a ≤ blockOf b :=
  Nat.div_le_div_right h

theorem HBSSW_pos : 0 < HBS * SW := by decide

theorem lt_block_iff (p N : Nat) : p < N * (HBS * SW) ↔ blockOf p < N := by
  unfold blockOf
  exact (Nat.div_lt_iff_lt_mul HBSSW_pos).symm

theorem mem_blockIds {S : List Nat} {x : Nat} : x ∈ Spec.blockIds S ↔ ∃ p ∈ S, blockOf p = x := by
  simp [Spec.blockIds, mem_dedup]

theorem sorted_blockIds {S : List Nat} (h : Sorted S) : Sorted (Spec.blockIds S) :=
  sorted_dedup (pairwise_map.mpr (h.imp fun hab => blockOf_mono (Nat.le_of_lt hab)))

theorem bitsOfBlock_ne_nil {S : List Nat} {b : Nat} : bitsOfBlock S b ≠ [] ↔ ∃ p ∈ S, blockOf p = b := by
  simp [bitsOfBlock, filter_eq_nil_iff]

theorem mem_blockIds_iff (S : List Nat) (b : Nat) : b ∈ Spec.blockIds S ↔ bitsOfBlock S b ≠ [] := by
  rw [mem_blockIds, bitsOfBlock_ne_nil]

theorem mem_blockIds_from {bits : List Nat} {k x : Nat} :
    x ∈ Spec.blockIds (bits.filter (fun p => decide (k ≤ blockOf p))) ↔ k ≤ x ∧ bitsOfBlock bits x ≠ [] := by
  rw [mem_blockIds, bitsOfBlock_ne_nil]
  simp only [mem_filter, decide_eq_true_eq]
  exact ⟨fun ⟨p, ⟨hp, hk⟩, e⟩ => ⟨e ▸ hk, p, hp, e⟩, fun ⟨hk, p, hp, e⟩ => ⟨p, ⟨hp, e ▸ hk⟩, e⟩⟩

theorem sorted_range' (b n : Nat) : Sorted (range' b n) := by
  unfold Sorted
  exact @List.pairwise_lt_range' b n 1 (by omega)

theorem blockIds_from_split {bits : List Nat} (hs : Sorted bits) (b n : Nat)
    (hne : ∀ j, b ≤ j → j < b + n → bitsOfBlock bits j ≠ []) :
    Spec.blockIds (bits.filter (fun p => decide (b ≤ blockOf p))) =
      range' b n ++ Spec.blockIds (bits.filter (fun p => decide (b + n ≤ blockOf p))) := by
  apply sorted_ext (sorted_blockIds (sorted_filter _ hs))
  · refine pairwise_append.mpr ⟨sorted_range' _ _, sorted_blockIds (sorted_filter _ hs), fun a ha x hx => ?_⟩
    have := (mem_range'_1.mp ha).2
    have := (mem_blockIds_from.mp hx).1
    omega
  · intro x
    rw [mem_append, mem_blockIds_from, mem_blockIds_from, mem_range'_1]
    constructor
    · rintro ⟨h1, h2⟩
      by_cases hx : x < b + n
      · exact Or.inl ⟨h1, hx⟩
      · exact Or.inr ⟨by omega, h2⟩
    · rintro (⟨h1, h2⟩ | ⟨h1, h2⟩)
      · exact ⟨h1, hne x h1 h2⟩
      · exact ⟨by omega, h2⟩

theorem contiguous_spec (sums : List (Nat × η)) : ∀ (fuel b : Nat),
    (contiguous sums fuel b).map (·.1) = range' b (contiguous sums fuel b).length ∧
    ∀ e ∈ contiguous sums fuel b, lookup e.1 sums = some e.2 := by
  intro fuel
  induction fuel with
  | zero => simp [contiguous]
  | succ fuel ih =>
    intro b
    simp only [contiguous]
    split
    · simp
    · rename_i h hl
      have ih := ih (b + 1)
      refine ⟨by simp only [map_cons, length_cons, range'_succ, ih.1], fun e he => ?_⟩
      rcases mem_cons.mp he with rfl | he
      · exact hl
      · exact ih.2 e he

theorem map_fst_snd_ext {β : Type} (cs : List (Nat × β)) (f : Nat → β) (b : Nat)
    (h1 : cs.map (·.1) = range' b cs.length) (h2 : ∀ e ∈ cs, e.2 = f e.1) :
    cs = (range' b cs.length).map (fun x => (x, f x)) := by
  rw [← h1, map_map]
  conv => lhs; rw [← map_id cs]
  apply map_congr_left
  intro e he
  simp [← h2 e he]

/-- `rest` is the part of `bits` from some block on. -/
def Suffix (bits rest : List Nat) : Prop := ∃ k, rest = bits.filter (fun p => decide (k ≤ blockOf p))

/-- the answer the loop must append for the remaining values. -/
def want (H : List Nat → η) (bits rest : List Nat) : List (Nat × η) :=
  (Spec.blockIds rest).map (fun b => (b, H (bitsOfBlock bits b)))

def SumsOK (H : List Nat → η) (bits : List Nat) (sums : List (Nat × η)) : Prop :=
  ∀ b h, lookup b sums = some h → h = H (bitsOfBlock bits b) ∧ bitsOfBlock bits b ≠ []

theorem suffix_head_min {bits : List Nat} {v : Nat} {rest' : List Nat} (hs : Sorted bits)
    (hsuf : Suffix bits (v :: rest')) :
    (v :: rest') = bits.filter (fun p => decide (blockOf v ≤ blockOf p)) := by
  obtain ⟨k, hk⟩ := hsuf
  have hv : v ∈ bits.filter (fun p => decide (k ≤ blockOf p)) := hk ▸ mem_cons_self
  have hkv : k ≤ blockOf v := by simpa using (mem_filter.mp hv).2
  have hsr : Sorted (v :: rest') := hk ▸ sorted_filter _ hs
  rw [hk]
  apply sorted_ext (sorted_filter _ hs) (sorted_filter _ hs)
  intro x
  simp only [mem_filter, decide_eq_true_eq]
  refine and_congr_right fun hx => ⟨fun hkx => ?_, Nat.le_trans hkv⟩
  have : x ∈ v :: rest' := by rw [hk]; simp [hx, hkx]
  rcases mem_cons.mp this with rfl | hx'
  · exact Nat.le_refl _
  · exact blockOf_mono (Nat.le_of_lt ((pairwise_cons.mp hsr).1 x hx'))

theorem span_from {bits : List Nat} (hs : Sorted bits) (b n : Nat) (P : Nat → Bool)
    (hP : ∀ p, b ≤ blockOf p → (P p = true ↔ blockOf p < b + n)) :
    (bits.filter (fun p => decide (b ≤ blockOf p))).takeWhile P =
      bits.filter (fun p => decide (b ≤ blockOf p ∧ blockOf p < b + n)) ∧
    (bits.filter (fun p => decide (b ≤ blockOf p))).dropWhile P =
      bits.filter (fun p => decide (b + n ≤ blockOf p)) := by
  have hmem : ∀ p ∈ bits.filter (fun p => decide (b ≤ blockOf p)), b ≤ blockOf p := fun p hp => by
    simpa using (mem_filter.mp hp).2
  have hspan := Common.span_eq_filter P (sorted_filter _ hs) fun x hx y hy hxy hy' =>
    (hP x (hmem x hx)).mpr (Nat.lt_of_le_of_lt (blockOf_mono (Nat.le_of_lt hxy)) ((hP y (hmem y hy)).mp hy'))
  rw [hspan.1, hspan.2, filter_filter, filter_filter]
  constructor <;> apply filter_congr <;> intro p _ <;> rw [Bool.eq_iff_iff] <;> by_cases hb : b ≤ blockOf p
  · simp [hb, hP p hb]
  · simp [hb]
  · simp only [Bool.and_eq_true, Bool.not_eq_eq_eq_not, Bool.not_true, decide_eq_true_eq, hb, and_true,
      ← Bool.not_eq_true, hP p hb]
    omega
  · simp only [Bool.and_eq_true, decide_eq_true_eq, hb, and_false, false_iff]
    omega

theorem blocksLoop_spec (H : List Nat → η) (bits : List Nat) (hs : Sorted bits) :
    ∀ (fuel : Nat) (rest : List Nat) (sums acc : List (Nat × η)),
      rest.length ≤ fuel → Suffix bits rest → SumsOK H bits sums →
      (blocksLoop H fuel rest sums acc).1 = acc ++ want H bits rest ∧
      SumsOK H bits (blocksLoop H fuel rest sums acc).2 := by
  intro fuel
  induction fuel with
  | zero =>
    intro rest sums acc hf _ hok
    have : rest = [] := length_eq_zero_iff.mp (Nat.le_zero.mp hf)
    subst this
    exact ⟨(append_nil acc).symm, hok⟩
  | succ fuel ih =>
    intro rest sums acc hf hsuf hok
    cases rest with
    | nil => exact ⟨(append_nil acc).symm, hok⟩
    | cons v rest' =>
      have hrest := suffix_head_min hs hsuf
      have hvbits : v ∈ bits := (mem_filter.mp (hrest ▸ mem_cons_self : v ∈ bits.filter _)).1
      -- both branches: skip `n` non-empty blocks with `P`, append their entries `out`
      have step : ∀ (n : Nat) (P : Nat → Bool) (sums' out : List (Nat × η)),
          (∀ p, blockOf v ≤ blockOf p → (P p = true ↔ blockOf p < blockOf v + n)) → 0 < n →
          (∀ j, blockOf v ≤ j → j < blockOf v + n → bitsOfBlock bits j ≠ []) →
          out = (range' (blockOf v) n).map (fun x => (x, H (bitsOfBlock bits x))) → SumsOK H bits sums' →
          (blocksLoop H fuel ((v :: rest').dropWhile P) sums' (acc ++ out)).1 = acc ++ want H bits (v :: rest') ∧
          SumsOK H bits (blocksLoop H fuel ((v :: rest').dropWhile P) sums' (acc ++ out)).2 := by
        intro n P sums' out hP hn hne hout hok'
        have hPv : P v = true := (hP v (Nat.le_refl _)).mpr (Nat.lt_add_of_pos_right hn)
        have hlen : ((v :: rest').dropWhile P).length ≤ fuel := by
          rw [dropWhile_cons_of_pos hPv]
          exact Nat.le_trans (dropWhile_sublist P).length_le (Nat.le_of_succ_le_succ hf)
        have hdrop : (v :: rest').dropWhile P = bits.filter (fun p => decide (blockOf v + n ≤ blockOf p)) := by
          rw [hrest]; exact (span_from hs _ n P hP).2
        have ih := ih _ sums' (acc ++ out) hlen ⟨_, hdrop⟩ hok'
        refine ⟨?_, ih.2⟩
        rw [ih.1, append_assoc, hdrop, hrest, want, want, blockIds_from_split hs _ n hne, map_append, hout]
      simp only [blocksLoop]
      split
      · -- no cached checksum for this block: hash it
        have hP : ∀ p, blockOf v ≤ blockOf p → ((blockOf p == blockOf v) = true ↔ blockOf p < blockOf v + 1) :=
          fun p hp => by rw [beq_iff_eq]; omega
        have htake : (v :: rest').takeWhile (fun p => blockOf p == blockOf v) = bitsOfBlock bits (blockOf v) := by
          rw [hrest, (span_from hs _ 1 _ hP).1]
          exact filter_congr fun p _ => by rw [Bool.eq_iff_iff]; simp; omega
        have hne : bitsOfBlock bits (blockOf v) ≠ [] := bitsOfBlock_ne_nil.mpr ⟨v, hvbits, rfl⟩
        refine step 1 _ _ _ hP Nat.one_pos (fun j h1 h2 => (by omega : blockOf v = j) ▸ hne) (by rw [htake]; rfl) ?_
        intro b h hl
        rw [lookup_putKey] at hl
        split at hl
        · rename_i hb
          subst hb; cases hl
          rw [htake]; exact ⟨rfl, hne⟩
        · exact hok b h hl
      · -- cached checksums for blocks b, b+1, ..: copy them and seek behind them
        rename_i cs hcs
        obtain ⟨hc1, hc2⟩ := contiguous_spec sums (sums.length + 1) (blockOf v)
        generalize contiguous sums (sums.length + 1) (blockOf v) = cs' at *
        have hval : ∀ e ∈ cs', e.2 = H (bitsOfBlock bits e.1) ∧ bitsOfBlock bits e.1 ≠ [] :=
          fun e he => hok e.1 e.2 (hc2 e he)
        refine step cs'.length _ sums cs' (fun p _ => by rw [decide_eq_true_eq, lt_block_iff])
          (length_pos_iff.mpr hcs) (fun j h1 h2 => ?_) (map_fst_snd_ext cs' _ _ hc1 fun e he => (hval e he).1) hok
        -- a cached block is not empty
        obtain ⟨e, he, rfl⟩ := mem_map.mp (hc1 ▸ mem_range'_1.mpr ⟨h1, h2⟩ : j ∈ cs'.map (·.1))
        exact (hval e he).2

end PV.C07
