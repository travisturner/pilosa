/-
Invariants of the fragment model and the frame lemma every write path is proved with.
-/
import PV.Common.AscMap
import PV.C07.LemmasSet
namespace PV.C07
open List

variable {η : Type}

/-- cached rows are what storage holds (`rowCache` coherent). -/
def CacheInv (s : Frag η) : Prop :=
  ∀ r cols, lookup r s.rowCache = some cols → cols = rowCols s.bits r

/-- C10: a cached checksum is the hash of the block's current bits, and the block is not empty. -/
def ChecksumInv (H : List Nat → η) (s : Frag η) : Prop :=
  ∀ b h, lookup b s.sums = some h → h = H (bitsOfBlock s.bits b) ∧ bitsOfBlock s.bits b ≠ []

structure Inv (H : List Nat → η) (s : Frag η) : Prop where
  sorted : Sorted s.bits
  cache : CacheInv s
  sums : ChecksumInv H s

theorem inv_empty (H : List Nat → η) (k : Kind) (m : Nat) : Inv H (Frag.empty k m) :=
  ⟨sorted_nil, by intro r c h; simp [Frag.empty, lookup] at h, by intro b h hh; simp [Frag.empty, lookup] at hh⟩

theorem lookup_eq {β : Type} (k : Nat) (m : List (Nat × β)) : lookup k m = List.lookup k m := by
  induction m with
  | nil => rfl
  | cons e m ih => rw [Common.AscMap.lookup_cons, ← ih]; rfl

theorem lookup_eraseKey {β : Type} (k k' : Nat) (m : List (Nat × β)) :
    lookup k (eraseKey k' m) = if k = k' then none else lookup k m := by
  rw [lookup_eq, lookup_eq]; exact Common.AscMap.lookup_filter_ne m k' k

theorem lookup_putKey {β : Type} (k k' : Nat) (v : β) (m : List (Nat × β)) :
    lookup k (putKey k' v m) = if k = k' then some v else lookup k m := by
  simp only [putKey, lookup, lookup_eraseKey]
  by_cases h : k = k' <;> simp [h]

theorem lookup_map_key {β : Type} (f : Nat → β) (b : Nat) (ids : List Nat) :
    lookup b (ids.map (fun x => (x, f x))) = if b ∈ ids then some (f b) else none := by
  induction ids with
  | nil => rfl
  | cons x ids ih =>
    rw [map_cons, lookup, ih]
    by_cases h : b = x
    · subst h; rw [if_pos rfl, if_pos mem_cons_self]
    · simp only [h, ↓reduceIte, mem_cons, false_or]

theorem lookup_foldl_eraseKey {β : Type} (f : Nat → Nat) (R : List Nat) (m : List (Nat × β)) (k : Nat) (v : β)
    (h : lookup k (R.foldl (fun m r => eraseKey (f r) m) m) = some v) :
    lookup k m = some v ∧ ∀ r ∈ R, f r ≠ k := by
  induction R generalizing m with
  | nil => exact ⟨h, fun _ hr => nomatch hr⟩
  | cons r R ih =>
    have ⟨h1, h2⟩ := ih _ h
    rw [lookup_eraseKey] at h1
    split at h1
    · cases h1
    · rename_i e
      exact ⟨h1, fun r' hr' => (mem_cons.mp hr').elim (fun e' => e' ▸ fun x => e x.symm) (h2 r')⟩

@[simp] theorem snapshot_bits (s : Frag η) : (snapshot s).bits = s.bits := rfl
@[simp] theorem snapshot_rowCache (s : Frag η) : (snapshot s).rowCache = s.rowCache := rfl
@[simp] theorem snapshot_sums (s : Frag η) : (snapshot s).sums = s.sums := rfl
@[simp] theorem snapshot_kind (s : Frag η) : (snapshot s).kind = s.kind := rfl
@[simp] theorem snapshot_maxOpN (s : Frag η) : (snapshot s).maxOpN = s.maxOpN := rfl

theorem incrementOpN_eq (s : Frag η) (n : Nat) : ∃ o k, incrementOpN s n = { s with opN := o, snaps := k } := by
  unfold incrementOpN
  split
  · exact ⟨_, _, rfl⟩
  · by_cases h : s.opN + n > s.maxOpN
    · exact ⟨_, _, if_pos h⟩
    · exact ⟨_, _, if_neg h⟩

@[simp] theorem incrementOpN_bits (s : Frag η) (n : Nat) : (incrementOpN s n).bits = s.bits := by
  obtain ⟨o, k, h⟩ := incrementOpN_eq s n; rw [h]
@[simp] theorem incrementOpN_rowCache (s : Frag η) (n : Nat) : (incrementOpN s n).rowCache = s.rowCache := by
  obtain ⟨o, k, h⟩ := incrementOpN_eq s n; rw [h]
@[simp] theorem incrementOpN_sums (s : Frag η) (n : Nat) : (incrementOpN s n).sums = s.sums := by
  obtain ⟨o, k, h⟩ := incrementOpN_eq s n; rw [h]
@[simp] theorem incrementOpN_kind (s : Frag η) (n : Nat) : (incrementOpN s n).kind = s.kind := by
  obtain ⟨o, k, h⟩ := incrementOpN_eq s n; rw [h]
@[simp] theorem incrementOpN_maxOpN (s : Frag η) (n : Nat) : (incrementOpN s n).maxOpN = s.maxOpN := by
  obtain ⟨o, k, h⟩ := incrementOpN_eq s n; rw [h]

theorem invalidateRows_eq (s : Frag η) (R : List Nat) : invalidateRows s R =
    { s with sums := R.foldl (fun m r => eraseKey (r / HBS) m) s.sums,
             rowCache := R.foldl (fun m r => eraseKey r m) s.rowCache } := by
  unfold invalidateRows
  induction R generalizing s with
  | nil => rfl
  | cons r R ih => rw [foldl_cons, ih]; rfl

/-- `s'` is `s` with bit changes confined to the rows `R`, whose cache entries (rows and blocks)
are gone; other cache entries may have been dropped but none was added or altered. -/
structure Frame (s s' : Frag η) (R : List Nat) : Prop where
  cache : ∀ r c, lookup r s'.rowCache = some c → lookup r s.rowCache = some c ∧ r ∉ R
  sums : ∀ b h, lookup b s'.sums = some h → lookup b s.sums = some h ∧ ∀ r ∈ R, r / HBS ≠ b
  bits : ∀ p, rowOf p ∉ R → (p ∈ s.bits ↔ p ∈ s'.bits)

theorem Frame.trans {s s' s'' : Frag η} {R R' : List Nat} (f : Frame s s' R) (g : Frame s' s'' R') :
    Frame s s'' (R ++ R') := by
  refine ⟨?_, ?_, ?_⟩
  · intro r c h
    have h1 := g.cache r c h
    have h2 := f.cache r c h1.1
    exact ⟨h2.1, by simp [h1.2, h2.2]⟩
  · intro b h hh
    have h1 := g.sums b h hh
    have h2 := f.sums b h h1.1
    refine ⟨h2.1, ?_⟩
    intro r hr
    rcases mem_append.mp hr with hr | hr
    · exact h2.2 r hr
    · exact h1.2 r hr
  · intro p hp
    simp only [mem_append, not_or] at hp
    exact (f.bits p hp.1).trans (g.bits p hp.2)

theorem Frame.of_same_bits {s s' : Frag η} (hb : s'.bits = s.bits)
    (hc : ∀ r c, lookup r s'.rowCache = some c → lookup r s.rowCache = some c)
    (hs : ∀ b h, lookup b s'.sums = some h → lookup b s.sums = some h) : Frame s s' [] :=
  ⟨fun r c h => ⟨hc r c h, by simp⟩, fun b h hh => ⟨hs b h hh, by simp⟩, fun p _ => by rw [hb]⟩

theorem frame_incrementOpN (s : Frag η) (n : Nat) : Frame s (incrementOpN s n) [] :=
  Frame.of_same_bits (by simp) (fun _ _ h => by simpa using h) (fun _ _ h => by simpa using h)

/-- the invariant survives every framed step. -/
theorem inv_of_frame {H : List Nat → η} {s s' : Frag η} {R : List Nat}
    (hI : Inv H s) (hs' : Sorted s'.bits) (f : Frame s s' R) : Inv H s' := by
  refine ⟨hs', ?_, ?_⟩
  · intro r c h
    have h1 := f.cache r c h
    rw [hI.cache r c h1.1]
    unfold rowCols
    congr 1
    apply filter_congr_sorted hI.sorted hs'
    intro p hp
    have : rowOf p = r := by simpa using hp
    exact f.bits p (this ▸ h1.2)
  · intro b h hh
    have h1 := f.sums b h hh
    have e : bitsOfBlock s.bits b = bitsOfBlock s'.bits b := by
      unfold bitsOfBlock
      apply filter_congr_sorted hI.sorted hs'
      intro p hp
      have hb : blockOf p = b := by simpa using hp
      apply f.bits p
      intro hin
      exact h1.2 _ hin (by rw [← blockOf_eq]; exact hb)
    rw [← e]
    exact hI.sums b h h1.1

theorem frame_write {s s' : Frag η} (R : List Nat)
    (hc : s'.rowCache = R.foldl (fun m r => eraseKey r m) s.rowCache)
    (hs : s'.sums = R.foldl (fun m r => eraseKey (r / HBS) m) s.sums)
    (hb : ∀ p, rowOf p ∉ R → (p ∈ s.bits ↔ p ∈ s'.bits)) : Frame s s' R := by
  refine ⟨fun r c h => ?_, fun b h hh => ?_, hb⟩
  · rw [hc] at h
    have ⟨h1, h2⟩ := lookup_foldl_eraseKey id R _ r c h
    exact ⟨h1, fun hr => h2 r hr rfl⟩
  · rw [hs] at hh
    exact lookup_foldl_eraseKey (· / HBS) R _ b h hh

end PV.C07
