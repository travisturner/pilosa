/-
Mutex / bool fragments hold at most one row per column: the stored set is the graph of a map
column → row (`Graph`), on which the specification's writes act as `Spec.mset` / `mclear` /
`mclearRow`.  There `mutexVector.Get` reads the specification's `mview`, and `bulkImportMutex`'s plan
(colSet = last row per column, one lookup per column against the pre-batch storage) is the batch
applied left to right.
-/
import PV.C07.LemmasWrite
namespace PV.C07
open List hiding lookup

variable {η : Type}

/-- C13: no column holds two rows. -/
def AtMostOne (bits : List Nat) : Prop :=
  ∀ c r₁ r₂, pos r₁ c ∈ bits → pos r₂ c ∈ bits → r₁ = r₂

/-- a bool fragment only holds rows 0 and 1. -/
def BoolOK (kind : Kind) (bits : List Nat) : Prop := kind = .bool → ∀ x ∈ bits, rowOf x ≤ 1

theorem AtMostOne.subset {S S' : List Nat} (h : AtMostOne S) (hsub : ∀ x, x ∈ S' → x ∈ S) : AtMostOne S' :=
  fun c r₁ r₂ h₁ h₂ => h c r₁ r₂ (hsub _ h₁) (hsub _ h₂)

theorem BoolOK.subset {k : Kind} {S S' : List Nat} (h : BoolOK k S) (hsub : ∀ x, x ∈ S' → x ∈ S) : BoolOK k S' :=
  fun hk x hx => h hk x (hsub x hx)

theorem mem_rowsWithCol {bits : List Nat} {c r : Nat} : r ∈ rowsWithCol bits c ↔ pos r c ∈ bits := by
  simp only [rowsWithCol, mem_map, mem_filter, beq_iff_eq]
  exact ⟨fun ⟨p, ⟨hp, hc⟩, hr⟩ => eq_pos_of hr hc ▸ hp, fun h => ⟨_, ⟨h, colOf_pos r c⟩, rowOf_pos r c⟩⟩

theorem rowOf_lt_of_lt {a b : Nat} (hab : a < b) (hc : colOf a = colOf b) : rowOf a < rowOf b := by
  unfold rowOf
  unfold colOf at hc
  have ha := Nat.div_add_mod a SW
  have hb := Nat.div_add_mod b SW
  refine Nat.lt_of_not_le fun hle => ?_
  have := Nat.mul_le_mul_left SW hle
  omega

theorem sorted_rowsWithCol {bits : List Nat} (hs : Sorted bits) (c : Nat) : Sorted (rowsWithCol bits c) := by
  refine pairwise_map.mpr ((sorted_filter (fun p => colOf p == c % SW) hs).imp_of_mem fun ha hb hab => ?_)
  have ha' := (mem_filter.mp ha).2
  have hb' := (mem_filter.mp hb).2
  simp only [beq_iff_eq] at ha' hb'
  exact rowOf_lt_of_lt hab (ha'.trans hb'.symm)

theorem rowsWithCol_eq {bits : List Nat} (hs : Sorted bits) (ha : AtMostOne bits) (c : Nat) :
    rowsWithCol bits c = (Spec.mview bits c).toList := by
  unfold Spec.mview
  match hrows : rowsWithCol bits c with
  | [] => rfl
  | [e] => rfl
  | a :: b :: t =>
    have hsr := sorted_rowsWithCol hs c
    rw [hrows] at hsr
    have hab : a < b := (pairwise_cons.mp hsr).1 b (by simp)
    have h1 : pos a c ∈ bits := mem_rowsWithCol.mp (by rw [hrows]; simp)
    have h2 : pos b c ∈ bits := mem_rowsWithCol.mp (by rw [hrows]; simp)
    exact absurd (ha c a b h1 h2) (Nat.ne_of_lt hab)

theorem mview_some_iff {S : List Nat} (hs : Sorted S) (ha : AtMostOne S) (c r : Nat) :
    Spec.mview S c = some r ↔ pos r c ∈ S := by
  rw [← mem_rowsWithCol, rowsWithCol_eq hs ha, Option.mem_toList]

theorem mget_eq {kind : Kind} {S : List Nat} (hs : Sorted S) (ha : AtMostOne S) (hb : BoolOK kind S)
    (c : Nat) : mutexGet kind S c = Spec.mget S c := by
  unfold mutexGet Spec.mget
  rw [rowsWithCol_eq hs ha]
  cases h : Spec.mview S c with
  | none => rfl
  | some e =>
    have : ¬ (kind = .bool ∧ e > 1) := fun ⟨hk, hgt⟩ =>
      absurd (hb hk _ ((mview_some_iff hs ha c e).mp h)) (by rw [rowOf_pos]; omega)
    simp [this]

theorem mutexGet_spec {kind : Kind} {bits : List Nat} (hs : Sorted bits) (ha : AtMostOne bits)
    (hb : BoolOK kind bits) (c : Nat) :
    (mutexGet kind bits c = .none ∧ ∀ r, pos r c ∉ bits) ∨
    (∃ e, mutexGet kind bits c = .found e ∧ pos e c ∈ bits) := by
  rw [mget_eq hs ha hb, Spec.mget]
  cases h : Spec.mview bits c with
  | none => exact Or.inl ⟨rfl, fun r hr => nomatch h ▸ (mview_some_iff hs ha c r).mpr hr⟩
  | some e => exact Or.inr ⟨e, rfl, (mview_some_iff hs ha c e).mp h⟩

/-- what `Spec.setBit` keeps on a mutex / bool fragment: all but the column's other rows. -/
theorem keep_iff {p r c : Nat} :
    (!(colOf p == c % SW && rowOf p != r)) = true ↔ ¬ (colOf p = c % SW ∧ rowOf p ≠ r) := by
  rw [Bool.not_eq_true', ← Bool.not_eq_true, Bool.and_eq_true, beq_iff_eq, bne_iff_ne]

theorem mem_spec_setBit_mutex {kind : Kind} (hk : kind ≠ .set) (S : List Nat) (r c x : Nat) :
    x ∈ Spec.setBit kind S r c ↔ x = pos r c ∨ (x ∈ S ∧ ¬ (colOf x = c % SW ∧ rowOf x ≠ r)) := by
  rw [Spec.setBit, if_neg hk, mem_ins, mem_filter, keep_iff]

theorem sorted_spec_setBit (kind : Kind) {S : List Nat} (hs : Sorted S) (r c : Nat) :
    Sorted (Spec.setBit kind S r c) := by
  unfold Spec.setBit
  split
  · exact sorted_ins hs
  · exact sorted_ins (sorted_filter _ hs)

/-- `S` holds exactly the positions `(m c, c)`. -/
def Graph (m : Spec.MState) (S : List Nat) : Prop := ∀ x, x ∈ S ↔ m (colOf x) = some (rowOf x)

theorem Graph.pos {m : Spec.MState} {S : List Nat} (h : Graph m S) (r c : Nat) :
    pos r c ∈ S ↔ m (c % SW) = some r := by
  rw [h, colOf_pos, rowOf_pos]

theorem Graph.amo {m : Spec.MState} {S : List Nat} (h : Graph m S) : AtMostOne S :=
  fun c r₁ r₂ h₁ h₂ => Option.some.inj (((h.pos r₁ c).mp h₁).symm.trans ((h.pos r₂ c).mp h₂))

theorem graph_mview {S : List Nat} (hs : Sorted S) (ha : AtMostOne S) : Graph (Spec.mview S) S :=
  fun x => by rw [mview_some_iff hs ha, pos_rowOf_colOf]

theorem Graph.agree {m : Spec.MState} {S : List Nat} (h : Graph m S) (hs : Sorted S) (c : Nat) (hc : c < SW) :
    m c = Spec.mview S c :=
  Option.ext fun r => by rw [mview_some_iff hs h.amo, h.pos, Nat.mod_eq_of_lt hc]

theorem graph_set {kind : Kind} (hk : kind ≠ .set) {m : Spec.MState} {S : List Nat} (h : Graph m S) (r c : Nat) :
    Graph (Spec.mset m r c) (Spec.setBit kind S r c) := fun x => by
  rw [mem_spec_setBit_mutex hk, eq_pos_iff, h x, Spec.mset]
  by_cases e : colOf x = c % SW
  · simp only [e, ↓reduceIte, Option.some.injEq, and_true, true_and, ne_eq, Decidable.not_not]
    exact ⟨fun h => h.elim Eq.symm fun h => h.2.symm, fun h => Or.inl h.symm⟩
  · simp only [e, ↓reduceIte, and_false, false_and, false_or, not_false_eq_true, and_true]

theorem graph_clear {m : Spec.MState} {S : List Nat} (h : Graph m S) (r c : Nat) :
    Graph (Spec.mclear m r c) (del (pos r c) S) := fun x => by
  rw [mem_del, Ne, eq_pos_iff, h x, Spec.mclear]
  by_cases e : colOf x = c % SW ∧ m (colOf x) = some r
  · rw [if_pos e]
    exact ⟨fun h' => (h'.2 ⟨Option.some.inj (h'.1.symm.trans e.2), e.1⟩).elim, fun h' => nomatch h'⟩
  · rw [if_neg e]
    exact ⟨And.left, fun h' => ⟨h', fun h'' => e ⟨h''.2, h''.1 ▸ h'⟩⟩⟩

theorem graph_clearRow {m : Spec.MState} {S : List Nat} (h : Graph m S) (r : Nat) :
    Graph (Spec.mclearRow m r) (dropRow S r) := fun x => by
  rw [mem_dropRow, h x, Spec.mclearRow]
  by_cases e : m (colOf x) = some r
  · rw [if_pos e]
    exact ⟨fun h' => (h'.2 (Option.some.inj (h'.1.symm.trans e))).elim, fun h' => nomatch h'⟩
  · rw [if_neg e]
    exact ⟨And.left, fun h' => ⟨h', fun h'' => e (h'' ▸ h')⟩⟩

theorem graph_foldl {ι : Type} (f : List Nat → ι → List Nat) (g : Spec.MState → ι → Spec.MState)
    (hfg : ∀ m S i, Graph m S → Graph (g m i) (f S i)) (l : List ι) :
    ∀ m S, Graph m S → Graph (l.foldl g m) (l.foldl f S) := by
  induction l with
  | nil => exact fun _ _ h => h
  | cons i l ih => exact fun m S h => ih _ _ (hfg m S i h)

theorem boolOK_spec_setBit {kind : Kind} (hk : kind ≠ .set) {S : List Nat} (hb : BoolOK kind S) (r c : Nat)
    (hr : kind = .bool → r ≤ 1) : BoolOK kind (Spec.setBit kind S r c) := by
  intro hkb x hx
  rw [mem_spec_setBit_mutex hk] at hx
  rcases hx with rfl | ⟨hx, _⟩
  · rw [rowOf_pos]; exact hr hkb
  · exact hb hkb x hx

theorem filter_others_eq_self {S : List Nat} {r c : Nat} (h : ∀ e, pos e c ∈ S → e = r) :
    S.filter (fun p => !(colOf p == c % SW && rowOf p != r)) = S :=
  filter_eq_self.mpr fun _ hp => keep_iff.mpr fun ⟨h1, h2⟩ => h2 (h _ (eq_pos_of rfl h1 ▸ hp))

theorem filter_others_eq_del {S : List Nat} (ha : AtMostOne S) {r c e : Nat} (he : pos e c ∈ S) (hne : e ≠ r) :
    S.filter (fun p => !(colOf p == c % SW && rowOf p != r)) = del (pos e c) S :=
  filter_congr fun p hp => by
    have : (colOf p = c % SW ∧ rowOf p ≠ r) ↔ p = pos e c :=
      ⟨fun ⟨h1, _⟩ => eq_pos_of (ha c _ _ (eq_pos_of rfl h1 ▸ hp) he) h1,
       fun h => h ▸ ⟨colOf_pos e c, by rwa [rowOf_pos]⟩⟩
    exact Bool.eq_iff_iff.mpr (keep_iff.trans (by rw [this, bne_iff_ne]))

theorem setBit_spec (s : Frag η) (hs : Sorted s.bits) (ha : s.kind ≠ .set → AtMostOne s.bits)
    (hb : BoolOK s.kind s.bits) (r c : Nat) :
    (setBit s r c).1.bits = Spec.setBit s.kind s.bits r c ∧
    (setBit s r c).2 = .changed (Spec.setBit s.kind s.bits r c != s.bits) := by
  by_cases hk : s.kind = .set
  · simp only [setBit, Spec.setBit, hk, ↓reduceIte, usb_changed]
    rw [usb_bits_eq s r c hs, bne_ins hs]
    exact ⟨rfl, rfl⟩
  have ha := ha hk
  simp only [Spec.setBit, if_neg hk]
  rcases mutexGet_spec hs ha hb c with ⟨hg, hnone⟩ | ⟨e, hg, he⟩
  · simp only [setBit, hk, ↓reduceIte, hg, usb_changed]
    rw [usb_bits_eq s r c hs, filter_others_eq_self fun e he => absurd he (hnone e), bne_ins hs]
    exact ⟨rfl, rfl⟩
  · by_cases her : e = r
    · simp only [setBit, hk, ↓reduceIte, hg, her, ne_eq, not_true_eq_false, usb_changed]
      rw [usb_bits_eq s r c hs, filter_others_eq_self fun e' he' => ha c e' r he' (her ▸ he), bne_ins hs]
      exact ⟨rfl, rfl⟩
    · -- the other row goes, the new one was not there: the set changes
      simp only [setBit, hk, ↓reduceIte, hg, ne_eq, her, not_false_eq_true, usb_changed]
      have hs' : Sorted (del (pos e c) s.bits) := sorted_del hs
      have hrn : pos r c ∉ del (pos e c) s.bits := fun h => her (ha c e r he (mem_del.mp h).1)
      rw [usb_bits_eq _ r c (ucb_bits_eq s e c ▸ hs'), ucb_bits_eq, filter_others_eq_del ha he her,
        has_false_iff.mpr hrn, (bne_iff_exists hs (sorted_ins hs')).mpr
          ⟨pos e c, fun h => (mem_ins.mp (h.mpr he)).elim (fun h => her (pos_inj h).1) fun h => (mem_del.mp h).2 rfl⟩]
      exact ⟨rfl, rfl⟩

/-- row of the last entry of the batch for column `k` (a column offset `< SW`). -/
def lastRowOf : List (Nat × Nat) → Nat → Option Nat
  | [], _ => none
  | (r, c) :: rest, k =>
    match lastRowOf rest k with
    | some r' => some r'
    | none => if c % SW = k then some r else none

def KeysNodup {β : Type} (m : List (Nat × β)) : Prop := (m.map (·.1)).Nodup

theorem mem_eraseKey {β : Type} {k : Nat} {m : List (Nat × β)} {e : Nat × β} :
    e ∈ eraseKey k m ↔ e ∈ m ∧ e.1 ≠ k := by simp [eraseKey]

theorem keysNodup_putKey {β : Type} (k : Nat) (v : β) {m : List (Nat × β)} (h : KeysNodup m) :
    KeysNodup (putKey k v m) := by
  unfold KeysNodup putKey
  rw [map_cons, nodup_cons]
  refine ⟨fun hk => ?_, h.sublist (Sublist.map _ filter_sublist)⟩
  obtain ⟨e, he, hek⟩ := mem_map.mp hk
  exact (mem_eraseKey.mp he).2 hek

theorem mem_iff_lookup {β : Type} {m : List (Nat × β)} (h : KeysNodup m) (k : Nat) (v : β) :
    (k, v) ∈ m ↔ lookup k m = some v := by
  induction m with
  | nil => exact ⟨fun h => (nomatch h), fun h => (nomatch h)⟩
  | cons e m ih =>
    obtain ⟨k', v'⟩ := e
    have hn := nodup_cons.mp (show (k' :: m.map (·.1)).Nodup from h)
    rw [mem_cons, lookup, Prod.mk.injEq]
    by_cases hk : k = k'
    · -- the head is the only entry with this key
      subst hk
      rw [if_pos rfl, Option.some.injEq]
      exact ⟨fun h1 => h1.elim (fun e => e.2.symm) fun h1 => absurd (mem_map.mpr ⟨(k, v), h1, rfl⟩) hn.1,
        fun h1 => Or.inl ⟨rfl, h1.symm⟩⟩
    · rw [if_neg hk, ← ih hn.2]
      exact or_iff_right fun e => hk e.1

theorem colSetOf_spec : ∀ (pairs acc : List (Nat × Nat)), KeysNodup acc → (∀ e ∈ acc, e.1 < SW) →
    KeysNodup (colSetOf acc pairs) ∧ (∀ e ∈ colSetOf acc pairs, e.1 < SW) ∧
    ∀ k, lookup k (colSetOf acc pairs) = match lastRowOf pairs k with
      | some r => some r
      | none => lookup k acc := by
  intro pairs
  induction pairs with
  | nil => exact fun acc hn hlt => ⟨hn, hlt, fun k => rfl⟩
  | cons rc rest ih =>
    obtain ⟨r, c⟩ := rc
    intro acc hn hlt
    have hlt' : ∀ e ∈ putKey (c % SW) r acc, e.1 < SW := fun e he =>
      (mem_cons.mp he).elim (fun h => h ▸ Nat.mod_lt _ SW_pos) fun he => hlt e (mem_eraseKey.mp he).1
    have ih := ih (putKey (c % SW) r acc) (keysNodup_putKey _ _ hn) hlt'
    refine ⟨ih.1, ih.2.1, fun k => ?_⟩
    simp only [colSetOf, lastRowOf]
    rw [ih.2.2 k]
    cases lastRowOf rest k with
    | some r' => rfl
    | none =>
      simp only [lookup_putKey]
      by_cases hk : c % SW = k
      · simp [hk]
      · have : ¬ k = c % SW := fun h => hk h.symm
        simp [hk, this]

theorem exists_mem_cons_pair {P : Nat → Nat → Prop} {c r : Nat} {cs : List (Nat × Nat)} :
    (∃ c' r', (c', r') ∈ (c, r) :: cs ∧ P c' r') ↔ P c r ∨ ∃ c' r', (c', r') ∈ cs ∧ P c' r' :=
  ⟨fun ⟨c', r', h, p⟩ => (mem_cons.mp h).elim (fun e => by cases e; exact Or.inl p) fun h => Or.inr ⟨c', r', h, p⟩,
   fun h => h.elim (fun p => ⟨c, r, mem_cons_self, p⟩) fun ⟨c', r', h, p⟩ => ⟨c', r', mem_cons_of_mem _ h, p⟩⟩

/-- the plan, on a well-formed fragment: never an error; positions to set / clear. -/
theorem mutexPlan_spec {kind : Kind} {bits : List Nat} (hs : Sorted bits) (ha : AtMostOne bits)
    (hb : BoolOK kind bits) : ∀ (cs : List (Nat × Nat)),
    ∃ sets clears rows, mutexPlan kind bits cs = .ok (sets, clears, rows) ∧
      (∀ x, x ∈ sets ↔ ∃ c r, (c, r) ∈ cs ∧ x = pos r c ∧ pos r c ∉ bits) ∧
      (∀ x, x ∈ clears ↔ ∃ c r e, (c, r) ∈ cs ∧ x = pos e c ∧ pos e c ∈ bits ∧ e ≠ r) := by
  intro cs
  induction cs with
  | nil => exact ⟨[], [], [], rfl, by simp, by simp⟩
  | cons cr cs ih =>
    obtain ⟨c, r⟩ := cr
    obtain ⟨sets, clears, rows, hplan, hsets, hclears⟩ := ih
    -- what the entry `(c, r)` adds to the two descriptions
    have hS : ∀ x, (∃ c' r', (c', r') ∈ (c, r) :: cs ∧ x = pos r' c' ∧ pos r' c' ∉ bits) ↔
        (x = pos r c ∧ pos r c ∉ bits) ∨ x ∈ sets := fun x =>
      exists_mem_cons_pair.trans (or_congr_right (hsets x).symm)
    have hC : ∀ x, (∃ c' r' e, (c', r') ∈ (c, r) :: cs ∧ x = pos e c' ∧ pos e c' ∈ bits ∧ e ≠ r') ↔
        (∃ e, x = pos e c ∧ pos e c ∈ bits ∧ e ≠ r) ∨ x ∈ clears := fun x => by
      rw [hclears]; simp only [exists_and_left]; exact exists_mem_cons_pair
    rcases mutexGet_spec hs ha hb c with ⟨hg, hnone⟩ | ⟨e, hg, he⟩
    · -- the column is empty: set, nothing to clear
      refine ⟨pos r c :: sets, clears, r :: rows, by simp [mutexPlan, hg, hplan], fun x => ?_, fun x => ?_⟩
      · rw [hS, mem_cons, and_iff_left (hnone r)]
      · rw [hC]; exact (or_iff_right fun ⟨e', _, h, _⟩ => hnone e' h).symm
    · by_cases her : e = r
      · -- the column holds the row already: nothing to do
        have he' : pos r c ∈ bits := her ▸ he
        refine ⟨sets, clears, rows, by simp [mutexPlan, hg, hplan, her], fun x => ?_, fun x => ?_⟩
        · rw [hS]; exact (or_iff_right fun h => h.2 he').symm
        · rw [hC]; exact (or_iff_right fun ⟨e', _, h, hne⟩ => hne (ha c e' r h he')).symm
      · -- the column holds another row: clear it, set the new one
        have hrn : pos r c ∉ bits := fun h => her (ha c e r he h)
        refine ⟨pos r c :: sets, pos e c :: clears, e :: r :: rows, by simp [mutexPlan, hg, hplan, her],
          fun x => ?_, fun x => ?_⟩
        · rw [hS, mem_cons, and_iff_left hrn]
        · rw [hC, mem_cons]
          exact or_congr_left ⟨fun h => ⟨e, h, he, her⟩, fun ⟨e', h2, h3, _⟩ => ha c e' e h3 he ▸ h2⟩

theorem sorted_spec_bulk_set (kind : Kind) : ∀ (pairs : List (Nat × Nat)) (S : List Nat), Sorted S →
    Sorted (pairs.foldl (fun a rc => Spec.setBit kind a rc.1 rc.2) S) := by
  intro pairs
  induction pairs with
  | nil => exact fun _ h => h
  | cons rc rest ih => exact fun _ h => ih _ (sorted_spec_setBit kind h _ _)

/-- applying a batch of sets left to right: the last row given for a column wins, untouched
columns keep their bits. -/
theorem mem_spec_bulk_set {kind : Kind} (hk : kind ≠ .set) : ∀ (pairs : List (Nat × Nat)) (S : List Nat) (x : Nat),
    x ∈ pairs.foldl (fun a rc => Spec.setBit kind a rc.1 rc.2) S ↔
      match lastRowOf pairs (colOf x) with
      | some r => rowOf x = r
      | none => x ∈ S := by
  intro pairs
  induction pairs with
  | nil => exact fun S x => Iff.rfl
  | cons rc rest ih =>
    obtain ⟨r, c⟩ := rc
    intro S x
    simp only [foldl_cons, lastRowOf]
    rw [ih]
    cases lastRowOf rest (colOf x) with
    | some r' => rfl
    | none =>
      simp only [mem_spec_setBit_mutex hk, eq_pos_iff]
      by_cases hc : c % SW = colOf x
      · simp only [hc, ↓reduceIte, true_and, and_true]
        exact ⟨fun h => h.elim id fun h => Decidable.by_contra h.2, Or.inl⟩
      · have : ¬ colOf x = c % SW := fun h => hc h.symm
        simp only [hc, this, ↓reduceIte, and_false, false_and, false_or, not_false_eq_true, and_true]

/-- C13 core: `bulkImportMutex` (after the fix) = the batch applied left to right. -/
theorem bulkImportMutex_spec (s : Frag η) (hk : s.kind ≠ .set) (hs : Sorted s.bits)
    (ha : AtMostOne s.bits) (hb : BoolOK s.kind s.bits) (pairs : List (Nat × Nat)) :
    (bulkImportMutex s pairs).2 = .ok ∧
    (bulkImportMutex s pairs).1.bits = Spec.bulkImport s.kind s.bits false pairs := by
  obtain ⟨hkn, hklt, hlook⟩ := colSetOf_spec pairs [] (by simp [KeysNodup]) (by simp)
  obtain ⟨sets, clears, rows, hplan, hsets, hclears⟩ := mutexPlan_spec hs ha hb (colSetOf [] pairs)
  -- the entries of colSet: each column of the batch with its last row
  have hmem : ∀ k r, (k, r) ∈ colSetOf [] pairs ↔ lastRowOf pairs k = some r := by
    intro k r
    rw [mem_iff_lookup hkn, hlook k]
    cases lastRowOf pairs k <;> simp [lookup]
  have hcol : ∀ {c r e}, (c, r) ∈ colSetOf [] pairs → colOf (pos e c) = c := fun h => by
    rw [colOf_pos, Nat.mod_eq_of_lt (hklt _ h)]
  -- hence the plan, position by position
  have hsets' : ∀ x, x ∈ sets ↔ lastRowOf pairs (colOf x) = some (rowOf x) ∧ x ∉ s.bits := fun x => by
    rw [hsets]
    constructor
    · rintro ⟨c, r, h1, rfl, h3⟩
      rw [hcol h1, rowOf_pos]; exact ⟨(hmem c r).mp h1, h3⟩
    · rintro ⟨h1, h3⟩
      exact ⟨_, _, (hmem _ _).mpr h1, (pos_rowOf_colOf x).symm, by rwa [pos_rowOf_colOf]⟩
  have hclears' : ∀ x, x ∈ clears ↔ x ∈ s.bits ∧ ∃ r, lastRowOf pairs (colOf x) = some r ∧ rowOf x ≠ r := fun x => by
    rw [hclears]
    constructor
    · rintro ⟨c, r, e, h1, rfl, h3, h4⟩
      rw [hcol h1, rowOf_pos]; exact ⟨h3, r, (hmem c r).mp h1, h4⟩
    · rintro ⟨h3, r, h1, h4⟩
      exact ⟨_, r, _, (hmem _ _).mpr h1, (pos_rowOf_colOf x).symm, by rwa [pos_rowOf_colOf], h4⟩
  simp only [bulkImportMutex, hplan, true_and, Spec.bulkImport, Bool.false_eq_true, ↓reduceIte]
  apply sorted_ext (sorted_importPositions s sets clears rows hs) (sorted_spec_bulk_set _ _ _ hs)
  intro x
  rw [mem_importPositions _ _ _ _ _ hs, mem_spec_bulk_set hk, hsets', hclears']
  cases lastRowOf pairs (colOf x) with
  | none => simp
  | some r =>
    have e : rowOf x = r ↔ r = rowOf x := eq_comm
    by_cases hx : x ∈ s.bits <;> by_cases hr : r = rowOf x <;> simp [hx, hr, e]

theorem bulkImport_spec (s : Frag η) (hs : Sorted s.bits) (ha : s.kind ≠ .set → AtMostOne s.bits)
    (hb : BoolOK s.kind s.bits) (clear : Bool) (pairs : List (Nat × Nat)) :
    (bulkImport s clear pairs).1.bits = Spec.bulkImport s.kind s.bits clear pairs ∧
    (bulkImport s clear pairs).2 = .ok := by
  unfold bulkImport
  split
  · rename_i h
    have hc : clear = false := by simpa using h.2
    subst hc
    exact (bulkImportMutex_spec s h.1 hs (ha h.1) hb pairs).symm
  · rename_i h
    refine ⟨bulkImportStandard_bits_eq s clear pairs hs ?_, rfl⟩
    by_cases hk : s.kind = .set
    · exact Or.inr hk
    · exact Or.inl (by simpa [hk] using h)

end PV.C07
