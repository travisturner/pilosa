/-
Every operation of the step function is a framed step or fills a cache: the invariant and the
kind of the fragment are kept; `Blocks()` answers the specification's block list.
-/
import PV.C07.LemmasValue
import PV.C07.LemmasBlocks
namespace PV.C07
open List hiding lookup

variable {η : Type}

theorem inv_row {H : List Nat → η} {s : Frag η} (hI : Inv H s) (r : Nat) : Inv H (row s r).1 := by
  unfold row
  split
  · exact hI
  · refine ⟨hI.sorted, ?_, hI.sums⟩
    intro r' cols h
    simp only [lookup_putKey] at h
    split at h
    · rename_i e; subst e
      simp only [Option.some.injEq] at h
      exact h.symm
    · exact hI.cache r' cols h

theorem row_out {H : List Nat → η} {s : Frag η} (hI : Inv H s) (r : Nat) : (row s r).2 = rowCols s.bits r := by
  unfold row
  split
  · rename_i cols h; exact hI.cache r cols h
  · rfl

theorem blocks_spec {H : List Nat → η} {s : Frag η} (hI : Inv H s) :
    (blocks H s).2 = Spec.blocks H s.bits ∧ Inv H (blocks H s).1 := by
  have hsuf : Suffix s.bits s.bits := ⟨0, by simp only [Nat.zero_le, decide_true]; exact (filter_eq_self.mpr (fun _ _ => rfl)).symm⟩
  have h := blocksLoop_spec H s.bits hI.sorted (s.bits.length + 1) s.bits s.sums [] (by omega) hsuf hI.sums
  refine ⟨?_, ⟨hI.sorted, hI.cache, h.2⟩⟩
  simp only [blocks, h.1, nil_append]
  rfl

/-- the two reads that fill a cache; every other operation drops cache entries at most. -/
def fillsCache : Op → Bool
  | .row _ | .blocks => true
  | _ => false

theorem framedStep_step (H : List Nat → η) (s : Frag η) (op : Op) (h : fillsCache op = false) :
    FramedStep s (step H s op).1 := by
  cases op with
  | setBit r c => exact framedStep_setBit s r c
  | clearBit r c => exact framedStep_clearBit s r c
  | setRow r cols => exact framedStep_setRow s r cols
  | clearRow r => exact framedStep_clearRow s r
  | bulkImport clear pairs => exact framedStep_bulkImport s clear pairs
  | importValue clear depth cvs => exact framedStep_importValue s clear depth cvs
  | importRoaring clear pairs => exact framedStep_importRoaring s clear pairs
  | setValue c depth v => exact framedStep_setValueBase s c depth v false
  | clearValue c depth v => exact framedStep_setValueBase s c depth v true
  | snapshot => exact FramedStep.of_same_bits rfl rfl (fun _ _ h => h) (fun _ _ h => h)
  | reopen => exact FramedStep.of_same_bits rfl rfl (fun _ _ h => nomatch h) (fun _ _ h => nomatch h)
  | invalidateChecksums => exact FramedStep.of_same_bits rfl rfl (fun _ _ h => h) (fun _ _ h => nomatch h)
  | row _ | blocks => cases h
  | _ => exact FramedStep.refl s

/-- every operation keeps the invariant. -/
theorem inv_step {H : List Nat → η} {s : Frag η} (hI : Inv H s) (op : Op) : Inv H (step H s op).1 := by
  cases h : fillsCache op
  · exact inv_of_framedStep hI (framedStep_step H s op h)
  · cases op with
    | row r => exact inv_row hI r
    | blocks => exact (blocks_spec hI).2
    | _ => cases h

theorem step_kind (H : List Nat → η) (s : Frag η) (op : Op) : (step H s op).1.kind = s.kind := by
  cases h : fillsCache op
  · exact (framedStep_step H s op h).kind
  · cases op with
    | row r => simp only [step, row]; split <;> rfl
    | blocks => rfl
    | _ => cases h

/-- a history: the operations applied in order. -/
def run (H : List Nat → η) (s : Frag η) : List Op → Frag η
  | [] => s
  | op :: ops => run H (step H s op).1 ops

theorem inv_run {H : List Nat → η} {s : Frag η} (hI : Inv H s) (ops : List Op) : Inv H (run H s ops) := by
  induction ops generalizing s with
  | nil => exact hI
  | cons op ops ih => exact ih (inv_step hI op)

end PV.C07
