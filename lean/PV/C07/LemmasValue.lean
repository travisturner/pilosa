/-
Integer values (BSI rows: 0 exists, 1 sign, 2+i value bit i).  `valBit v clear r` is what a write
(or clear) of `v` leaves in row `r` of its column; every path, in the model and in the
specification, is "rows below `depth + 2` of the column become `valBit`, everything else stays".
-/
import PV.C07.LemmasWrite
namespace PV.C07
open List
variable {η : Type}

def valBit (v : Int) (clear : Bool) : Nat → Bool
  | 0 => !clear
  | 1 => !decide (v ≥ 0 ∨ clear = true)
  | r + 2 => testBit v.natAbs r

theorem valBit_exists (v : Int) (clear : Bool) : valBit v clear bsiExistsBit = !clear := rfl
theorem valBit_sign (v : Int) (clear : Bool) : valBit v clear bsiSignBit = !decide (v ≥ 0 ∨ clear = true) := rfl
theorem valBit_value (v : Int) (clear : Bool) (j : Nat) :
    valBit v clear (bsiOffsetBit + j) = testBit v.natAbs j := by
  rw [Nat.add_comm]; rfl

theorem mem_valueBitPositions (c u x i : Nat) :
    (x ∈ (valueBitPositions c u i).1 ↔ ∃ j, j < i ∧ x = pos (bsiOffsetBit + j) c ∧ testBit u j = true) ∧
    (x ∈ (valueBitPositions c u i).2 ↔ ∃ j, j < i ∧ x = pos (bsiOffsetBit + j) c ∧ testBit u j = false) := by
  induction i with
  | zero => simp [valueBitPositions]
  | succ i ih =>
    simp only [valueBitPositions, Nat.exists_lt_succ_right]
    cases ht : testBit u i <;> simp [ih]

theorem mem_flag (P : Prop) [Decidable P] (q x : Nat) :
    (x ∈ (if P then (([] : List Nat), [q]) else ([q], [])).1 ↔ x = q ∧ ¬ P) ∧
    (x ∈ (if P then (([] : List Nat), [q]) else ([q], [])).2 ↔ x = q ∧ P) := by
  split <;> simp [*]

theorem exists_bsiRow {P : Nat → Prop} {n : Nat} :
    (∃ r, r < n + bsiOffsetBit ∧ P r) ↔ P bsiExistsBit ∨ P bsiSignBit ∨ ∃ j, j < n ∧ P (bsiOffsetBit + j) := by
  constructor
  · rintro ⟨r, hr, h⟩
    rcases r with _ | _ | r
    · exact Or.inl h
    · exact Or.inr (Or.inl h)
    · exact Or.inr (Or.inr ⟨r, Nat.lt_of_add_lt_add_right hr, Nat.add_comm r 2 ▸ h⟩)
  · rintro (h | h | ⟨j, hj, h⟩)
    · exact ⟨_, Nat.lt_add_left n (by decide), h⟩
    · exact ⟨_, Nat.lt_add_left n (by decide), h⟩
    · exact ⟨_, Nat.add_comm n _ ▸ Nat.add_lt_add_left hj _, h⟩

theorem exists_pos_iff {P : Nat → Prop} {x c : Nat} :
    (∃ r, x = pos r c ∧ P r) ↔ colOf x = c % SW ∧ P (rowOf x) :=
  ⟨fun ⟨r, e, h⟩ => e ▸ ⟨colOf_pos r c, (rowOf_pos r c).symm ▸ h⟩, fun ⟨hc, h⟩ => ⟨_, eq_pos_of rfl hc, h⟩⟩

theorem bsiRow_iff {P : Nat → Prop} {x c n : Nat} :
    colOf x = c % SW ∧ rowOf x < n + bsiOffsetBit ∧ P (rowOf x) ↔
      (x = pos bsiExistsBit c ∧ P bsiExistsBit) ∨ (x = pos bsiSignBit c ∧ P bsiSignBit) ∨
      ∃ j, j < n ∧ x = pos (bsiOffsetBit + j) c ∧ P (bsiOffsetBit + j) := by
  rw [← exists_pos_iff (P := fun r => r < n + bsiOffsetBit ∧ P r)]
  simp only [and_left_comm]
  exact exists_bsiRow (P := fun r => x = pos r c ∧ P r)

theorem mem_positionsForValue (c depth : Nat) (v : Int) (clear : Bool) (x : Nat) :
    (x ∈ (positionsForValue c depth v clear).1 ↔
      colOf x = c % SW ∧ rowOf x < depth + bsiOffsetBit ∧ valBit v clear (rowOf x) = true) ∧
    (x ∈ (positionsForValue c depth v clear).2 ↔
      colOf x = c % SW ∧ rowOf x < depth + bsiOffsetBit ∧ valBit v clear (rowOf x) = false) := by
  rw [bsiRow_iff (P := fun r => valBit v clear r = true), bsiRow_iff (P := fun r => valBit v clear r = false)]
  simp only [positionsForValue, mem_append, mem_valueBitPositions, mem_flag, or_assoc]
  simp only [valBit_exists, valBit_sign, valBit_value, Bool.not_eq_eq_eq_not, Bool.not_true, Bool.not_false,
    Bool.not_eq_true, decide_eq_true_eq, decide_eq_false_iff_not, and_self]

theorem mem_rangeList {n x : Nat} : x ∈ rangeList n ↔ x < n := mem_range

/-- "remove the clear list, add the set list" against "touched positions (`T`) get their target
`b`, the others stay". -/
theorem write_iff {T m : Prop} [Decidable T] {b : Bool} :
    (m ∧ ¬ (T ∧ b = false)) ∨ (T ∧ b = true) ↔ if T then b = true else m := by
  by_cases h : T <;> cases b <;> simp [h]

theorem mem_spec_setValue (S : List Nat) (c depth : Nat) (v : Int) (clear : Bool) (x : Nat) :
    x ∈ Spec.setValue S c depth v clear ↔
      if colOf x = c % SW ∧ rowOf x < depth + bsiOffsetBit then valBit v clear (rowOf x) = true else x ∈ S := by
  simp only [Spec.setValue, mem_addAll, mem_delAll, mem_positionsForValue, ← and_assoc]
  exact write_iff

theorem sorted_spec_setValue (S : List Nat) (c depth : Nat) (v : Int) (clear : Bool) (h : Sorted S) :
    Sorted (Spec.setValue S c depth v clear) := sorted_addAll (sorted_delAll h)

/-- first value given for column `k` (a column offset `< SW`) in a batch. -/
def firstValOf : List (Nat × Int) → Nat → Option Int
  | [], _ => none
  | (c, v) :: rest, k => if k = c % SW then some v else firstValOf rest k

/-- the batch applied left to right is a `foldr` over the reversed batch, the order in which the
small-write path walks it. -/
theorem spec_importValue_eq (S : List Nat) (clear : Bool) (depth : Nat) (cvs : List (Nat × Int)) :
    Spec.importValue S clear depth cvs =
      cvs.reverse.foldr (fun cv a => Spec.setValue a cv.1 depth cv.2 clear) S := by
  rw [Spec.importValue, foldr_reverse]

theorem sorted_foldr_setValue {S : List Nat} (clear : Bool) (depth : Nat) (h : Sorted S)
    (l : List (Nat × Int)) : Sorted (l.foldr (fun cv a => Spec.setValue a cv.1 depth cv.2 clear) S) := by
  induction l with
  | nil => exact h
  | cons _ l ih => exact sorted_spec_setValue _ _ _ _ _ ih

theorem sorted_spec_importValue (S : List Nat) (clear : Bool) (depth : Nat) (cvs : List (Nat × Int))
    (h : Sorted S) : Sorted (Spec.importValue S clear depth cvs) := by
  rw [spec_importValue_eq]; exact sorted_foldr_setValue clear depth h _

theorem mem_foldr_setValue (S : List Nat) (clear : Bool) (depth : Nat) (x : Nat) (l : List (Nat × Int)) :
    x ∈ l.foldr (fun cv a => Spec.setValue a cv.1 depth cv.2 clear) S ↔
      if rowOf x < depth + bsiOffsetBit then
        match firstValOf l (colOf x) with
        | some v => valBit v clear (rowOf x) = true
        | none => x ∈ S
      else x ∈ S := by
  induction l with
  | nil => simp [firstValOf]
  | cons cv l ih =>
    obtain ⟨c, v⟩ := cv
    rw [foldr_cons, mem_spec_setValue, ih, firstValOf]
    by_cases hr : rowOf x < depth + bsiOffsetBit
    · simp only [hr, and_true, ↓reduceIte]
      by_cases hk : colOf x = c % SW
      · rw [if_pos hk, if_pos hk]
      · rw [if_neg hk, if_neg hk]
    · simp only [hr, and_false, ↓reduceIte]

theorem spec_importValue_confined (S : List Nat) (clear : Bool) (depth : Nat) (cvs : List (Nat × Int))
    (x : Nat) (hx : ¬ rowOf x < depth + bsiOffsetBit) :
    x ∈ Spec.importValue S clear depth cvs ↔ x ∈ S := by
  rw [spec_importValue_eq, mem_foldr_setValue, if_neg hx]

theorem mem_rawWrite {l : List Nat} {q x : Nat} (t : Bool) :
    x ∈ (if t = true then rawAdd l q else rawRemove l q).1 ↔ if x = q then t = true else x ∈ l := by
  by_cases hx : x = q <;> cases t <;> simp [mem_rawAdd, mem_rawRemove, hx]

theorem mem_rawWrite_unless {l : List Nat} {q x : Nat} (P : Prop) [Decidable P] :
    x ∈ (if P then rawRemove l q else rawAdd l q).1 ↔ if x = q then (!decide P) = true else x ∈ l := by
  by_cases hx : x = q <;> by_cases hP : P <;> simp [mem_rawAdd, mem_rawRemove, hx, hP]

/-- one more row `r` of column `c` written with its target `f r`: if the rows `R` of the column
held their targets before, the rows `R'` = `R` and `r` do afterwards. -/
theorem mem_after_row {f : Nat → Bool} {R R' : Nat → Prop} [DecidablePred R] [DecidablePred R'] {r c : Nat}
    (hR : ∀ k, R' k ↔ k = r ∨ R k) {l l' l'' : List Nat}
    (hw : ∀ x, x ∈ l'' ↔ if x = pos r c then f r = true else x ∈ l')
    (hl : ∀ x, x ∈ l' ↔ if colOf x = c % SW ∧ R (rowOf x) then f (rowOf x) = true else x ∈ l) (x : Nat) :
    x ∈ l'' ↔ if colOf x = c % SW ∧ R' (rowOf x) then f (rowOf x) = true else x ∈ l := by
  rw [hw, hl]
  by_cases hx : x = pos r c
  · subst hx
    rw [if_pos rfl, colOf_pos, rowOf_pos, if_pos ⟨rfl, (hR r).mpr (Or.inl rfl)⟩]
  · have e : (colOf x = c % SW ∧ R' (rowOf x)) ↔ (colOf x = c % SW ∧ R (rowOf x)) :=
      and_congr_right fun hc => (hR _).trans (or_iff_right fun e => hx (eq_pos_of e hc))
    simp only [hx, ↓reduceIte, e]

/-- `f`: any reading of the rows that gives bit `j` of `u` in row `2 + j`. -/
theorem mem_importSetValueBits (c u : Nat) (f : Nat → Bool) (hf : ∀ j, f (bsiOffsetBit + j) = testBit u j)
    (l : List Nat) : ∀ i x, x ∈ (importSetValueBits c u i l).1 ↔
      if colOf x = c % SW ∧ bsiOffsetBit ≤ rowOf x ∧ rowOf x < bsiOffsetBit + i
      then f (rowOf x) = true else x ∈ l := by
  intro i
  induction i with
  | zero => exact fun x => by rw [if_neg fun h => absurd h.2.2 (Nat.not_lt.mpr h.2.1)]; rfl
  | succ i ih =>
    exact mem_after_row (r := bsiOffsetBit + i) (R := fun k => bsiOffsetBit ≤ k ∧ k < bsiOffsetBit + i)
      (R' := fun k => bsiOffsetBit ≤ k ∧ k < bsiOffsetBit + (i + 1)) (fun k => by omega)
      (fun x => hf i ▸ mem_rawWrite _) ih

theorem sorted_ite {P : Prop} [Decidable P] {a b : List Nat × Nat} (ha : Sorted a.1) (hb : Sorted b.1) :
    Sorted (if P then a else b).1 := by
  split <;> assumption

theorem sorted_importSetValueBits (c u : Nat) (l : List Nat) (h : Sorted l) (i : Nat) : Sorted (importSetValueBits c u i l).1 := by
  induction i with
  | zero => exact h
  | succ i ih => exact sorted_ite (sorted_rawAdd ih) (sorted_rawRemove ih)

theorem mem_importSetValue (l : List Nat) (c depth : Nat) (v : Int) (clear : Bool) (x : Nat) :
    x ∈ (importSetValue l c depth v clear).1 ↔
      if colOf x = c % SW ∧ rowOf x < depth + bsiOffsetBit then valBit v clear (rowOf x) = true else x ∈ l := by
  -- the value rows, then the exists row, then the sign row
  exact mem_after_row (r := bsiSignBit)
    (R := fun k => k = bsiExistsBit ∨ bsiOffsetBit ≤ k ∧ k < bsiOffsetBit + depth)
    (R' := fun k => k < depth + bsiOffsetBit)
    (fun k => by simp only [bsiSignBit, bsiExistsBit, bsiOffsetBit]; omega)
    (fun x => mem_rawWrite_unless _)
    (mem_after_row (r := bsiExistsBit) (R := fun k => bsiOffsetBit ≤ k ∧ k < bsiOffsetBit + depth)
      (fun k => Iff.rfl) (fun x => by simpa [valBit_exists] using mem_rawWrite_unless (clear = true))
      (mem_importSetValueBits c v.natAbs _ (valBit_value v clear) l depth)) x

theorem sorted_importSetValue (l : List Nat) (c depth : Nat) (v : Int) (clear : Bool) (h : Sorted l) :
    Sorted (importSetValue l c depth v clear).1 :=
  have hb := sorted_importSetValueBits c v.natAbs l h depth
  have he := sorted_ite (P := clear = true) (sorted_rawRemove hb) (sorted_rawAdd (q := pos bsiExistsBit c) hb)
  sorted_ite (sorted_rawRemove he) (sorted_rawAdd he)

theorem importSetValue_eq_spec (l : List Nat) (c depth : Nat) (v : Int) (clear : Bool) (h : Sorted l) :
    (importSetValue l c depth v clear).1 = Spec.setValue l c depth v clear :=
  sorted_ext (sorted_importSetValue l c depth v clear h) (sorted_spec_setValue l c depth v clear h) fun x => by
    rw [mem_importSetValue, mem_spec_setValue]

theorem largeLoop_eq_spec (l : List Nat) (depth : Nat) (clear : Bool) (cvs : List (Nat × Int))
    (h : Sorted l) : (importValueLargeLoop l depth clear cvs).1 = Spec.importValue l clear depth cvs := by
  unfold Spec.importValue
  induction cvs generalizing l with
  | nil => rfl
  | cons cv cvs ih =>
    obtain ⟨c, v⟩ := cv
    simp only [importValueLargeLoop, foldl_cons]
    rw [ih _ (sorted_importSetValue l c depth v clear h), importSetValue_eq_spec l c depth v clear h]

theorem mem_smallWritePlan (depth : Nat) (clear : Bool) (x : Nat) :
    ∀ (l : List (Nat × Int)) (seen : List Nat),
    (x ∈ (smallWritePlan l depth clear seen).1 ↔ colOf x ∉ seen ∧ rowOf x < depth + bsiOffsetBit ∧
      ∃ v, firstValOf l (colOf x) = some v ∧ valBit v clear (rowOf x) = true) ∧
    (x ∈ (smallWritePlan l depth clear seen).2 ↔ colOf x ∉ seen ∧ rowOf x < depth + bsiOffsetBit ∧
      ∃ v, firstValOf l (colOf x) = some v ∧ valBit v clear (rowOf x) = false) := by
  intro l
  induction l with
  | nil => simp [smallWritePlan, firstValOf]
  | cons cv rest ih =>
    obtain ⟨c, v⟩ := cv
    intro seen
    simp only [smallWritePlan, firstValOf]
    by_cases hseen : seen.contains (c % SW) = true
    · have hin : c % SW ∈ seen := by simpa using hseen
      simp only [hseen, ↓reduceIte, ih seen]
      by_cases hk : colOf x = c % SW
      · simp [hk, hin]
      · simp only [hk, ↓reduceIte, and_self]
    · have hnin : c % SW ∉ seen := by simpa using hseen
      simp only [hseen, Bool.false_eq_true, ↓reduceIte, mem_append, mem_positionsForValue,
        ih (c % SW :: seen), mem_cons, not_or]
      by_cases hk : colOf x = c % SW
      · simp [hk, hnin]
      · simp [hk]

/-- C07, importValue small-write path = specification. -/
theorem importValueSmallWrite_bits_eq (s : Frag η) (cvs : List (Nat × Int)) (depth : Nat) (clear : Bool)
    (hs : Sorted s.bits) :
    (importValueSmallWrite s cvs depth clear).bits = Spec.importValue s.bits clear depth cvs := by
  apply sorted_ext (sorted_importPositions _ _ _ _ hs) (sorted_spec_importValue _ _ _ _ hs)
  intro x
  have hp := mem_smallWritePlan depth clear x cvs.reverse []
  show x ∈ (importPositions s _ _ _).bits ↔ _
  rw [mem_importPositions _ _ _ _ _ hs, hp.1, hp.2, spec_importValue_eq, mem_foldr_setValue]
  by_cases hr : rowOf x < depth + bsiOffsetBit
  · cases firstValOf cvs.reverse (colOf x) with
    | none => simp
    | some v => cases hv : valBit v clear (rowOf x) <;> simp [hr, hv]
  · simp [hr]

theorem importValue_spec (s : Frag η) (hs : Sorted s.bits) (clear : Bool) (depth : Nat) (cvs : List (Nat × Int)) :
    (importValue s clear depth cvs).1.bits = Spec.importValue s.bits clear depth cvs ∧
    (importValue s clear depth cvs).2 = .ok := by
  unfold importValue
  split
  · exact ⟨importValueSmallWrite_bits_eq s cvs depth clear hs, rfl⟩
  · refine ⟨?_, rfl⟩
    simp only [snapshot_bits, incrementOpN_bits, invalidateRows_eq]
    exact largeLoop_eq_spec _ _ _ _ hs

/-- both paths drop the cache entries of the BSI rows; the specification's batch touches no other. -/
theorem framedStep_importValue (s : Frag η) (clear : Bool) (depth : Nat) (cvs : List (Nat × Int)) :
    FramedStep s (importValue s clear depth cvs).1 := by
  have hb := fun hs => (importValue_spec s hs clear depth cvs).1
  have hf : (importValue s clear depth cvs).1.kind = s.kind ∧
      (importValue s clear depth cvs).1.rowCache =
        (rangeList (depth + bsiOffsetBit)).foldl (fun m r => eraseKey r m) s.rowCache ∧
      (importValue s clear depth cvs).1.sums =
        (rangeList (depth + bsiOffsetBit)).foldl (fun m r => eraseKey (r / HBS) m) s.sums := by
    unfold importValue
    split <;> simp only [importValueSmallWrite, importPositions, invalidateRows_eq, incrementOpN_kind,
      incrementOpN_rowCache, incrementOpN_sums, snapshot_kind, snapshot_rowCache, snapshot_sums, and_self]
  refine ⟨hf.1, fun hs => hb hs ▸ sorted_spec_importValue _ clear depth cvs hs, fun hs =>
    ⟨_, frame_write _ hf.2.1 hf.2.2 fun p hp => ?_⟩⟩
  rw [hb hs]
  exact (spec_importValue_confined s.bits clear depth cvs p fun h => hp (mem_rangeList.mpr h)).symm

theorem framedStep_ite {P : Prop} [Decidable P] {s : Frag η} {a b : Frag η × Bool} (ha : FramedStep s a.1)
    (hb : FramedStep s b.1) : FramedStep s (if P then a else b).1 := by
  split <;> assumption

theorem framedStep_setValueBits (c u : Nat) (s : Frag η) (i : Nat) : FramedStep s (setValueBits c u i s).1 := by
  induction i with
  | zero => exact FramedStep.refl s
  | succ i ih => exact ih.trans (framedStep_ite (framedStep_usb _ _ _) (framedStep_ucb _ _ _))

theorem framedStep_setValueBase (s : Frag η) (c depth : Nat) (v : Int) (clear : Bool) :
    FramedStep s (setValueBase s c depth v clear).1 :=
  ((framedStep_setValueBits c v.natAbs s depth).trans (framedStep_ite (framedStep_ucb _ _ _) (framedStep_usb _ _ _))).trans
    (framedStep_ite (framedStep_ucb _ _ _) (framedStep_usb _ _ _))

/-- on storage, `setValueBase` writes a column exactly as the large import path does. -/
theorem setValueBits_bits_raw (c u : Nat) (s : Frag η) (i : Nat) :
    (setValueBits c u i s).1.bits = (importSetValueBits c u i s.bits).1 := by
  induction i with
  | zero => rfl
  | succ i ih =>
    simp only [setValueBits, importSetValueBits]
    split
    · rw [usb_bits_raw, ih]
    · rw [ucb_bits_raw, ih]

theorem bits_ite (P : Prop) [Decidable P] (s : Frag η) (r c : Nat) :
    (if P then unprotectedClearBit s r c else unprotectedSetBit s r c).1.bits =
      (if P then rawRemove s.bits (pos r c) else rawAdd s.bits (pos r c)).1 := by
  split
  · exact ucb_bits_raw s r c
  · exact usb_bits_raw s r c

theorem setValueBase_bits_raw (s : Frag η) (c depth : Nat) (v : Int) (clear : Bool) :
    (setValueBase s c depth v clear).1.bits = (importSetValue s.bits c depth v clear).1 := by
  simp only [setValueBase, importSetValue, bits_ite, setValueBits_bits_raw]

theorem setValueBase_bits_eq (s : Frag η) (c depth : Nat) (v : Int) (clear : Bool) (hs : Sorted s.bits) :
    (setValueBase s c depth v clear).1.bits = Spec.setValue s.bits c depth v clear := by
  rw [setValueBase_bits_raw, importSetValue_eq_spec _ _ _ _ _ hs]

theorem changed_write (t : Bool) (s : Frag η) (r c : Nat) :
    (if t = true then unprotectedSetBit s r c else unprotectedClearBit s r c).2 = (t != has (pos r c) s.bits) := by
  cases t <;> simp [usb_changed, ucb_changed]

theorem changed_write_unless (P : Prop) [Decidable P] (s : Frag η) (r c : Nat) :
    (if P then unprotectedClearBit s r c else unprotectedSetBit s r c).2 = ((!decide P) != has (pos r c) s.bits) := by
  by_cases h : P <;> simp [usb_changed, ucb_changed, h]

theorem has_after_ite (P : Prop) [Decidable P] (s : Frag η) (r c : Nat) {q : Nat} (hq : q ≠ pos r c) :
    has q (if P then unprotectedClearBit s r c else unprotectedSetBit s r c).1.bits = has q s.bits :=
  has_congr (by rw [bits_ite, mem_rawWrite_unless, if_neg hq])

theorem setValueBits_has (c u : Nat) (s : Frag η) (i r : Nat) (hr : ¬ (bsiOffsetBit ≤ r ∧ r < bsiOffsetBit + i)) :
    has (pos r c) (setValueBits c u i s).1.bits = has (pos r c) s.bits :=
  has_congr <| by
    rw [setValueBits_bits_raw, mem_importSetValueBits c u (fun k => testBit u (k - bsiOffsetBit)) (fun j => by rw [Nat.add_sub_cancel_left]),
      rowOf_pos, if_neg fun h => hr h.2]

theorem setValueBits_changed (c u : Nat) (s : Frag η) (i : Nat) :
    (setValueBits c u i s).2 = true ↔ ∃ j, j < i ∧ testBit u j ≠ has (pos (bsiOffsetBit + j) c) s.bits := by
  induction i with
  | zero => simp [setValueBits]
  | succ i ih =>
    simp only [setValueBits, Bool.or_eq_true, ih, Nat.exists_lt_succ_right, changed_write, bne_iff_ne,
      setValueBits_has c u s i _ fun h => Nat.lt_irrefl _ h.2]

theorem setValueBase_out (s : Frag η) (c depth : Nat) (v : Int) (clear : Bool) :
    ∃ b, (setValueBase s c depth v clear).2 = .changed b ∧
      (b = true ↔ ∃ r, r < depth + bsiOffsetBit ∧ valBit v clear r ≠ has (pos r c) s.bits) := by
  refine ⟨_, rfl, ?_⟩
  -- when the exists and the sign bit are written, their positions are still as in `s`
  have h0 := setValueBits_has c v.natAbs s depth bsiExistsBit fun h => absurd h.1 (by decide)
  have h1 := (has_after_ite (clear = true) (setValueBits c v.natAbs depth s).1 bsiExistsBit c
    (q := pos bsiSignBit c) fun e => absurd (pos_inj e).1 (by decide)).trans
    (setValueBits_has c v.natAbs s depth bsiSignBit fun h => absurd h.1 (by decide))
  rw [exists_bsiRow, or_rotate, or_rotate]
  simp only [Bool.or_eq_true, or_assoc, setValueBits_changed, changed_write_unless, bne_iff_ne, h0, h1, valBit_exists, valBit_sign,
    valBit_value, Bool.decide_eq_true]

theorem positionsForValue_diff_iff (S : List Nat) (c depth : Nat) (v : Int) (clear : Bool) :
    (∃ x, (x ∈ (positionsForValue c depth v clear).1 ∧ x ∉ S) ∨
          (x ∈ (positionsForValue c depth v clear).2 ∧ x ∈ S)) ↔
      ∃ r, r < depth + bsiOffsetBit ∧ valBit v clear r ≠ has (pos r c) S := by
  simp only [mem_positionsForValue]
  constructor
  · rintro ⟨x, ⟨⟨hc, hr, hv⟩, hx⟩ | ⟨⟨hc, hr, hv⟩, hx⟩⟩ <;> refine ⟨rowOf x, hr, ?_⟩ <;>
      rw [← eq_pos_of rfl hc, hv]
    · rw [has_false_iff.mpr hx]; decide
    · rw [has_iff.mpr hx]; decide
  · rintro ⟨r, hr, h⟩
    refine ⟨pos r c, ?_⟩
    rw [colOf_pos, rowOf_pos]
    cases hv : valBit v clear r <;> rw [hv] at h
    · exact Or.inr ⟨⟨rfl, hr, rfl⟩, has_iff.mp (by simpa using h.symm)⟩
    · exact Or.inl ⟨⟨rfl, hr, rfl⟩, has_false_iff.mp (by simpa using h.symm)⟩

/-- `setValueBase` reports changed iff one of the positions it writes had the other state. -/
theorem setValueBase_changed (s : Frag η) (c depth : Nat) (v : Int) (clear : Bool) :
    ∃ b, (setValueBase s c depth v clear).2 = .changed b ∧ (b = true ↔ ∃ x,
      (x ∈ (positionsForValue c depth v clear).1 ∧ x ∉ s.bits) ∨
      (x ∈ (positionsForValue c depth v clear).2 ∧ x ∈ s.bits)) := by
  obtain ⟨b, hb, h⟩ := setValueBase_out s c depth v clear
  exact ⟨b, hb, h.trans (positionsForValue_diff_iff s.bits c depth v clear).symm⟩

theorem bne_spec_setValue {S : List Nat} (hs : Sorted S) (c depth : Nat) (v : Int) (clear : Bool) :
    (Spec.setValue S c depth v clear != S) = true ↔
      ∃ r, r < depth + bsiOffsetBit ∧ valBit v clear r ≠ has (pos r c) S := by
  rw [bne_iff_exists hs (sorted_spec_setValue _ _ _ _ _ hs)]
  simp only [mem_spec_setValue]
  constructor
  · rintro ⟨x, hx⟩
    by_cases hT : colOf x = c % SW ∧ rowOf x < depth + bsiOffsetBit
    · rw [if_pos hT] at hx
      exact ⟨rowOf x, hT.2, fun e => hx (by rw [e, has_iff, ← eq_pos_of rfl hT.1])⟩
    · rw [if_neg hT] at hx; exact absurd Iff.rfl hx
  · rintro ⟨r, hr, h⟩
    refine ⟨pos r c, ?_⟩
    rw [colOf_pos, rowOf_pos, if_pos ⟨rfl, hr⟩]
    exact fun e => h (by rw [Bool.eq_iff_iff, has_iff]; exact e)

theorem setValueBase_changed_eq (s : Frag η) (c depth : Nat) (v : Int) (clear : Bool) (hs : Sorted s.bits) :
    (setValueBase s c depth v clear).2 = .changed (Spec.setValue s.bits c depth v clear != s.bits) := by
  obtain ⟨b, hb, h⟩ := setValueBase_out s c depth v clear
  rw [hb, (Bool.eq_iff_iff.mpr (h.trans (bne_spec_setValue hs c depth v clear).symm) : b = _)]

end PV.C07
