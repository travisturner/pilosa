/-
Well-formed fragments, admissible operations, and the three step theorems of which everything in
PV/C07/Props.lean and PV/C13/Props.lean is a corollary: `step_bits`, `wf_step`, `step_out`
(setRow's `changed` excepted).
-/
import PV.C07.LemmasStep
import PV.C07.LemmasMutex
namespace PV.C07
open List hiding lookup

variable {η : Type}

/-- what holds of every reachable fragment. -/
structure WF (H : List Nat → η) (s : Frag η) : Prop where
  inv : Inv H s
  amo : s.kind ≠ .set → AtMostOne s.bits
  bool : BoolOK s.kind s.bits

theorem wf_empty (H : List Nat → η) (k : Kind) (m : Nat) : WF H (Frag.empty k m) :=
  ⟨inv_empty H k m, fun _ c r₁ r₂ h => by simp [Frag.empty] at h, fun _ x hx => by simp [Frag.empty] at hx⟩

/-- operations that reach a mutex / bool fragment (executor.go / api.go: Store and roaring
imports are refused for these field types; integer values live in their own fragments). -/
def mutexOp : Op → Bool
  | .setRow _ _ | .importValue _ _ _ | .importRoaring _ _ | .setValue _ _ _ | .clearValue _ _ _ => false
  | _ => true

/-- bool fields only ever see rows 0 and 1 (PQL translates true/false; Field.Import refuses others). -/
def rowsOK (kind : Kind) : Op → Prop
  | .setBit r _ => kind = .bool → r ≤ 1
  | .bulkImport false pairs => kind = .bool → ∀ rc ∈ pairs, rc.1 ≤ 1
  | _ => True

def isMutexGet : Op → Bool
  | .mutexGet _ => true
  | _ => false

/-- admissible operation for a fragment of this kind. -/
def OpOK (kind : Kind) (op : Op) : Prop :=
  (kind = .set ∧ isMutexGet op = false) ∨ (kind ≠ .set ∧ mutexOp op = true ∧ rowsOK kind op)

theorem OpOK.mutex {kind : Kind} {op : Op} (hop : OpOK kind op) (hk : kind ≠ .set) :
    mutexOp op = true ∧ rowsOK kind op :=
  (hop.resolve_left fun h => hk h.1).2

theorem opOK_any_kind {kind : Kind} {op : Op} (h1 : isMutexGet op = false) (h2 : mutexOp op = true)
    (h3 : rowsOK kind op) : OpOK kind op :=
  (Decidable.em (kind = .set)).elim (fun hk => Or.inl ⟨hk, h1⟩) fun hk => Or.inr ⟨hk, h2, h3⟩

theorem row_bits (s : Frag η) (r : Nat) : (row s r).1.bits = s.bits := by
  unfold row; split <;> rfl

theorem step_bits {H : List Nat → η} {s : Frag η} (hw : WF H s) (op : Op) (hop : OpOK s.kind op) :
    (step H s op).1.bits = Spec.stepState s.kind s.bits op := by
  have hs := hw.inv.sorted
  cases op with
  | setBit r c => exact (setBit_spec s hs hw.amo hw.bool r c).1
  | clearBit r c => exact ucb_bits_eq s r c
  | setRow r cols => exact setRow_bits_eq s r cols hs
  | clearRow r => exact clearRow_bits_eq s r
  | bulkImport clear pairs => exact (bulkImport_spec s hs hw.amo hw.bool clear pairs).1
  | importValue clear depth cvs => exact (importValue_spec s hs clear depth cvs).1
  | importRoaring clear pairs => exact importRoaring_bits_eq s clear pairs hs
  | setValue c depth v => exact setValueBase_bits_eq s c depth v false hs
  | clearValue c depth v => exact setValueBase_bits_eq s c depth v true hs
  | row r => exact row_bits s r
  | _ => rfl

theorem spec_bulk_clear_eq (kind : Kind) (S : List Nat) (pairs : List (Nat × Nat)) :
    Spec.bulkImport kind S true pairs = Spec.delAll S (pairs.map fun rc => pos rc.1 rc.2) :=
  (delAll_map _ _ _).symm

theorem boolOK_bulk_set {kind : Kind} (hk : kind ≠ .set) : ∀ (pairs : List (Nat × Nat)) (S : List Nat),
    BoolOK kind S → (kind = .bool → ∀ rc ∈ pairs, rc.1 ≤ 1) →
    BoolOK kind (pairs.foldl (fun a rc => Spec.setBit kind a rc.1 rc.2) S) := by
  intro pairs
  induction pairs with
  | nil => exact fun _ h _ => h
  | cons rc rest ih =>
    exact fun _ h hr => ih _ (boolOK_spec_setBit hk h _ _ fun hb => hr hb rc mem_cons_self)
      fun hb x hx => hr hb x (mem_cons_of_mem _ hx)

/-- sets of admissible rows and removals keep a bool fragment within rows 0 and 1. -/
theorem boolOK_step {kind : Kind} (hk : kind ≠ .set) {S : List Nat} (h : BoolOK kind S) (op : Op)
    (hm : mutexOp op = true) (hr : rowsOK kind op) : BoolOK kind (Spec.stepState kind S op) := by
  cases op with
  | setBit r c => exact boolOK_spec_setBit hk h r c hr
  | clearBit r c => exact h.subset fun x hx => (mem_del.mp hx).1
  | clearRow r => exact h.subset fun x hx => (mem_dropRow.mp hx).1
  | bulkImport clear pairs =>
    cases clear
    · exact boolOK_bulk_set hk pairs S h hr
    · refine h.subset fun x hx => ?_
      rw [Spec.stepState, spec_bulk_clear_eq, mem_delAll] at hx
      exact hx.1
  | setRow _ _ | importValue _ _ _ | importRoaring _ _ | setValue _ _ _ | clearValue _ _ _ => cases hm
  | _ => exact h

/-- the specification's steps on the stored set are `mstep` on the map (last write wins). -/
theorem graph_step {kind : Kind} (hk : kind ≠ .set) {m : Spec.MState} {S : List Nat} (h : Graph m S) (op : Op)
    (hop : mutexOp op = true) : Graph (Spec.mstep m op) (Spec.stepState kind S op) := by
  cases op with
  | setBit r c => exact graph_set hk h r c
  | clearBit r c => exact graph_clear h r c
  | clearRow r => exact graph_clearRow h r
  | bulkImport clear pairs =>
    cases clear
    · exact graph_foldl _ _ (fun _ _ rc h => graph_set hk h rc.1 rc.2) pairs m S h
    · exact graph_foldl _ _ (fun _ _ rc h => graph_clear h rc.1 rc.2) pairs m S h
  | setRow _ _ | importValue _ _ _ | importRoaring _ _ | setValue _ _ _ | clearValue _ _ _ => cases hop
  | _ => exact h

theorem wf_step {H : List Nat → η} {s : Frag η} (hw : WF H s) (op : Op) (hop : OpOK s.kind op) :
    WF H (step H s op).1 := by
  refine ⟨inv_step hw.inv op, ?_, ?_⟩ <;> rw [step_kind, step_bits hw op hop]
  · exact fun hk => (graph_step hk (graph_mview hw.inv.sorted (hw.amo hk)) op (hop.mutex hk).1).amo
  · intro hkb
    have hk : s.kind ≠ .set := by rw [hkb]; decide
    exact boolOK_step hk hw.bool op (hop.mutex hk).1 (hop.mutex hk).2 hkb

def isSetRow : Op → Bool
  | .setRow _ _ => true
  | _ => false

theorem isSetRow_of_mutexOp {op : Op} (h : mutexOp op = true) : isSetRow op = false := by
  cases op with
  | setRow r cols => cases h
  | _ => rfl

def isRead : Op → Bool
  | .row _ | .bit _ _ | .value _ _ | .rows | .rowsCol _ | .forEachBit | .blockData _ | .blocks
  | .mutexGet _ => true
  | _ => false

theorem isRead_spec {op : Op} (h : isRead op = true) :
    isSetRow op = false ∧ ∀ kind S, Spec.stepState kind S op = S := by
  cases op with
  | row _ | bit _ _ | value _ _ | rows | rowsCol _ | forEachBit | blockData _ | blocks | mutexGet _ =>
    exact ⟨rfl, fun _ _ => rfl⟩
  | _ => cases h

theorem step_out {H : List Nat → η} {s : Frag η} (hw : WF H s) (op : Op) (hop : OpOK s.kind op)
    (hns : isSetRow op = false) : (step H s op).2 = Spec.out H s.kind s.bits op := by
  have hs := hw.inv.sorted
  cases op with
  | setBit r c => exact congrArg Out.w (setBit_spec s hs hw.amo hw.bool r c).2
  | clearBit r c =>
    simp only [step, clearBit, Spec.out, Spec.stepState, Spec.clearBit, ucb_changed, bne_del hs]
  | setRow r cols => cases hns
  | clearRow r =>
    simp only [step, Spec.out, Spec.stepState, Spec.clearRow, bne_dropRow hs]
    simp [clearRow]
  | bulkImport clear pairs => exact congrArg Out.w (bulkImport_spec s hs hw.amo hw.bool clear pairs).2
  | importValue clear depth cvs => exact congrArg Out.w (importValue_spec s hs clear depth cvs).2
  | setValue c depth v => simp only [step, Spec.out, Spec.stepState, setValueBase_changed_eq s c depth v false hs]
  | clearValue c depth v => simp only [step, Spec.out, Spec.stepState, setValueBase_changed_eq s c depth v true hs]
  | row r => simp only [step, Spec.out, row_out hw.inv r]
  | blocks => simp only [step, Spec.out, (blocks_spec hw.inv).1]
  | mutexGet c =>
    rcases hop with ⟨_, h⟩ | ⟨hk, _⟩
    · cases h
    · simp only [step, Spec.out, mget_eq hs (hw.amo hk) hw.bool c]
  | _ => rfl

/-- setRow: the storage is right, the answer is always `changed = true`. -/
theorem setRow_out (H : List Nat → η) (s : Frag η) (r : Nat) (cols : List Nat) :
    (step H s (.setRow r cols)).2 = .w (.changed true) := rfl

theorem step_out_setRow (H : List Nat → η) (s : Frag η) {op : Op} (h : isSetRow op = true) :
    (step H s op).2 = .w (.changed true) := by
  cases op with
  | setRow r cols => rfl
  | _ => cases h

/-- `m` is the mutex view of `S` on the shard's columns. -/
def Agree (m : Spec.MState) (S : List Nat) : Prop := ∀ c, c < SW → m c = Spec.mview S c

theorem agree_mview (S : List Nat) : Agree (Spec.mview S) S := fun _ _ => rfl

theorem Agree.graph {m : Spec.MState} {S : List Nat} (hs : Sorted S) (ha : AtMostOne S) (h : Agree m S) :
    Graph m S := fun x => by
  rw [h (colOf x) (Nat.mod_lt x SW_pos)]; exact graph_mview hs ha x

/-- the stored set of a mutex / bool fragment follows `mstep`. -/
theorem graph_model_step {H : List Nat → η} {s : Frag η} (hw : WF H s) (hk : s.kind ≠ .set) (op : Op)
    (hop : OpOK s.kind op) {m : Spec.MState} (hm : Graph m s.bits) :
    Graph (Spec.mstep m op) (step H s op).1.bits :=
  step_bits hw op hop ▸ graph_step hk hm op (hop.mutex hk).1

theorem foldl_mset (pairs : List (Nat × Nat)) (m : Spec.MState) (c : Nat) :
    (pairs.foldl (fun a rc => Spec.mset a rc.1 rc.2) m) c =
      match lastRowOf pairs c with
      | some r => some r
      | none => m c := by
  induction pairs generalizing m with
  | nil => rfl
  | cons rc rest ih =>
    obtain ⟨r, c'⟩ := rc
    simp only [foldl_cons, ih, lastRowOf]
    cases lastRowOf rest c with
    | some r' => rfl
    | none =>
      simp only [Spec.mset]
      by_cases e : c' % SW = c
      · simp [e]
      · have : ¬ c = c' % SW := fun h => e h.symm
        simp [e, this]

/-- the model's answer is acceptable: the specification's, or setRow's constant `changed = true`
(known finding `setrow-changed-always-true`). -/
def outOK (op : Op) (m sp : Out η) : Prop := m = sp ∨ (isSetRow op = true ∧ m = .w (.changed true))

/-- answers along a history, model state `s` against specification state `S`. -/
def HistOK (H : List Nat → η) (kind : Kind) : Frag η → List Nat → List Op → Prop
  | _, _, [] => True
  | s, S, op :: ops =>
    outOK op (step H s op).2 (Spec.out H kind S op) ∧
    HistOK H kind (step H s op).1 (Spec.stepState kind S op) ops

def AllOK (kind : Kind) (ops : List Op) : Prop := ∀ op ∈ ops, OpOK kind op

theorem run_kind (H : List Nat → η) (s : Frag η) (ops : List Op) : (run H s ops).kind = s.kind := by
  induction ops generalizing s with
  | nil => rfl
  | cons op ops ih => simp only [run, ih, step_kind]

theorem history {H : List Nat → η} : ∀ (ops : List Op) (s : Frag η), WF H s → AllOK s.kind ops →
    HistOK H s.kind s s.bits ops ∧
    (run H s ops).bits = ops.foldl (Spec.stepState s.kind) s.bits ∧ WF H (run H s ops) := by
  intro ops
  induction ops with
  | nil => exact fun s hw _ => ⟨trivial, rfl, hw⟩
  | cons op ops ih =>
    intro s hw hall
    have hop : OpOK s.kind op := hall op mem_cons_self
    have hk := step_kind H s op
    have hb := step_bits hw op hop
    have ih := ih (step H s op).1 (wf_step hw op hop)
      (by rw [hk]; exact fun o ho => hall o (mem_cons_of_mem _ ho))
    rw [hk, hb] at ih
    refine ⟨⟨?_, ih.1⟩, ?_, ih.2.2⟩
    · cases hsr : isSetRow op
      · exact Or.inl (step_out hw op hop hsr)
      · exact Or.inr ⟨hsr, step_out_setRow H s hsr⟩
    · simp only [run, foldl_cons]
      exact ih.2.1

/-- a mixed history used in non-vacuity examples. -/
def exOps : List Op :=
  [.setBit 0 1, .importValue false 2 [(3, -2), (3, 1)], .row 0, .blocks, .snapshot,
   .importRoaring true [(0, 1)], .setRow 150 [5, 6], .clearRow 150, .bulkImport false [(1, 7), (2, 7)],
   .setValue 4 2 3, .clearValue 4 2 3, .rows, .forEachBit]

end PV.C07
