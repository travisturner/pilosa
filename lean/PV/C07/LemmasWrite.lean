/-
Each write path gets two facts: it is a framed step (what the invariant needs), and, on ascending
storage, its new storage is the specification's set.
-/
import PV.C07.LemmasInv
namespace PV.C07
open List

variable {η : Type}

/-- kind and ascending order are kept, and bit changes are confined to rows whose cached row and
block checksum the step drops. -/
structure FramedStep (s s' : Frag η) : Prop where
  kind : s'.kind = s.kind
  sorted : Sorted s.bits → Sorted s'.bits
  frame : Sorted s.bits → ∃ R, Frame s s' R

theorem FramedStep.trans {s s' s'' : Frag η} (f : FramedStep s s') (g : FramedStep s' s'') : FramedStep s s'' :=
  ⟨g.kind.trans f.kind, fun h => g.sorted (f.sorted h), fun h =>
    let ⟨R, f'⟩ := f.frame h
    let ⟨R', g'⟩ := g.frame (f.sorted h)
    ⟨R ++ R', f'.trans g'⟩⟩

theorem inv_of_framedStep {H : List Nat → η} {s s' : Frag η} (hI : Inv H s) (f : FramedStep s s') : Inv H s' :=
  let ⟨_, f'⟩ := f.frame hI.sorted
  inv_of_frame hI (f.sorted hI.sorted) f'

theorem FramedStep.of_same_bits {s s' : Frag η} (hk : s'.kind = s.kind) (hb : s'.bits = s.bits)
    (hc : ∀ r c, lookup r s'.rowCache = some c → lookup r s.rowCache = some c)
    (hs : ∀ b h, lookup b s'.sums = some h → lookup b s.sums = some h) : FramedStep s s' :=
  ⟨hk, fun h => hb ▸ h, fun _ => ⟨[], Frame.of_same_bits hb hc hs⟩⟩

theorem FramedStep.refl (s : Frag η) : FramedStep s s := FramedStep.of_same_bits rfl rfl (fun _ _ h => h) (fun _ _ h => h)

theorem mem_rawAdd {l : List Nat} {q x : Nat} : x ∈ (rawAdd l q).1 ↔ x = q ∨ x ∈ l := by
  unfold rawAdd
  split
  · rename_i h
    exact ⟨Or.inr, fun h' => h'.elim (· ▸ has_iff.mp h) id⟩
  · exact mem_ins

theorem mem_rawRemove {l : List Nat} {q x : Nat} : x ∈ (rawRemove l q).1 ↔ x ∈ l ∧ x ≠ q := by
  unfold rawRemove
  split
  · exact mem_del
  · rename_i h
    exact ⟨fun hx => ⟨hx, fun e => h (has_iff.mpr (e ▸ hx))⟩, And.left⟩

theorem sorted_rawAdd {l : List Nat} {q : Nat} (h : Sorted l) : Sorted (rawAdd l q).1 := by
  unfold rawAdd; split
  · exact h
  · exact sorted_ins h

theorem sorted_rawRemove {l : List Nat} {q : Nat} (h : Sorted l) : Sorted (rawRemove l q).1 := by
  unfold rawRemove; split
  · exact sorted_del h
  · exact h

theorem usb_has {s : Frag η} {r c : Nat} (h : has (pos r c) s.bits = true) :
    unprotectedSetBit s r c = (s, false) := by
  simp [unprotectedSetBit, h]

theorem usb_not {s : Frag η} {r c : Nat} (h : ¬ has (pos r c) s.bits = true) :
    unprotectedSetBit s r c =
      (let s3 := incrementOpN { s with bits := ins (pos r c) s.bits, sums := eraseKey (r / HBS) s.sums } 1
       ({ s3 with rowCache := eraseKey r s3.rowCache }, true)) := by
  simp [unprotectedSetBit, h]

theorem ucb_has {s : Frag η} {r c : Nat} (h : has (pos r c) s.bits = true) :
    unprotectedClearBit s r c =
      (let s3 := incrementOpN { s with bits := del (pos r c) s.bits, sums := eraseKey (r / HBS) s.sums } 1
       ({ s3 with rowCache := eraseKey r s3.rowCache }, true)) := by
  simp [unprotectedClearBit, h]

theorem ucb_not {s : Frag η} {r c : Nat} (h : ¬ has (pos r c) s.bits = true) :
    unprotectedClearBit s r c = (s, false) := by
  simp [unprotectedClearBit, h]

/-- on storage, `unprotectedSetBit` / `unprotectedClearBit` are the raw writes of the large
import path. -/
theorem usb_bits_raw (s : Frag η) (r c : Nat) :
    (unprotectedSetBit s r c).1.bits = (rawAdd s.bits (pos r c)).1 := by
  by_cases h : has (pos r c) s.bits = true
  · rw [usb_has h, rawAdd, if_pos h]
  · rw [usb_not h, rawAdd, if_neg h]; exact incrementOpN_bits _ _

theorem ucb_bits_raw (s : Frag η) (r c : Nat) :
    (unprotectedClearBit s r c).1.bits = (rawRemove s.bits (pos r c)).1 := by
  by_cases h : has (pos r c) s.bits = true
  · rw [ucb_has h, rawRemove, if_pos h]; exact incrementOpN_bits _ _
  · rw [ucb_not h, rawRemove, if_neg h]

theorem usb_bits_eq (s : Frag η) (r c : Nat) (hs : Sorted s.bits) :
    (unprotectedSetBit s r c).1.bits = ins (pos r c) s.bits := by
  rw [usb_bits_raw, rawAdd_fst _ hs]

theorem ucb_bits_eq (s : Frag η) (r c : Nat) :
    (unprotectedClearBit s r c).1.bits = del (pos r c) s.bits := by
  rw [ucb_bits_raw, rawRemove_fst]

theorem usb_changed (s : Frag η) (r c : Nat) :
    (unprotectedSetBit s r c).2 = !has (pos r c) s.bits := by
  by_cases h : has (pos r c) s.bits = true
  · rw [usb_has h, h]; rfl
  · rw [usb_not h, Bool.not_eq_true _ |>.mp h]; rfl

theorem ucb_changed (s : Frag η) (r c : Nat) :
    (unprotectedClearBit s r c).2 = has (pos r c) s.bits := by
  by_cases h : has (pos r c) s.bits = true
  · rw [ucb_has h, h]
  · rw [ucb_not h, Bool.not_eq_true _ |>.mp h]

@[simp] theorem usb_maxOpN (s : Frag η) (r c : Nat) : (unprotectedSetBit s r c).1.maxOpN = s.maxOpN := by
  by_cases h : has (pos r c) s.bits = true
  · rw [usb_has h]
  · rw [usb_not h]; simp

@[simp] theorem ucb_maxOpN (s : Frag η) (r c : Nat) : (unprotectedClearBit s r c).1.maxOpN = s.maxOpN := by
  by_cases h : has (pos r c) s.bits = true
  · rw [ucb_has h]; simp
  · rw [ucb_not h]

theorem framedStep_onePosition (s : Frag η) (r c : Nat) (B : List Nat) (hB : Sorted s.bits → Sorted B)
    (hm : ∀ x, x ≠ pos r c → (x ∈ s.bits ↔ x ∈ B)) :
    FramedStep s (let s3 := incrementOpN { s with bits := B, sums := eraseKey (r / HBS) s.sums } 1
      { s3 with rowCache := eraseKey r s3.rowCache }) := by
  refine ⟨by simp, fun h => by simpa using hB h, fun _ => ⟨[r], frame_write [r] (by simp) (by simp) fun p hp => ?_⟩⟩
  have : p ≠ pos r c := fun e => hp (by rw [e, rowOf_pos]; exact mem_singleton.mpr rfl)
  simpa using hm p this

theorem framedStep_usb (s : Frag η) (r c : Nat) : FramedStep s (unprotectedSetBit s r c).1 := by
  by_cases h : has (pos r c) s.bits = true
  · rw [usb_has h]; exact FramedStep.refl s
  · rw [usb_not h]
    exact framedStep_onePosition s r c _ sorted_ins fun x hx => by rw [mem_ins]; exact ⟨Or.inr, fun h => h.resolve_left hx⟩

theorem framedStep_ucb (s : Frag η) (r c : Nat) : FramedStep s (unprotectedClearBit s r c).1 := by
  by_cases h : has (pos r c) s.bits = true
  · rw [ucb_has h]
    exact framedStep_onePosition s r c _ sorted_del fun x hx => by rw [mem_del]; exact ⟨fun h => ⟨h, hx⟩, And.left⟩
  · rw [ucb_not h]; exact FramedStep.refl s

theorem framedStep_setBit (s : Frag η) (r c : Nat) : FramedStep s (setBit s r c).1 := by
  unfold setBit
  split
  · exact framedStep_usb s r c
  · split
    · exact FramedStep.refl s
    · exact FramedStep.refl s
    · exact framedStep_usb s r c
    · split
      · exact (framedStep_ucb s _ c).trans (framedStep_usb _ r c)
      · exact framedStep_usb s r c

theorem framedStep_clearBit (s : Frag η) (r c : Nat) : FramedStep s (clearBit s r c).1 := framedStep_ucb s r c

theorem mem_dropRow {l : List Nat} {r x : Nat} : x ∈ dropRow l r ↔ x ∈ l ∧ rowOf x ≠ r := by
  simp [dropRow]

theorem setRow_bits_eq (s : Frag η) (r : Nat) (cols : List Nat) (hs : Sorted s.bits) :
    (setRow s r cols).1.bits = Spec.setRow s.bits r cols := by
  have hd : Sorted (dropRow s.bits r) := sorted_filter _ hs
  show (addN _ _).1 = _
  rw [addN_fst _ hd]
  have e : (cols.map (· % SW)).map (pos r) = cols.map (pos r) := by
    rw [map_map]; exact map_congr_left fun c _ => pos_mod r c
  rw [Spec.setRow, ← e]
  exact addAll_congr hd fun x => by simp only [mem_map, mem_canon]

theorem mem_spec_setRow_of_ne {S : List Nat} {r p : Nat} (cols : List Nat) (hp : rowOf p ≠ r) :
    p ∈ Spec.setRow S r cols ↔ p ∈ S := by
  rw [Spec.setRow, mem_addAll, mem_dropRow, mem_map]
  exact ⟨fun h => h.elim And.left fun ⟨c, _, e⟩ => absurd (e ▸ rowOf_pos r c) hp, fun h => Or.inl ⟨h, hp⟩⟩

theorem framedStep_setRow (s : Frag η) (r : Nat) (cols : List Nat) : FramedStep s (setRow s r cols).1 := by
  refine ⟨rfl, fun hs => ?_, fun hs => ⟨[r], frame_write [r] rfl rfl fun p hp => ?_⟩⟩
  · rw [setRow_bits_eq s r cols hs]; exact sorted_addAll (sorted_filter _ hs)
  · rw [setRow_bits_eq s r cols hs]
    exact (mem_spec_setRow_of_ne cols (by simpa using hp)).symm

theorem dropRow_eq_self {l : List Nat} {r : Nat} (h : rowCols l r = []) : dropRow l r = l := by
  unfold dropRow
  apply filter_eq_self.mpr
  intro a ha
  simp only [rowCols, map_eq_nil_iff, filter_eq_nil_iff] at h
  simpa using h a ha

theorem bne_dropRow {S : List Nat} (hs : Sorted S) (r : Nat) :
    (dropRow S r != S) = !(rowCols S r).isEmpty := by
  rw [Bool.eq_iff_iff, bne_iff_exists hs (show Sorted (dropRow S r) from sorted_filter _ hs)]
  simp only [Bool.not_eq_eq_eq_not, Bool.not_true, isEmpty_eq_false_iff, ne_eq]
  constructor
  · rintro ⟨x, hx⟩ he
    exact hx (by rw [dropRow_eq_self he])
  · intro hne
    obtain ⟨c, hc⟩ := exists_mem_of_ne_nil _ hne
    simp only [rowCols, mem_map, mem_filter, beq_iff_eq] at hc
    obtain ⟨p, ⟨hp, hr⟩, _⟩ := hc
    exact ⟨p, fun h => (mem_dropRow.mp (h.mpr hp)).2 hr⟩

theorem clearRow_bits_eq (s : Frag η) (r : Nat) : (clearRow s r).1.bits = dropRow s.bits r := by
  by_cases h : (rowCols s.bits r).isEmpty = true <;> simp [clearRow, h]

theorem mem_clearRow (s : Frag η) (r x : Nat) :
    x ∈ (clearRow s r).1.bits ↔ x ∈ s.bits ∧ rowOf x ≠ r := by
  rw [clearRow_bits_eq, mem_dropRow]

theorem framedStep_clearRow (s : Frag η) (r : Nat) : FramedStep s (clearRow s r).1 := by
  by_cases h : (rowCols s.bits r).isEmpty = true
  · -- nothing stored in the row: storage unchanged, only the cached row is dropped
    have he : rowCols s.bits r = [] := by simpa using h
    refine FramedStep.of_same_bits (by simp [clearRow, h]) (by rw [clearRow_bits_eq, dropRow_eq_self he])
      (fun r' c hc => ?_) (fun b hh hc => by simpa [clearRow, h] using hc)
    simp only [clearRow, h, Bool.not_true, Bool.false_eq_true, ↓reduceIte, snapshot_rowCache,
      lookup_eraseKey] at hc
    split at hc
    · cases hc
    · exact hc
  · refine ⟨by simp [clearRow, h], fun hs => by rw [clearRow_bits_eq]; exact sorted_filter _ hs, fun _ =>
      ⟨[r], frame_write [r] (by simp [clearRow, h]) (by simp [clearRow, h]) fun p hp => ?_⟩⟩
    have hp' : rowOf p ≠ r := by simpa using hp
    simp [clearRow_bits_eq, mem_dropRow, hp']

theorem importPositions_bits_eq (s : Frag η) (set clear R : List Nat) (hs : Sorted s.bits) :
    (importPositions s set clear R).bits = Spec.delAll (Spec.addAll s.bits set) clear := by
  simp [importPositions, invalidateRows_eq, addN_fst _ hs, removeN_fst]

theorem mem_importPositions (s : Frag η) (set clear R : List Nat) (x : Nat) (hs : Sorted s.bits) :
    x ∈ (importPositions s set clear R).bits ↔ (x ∈ s.bits ∨ x ∈ set) ∧ x ∉ clear := by
  rw [importPositions_bits_eq _ _ _ _ hs, mem_delAll, mem_addAll]

theorem sorted_importPositions (s : Frag η) (set clear R : List Nat) (hs : Sorted s.bits) :
    Sorted (importPositions s set clear R).bits := by
  rw [importPositions_bits_eq _ _ _ _ hs]; exact sorted_delAll (sorted_addAll hs)

@[simp] theorem importPositions_maxOpN (s : Frag η) (set clear R : List Nat) :
    (importPositions s set clear R).maxOpN = s.maxOpN := by simp [importPositions, invalidateRows_eq]

theorem framedStep_importPositions (s : Frag η) (set clear R : List Nat)
    (hrows : ∀ p, p ∈ set ∨ p ∈ clear → rowOf p ∈ R) : FramedStep s (importPositions s set clear R) := by
  refine ⟨by simp [importPositions, invalidateRows_eq], sorted_importPositions s set clear R, fun hs =>
    ⟨R, frame_write R (by simp [importPositions, invalidateRows_eq])
      (by simp [importPositions, invalidateRows_eq]) fun p hp => ?_⟩⟩
  rw [mem_importPositions _ _ _ _ _ hs]
  exact ⟨fun h => ⟨Or.inl h, fun hc => hp (hrows p (Or.inr hc))⟩,
    fun h => h.1.resolve_right fun h' => hp (hrows p (Or.inl h'))⟩

theorem framedStep_bulkImportStandard (s : Frag η) (clear : Bool) (pairs : List (Nat × Nat)) :
    FramedStep s (bulkImportStandard s clear pairs) := by
  have key : ∀ p, p ∈ pairs.map (fun rc => pos rc.1 rc.2) → rowOf p ∈ pairs.map (·.1) := by
    intro p hp
    obtain ⟨rc, hrc, rfl⟩ := mem_map.mp hp
    rw [rowOf_pos]; exact mem_map.mpr ⟨rc, hrc, rfl⟩
  unfold bulkImportStandard
  split
  · exact framedStep_importPositions s [] _ _ fun p hp => hp.elim (fun h => nomatch h) (key p)
  · exact framedStep_importPositions s _ [] _ fun p hp => hp.elim (key p) (fun h => nomatch h)

theorem bulkImportStandard_bits_eq (s : Frag η) (clear : Bool) (pairs : List (Nat × Nat))
    (hs : Sorted s.bits) (hk : clear = true ∨ s.kind = .set) :
    (bulkImportStandard s clear pairs).bits = Spec.bulkImport s.kind s.bits clear pairs := by
  cases clear
  · have hk' : s.kind = .set := by simpa using hk
    simp only [bulkImportStandard, Spec.bulkImport, Bool.false_eq_true, ↓reduceIte, Spec.setBit, hk']
    rw [importPositions_bits_eq _ _ _ _ hs]; exact addAll_map _ _ _
  · simp only [bulkImportStandard, Spec.bulkImport, ↓reduceIte, Spec.clearBit]
    rw [importPositions_bits_eq _ _ _ _ hs]; exact delAll_map _ _ _

/-- the branch that emits `pos r c` or `pos e c` conses `r`, `e` onto the rows. -/
theorem mutexPlan_rows (kind : Kind) (bits : List Nat) (cs : List (Nat × Nat))
    (sets clears rows : List Nat) (h : mutexPlan kind bits cs = .ok (sets, clears, rows)) :
    ∀ p, p ∈ sets ∨ p ∈ clears → rowOf p ∈ rows := by
  induction cs generalizing sets clears rows with
  | nil =>
    simp only [mutexPlan, Except.ok.injEq, Prod.mk.injEq] at h
    obtain ⟨rfl, rfl, rfl⟩ := h
    intro p hp; simp at hp
  | cons cr cs ih =>
    obtain ⟨c, r⟩ := cr
    simp only [mutexPlan] at h
    split at h
    · cases h
    · cases h
    · rename_i g hg1 hg2
      split at h
      · cases h
      · rename_i sets' clears' rows' hrec
        have ih' := ih sets' clears' rows' hrec
        split at h
        · rename_i e
          split at h
          · simp only [Except.ok.injEq, Prod.mk.injEq] at h
            obtain ⟨rfl, rfl, rfl⟩ := h
            exact ih'
          · simp only [Except.ok.injEq, Prod.mk.injEq] at h
            obtain ⟨rfl, rfl, rfl⟩ := h
            intro p hp
            simp only [mem_cons] at hp ⊢
            rcases hp with (rfl | hp) | (rfl | hp)
            · simp [rowOf_pos]
            · exact Or.inr (Or.inr (ih' p (Or.inl hp)))
            · simp [rowOf_pos]
            · exact Or.inr (Or.inr (ih' p (Or.inr hp)))
        · simp only [Except.ok.injEq, Prod.mk.injEq] at h
          obtain ⟨rfl, rfl, rfl⟩ := h
          intro p hp
          simp only [mem_cons] at hp ⊢
          rcases hp with (rfl | hp) | hp
          · simp [rowOf_pos]
          · exact Or.inr (ih' p (Or.inl hp))
          · exact Or.inr (ih' p (Or.inr hp))

theorem framedStep_bulkImport (s : Frag η) (clear : Bool) (pairs : List (Nat × Nat)) :
    FramedStep s (bulkImport s clear pairs).1 := by
  unfold bulkImport
  split
  · unfold bulkImportMutex
    split
    · exact FramedStep.refl s
    · exact FramedStep.refl s
    · rename_i sets clears rows h
      exact framedStep_importPositions s sets clears rows (mutexPlan_rows _ _ _ _ _ _ h)
  · exact framedStep_bulkImportStandard s clear pairs

theorem importRoaring_bits_eq (s : Frag η) (clear : Bool) (pairs : List (Nat × Nat)) (hs : Sorted s.bits) :
    (importRoaring s clear pairs).1.bits = Spec.importRoaring s.bits clear pairs := by
  simp only [importRoaring, incrementOpN_bits, invalidateRows_eq, Spec.importRoaring]
  split
  · rw [removeN_fst]; exact delAll_congr hs fun _ => mem_canon
  · rw [addN_fst _ hs]; exact addAll_congr hs fun _ => mem_canon

theorem sorted_spec_importRoaring {S : List Nat} (clear : Bool) (pairs : List (Nat × Nat)) (hs : Sorted S) :
    Sorted (Spec.importRoaring S clear pairs) := by
  unfold Spec.importRoaring; split
  · exact sorted_delAll hs
  · exact sorted_addAll hs

/-- the rows invalidated are those of the positions whose state changes. -/
theorem framedStep_importRoaring (s : Frag η) (clear : Bool) (pairs : List (Nat × Nat)) :
    FramedStep s (importRoaring s clear pairs).1 := by
  refine ⟨by simp [importRoaring, invalidateRows_eq], fun hs => ?_, fun hs => ⟨_, frame_write _
    (by simp only [importRoaring, incrementOpN_rowCache, invalidateRows_eq]; rfl)
    (by simp only [importRoaring, incrementOpN_sums, invalidateRows_eq]) fun p hp => ?_⟩⟩
  · rw [importRoaring_bits_eq s clear pairs hs]; exact sorted_spec_importRoaring clear pairs hs
  · rw [importRoaring_bits_eq s clear pairs hs]
    have hp' := fun h => hp (mem_map.mpr ⟨p, h, rfl⟩)
    cases clear
    · simp only [Bool.false_eq_true, ↓reduceIte, mem_filter, mem_canon, Bool.not_eq_eq_eq_not, Bool.not_true,
        has_false_iff] at hp'
      simp only [Spec.importRoaring, Bool.false_eq_true, ↓reduceIte, mem_addAll]
      exact ⟨Or.inl, fun h => h.elim id fun hd => Decidable.by_contra fun hn => hp' ⟨hd, hn⟩⟩
    · simp only [↓reduceIte, mem_filter, mem_canon, has_iff] at hp'
      simp only [Spec.importRoaring, ↓reduceIte, mem_delAll]
      exact ⟨fun h => ⟨h, fun hd => hp' ⟨hd, h⟩⟩, And.left⟩

end PV.C07
