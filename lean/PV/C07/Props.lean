/-
C07 property theorems: every shard read reflects all completed writes, whatever the write path;
each write reports whether it changed anything.

Model  PV/C07/Model.lean  : fragment.go function by function (storage abstracted to an ascending
                            list of positions; row cache, checksum cache, op counter, snapshots).
Spec   PV/C07/Spec.lean   : a set of (row, column) positions; every write is a set operation,
                            batches are applied left to right, `changed` = "the set differs".
WF H s                    : `Inv H s` (storage ascending, cached rows coherent, cached checksums valid)
                            and, on mutex / bool fragments, at most one row per column (bool: rows 0, 1).
OpOK kind op              : the operation reaches a fragment of that kind through the API.

FULL-STRENGTH STATEMENT (what the property asks; not a theorem of this file):
    WF H s → OpOK s.kind op →
        (step H s op).1.bits = Spec.stepState s.kind s.bits op ∧
        (step H s op).2      = Spec.out H s.kind s.bits op
It is FALSE for the current code at exactly one place: `unprotectedSetRow` returns
`changed = true` unconditionally (a TODO in the code; the existing test
TestExecutor_Execute_SetRow/Set_NoSource pins `Store(empty -> empty) = true`, so this was not
repaired), see `C07_setrow_changed_always_true_witness`.  Proved here: the statement with the
answer of every setRow excluded (`C07_refines_partial`: for a setRow it only says that the answer
is `changed = true`; the storage part holds for setRow too), and
`C07_setRow_changed_when_different` shows that answer is right whenever the row really changes.
-/
import PV.C07.LemmasWF
namespace PV.C07
open List hiding lookup

variable {η : Type}

/-- Per step: the storage after the step is the specification's set, well-formedness and the
fragment kind are kept, and the answer (incl. `changed`) is the specification's answer.
Excluded: the `changed` flag of setRow (always true). -/
theorem C07_refines_partial (H : List Nat → η) (s : Frag η) (op : Op)
    (hw : WF H s) (hop : OpOK s.kind op) :
    (step H s op).1.bits = Spec.stepState s.kind s.bits op ∧
    WF H (step H s op).1 ∧ (step H s op).1.kind = s.kind ∧
    (isSetRow op = false → (step H s op).2 = Spec.out H s.kind s.bits op) ∧
    (isSetRow op = true → (step H s op).2 = .w (.changed true)) :=
  ⟨step_bits hw op hop, wf_step hw op hop, step_kind H s op, step_out hw op hop, step_out_setRow H s⟩

/-- setRow answers correctly whenever it really changes the row. -/
theorem C07_setRow_changed_when_different (H : List Nat → η) (s : Frag η) (r : Nat) (cols : List Nat)
    (hdiff : (Spec.setRow s.bits r cols != s.bits) = true) :
    (step H s (.setRow r cols)).2 = Spec.out H s.kind s.bits (.setRow r cols) := by
  simp only [Spec.out, Spec.stepState, hdiff]
  rfl

/-- The model deviates from the specification on this input: row 3 holds column 7, setRow(3, {7})
reports changed = true, the specification says false. -/
theorem C07_setrow_changed_always_true_witness :
    (step (id : List Nat → List Nat) (run id (Frag.empty .set 10000) [.setBit 3 7]) (.setRow 3 [7])).2
        = .w (.changed true) ∧
    (Spec.setRow (run (id : List Nat → List Nat) (Frag.empty .set 10000) [.setBit 3 7]).bits 3 [7]
        != (run (id : List Nat → List Nat) (Frag.empty .set 10000) [.setBit 3 7]).bits) = false :=
  ⟨rfl, by decide⟩

/-- Reads (bit, row, row list, integer value, bit enumeration, block data, block checksums,
mutex value) answer from the stored set alone — whatever is in the row cache or the checksum
cache — and leave the set untouched. -/
theorem C07_reads (H : List Nat → η) (s : Frag η) (op : Op) (hw : WF H s) (hop : OpOK s.kind op)
    (hr : isRead op = true) :
    (step H s op).2 = Spec.out H s.kind s.bits op ∧ (step H s op).1.bits = s.bits :=
  ⟨step_out hw op hop (isRead_spec hr).1, (step_bits hw op hop).trans ((isRead_spec hr).2 _ _)⟩

/-- A snapshot — foreground or background, at any position of a history — changes no answer:
it is a step that leaves the stored set and well-formedness alone. -/
theorem C07_snapshot_transparent (H : List Nat → η) (s : Frag η) (hw : WF H s) :
    (step H s .snapshot).1.bits = s.bits ∧ WF H (step H s .snapshot).1 :=
  ⟨rfl, wf_step hw .snapshot (opOK_any_kind rfl rfl trivial)⟩

/-- A restart (close + reopen) changes no answer either: the stored set and well-formedness are
kept, the caches start empty. -/
theorem C07_reopen_transparent (H : List Nat → η) (s : Frag η) (hw : WF H s) :
    (step H s .reopen).1.bits = s.bits ∧ (step H s .reopen).1.kind = s.kind ∧ WF H (step H s .reopen).1 :=
  ⟨rfl, rfl, wf_step hw .reopen (opOK_any_kind rfl rfl trivial)⟩

/-- All finite histories (snapshot steps at arbitrary positions are ordinary members of `ops`):
every answer along the history is the specification's answer on the specification's state
(setRow's `changed` excepted, see above), and the final storage is the writes applied in order. -/
theorem C07_history_partial (H : List Nat → η) (s : Frag η) (ops : List Op)
    (hw : WF H s) (hall : AllOK s.kind ops) :
    HistOK H s.kind s s.bits ops ∧
    (run H s ops).bits = ops.foldl (Spec.stepState s.kind) s.bits ∧
    WF H (run H s ops) :=
  history ops s hw hall

/-- From a freshly opened fragment. -/
theorem C07_history_from_empty_partial (H : List Nat → η) (kind : Kind) (maxOpN : Nat) (ops : List Op)
    (hall : AllOK kind ops) :
    HistOK H kind (Frag.empty kind maxOpN) [] ops ∧
    (run H (Frag.empty kind maxOpN) ops).bits = ops.foldl (Spec.stepState kind) [] :=
  let h := history ops (Frag.empty kind maxOpN) (wf_empty H kind maxOpN) hall
  ⟨h.1, h.2.1⟩

/-! Non-vacuity: a long mixed history (bits in two blocks, a cached row and a cached checksum on
the way, snapshots forced by `maxOpN = 3`) is admissible, and the state it reaches satisfies WF. -/

example : WF (id : List Nat → List Nat) (run id (Frag.empty .set 3) exOps) :=
  (history exOps _ (wf_empty _ _ _) (by intro op _; exact Or.inl ⟨rfl, by cases op <;> first | rfl | simp_all [exOps]⟩)).2.2

example : (run (id : List Nat → List Nat) (Frag.empty .set 3) exOps).bits =
    [pos 0 3, pos 1 7, pos 2 3, pos 2 4, pos 2 7, pos 3 4] := by decide

end PV.C07
