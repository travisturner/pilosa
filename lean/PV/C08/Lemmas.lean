/-
C08: the options `Field.Open` gives back unchanged are the fixed points of `applyOptions`; whatever
`applyOptions` returns is one, and an int field stays one when its bit depth grows.
-/
import PV.C08.Model
namespace PV.C08
open PV.C14

/-- `Field.Open` re-applies the loaded options to themselves. -/
def Stable (o : Opts) : Prop := applyOptions o o = .ok o

/-- Save then load: only the v1 branch touches the record. -/
theorem loadMeta_saveMeta (o : Opts) :
    loadMeta (saveMeta o) =
      if o.bitDepth = 0 then
        { o with base := o.min
                 bitDepth := if bitDepthInt (o.max - o.min) = 0 then 1 else bitDepthInt (o.max - o.min) }
      else o := by
  unfold loadMeta saveMeta
  split <;> rfl

/-- Outside int fields `applyOptions` reads neither base nor bit depth. -/
theorem applyOptions_base_depth (o : Opts) (h : o.typ ≠ .int) (b : Int) (d : Nat) :
    applyOptions { o with base := b, bitDepth := d } { o with base := b, bitDepth := d } = applyOptions o o := by
  obtain ⟨typ, _⟩ := o
  cases typ <;> first | rfl | exact absurd rfl h

/-- A stable int field has the shape `applyOptions` gives int fields; its bit depth is not the v1 mark. -/
theorem Stable.int {o : Opts} (h : Stable o) (hi : o.typ = .int) :
    1 ≤ o.bitDepth ∧ o.cacheType = .none ∧ o.cacheSize = 0 ∧ o.tq = "" := by
  simp only [Stable, applyOptions, hi, Except.ok.injEq] at h
  refine ⟨?_, (congrArg Opts.cacheType h).symm, (congrArg Opts.cacheSize h).symm, (congrArg Opts.tq h).symm⟩
  have := congrArg Opts.bitDepth h
  dsimp only at this
  split at this <;> omega

/-- The restart is the identity on stable options: the v1 branch is not entered (int) or undone by
`applyOptions` (every other type). -/
theorem Stable.reopen {o : Opts} (h : Stable o) : reopenOptions (saveMeta o) = .ok o := by
  unfold reopenOptions
  rw [loadMeta_saveMeta]
  split
  · rw [applyOptions_base_depth o (fun hi => by have := (h.int hi).1; omega)]; exact h
  · exact h

/-- Whatever `applyOptions` returns is a fixed point of it, whatever the field held before. -/
theorem Stable.of_applyOptions {cur opt o : Opts} (h : applyOptions cur opt = .ok o) : Stable o := by
  obtain ⟨typ, ct, cs, mn, mx, base, bd, tq, keys, noStd⟩ := opt
  cases typ <;> simp only [applyOptions] at h
  case invalid => cases h
  case int => cases h; by_cases hb : bd = 0 <;> simp [Stable, applyOptions, hb]
  case time =>
    split at h <;> cases h
    rename_i hv
    simp [Stable, applyOptions, hv]
  case bool => cases h; rfl
  -- set, mutex, unset: the cache type `T` is applied to itself; size 0 for none
  all_goals
    cases h
    simp only [Stable, applyOptions, ite_self, reduceCtorEq, if_false]
    generalize (if ct ≠ CType.unset then ct else cur.cacheType) = T
    by_cases hT : T = CType.none <;> simp [hT]

theorem Stable.of_created {opt o : Opts} (h : createOptions opt = .ok o) : Stable o := by
  unfold createOptions at h
  split at h
  · exact .of_applyOptions h
  · cases h

/-- `Field.SetValue` / `importValue` only raise the bit depth of an int field. -/
theorem Stable.grow {o : Opts} (h : Stable o) (hi : o.typ = .int) {d : Nat} (hd : o.bitDepth ≤ d) :
    Stable { o with bitDepth := d } := by
  have h1 := (h.int hi).1
  obtain ⟨typ, _⟩ := o
  subst hi
  simp only [Stable, applyOptions, Except.ok.injEq] at h ⊢
  rw [if_neg (by omega : ¬ d = 0)]
  exact congrArg (fun o : Opts => { o with bitDepth := d }) h

end PV.C08
