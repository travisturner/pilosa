/-
C08 property theorems.  Core Lean only.

Full-strength statements: for EVERY option record `CreateField` accepts (every field type, cache
type/size, bounds — including bounds that exclude zero —, time quantum, keys, noStandardView) and
every bit depth an int field can grow to through writes, the options read back after Close + Open
are the options before (`C08_meta_roundtrip`), and an int field re-reads every stored value
(`C08_reopen`).  The model is the code after the two `fix:` commits (int field starts at bit depth 1;
cache size 0 with cache type none); on the unfixed code both theorems are false
(`C08_old_depth0_witness` states what the old code did with the bit depth on the minimal input; the
replays are in corpus/C08).
-/
import PV.C08.Lemmas
import PV.C08.Spec
import PV.C14.LemmasField
namespace PV.C08
open PV.C14

theorem bitDepthInt_zero : bitDepthInt 0 = 0 := by decide

/-- Options a field can have: what `createField` produced, possibly with a larger bit depth
(int fields grow through `SetValue` / `importValue`). -/
def Reach (o : Opts) : Prop :=
  ∃ opt o0, createOptions opt = .ok o0 ∧
    (o = o0 ∨ (o0.typ = .int ∧ ∃ d, o0.bitDepth ≤ d ∧ o = { o0 with bitDepth := d }))

theorem roundtrip_created (opt o : Opts) (h : createOptions opt = .ok o) :
    reopenOptions (saveMeta o) = .ok o :=
  (Stable.of_created h).reopen

theorem created_int_depth (opt o : Opts) (h : createOptions opt = .ok o) (hi : o.typ = .int) :
    1 ≤ o.bitDepth ∧ o.cacheType = .none ∧ o.cacheSize = 0 ∧ o.tq = "" :=
  (Stable.of_created h).int hi

/-- Meta data written by this version is never taken for v1: for an int field the file content is
read back unchanged. -/
theorem C08_load_save_int (o : Opts) (hd : 1 ≤ o.bitDepth) : loadMeta (saveMeta o) = o := by
  rw [loadMeta_saveMeta, if_neg (by omega)]

/-- Close + Open gives back the options of every reachable field. -/
theorem C08_meta_roundtrip (o : Opts) (h : Reach o) :
    reopenOptions (saveMeta o) = .ok (Spec.reopenOptions o) := by
  obtain ⟨opt, o0, hc, rfl | ⟨hi, d, hd, rfl⟩⟩ := h
  · exact roundtrip_created opt _ hc
  · exact ((Stable.of_created hc).grow hi hd).reopen

theorem Reach.grow {o : Opts} (h : Reach o) (hi : o.typ = .int) {d : Nat} (hd : o.bitDepth ≤ d) :
    Reach { o with bitDepth := d } := by
  obtain ⟨opt, o0, hc, rfl | ⟨hi0, d0, hd0, rfl⟩⟩ := h
  · exact ⟨opt, o, hc, Or.inr ⟨hi, d, hd, rfl⟩⟩
  · exact ⟨opt, o0, hc, Or.inr ⟨hi0, d, Nat.le_trans hd0 hd, rfl⟩⟩

/-- Writes keep the options reachable (only the bit depth moves, and only upwards). -/
theorem C08_reach_setValue (f : IntField) (h : Reach f.opts) (hi : f.opts.typ = .int) (c : Nat) (v : Int)
    (hb : (v - f.opts.base).natAbs < 2^63) : Reach (f.setValue c v).1.opts :=
  h.grow hi (setValue_depth_le f.toField c v hb)

/-- An int field comes back unchanged — options and stored bits — so every `Field.Value`, and with
C14 every range query, Sum, Min and Max, answers as before the restart. -/
theorem C08_reopen (f : IntField) (h : Reach f.opts) : f.reopen = .ok (Spec.reopen f) := by
  simp only [IntField.reopen, C08_meta_roundtrip f.opts h, Spec.reopenOptions, Spec.reopen]

theorem C08_reopen_values (f f' : IntField) (h : Reach f.opts) (hr : f.reopen = .ok f') (c : Nat) :
    f'.value c = f.value c := by
  rw [C08_reopen f h] at hr
  cases hr; rfl

theorem filterMap_cacheEntry_roundtrip (count : Nat → Nat) (l : List Nat) :
    ((l.filterMap (cacheEntry count)).map (·.1)).filterMap (cacheEntry count) = l.filterMap (cacheEntry count) := by
  induction l with
  | nil => rfl
  | cons x xs ih =>
    by_cases h : count x > 0
    · have e : cacheEntry count x = some (x, count x) := by simp [cacheEntry, h]
      simp only [List.filterMap_cons, e, List.map_cons, ih]
    · have e : cacheEntry count x = none := by simp [cacheEntry, h]
      simp only [List.filterMap_cons, e, ih]

/-- For every fragment of a cached set field whose rows fit the cache: the cache rebuilt by
`openCache` from the ids `flushCache` wrote at close is the cache held before the restart, so
`TopN` answers the same (this needs `close` to flush the cache whenever it holds rows — also when
no operation was logged since the last snapshot). -/
theorem C08_cache_roundtrip (d : SetData) (shard : Nat) : reopenCache d shard = fragCache d shard := by
  simp only [reopenCache, openCache, flushCache, fragCache]
  exact filterMap_cacheEntry_roundtrip _ _

theorem C08_topN_reopen (d : SetData) (shards : List Nat) :
    topN (shards.map (reopenCache d)) = topN (shards.map (fragCache d)) := by
  congr 1
  apply List.map_congr_left
  intro s _
  exact C08_cache_roundtrip d s

/-- What a skipped flush does: with no `.cache` file the reopened cache is empty although the
fragment holds the rows. -/
theorem C08_unflushed_cache_witness :
    openCache [] (SetData.count { bits := [(7, 1)] } 0) = [] ∧ fragCache { bits := [(7, 1)] } 0 = [(7, 1)] := by decide

/-- What the v1-upgrade branch does to a meta file with bit depth 0 (the reason the current format
must never write one): base becomes min and the depth covers max - min. -/
theorem C08_v1_branch (pb : Meta) (h0 : pb.bitDepth = 0) :
    (loadMeta pb).base = pb.min ∧
    (loadMeta pb).bitDepth = (if bitDepthInt (pb.max - pb.min) = 0 then 1 else bitDepthInt (pb.max - pb.min)) := by
  simp [loadMeta, h0]

def oldDepth0 : Opts :=
  { typ := .int, cacheType := .none, cacheSize := 0, min := -10, max := 1000, base := 0,
    bitDepth := 0, tq := "", keys := false, noStd := false }

/-- The repaired defect, on the model of the OLD createField (bit depth 0 saved): an int field
[-10, 1000] holding 0 in column 1 read -10 after the restart, with base -10 and bit depth 10. -/
theorem C08_old_depth0_witness :
    IntField.value ⟨oldDepth0, [⟨1, true, false, 0⟩]⟩ 1 = some 0 ∧
    reopenOptions (saveMeta oldDepth0) = .ok { oldDepth0 with base := -10, bitDepth := 10 } ∧
    IntField.value ⟨{ oldDepth0 with base := -10, bitDepth := 10 }, [⟨1, true, false, 0⟩]⟩ 1 = some (-10) := by
  refine ⟨by decide, ?_, by decide⟩
  have : bitDepthInt 1010 = 10 := by decide
  simp [reopenOptions, loadMeta, saveMeta, applyOptions, oldDepth0, this]

/-- Non-vacuity: every field type is reachable, e.g. an int field with bounds excluding zero grown to
depth 7, a time field, a keyed mutex field with an LRU cache. -/
example : Reach { typ := .int, cacheType := .none, cacheSize := 0, min := 5, max := 100, base := 0,
                  bitDepth := 7, tq := "", keys := false, noStd := false } :=
  ⟨{ defaultOpts with typ := .int, min := 5, max := 100 }, _, rfl, Or.inr ⟨rfl, 7, by decide, rfl⟩⟩

example : Reach { typ := .time, cacheType := .none, cacheSize := 0, min := 0, max := 0, base := 0,
                  bitDepth := 0, tq := "YMDH", keys := true, noStd := true } :=
  ⟨{ defaultOpts with typ := .time, tq := "YMDH", keys := true, noStd := true }, _, rfl, Or.inl rfl⟩

example : Reach { typ := .mutex, cacheType := .lru, cacheSize := 10, min := 0, max := 0, base := 0,
                  bitDepth := 0, tq := "", keys := true, noStd := false } :=
  ⟨{ defaultOpts with typ := .mutex, cacheType := .lru, cacheSize := 10, keys := true }, _, rfl, Or.inl rfl⟩

end PV.C08
