/-
C09 lemmas.  A call writes one fragment's data file (and its temp file) or the translate log; every other file keeps
its content through any prefix of the call's operations and its owner keeps its memory.  So the crash analysis
(`good_next`, `prefix_recover`) looks at one file.
-/
import PV.C09.Spec
namespace PV.C09

theorem get_set (d : Disk) (p q : Path) (cs : List Chunk) :
    (d.set p cs).get q = if q = p then some cs else d.get q := by
  induction d with
  | nil => simp [Disk.set, Disk.get, eq_comm]
  | cons e rest ih =>
    obtain ⟨r, c0⟩ := e
    by_cases hr : r = p <;> by_cases h : q = p
    · subst hr h; simp [Disk.set, Disk.get]
    · subst hr; simp [Disk.set, Disk.get, h, Ne.symm h]
    · subst h; simp [Disk.set, Disk.get, hr, ih]
    · simp [Disk.set, Disk.get, hr, h, ih]

theorem get_set_same (d : Disk) (p : Path) (cs : List Chunk) : (d.set p cs).get p = some cs := by
  rw [get_set, if_pos rfl]

theorem get_set_ne (d : Disk) (p p' : Path) (cs : List Chunk) (h : p' ≠ p) :
    (d.set p cs).get p' = d.get p' := by
  rw [get_set, if_neg h]

theorem get_del (d : Disk) (p q : Path) : (d.del p).get q = if q = p then none else d.get q := by
  induction d with
  | nil => simp [Disk.del, Disk.get]
  | cons e rest ih =>
    obtain ⟨r, c0⟩ := e
    unfold Disk.del at ih ⊢
    by_cases hr : r = p
    · rw [List.filter_cons_of_neg (by simpa using hr), ih]
      by_cases h : q = p
      · rw [if_pos h, if_pos h]
      · rw [if_neg h, if_neg h, Disk.get, if_neg (fun e => h (e.symm.trans hr))]
    · rw [List.filter_cons_of_pos (by simpa using hr), Disk.get, Disk.get, ih]
      by_cases h : q = p
      · rw [if_neg (fun e => hr (e.trans h)), if_pos h, if_pos h]
      · rw [if_neg h, if_neg h]

theorem get_del_ne (d : Disk) (p p' : Path) (h : p' ≠ p) : (d.del p).get p' = d.get p' := by
  rw [get_del, if_neg h]

def FsOp.paths : FsOp → List Path
  | .create p | .write p _ => [p]
  | .rename a b => [a, b]

theorem get_apply_untouched {op : FsOp} {p : Path} (h : p ∉ op.paths) (d : Disk) :
    (d.apply op).get p = d.get p := by
  cases op with
  | create q => exact get_set_ne _ _ _ _ (fun e => h (e ▸ List.mem_singleton.mpr rfl))
  | write q c => exact get_set_ne _ _ _ _ (fun e => h (e ▸ List.mem_singleton.mpr rfl))
  | rename a b =>
    have ⟨ha, hb⟩ : p ≠ a ∧ p ≠ b := by simpa [FsOp.paths] using h
    simp only [Disk.apply]
    split
    · rw [get_set_ne _ _ _ _ hb, get_del_ne _ _ _ ha]
    · rfl

theorem get_applyAll_untouched {ops : List FsOp} {p : Path} (h : ∀ op ∈ ops, p ∉ op.paths) (d : Disk) :
    (d.applyAll ops).get p = d.get p :=
  List.foldlRecOn (motive := fun d' => d'.get p = d.get p) ops Disk.apply rfl
    fun d' hd op hop => (get_apply_untouched (h op hop) d').trans hd

/-- what `replay` computes on a log of well-formed records -/
def fold (s : List Nat) (rs : List Rec) : List Nat := rs.foldl (fun b r => r.apply b) s

theorem fold_append (s : List Nat) (a b : List Rec) : fold s (a ++ b) = fold (fold s a) b :=
  List.foldl_append

theorem replay_append (cs cs' : List Chunk) (b : List Nat) :
    replay b (cs ++ cs') = (replay b cs).bind (fun s => replay s cs') := by
  induction cs generalizing b with
  | nil => rfl
  | cons c rest ih => cases c <;> simp only [List.cons_append, replay, ih, Option.bind_none]

theorem replay_only_logs (rs : List Rec) (s : List Nat) : replay s (rs.map Chunk.log) = some (fold s rs) := by
  induction rs generalizing s with
  | nil => rfl
  | cons r rest ih => exact ih _

theorem replay_logs (cs : List Chunk) (rs : List Rec) : ∀ (b s0 : List Nat),
    replay b cs = some s0 → replay b (cs ++ rs.map Chunk.log) = some (fold s0 rs) := by
  intro b s0 h
  rw [replay_append, h]
  exact replay_only_logs rs s0

theorem replayKeysFrom_append (cs cs' : List Chunk) (m : List (String × Nat)) :
    replayKeysFrom m (cs ++ cs') = (replayKeysFrom m cs).bind (fun x => replayKeysFrom x cs') := by
  induction cs generalizing m with
  | nil => rfl
  | cons c rest ih => cases c <;> simp only [List.cons_append, replayKeysFrom, ih, Option.bind_none]

theorem replayKeys_entry {cs : List Chunk} {m : List (String × Nat)} (ps : List (String × Nat))
    (h : replayKeys cs = some m) : replayKeys (cs ++ [.entry ps]) = some (ps.foldl keyAdd m) := by
  rw [replayKeys, replayKeysFrom_append, ← replayKeys, h]; rfl

def logOps (i : Nat) (rs : List Rec) : List FsOp := rs.map (fun r => FsOp.write (.data i) (.log r))

theorem applyAll_logs (i : Nat) (rs : List Rec) : ∀ (d : Disk) (cs : List Chunk), d.get (.data i) = some cs →
    (d.applyAll (logOps i rs)).get (.data i) = some (cs ++ rs.map Chunk.log) ∧
    ∀ p, p ≠ .data i → (d.applyAll (logOps i rs)).get p = d.get p := by
  intro d cs h
  refine ⟨?_, fun p hp => get_applyAll_untouched (fun op hop => ?_) d⟩
  · induction rs generalizing d cs with
    | nil => exact h.trans (by rw [List.map_nil, List.append_nil])
    | cons r rest ih =>
      have h1 : (d.apply (.write (.data i) (.log r))).get (.data i) = some (cs ++ [.log r]) := by
        rw [Disk.apply, get_set_same, h]; rfl
      exact (ih _ _ h1).trans (by rw [List.append_assoc]; rfl)
  · obtain ⟨r, _, rfl⟩ := List.mem_map.mp hop
    exact fun h => hp (List.mem_singleton.mp h)

theorem logOps_take (i : Nat) (rs : List Rec) (j : Nat) : (logOps i rs).take j = logOps i (rs.take j) :=
  (List.map_take).symm

theorem incr_bits (f : Frag) (n : Nat) : (f.incr n).bits = f.bits := by
  unfold Frag.incr; split <;> rfl

theorem addBit_bits (f : Frag) (p : Nat) : (f.addBit p).1.bits = fold f.bits (f.addBit p).2 := by
  unfold Frag.addBit
  simp only [fold, List.foldl_cons, List.foldl_nil, Rec.apply]
  split <;> simp [incr_bits]

theorem removeBit_bits (f : Frag) (p : Nat) : (f.removeBit p).1.bits = fold f.bits (f.removeBit p).2 := by
  unfold Frag.removeBit
  simp only [fold, List.foldl_cons, List.foldl_nil, Rec.apply]
  split <;> simp [incr_bits]

theorem bitSeq_bits (l : List (Bool × Nat)) : ∀ f : Frag, (f.bitSeq l).1.bits = fold f.bits (f.bitSeq l).2 := by
  induction l with
  | nil => intro f; rfl
  | cons x rest ih =>
    intro f
    obtain ⟨isSet, p⟩ := x
    simp only [Frag.bitSeq]
    rw [fold_append, ih]
    cases isSet
    · simp only [Bool.false_eq_true, if_false]; rw [removeBit_bits]
    · simp only [if_true]; rw [addBit_bits]

theorem importPositions_bits (f : Frag) (set clear : List Nat) :
    (f.importPositions set clear).1.bits = fold f.bits (f.importPositions set clear).2 := by
  unfold Frag.importPositions
  simp only
  rw [fold_append]
  by_cases h1 : set = [] <;> by_cases h2 : clear = [] <;>
    simp [h1, h2, fold, Rec.apply, incr_bits]

theorem roaring_bits (f : Frag) (vals : List Nat) (clear : Bool) (n size : Nat) :
    (({ f with bits := if clear then vdelAll f.bits vals else vaddAll f.bits vals }).incr n).bits =
      fold f.bits [if clear then .removeRoaring vals size else .addRoaring vals size] := by
  rw [incr_bits]; cases clear <;> rfl

theorem listSet_get {α : Type} (l : List α) (i : Nat) (v : α) (j : Nat) :
    (listSet l i v)[j]? = if j = i then (l[j]?).map (fun _ => v) else l[j]? := by
  unfold listSet
  rw [List.getElem?_mapIdx]
  cases h : l[j]? with
  | none => simp
  | some x => by_cases e : j = i <;> simp [e]

theorem listSet_length {α : Type} (l : List α) (i : Nat) (v : α) : (listSet l i v).length = l.length := by
  simp [listSet]

theorem bitsOf_absent (s : Sys) (i : Nat) (h : s.frags.length ≤ i) : s.bitsOf i = [] := by
  simp [Sys.bitsOf, List.getElem?_eq_none h]

/-- the common shape of a call that appends records to fragment i -/
structure LogStep (s s' : Sys) (i : Nat) (rs : List Rec) : Prop where
  ex : ∃ f f', s.frags[i]? = some f ∧ s'.frags = listSet s.frags i f' ∧ f'.bits = fold f.bits rs
  keys : s'.keys = s.keys
  keysOpen : s'.keysOpen = s.keysOpen

/-- shape of a call that changes one fragment in memory (snapshot, unlogged row operation) -/
structure FragStep (s s' : Sys) (i : Nat) : Prop where
  ex : ∃ f f', s.frags[i]? = some f ∧ s'.frags = listSet s.frags i f'
  keys : s'.keys = s.keys
  keysOpen : s'.keysOpen = s.keysOpen

/-- what a call that emits `e` did to the in-memory state -/
def Shape (s s' : Sys) : Emit → Prop
  | .logs i rs => LogStep s s' i rs
  | .snapshot i bits => FragStep s s' i ∧ s'.bitsOf i = bits
  | .unlogged => ∃ i, FragStep s s' i
  | .fopen i => i = s.frags.length ∧ ∃ f0 : Frag, f0.bits = [] ∧ s'.frags = s.frags ++ [f0] ∧
      s'.keys = s.keys ∧ s'.keysOpen = s.keysOpen
  | .kcreate => s.keysOpen = false ∧ s'.keysOpen = true ∧ s'.frags = s.frags ∧ s'.keys = s.keys
  | .kentry ps => s.keysOpen = true ∧ s'.keysOpen = true ∧ s'.frags = s.frags ∧ s'.keys = ps.foldl keyAdd s.keys
  | .nothing => s'.frags = s.frags ∧ s'.keys = s.keys ∧ s'.keysOpen = s.keysOpen

/-- Store / ClearRow: the calls that change memory without writing anything -/
def AOp.rowop : AOp → Bool
  | .setrow _ _ _ | .clearrow _ _ => true
  | _ => false

/-- Memory changes as `Shape` says, and only Store / ClearRow change it without writing. -/
def Answer (s : Sys) (op : AOp) (r : Option (Sys × Emit)) : Prop :=
  ∀ s' e, r = some (s', e) → Shape s s' e ∧ (e = .unlogged → op.rowop = true)

theorem Answer.none {s : Sys} {op : AOp} : Answer s op none := fun _ _ h => nomatch h

theorem Answer.ite {s : Sys} {op : AOp} {c : Prop} [Decidable c] {a b : Option (Sys × Emit)}
    (ha : Answer s op a) (hb : Answer s op b) : Answer s op (if c then a else b) := by
  split <;> assumption

theorem Answer.bind {s : Sys} {op : AOp} {i : Nat} {g : Frag → Option (Sys × Emit)}
    (h : ∀ f, s.frags[i]? = some f → Answer s op (g f)) : Answer s op ((s.frags[i]?).bind g) := by
  cases hf : s.frags[i]? with
  | none => exact .none
  | some f => exact h f hf

theorem Answer.map {s : Sys} {op : AOp} {i : Nat} {g : Frag → Sys × Emit}
    (h : ∀ f, s.frags[i]? = some f → Answer s op (some (g f))) : Answer s op ((s.frags[i]?).map g) := by
  cases hf : s.frags[i]? with
  | none => exact .none
  | some f => exact h f hf

theorem Answer.logs {s : Sys} {op : AOp} {i : Nat} {f : Frag} (r : Frag × List Rec) (hf : s.frags[i]? = some f)
    (hb : r.1.bits = fold f.bits r.2) :
    Answer s op (some ({ frags := listSet s.frags i r.1, keys := s.keys, keysOpen := s.keysOpen }, .logs i r.2)) := by
  intro s' e h; cases h
  exact ⟨⟨⟨f, r.1, hf, rfl, hb⟩, rfl, rfl⟩, nofun⟩

theorem Answer.nothing {s : Sys} {op : AOp} (err : Bool) :
    Answer s op (some ({ frags := s.frags, keys := s.keys, keysOpen := s.keysOpen, err := err }, .nothing)) := by
  intro s' e h; cases h
  exact ⟨⟨rfl, rfl, rfl⟩, nofun⟩

theorem fragStep_listSet {s : Sys} {i : Nat} {f : Frag} (f' : Frag) (hf : s.frags[i]? = some f) :
    FragStep s { frags := listSet s.frags i f', keys := s.keys, keysOpen := s.keysOpen } i :=
  ⟨⟨f, f', hf, rfl⟩, rfl, rfl⟩

theorem Answer.snapshot {s : Sys} {op : AOp} {i : Nat} {f : Frag} (f' : Frag) (hf : s.frags[i]? = some f) :
    Answer s op (some ({ frags := listSet s.frags i f', keys := s.keys, keysOpen := s.keysOpen },
      .snapshot i f'.bits)) := by
  intro s' e h; cases h
  exact ⟨⟨fragStep_listSet f' hf, by simp [Sys.bitsOf, listSet_get, hf]⟩, nofun⟩

theorem Answer.unlogged {s : Sys} {op : AOp} {i : Nat} {f : Frag} (f' : Frag) (hf : s.frags[i]? = some f)
    (hop : op.rowop = true) :
    Answer s op (some ({ frags := listSet s.frags i f', keys := s.keys, keysOpen := s.keysOpen }, .unlogged)) := by
  intro s' e h; cases h
  exact ⟨⟨i, fragStep_listSet f' hf⟩, fun _ => hop⟩

theorem stepE_answer (s : Sys) (op : AOp) : Answer s op (stepE s op) := by
  unfold stepE
  dsimp only
  split
  · -- fopen
    intro s' e h; cases h
    exact ⟨⟨rfl, _, rfl, rfl, rfl, rfl⟩, nofun⟩
  · -- set
    refine .bind fun f hf => ?_
    split
    · exact .none
    · exact .logs _ hf (addBit_bits f _)
    · split
      · exact .logs _ hf (addBit_bits f _)
      · exact .ite (.logs _ hf (addBit_bits f _)) (.logs _ hf (bitSeq_bits _ f))
      · exact .nothing true
  · -- clear
    refine .bind fun f hf => ?_
    split
    · exact .none
    · exact .logs _ hf (removeBit_bits f _)
  · -- setval
    refine .bind fun f hf => ?_
    split
    · exact .logs _ hf (bitSeq_bits _ f)
    · exact .none
  · -- imp
    refine .bind fun f hf => ?_
    split
    · exact .none
    · refine .logs _ hf ?_
      split <;> exact importPositions_bits f _ _
    · exact .ite (.logs _ hf (importPositions_bits f _ _))
        (.ite (.nothing true) (.logs _ hf (importPositions_bits f _ _)))
  · -- impval
    refine .bind fun f hf => ?_
    split
    · exact .ite (.logs _ hf (importPositions_bits f _ _)) (.snapshot _ hf)
    · exact .none
  · -- roaring
    refine .bind fun f hf => ?_
    split
    · exact .none
    · exact .logs (_, _) hf (roaring_bits f _ _ _ _)
  · -- setrow
    refine .bind fun f hf => ?_
    split
    · exact .none
    · exact .unlogged _ hf rfl
  · -- clearrow
    refine .bind fun f hf => ?_
    split
    · exact .none
    · exact .unlogged _ hf rfl
  · -- snap
    exact .map fun f hf => .snapshot _ hf
  · -- bg
    refine .map fun f hf => ?_
    split
    · exact .snapshot _ hf
    · exact .nothing false
  · -- kopen
    split
    · exact .none
    · intro s' e h; cases h
      exact ⟨⟨Bool.eq_false_iff.mpr ‹_›, rfl, rfl, rfl⟩, nofun⟩
  · -- keys
    split
    · exact .none
    · rename_i hk
      split
      · exact .nothing false
      · intro s' e h; cases h
        exact ⟨⟨by simpa using hk, by simpa using hk, rfl, rfl⟩, nofun⟩

theorem stepE_shape (s s' : Sys) (op : AOp) (e : Emit) (h : stepE s op = some (s', e)) : Shape s s' e :=
  (stepE_answer s op s' e h).1

theorem stepE_logs (s s' : Sys) (op : AOp) (i : Nat) (rs : List Rec)
    (h : stepE s op = some (s', .logs i rs)) : LogStep s s' i rs :=
  stepE_shape s s' op _ h

theorem unlogged_rowop (s s' : Sys) (op : AOp) (h : stepE s op = some (s', .unlogged)) : op.rowop = true :=
  (stepE_answer s op s' _ h).2 rfl

theorem FragStep.length {s s' : Sys} {i : Nat} (h : FragStep s s' i) : s'.frags.length = s.frags.length := by
  obtain ⟨f, f', _, e⟩ := h.ex; rw [e, listSet_length]

theorem FragStep.lt {s s' : Sys} {i : Nat} (h : FragStep s s' i) : i < s.frags.length := by
  obtain ⟨f, f', hf, _⟩ := h.ex; exact (List.getElem?_eq_some_iff.mp hf).1

theorem FragStep.other {s s' : Sys} {i : Nat} (h : FragStep s s' i) (i' : Nat) (hne : i' ≠ i) :
    s'.bitsOf i' = s.bitsOf i' := by
  obtain ⟨f, f', _, e⟩ := h.ex
  simp [Sys.bitsOf, e, listSet_get, hne]

theorem LogStep.toFrag {s s' : Sys} {i : Nat} {rs : List Rec} (h : LogStep s s' i rs) : FragStep s s' i := by
  obtain ⟨f, f', hf, e, _⟩ := h.ex
  exact ⟨⟨f, f', hf, e⟩, h.keys, h.keysOpen⟩

theorem LogStep.bits {s s' : Sys} {i : Nat} {rs : List Rec} (h : LogStep s s' i rs) :
    s'.bitsOf i = fold (s.bitsOf i) rs := by
  obtain ⟨f, f', hf, e, hb⟩ := h.ex
  simp [Sys.bitsOf, e, listSet_get, hf, hb]

def Emit.paths : Emit → List Path
  | .logs i _ | .fopen i => [.data i]
  | .snapshot i _ => [.snap i, .data i]
  | .kcreate | .kentry _ => [.keys]
  | .nothing | .unlogged => []

theorem Emit.mem_paths {e : Emit} {op : FsOp} {p : Path} (hop : op ∈ e.ops) (hp : p ∈ op.paths) : p ∈ e.paths := by
  cases e with
  | nothing | unlogged => cases hop
  | logs i rs =>
    obtain ⟨r, _, rfl⟩ := List.mem_map.mp hop
    exact hp
  | snapshot i bits =>
    simp only [Emit.ops, List.mem_cons, List.not_mem_nil, or_false] at hop
    rcases hop with rfl | rfl | rfl <;> simp only [FsOp.paths, List.mem_singleton] at hp
    · rw [hp]; exact List.mem_cons_self
    · rw [hp]; exact List.mem_cons_self
    · exact hp
  | fopen i =>
    simp only [Emit.ops, List.mem_cons, List.not_mem_nil, or_false] at hop
    rcases hop with rfl | rfl <;> exact hp
  | kcreate => cases List.mem_singleton.mp hop; exact hp
  | kentry ps => cases List.mem_singleton.mp hop; exact hp

theorem Emit.data_mem_paths {e : Emit} {i : Nat} (h : Path.data i ∈ e.paths) :
    (∃ rs, e = .logs i rs) ∨ (∃ bits, e = .snapshot i bits) ∨ e = .fopen i := by
  cases e with
  | logs i0 rs => cases List.mem_singleton.mp h; exact .inl ⟨rs, rfl⟩
  | snapshot i0 bits =>
    rcases List.mem_cons.mp h with h | h
    · cases h
    · cases List.mem_singleton.mp h; exact .inr (.inl ⟨bits, rfl⟩)
  | fopen i0 => cases List.mem_singleton.mp h; exact .inr (.inr rfl)
  | nothing | unlogged => cases h
  | kcreate | kentry _ => cases List.mem_singleton.mp h

theorem Emit.keys_mem_paths {e : Emit} (h : Path.keys ∈ e.paths) : e = .kcreate ∨ ∃ ps, e = .kentry ps := by
  cases e with
  | kcreate => exact .inl rfl
  | kentry ps => exact .inr ⟨ps, rfl⟩
  | nothing | unlogged => cases h
  | logs _ _ | fopen _ => cases List.mem_singleton.mp h
  | snapshot _ _ =>
    rcases List.mem_cons.mp h with h | h
    · cases h
    · cases List.mem_singleton.mp h

/-- through any of the call's operations, hence through every prefix of them -/
theorem untouched {e : Emit} {p : Path} (h : p ∉ e.paths) (d : Disk) {ops : List FsOp}
    (hsub : ∀ op ∈ ops, op ∈ e.ops) :
    (d.applyAll ops).get p = d.get p :=
  get_applyAll_untouched (fun op hop hp => h (Emit.mem_paths (hsub op hop) hp)) d

theorem sameFrag_of_frags {s s' : Sys} (h : s'.frags = s.frags) (i : Nat) :
    (i < s'.frags.length ↔ i < s.frags.length) ∧ s'.bitsOf i = s.bitsOf i :=
  ⟨by rw [h], by rw [Sys.bitsOf, h]; rfl⟩

theorem FragStep.sameFrag {s s' : Sys} {i0 i : Nat} (hf : FragStep s s' i0) (hne : i ≠ i0) :
    (i < s'.frags.length ↔ i < s.frags.length) ∧ s'.bitsOf i = s.bitsOf i :=
  ⟨by rw [hf.length], hf.other i hne⟩

theorem Shape.frag_other {s s' : Sys} {e : Emit} {i : Nat} (hs : Shape s s' e) (hi : Path.data i ∉ e.paths) :
    (i < s'.frags.length ↔ i < s.frags.length) ∧ (e ≠ .unlogged → s'.bitsOf i = s.bitsOf i) := by
  cases e with
  | nothing => exact (sameFrag_of_frags hs.1 i).imp_right fun h _ => h
  | kcreate => exact (sameFrag_of_frags hs.2.2.1 i).imp_right fun h _ => h
  | kentry ps => exact (sameFrag_of_frags hs.2.2.1 i).imp_right fun h _ => h
  | unlogged => obtain ⟨i0, hf⟩ := hs; exact ⟨by rw [hf.length], fun h => absurd rfl h⟩
  | logs i0 rs =>
    exact ((LogStep.toFrag hs).sameFrag fun e => hi (e ▸ List.mem_cons_self)).imp_right fun h _ => h
  | snapshot i0 bits =>
    exact (hs.1.sameFrag fun e => hi (e ▸ List.mem_cons_of_mem _ List.mem_cons_self)).imp_right fun h _ => h
  | fopen i0 =>
    -- the new fragment is appended at `i0 = s.frags.length ≠ i`
    obtain ⟨hi0, f0, _, hfr, _, _⟩ := hs
    have hne : i ≠ s.frags.length := fun e => hi (hi0 ▸ e ▸ List.mem_cons_self)
    have hlen : s'.frags.length = s.frags.length + 1 := by rw [hfr, List.length_append]; rfl
    refine ⟨by rw [hlen]; omega, fun _ => ?_⟩
    rw [Sys.bitsOf, Sys.bitsOf, hfr]
    rcases Nat.lt_or_gt_of_ne hne with h | h
    · rw [List.getElem?_append_left h]
    · rw [List.getElem?_eq_none (by rw [← hfr, hlen]; omega), List.getElem?_eq_none (Nat.le_of_lt h)]

theorem Shape.fopen_bits {s s' : Sys} {i : Nat} (hs : Shape s s' (.fopen i)) : s'.bitsOf i = [] := by
  obtain ⟨hi0, f0, hb0, hfr, _, _⟩ := hs
  simp [Sys.bitsOf, hfr, hi0, hb0]

theorem Shape.keys_other {s s' : Sys} {e : Emit} (hs : Shape s s' e) (hk : Path.keys ∉ e.paths) :
    s'.keys = s.keys ∧ s'.keysOpen = s.keysOpen := by
  cases e with
  | nothing => exact hs.2
  | unlogged => obtain ⟨i0, hf⟩ := hs; exact ⟨hf.keys, hf.keysOpen⟩
  | logs i0 rs => exact ⟨LogStep.keys hs, LogStep.keysOpen hs⟩
  | snapshot i0 bits => exact ⟨hs.1.keys, hs.1.keysOpen⟩
  | fopen i0 => obtain ⟨_, f0, _, _, hk, hko⟩ := hs; exact ⟨hk, hko⟩
  | kcreate => exact absurd List.mem_cons_self hk
  | kentry ps => exact absurd List.mem_cons_self hk

theorem snapshot_get (d : Disk) (i : Nat) (bits : List Nat) (p : Path) :
    (d.applyAll (Emit.snapshot i bits).ops).get p =
      if p = .data i then some [.image bits] else if p = .snap i then none else d.get p := by
  simp only [Emit.ops, Disk.applyAll, List.foldl_cons, List.foldl_nil, Disk.apply, get_set_same, Option.getD,
    List.nil_append, get_set, get_del]
  by_cases h1 : p = .data i
  · rw [if_pos h1, if_pos h1]
  · by_cases h2 : p = .snap i
    · rw [if_neg h1, if_neg h1, if_pos h2, if_pos h2]
    · rw [if_neg h1, if_neg h1, if_neg h2, if_neg h2, if_neg h2, if_neg h2]

theorem snapshot_prefix (d : Disk) (i : Nat) (bits : List Nat) {j : Nat} (hj : j ≤ 2) {p : Path} (hp : p ≠ .snap i) :
    (d.applyAll ((Emit.snapshot i bits).ops.take j)).get p = d.get p := by
  match j, hj with
  | 0, _ => rfl
  | 1, _ => exact get_set_ne _ _ _ _ hp
  | 2, _ => exact (get_set_ne _ _ _ _ hp).trans (get_set_ne _ _ _ _ hp)

/-- Disk and memory agree (`val = true`), or at least every file is well formed (`val = false`).
Nothing is said about `.snapshotting` files: leftovers of any content may lie around. -/
structure Good (val : Bool) (s : Sys) (d : Disk) : Prop where
  frag : ∀ i, i < s.frags.length → ∃ b cs x, d.get (.data i) = some (.image b :: cs) ∧ replay b cs = some x ∧
      (val = true → x = s.bitsOf i)
  absent : ∀ i, s.frags.length ≤ i → d.get (.data i) = none
  keysOn : s.keysOpen = true → ∃ cs x, d.get .keys = some cs ∧ replayKeys cs = some x ∧ (val = true → x = s.keys)
  keysOff : s.keysOpen = false → d.get .keys = none ∧ s.keys = []

theorem good_init (val : Bool) : Good val {} [] :=
  ⟨nofun, fun _ _ => rfl, nofun, fun _ => ⟨rfl, rfl⟩⟩

def FragOk (val : Bool) (s : Sys) (i : Nat) (file : Option (List Chunk)) : Prop :=
  (i < s.frags.length → ∃ b cs x, file = some (.image b :: cs) ∧ replay b cs = some x ∧
      (val = true → x = s.bitsOf i)) ∧
  (s.frags.length ≤ i → file = none)

def KeysOk (val : Bool) (s : Sys) (file : Option (List Chunk)) : Prop :=
  (s.keysOpen = true → ∃ cs x, file = some cs ∧ replayKeys cs = some x ∧ (val = true → x = s.keys)) ∧
  (s.keysOpen = false → file = none ∧ s.keys = [])

theorem good_iff {val : Bool} {s : Sys} {d : Disk} :
    Good val s d ↔ (∀ i, FragOk val s i (d.get (.data i))) ∧ KeysOk val s (d.get .keys) :=
  ⟨fun g => ⟨fun i => ⟨g.frag i, g.absent i⟩, g.keysOn, g.keysOff⟩,
   fun h => ⟨fun i => (h.1 i).1, fun i => (h.1 i).2, h.2.1, h.2.2⟩⟩

theorem FragOk.congr {val : Bool} {s s' : Sys} {i : Nat} {file : Option (List Chunk)} (h : FragOk val s i file)
    (hl : i < s'.frags.length ↔ i < s.frags.length) (hb : val = true → s'.bitsOf i = s.bitsOf i) :
    FragOk val s' i file := by
  refine ⟨fun hi => ?_, fun hi => h.2 (Nat.le_of_not_lt fun hlt => Nat.not_lt.mpr hi (hl.mpr hlt))⟩
  obtain ⟨b, cs, x, h1, h2, h3⟩ := h.1 (hl.mp hi)
  exact ⟨b, cs, x, h1, h2, fun hv => (h3 hv).trans (hb hv).symm⟩

theorem KeysOk.congr {val : Bool} {s s' : Sys} {file : Option (List Chunk)} (h : KeysOk val s file)
    (hk : s'.keys = s.keys) (hko : s'.keysOpen = s.keysOpen) : KeysOk val s' file := by
  unfold KeysOk; rw [hk, hko]; exact h

/-- `Good` reads the data files and the translate log, never a `.snapshotting` file. -/
theorem Good.congr {val : Bool} {s : Sys} {d d' : Disk} (g : Good val s d)
    (h : ∀ p, (∀ i, p ≠ .snap i) → d'.get p = d.get p) : Good val s d' :=
  good_iff.mpr ⟨fun i => h (.data i) nofun ▸ (good_iff.mp g).1 i, h .keys nofun ▸ (good_iff.mp g).2⟩

theorem recover_good {val : Bool} {s : Sys} {d : Disk} (g : Good val s d) (i : Nat) :
    ∃ x, recoverFrag d i = some x ∧ (val = true → x = s.bitsOf i) := by
  rcases Nat.lt_or_ge i s.frags.length with h | h
  · obtain ⟨b, cs, x, h1, h2, h3⟩ := g.frag i h
    exact ⟨x, by simp [recoverFrag, h1, h2], h3⟩
  · exact ⟨[], by simp [recoverFrag, g.absent i h], fun _ => (bitsOf_absent s i h).symm⟩

theorem recoverKeys_good {val : Bool} {s : Sys} {d : Disk} (g : Good val s d) :
    ∃ x, recoverKeys d = some x ∧ (val = true → x = s.keys) := by
  cases hk : s.keysOpen with
  | true =>
    obtain ⟨cs, x, h1, h2, h3⟩ := g.keysOn hk
    exact ⟨x, by simp [recoverKeys, h1, h2], h3⟩
  | false =>
    obtain ⟨h1, h2⟩ := g.keysOff hk
    exact ⟨[], by simp [recoverKeys, h1], fun _ => h2.symm⟩

theorem recoverFrag_congr (d d' : Disk) (i : Nat) (h : d'.get (.data i) = d.get (.data i)) :
    recoverFrag d' i = recoverFrag d i := by
  simp [recoverFrag, h]

theorem recoverKeys_congr (d d' : Disk) (h : d'.get .keys = d.get .keys) : recoverKeys d' = recoverKeys d := by
  simp [recoverKeys, h]

/-- what fragment i recovers to after the first j operations of a call that emits e -/
def expectBits (s : Sys) (e : Emit) (j i : Nat) : List Nat :=
  match e with
  | .logs i0 rs => if i = i0 then fold (s.bitsOf i) (rs.take j) else s.bitsOf i
  | .snapshot i0 bits => if i = i0 ∧ 3 ≤ j then bits else s.bitsOf i
  | _ => s.bitsOf i

def expectKeys (s : Sys) (e : Emit) (j : Nat) : List (String × Nat) :=
  match e with
  | .kentry ps => if 1 ≤ j then ps.foldl keyAdd s.keys else s.keys
  | _ => s.keys

theorem expectBits_other {s : Sys} {e : Emit} {i : Nat} (hi : Path.data i ∉ e.paths) (j : Nat) :
    expectBits s e j i = s.bitsOf i := by
  cases e with
  | logs i0 rs => exact if_neg fun (e : i = i0) => hi (e ▸ List.mem_cons_self)
  | snapshot i0 bits =>
    exact if_neg fun (e : i = i0 ∧ 3 ≤ j) => hi (e.1 ▸ List.mem_cons_of_mem _ List.mem_cons_self)
  | _ => rfl

theorem expectKeys_other {s : Sys} {e : Emit} (hk : Path.keys ∉ e.paths) (j : Nat) : expectKeys s e j = s.keys := by
  cases e with
  | kentry ps => exact absurd List.mem_cons_self hk
  | _ => rfl

theorem expectBits_all {s s' : Sys} {e : Emit} (hs : Shape s s' e) (hu : e ≠ .unlogged) (i : Nat) :
    expectBits s e e.ops.length i = s'.bitsOf i := by
  by_cases hi : Path.data i ∈ e.paths
  · rcases Emit.data_mem_paths hi with ⟨rs, rfl⟩ | ⟨bits, rfl⟩ | rfl
    · rw [expectBits, if_pos rfl, Emit.ops, List.length_map, List.take_length, LogStep.bits hs]
    · exact (if_pos ⟨rfl, Nat.le_refl 3⟩).trans hs.2.symm
    · exact (bitsOf_absent s i (Nat.le_of_eq hs.1.symm)).trans hs.fopen_bits.symm
  · rw [expectBits_other hi, (hs.frag_other hi).2 hu]

theorem expectKeys_all {s s' : Sys} {e : Emit} (hs : Shape s s' e) : expectKeys s e e.ops.length = s'.keys := by
  cases e with
  | kentry ps =>
    exact (if_pos (Nat.le_refl 1) : (if 1 ≤ 1 then ps.foldl keyAdd s.keys else s.keys) = _).trans hs.2.2.2.symm
  | kcreate => exact hs.2.2.2.symm
  | _ => exact (hs.keys_other (by simp [Emit.paths])).1.symm

/-- Crash analysis of one call: after any prefix of its file-system operations every fragment and
the translate log open, and (when disk and memory agreed before the call) hold `expectBits` /
`expectKeys`. -/
theorem prefix_recover (val : Bool) (s s' : Sys) (d : Disk) (e : Emit) (g : Good val s d) (hs : Shape s s' e)
    (j : Nat) (hj : j ≤ e.ops.length) :
    (∀ i, ∃ x, recoverFrag (d.applyAll (e.ops.take j)) i = some x ∧ (val = true → x = expectBits s e j i)) ∧
    (∃ x, recoverKeys (d.applyAll (e.ops.take j)) = some x ∧ (val = true → x = expectKeys s e j)) := by
  -- per file: written by the call (`data_mem_paths`, `keys_mem_paths`) or `untouched`
  refine ⟨fun i => ?_, ?_⟩
  · by_cases hi : Path.data i ∈ e.paths
    · rcases Emit.data_mem_paths hi with ⟨rs, rfl⟩ | ⟨bits, rfl⟩ | rfl
      · -- records appended
        obtain ⟨b, cs, x0, h1, h2, h3⟩ := g.frag i (LogStep.toFrag hs).lt
        refine ⟨fold x0 (rs.take j), ?_, fun hv => by rw [h3 hv]; exact (if_pos rfl).symm⟩
        rw [show (Emit.logs i rs).ops.take j = logOps i (rs.take j) from logOps_take i rs j, recoverFrag,
          (applyAll_logs i (rs.take j) d _ h1).1]
        exact replay_logs cs (rs.take j) b x0 h2
      · -- snapshot: as before until the rename
        by_cases hj2 : j ≤ 2
        · obtain ⟨x, r1, r2⟩ := recover_good g i
          exact ⟨x, (recoverFrag_congr d _ i (snapshot_prefix d i bits hj2 nofun)).trans r1,
            fun hv => (r2 hv).trans (if_neg fun h => absurd h.2 (by omega)).symm⟩
        · obtain rfl : j = 3 := by simp [Emit.ops] at hj; omega
          refine ⟨bits, ?_, fun _ => (if_pos ⟨rfl, Nat.le_refl 3⟩).symm⟩
          rw [recoverFrag, show (Emit.snapshot i bits).ops.take 3 = (Emit.snapshot i bits).ops from rfl, snapshot_get,
            if_pos rfl]
          rfl
      · -- new fragment: no file, empty file, empty image
        have habs : s.frags.length ≤ i := Nat.le_of_eq hs.1.symm
        refine ⟨[], ?_, fun _ => (bitsOf_absent s i habs).symm⟩
        match j with
        | 0 => simp [recoverFrag, Disk.applyAll, g.absent i habs]
        | 1 => simp [Emit.ops, recoverFrag, Disk.applyAll, Disk.apply, get_set_same]
        | (n + 2) => simp [Emit.ops, recoverFrag, Disk.applyAll, Disk.apply, get_set_same, replay]
    · obtain ⟨x, r1, r2⟩ := recover_good g i
      exact ⟨x, (recoverFrag_congr d _ i (untouched hi d fun _ => List.mem_of_mem_take)).trans r1,
        fun hv => (r2 hv).trans (expectBits_other hi j).symm⟩
  · by_cases hk : Path.keys ∈ e.paths
    · rcases Emit.keys_mem_paths hk with rfl | ⟨ps, rfl⟩
      · -- log created
        obtain ⟨hnone, hempty⟩ := g.keysOff hs.1
        refine ⟨[], ?_, fun _ => hempty.symm⟩
        match j with
        | 0 => simp [recoverKeys, Disk.applyAll, hnone]
        | (n + 1) => simp [Emit.ops, recoverKeys, Disk.applyAll, Disk.apply, get_set_same, replayKeys, replayKeysFrom]
      · -- one entry, one write
        obtain ⟨cs, x0, h1, h2, h3⟩ := g.keysOn hs.1
        match j with
        | 0 => exact ⟨x0, by simp [recoverKeys, Disk.applyAll, h1, h2], fun hv => h3 hv⟩
        | (n + 1) =>
          refine ⟨ps.foldl keyAdd x0, ?_, fun hv => by rw [h3 hv, expectKeys, if_pos (Nat.le_add_left 1 n)]⟩
          simp only [Emit.ops, List.take, Disk.applyAll, List.foldl_cons, List.foldl_nil, Disk.apply, recoverKeys,
            get_set_same, h1, Option.getD, List.take_nil]
          exact replayKeys_entry ps h2
    · obtain ⟨x, r1, r2⟩ := recoverKeys_good g
      exact ⟨x, (recoverKeys_congr d _ (untouched hk d fun _ => List.mem_of_mem_take)).trans r1,
        fun hv => (r2 hv).trans (expectKeys_other hk j).symm⟩

theorem take_all {α : Type} (l : List α) : l.take l.length = l := List.take_length

/-- the invariant survives a whole call (a call that changes memory only breaks the agreement of
disk and memory, not the well-formedness of the files) -/
theorem good_next (val : Bool) (s s' : Sys) (d : Disk) (e : Emit) (g : Good val s d) (hs : Shape s s' e)
    (hu : val = true → e ≠ .unlogged) : Good val s' (d.applyAll e.ops) := by
  -- the cases of `prefix_recover`, for the file after the whole call
  obtain ⟨gf, gk⟩ := good_iff.mp g
  refine good_iff.mpr ⟨fun i => ?_, ?_⟩
  · by_cases hi : Path.data i ∈ e.paths
    · rcases Emit.data_mem_paths hi with ⟨rs, rfl⟩ | ⟨bits, rfl⟩ | rfl
      · have hl : LogStep s s' i rs := hs
        have hlt := hl.toFrag.lt
        obtain ⟨b, cs, x0, h1, h2, h3⟩ := (gf i).1 hlt
        have a1 : (d.applyAll (Emit.logs i rs).ops).get (.data i) = some (.image b :: (cs ++ rs.map .log)) :=
          (applyAll_logs i rs d _ h1).1
        exact ⟨fun _ => ⟨b, _, fold x0 rs, a1, replay_logs cs rs b x0 h2, fun hv => by rw [hl.bits, h3 hv]⟩,
          fun h => absurd hlt (by rw [← hl.toFrag.length]; omega)⟩
      · rw [snapshot_get, if_pos rfl]
        exact ⟨fun _ => ⟨bits, [], bits, rfl, rfl, fun _ => hs.2.symm⟩,
          fun h => absurd hs.1.lt (by rw [← hs.1.length]; omega)⟩
      · have hb := hs.fopen_bits
        obtain ⟨hi0, f0, _, hfr, _, _⟩ := hs
        have hget : (d.applyAll (Emit.fopen i).ops).get (.data i) = some [.image []] := by
          simp [Emit.ops, Disk.applyAll, Disk.apply, get_set_same]
        rw [hget]
        exact ⟨fun _ => ⟨[], [], [], rfl, rfl, fun _ => hb.symm⟩,
          fun h => by rw [hfr, List.length_append] at h; simp at h; omega⟩
    · rw [untouched hi d fun _ h => h]
      exact (gf i).congr (hs.frag_other hi).1 (fun hv => (hs.frag_other hi).2 (hu hv))
  · by_cases hk : Path.keys ∈ e.paths
    · rcases Emit.keys_mem_paths hk with rfl | ⟨ps, rfl⟩
      · obtain ⟨hk0, hk1, _, hkk⟩ := hs
        have hget : (d.applyAll Emit.kcreate.ops).get .keys = some [] := get_set_same _ _ _
        rw [hget]
        exact ⟨fun _ => ⟨[], [], rfl, rfl, fun _ => by rw [hkk, (gk.2 hk0).2]⟩, fun h => by rw [hk1] at h; cases h⟩
      · obtain ⟨hk0, hk1, _, hkk⟩ := hs
        obtain ⟨cs, x0, h1, h2, h3⟩ := gk.1 hk0
        have hget : (d.applyAll (Emit.kentry ps).ops).get .keys = some (cs ++ [.entry ps]) := by
          simp [Emit.ops, Disk.applyAll, Disk.apply, get_set_same, h1]
        rw [hget]
        exact ⟨fun _ => ⟨_, ps.foldl keyAdd x0, rfl, replayKeys_entry ps h2, fun hv => by rw [hkk, h3 hv]⟩,
          fun h => by rw [hk1] at h; cases h⟩
    · rw [untouched hk d fun _ h => h]
      exact gk.congr (hs.keys_other hk).1 (hs.keys_other hk).2

end PV.C09
