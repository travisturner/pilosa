/-
C09 property theorems: a process kill right after any file-system operation.

Every call of a history is a list of file-system operations followed by its acknowledgement
(Model.lean, `stepE` / `Emit.ops`).  "Every prefix of the file-system operations issued while
executing any history" is stated structurally: any history `pre` run to completion, then any call
`op`, then the first `j` operations of that call.

Full-strength statement (C09_crash_safe):
    for every `pre`, `op`, `j`: recovery succeeds, and every fragment holds the state before `op`
    or the state after it (after it when j = all operations of the call: the call may have been
    acknowledged), and so does the key translation map.
It does NOT hold for the current code; five classes of calls violate it (witness theorems at the end, each
replayed on the real code, listed in known_findings.jsonl): setValue (one log record per bit), Set on a mutex
(clear record, then set record), mutex import and importValue small path (add batch, then remove batch),
Store / ClearRow (acknowledged with nothing on disk).  Proved for every history: `C09_restart_never_blocked`
(full strength), `C09_prefix_replay`, `C09_crash_safe_partial` (all but the five classes) and what follows them.
-/
import PV.C09.Lemmas
namespace PV.C09

/-- `Run.exec` (Spec.lean) is this step with the trace and the call's range recorded, for the driver and the
witnesses; the two forms are tied by the runs of the correspondence, not by a theorem. -/
def exec (sd : Sys × Disk) (op : AOp) : Sys × Disk :=
  match stepE sd.1 op with
  | none => sd
  | some (s', e) => (s', sd.2.applyAll e.ops)

def execFrom (sd : Sys × Disk) (ops : List AOp) : Sys × Disk := ops.foldl exec sd

def execAll (ops : List AOp) : Sys × Disk := execFrom ({}, []) ops

/-- a call that puts at most one record into an op log (snapshots, creates and translate entries
are atomic by construction) -/
def Emit.atomic : Emit → Bool
  | .logs _ rs => rs.length ≤ 1
  | .unlogged => false
  | _ => true

theorem good_execFrom (val : Bool) (sd : Sys × Disk) (g0 : Good val sd.1 sd.2) (ops : List AOp)
    (hv : val = true → ∀ op ∈ ops, op.rowop = false) :
    Good val (execFrom sd ops).1 (execFrom sd ops).2 :=
  List.foldlRecOn (motive := fun (x : Sys × Disk) => Good val x.1 x.2) ops exec g0 fun x g op hop => by
    unfold exec
    cases hs : stepE x.1 op with
    | none => exact g
    | some r =>
      obtain ⟨s', e⟩ := r
      refine good_next val x.1 s' x.2 e g (stepE_shape x.1 s' op e hs) fun h he => ?_
      subst he
      have := unlogged_rowop x.1 s' op hs
      rw [hv h op hop] at this
      cases this

/-- the start of the first process generation: nothing in memory, nothing on disk -/
theorem good_empty (val : Bool) : Good val ({} : Sys) ([] : Disk) := good_init val

/-- FULL STRENGTH, every history: after a kill at any point of any call, every fragment and the
key translation log open again.  (Before the two repairs — one write per roaring record, one write
per translate entry — this failed: corpus/C09.) -/
theorem C09_restart_never_blocked (sd : Sys × Disk) (hg : Good false sd.1 sd.2) (pre : List AOp) (op : AOp) (s' : Sys) (e : Emit)
    (h : stepE (execFrom sd pre).1 op = some (s', e)) (j : Nat) (hj : j ≤ e.ops.length) :
    (∀ i, (recoverFrag ((execFrom sd pre).2.applyAll (e.ops.take j)) i).isSome = true) ∧
    (recoverKeys ((execFrom sd pre).2.applyAll (e.ops.take j))).isSome = true := by
  have g := good_execFrom false sd hg pre (fun h => by cases h)
  obtain ⟨a1, a2⟩ := prefix_recover false _ s' _ e g (stepE_shape _ s' op e h) j hj
  refine ⟨fun i => ?_, ?_⟩
  · obtain ⟨x, hx, _⟩ := a1 i; simp [hx]
  · obtain ⟨x, hx, _⟩ := a2; simp [hx]

example : ∃ s' e, stepE (execAll [.fopen .std 3, .set 0 1 3, .setrow 0 2 [1]]).1 (.roaring 0 [5, 6] false 30) = some (s', e) ∧
    e.ops.length = 1 := ⟨_, _, rfl, rfl⟩

/-- Every history without an unflushed Store / ClearRow, every call (including the multi-record
ones), every crash point j: fragment i holds exactly `expectBits` — the state before the call with
the first j records of the call applied, resp. the snapshot image once the rename has happened —
and the key map holds `expectKeys`. -/
theorem C09_prefix_replay (sd : Sys × Disk) (hg : Good true sd.1 sd.2) (pre : List AOp) (hpre : ∀ o ∈ pre, o.rowop = false) (op : AOp) (s' : Sys) (e : Emit)
    (h : stepE (execFrom sd pre).1 op = some (s', e)) (j : Nat) (hj : j ≤ e.ops.length) :
    (∀ i, recoverFrag ((execFrom sd pre).2.applyAll (e.ops.take j)) i = some (expectBits (execFrom sd pre).1 e j i)) ∧
    recoverKeys ((execFrom sd pre).2.applyAll (e.ops.take j)) = some (expectKeys (execFrom sd pre).1 e j) := by
  have g := good_execFrom true sd hg pre (fun _ => hpre)
  obtain ⟨a1, a2⟩ := prefix_recover true _ s' _ e g (stepE_shape _ s' op e h) j hj
  refine ⟨fun i => ?_, ?_⟩
  · obtain ⟨x, hx, hv⟩ := a1 i; rw [hx, hv rfl]
  · obtain ⟨x, hx, hv⟩ := a2; rw [hx, hv rfl]

theorem expectBits_inside {s : Sys} {e : Emit} {j : Nat} (ha : e.atomic = true) (hj : j < e.ops.length)
    (i : Nat) :
    expectBits s e j i = s.bitsOf i := by
  cases e with
  | logs i0 rs =>
    have h1 : rs.length ≤ 1 := of_decide_eq_true ha
    have h0 : j = 0 := by rw [Emit.ops, List.length_map] at hj; omega
    rw [expectBits, h0]; split <;> rfl
  | snapshot i0 bits => exact if_neg fun h => absurd h.2 (Nat.not_le.mpr hj)
  | _ => rfl

theorem expectKeys_inside {s : Sys} {e : Emit} {j : Nat} (hj : j < e.ops.length) : expectKeys s e j = s.keys := by
  cases e with
  | kentry ps => exact if_neg (Nat.not_le.mpr hj)
  | _ => rfl

/-- No call writes the translate log with more than one operation. -/
theorem keys_crash_safe (sd : Sys × Disk) (hg : Good true sd.1 sd.2) (pre : List AOp)
    (hpre : ∀ o ∈ pre, o.rowop = false) (op : AOp) (s' : Sys) (e : Emit)
    (h : stepE (execFrom sd pre).1 op = some (s', e)) (j : Nat) (hj : j ≤ e.ops.length) :
    ∃ m, recoverKeys ((execFrom sd pre).2.applyAll (e.ops.take j)) = some m ∧
      (m = (execFrom sd pre).1.keys ∨ m = s'.keys) ∧ (j = e.ops.length → m = s'.keys) := by
  refine ⟨_, (C09_prefix_replay sd hg pre hpre op s' e h j hj).2, ?_⟩
  rcases Nat.lt_or_eq_of_le hj with hlt | rfl
  · exact ⟨.inl (expectKeys_inside hlt), fun h => absurd h (Nat.ne_of_lt hlt)⟩
  · have hall := expectKeys_all (stepE_shape _ s' op e h)
    exact ⟨.inr hall, fun _ => hall⟩

/-- The property for every call that puts at most one record into an op log (`e.atomic`): at every
crash point every fragment holds the state before the call or the state after it, after all
operations of the call (when it may have been acknowledged) the state after it; same for the keys.
Excluded (see the witnesses): setValue, Set on a mutex field that clears another row, mutex import,
importValue (small path) with both a set and a clear batch — more than one record — and
Store / ClearRow, in `pre` or as `op`. -/
theorem C09_crash_safe_partial (sd : Sys × Disk) (hg : Good true sd.1 sd.2) (pre : List AOp) (hpre : ∀ o ∈ pre, o.rowop = false) (op : AOp) (s' : Sys) (e : Emit)
    (h : stepE (execFrom sd pre).1 op = some (s', e)) (ha : e.atomic = true) (j : Nat) (hj : j ≤ e.ops.length) :
    (∀ i, ∃ x, recoverFrag ((execFrom sd pre).2.applyAll (e.ops.take j)) i = some x ∧
        (x = (execFrom sd pre).1.bitsOf i ∨ x = s'.bitsOf i) ∧ (j = e.ops.length → x = s'.bitsOf i)) ∧
    (∃ m, recoverKeys ((execFrom sd pre).2.applyAll (e.ops.take j)) = some m ∧
        (m = (execFrom sd pre).1.keys ∨ m = s'.keys) ∧ (j = e.ops.length → m = s'.keys)) := by
  refine ⟨fun i => ⟨_, (C09_prefix_replay sd hg pre hpre op s' e h j hj).1 i, ?_⟩,
    keys_crash_safe sd hg pre hpre op s' e h j hj⟩
  rcases Nat.lt_or_eq_of_le hj with hlt | rfl
  · exact ⟨.inl (expectBits_inside ha hlt i), fun h => absurd h (Nat.ne_of_lt hlt)⟩
  · have hu : e ≠ .unlogged := fun hu => by rw [hu] at ha; cases ha
    have hall := expectBits_all (stepE_shape _ s' op e h) hu i
    exact ⟨.inr hall, fun _ => hall⟩

/-- Snapshot (explicit, queued, or awaited by importValue): until the rename every fragment
recovers to its state before the call; after it the snapshotted fragment holds the image. -/
theorem C09_snapshot_atomic (sd : Sys × Disk) (hg : Good true sd.1 sd.2) (pre : List AOp) (hpre : ∀ o ∈ pre, o.rowop = false) (op : AOp) (s' : Sys)
    (i0 : Nat) (bits : List Nat) (h : stepE (execFrom sd pre).1 op = some (s', .snapshot i0 bits)) (j : Nat) (hj : j ≤ 3) :
    ∀ i, recoverFrag ((execFrom sd pre).2.applyAll ((Emit.snapshot i0 bits).ops.take j)) i =
      some (if i = i0 ∧ j = 3 then bits else (execFrom sd pre).1.bitsOf i) := by
  intro i
  rw [(C09_prefix_replay sd hg pre hpre op s' _ h j (by simpa [Emit.ops] using hj)).1 i]
  have h3 : 3 ≤ j ↔ j = 3 := ⟨Nat.le_antisymm hj, fun h => h ▸ Nat.le_refl 3⟩
  simp only [expectBits, h3]

/-- Files left by an interrupted snapshot are never looked at by recovery. -/
theorem C09_leftover_ignored (d : Disk) (i j : Nat) (cs : List Chunk) :
    recoverFrag (d.set (.snap j) cs) i = recoverFrag d i ∧ recoverKeys (d.set (.snap j) cs) = recoverKeys d :=
  ⟨recoverFrag_congr d _ i (get_set_ne _ _ _ _ nofun), recoverKeys_congr d _ (get_set_ne _ _ _ _ nofun)⟩

/-- Leftover `.snapshotting` files of ANY content (e.g. longer than every later snapshot), left by a
kill in an earlier process generation or planted, keep the invariant: all theorems above apply to
the next generation with the leftovers in place. -/
theorem C09_leftover_keeps_good (val : Bool) (s : Sys) (d : Disk) (g : Good val s d) (j : Nat) (cs : List Chunk) :
    Good val s (d.set (.snap j) cs) :=
  g.congr fun p hp => get_set_ne d (.snap j) p cs (hp j)

/-- A later snapshot over a leftover: the temp file is created-or-TRUNCATED, so whatever the disk
held (in particular a longer leftover `.snapshotting`), after the three operations the data file is
exactly the new image and no temp file remains. -/
theorem C09_snapshot_over_leftover (d : Disk) (i : Nat) (bits : List Nat) :
    (d.applyAll (Emit.snapshot i bits).ops).get (.data i) = some [.image bits] ∧
    (d.applyAll (Emit.snapshot i bits).ops).get (.snap i) = none :=
  ⟨by rw [snapshot_get, if_pos rfl], by rw [snapshot_get, if_neg nofun, if_pos rfl]⟩

/-- Second generation: on any well-formed disk (whatever memory had before the kill), memory after
the restart agrees with the disk, so `C09_prefix_replay` / `C09_crash_safe_partial` hold for the
writes, snapshots and crash points of the next generation — with all leftovers in place. -/
theorem C09_second_generation (s : Sys) (d : Disk) (g : Good false s d) : Good true (restartSys s d) d := by
  have hlen : (restartSys s d).frags.length = s.frags.length := by simp [restartSys]
  refine ⟨?_, ?_, ?_, ?_⟩
  · rw [hlen]; intro i hi
    obtain ⟨b, cs, x, h1, h2, _⟩ := g.frag i hi
    refine ⟨b, cs, x, h1, h2, fun _ => ?_⟩
    simp [restartSys, Sys.bitsOf, List.getElem?_mapIdx, List.getElem?_eq_getElem hi, recoverFrag, h1, h2]
  · rw [hlen]; exact g.absent
  · intro hk
    obtain ⟨cs, x, h1, h2, _⟩ := g.keysOn hk
    exact ⟨cs, x, h1, h2, fun _ => by simp [restartSys, recoverKeys, h1, h2]⟩
  · intro hk
    obtain ⟨h1, _⟩ := g.keysOff hk
    exact ⟨h1, by simp [restartSys, recoverKeys, h1]⟩

/-- Key translation: at every crash point of a translate call the log replays to the map before the
call or to the map after it (every entry is one write), and after the call to the map after it —
every acknowledged batch is in the recovered map. -/
theorem C09_translate (sd : Sys × Disk) (hg : Good true sd.1 sd.2) (pre : List AOp) (hpre : ∀ o ∈ pre, o.rowop = false) (ks : List String) (s' : Sys) (e : Emit)
    (h : stepE (execFrom sd pre).1 (.keys ks) = some (s', e)) (j : Nat) (hj : j ≤ e.ops.length) :
    ∃ m, recoverKeys ((execFrom sd pre).2.applyAll (e.ops.take j)) = some m ∧
      (m = (execFrom sd pre).1.keys ∨ m = s'.keys) ∧ (j = e.ops.length → m = s'.keys) :=
  keys_crash_safe sd hg pre hpre (.keys ks) s' e h j hj

/-! ### witnesses: where the current code does not meet the property (driver-level `crashOk`) -/

/-- setValue 5 then 2 on column 7 (depth 3): killed after the first record of the second call the
column reads 4, a value never written. -/
theorem C09_inflight_setvalue_witness :
    crashOk (runAll [.fopen (.int 3) 100, .setval 0 7 5, .setval 0 7 2]) 8 = false := by decide

/-- Set(row 2) on a mutex column that holds row 1: killed between the clear and the set record the
column holds no row at all. -/
theorem C09_inflight_mutex_set_witness :
    crashOk (runAll [.fopen .mutex 100, .set 0 1 3, .set 0 2 3]) 4 = false := by decide

/-- mutex import of row 2 for a column that holds row 1: killed between the add batch and the
remove batch the column holds two rows. -/
theorem C09_inflight_mutex_import_witness :
    crashOk (runAll [.fopen .mutex 100, .set 0 1 3, .imp 0 [2, 2] [3, 4] false]) 4 = false := by decide

/-- importValue 5 then 2 (small path): killed between the add batch and the remove batch the
column reads 7. -/
theorem C09_inflight_importvalue_witness :
    crashOk (runAll [.fopen (.int 3) 100, .impval 0 [7] [5], .impval 0 [7] [2]]) 5 = false := by decide

/-- Store / ClearRow are acknowledged with nothing on disk: killed right after the acknowledgement
(before the queued snapshot) the row change is lost. -/
theorem C09_ack_rowop_not_durable_witness :
    crashOk (runAll [.fopen .std 100, .set 0 1 3, .setrow 0 1 [5]]) 3 = false ∧
    crashOk (runAll [.fopen .std 100, .set 0 1 3, .clearrow 0 1]) 3 = false := by decide

/-- the same histories are fine at the crash points that are not inside those calls -/
example : crashOk (runAll [.fopen (.int 3) 100, .setval 0 7 5, .setval 0 7 2]) 7 = true := by decide
example : crashOk (runAll [.fopen .std 100, .set 0 1 3, .setrow 0 1 [5], .bg 0]) 6 = true := by decide

end PV.C09
