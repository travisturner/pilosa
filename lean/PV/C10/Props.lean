/-
C10 property theorems: block checksums always reflect current block contents.

Model: PV/C07/Model.lean (shared fragment model; `sums` = f.checksums, `blocks` = Blocks() with
readContiguousChecksums, every write path with its `delete(f.checksums, ..)` sites).  The block
hash is a parameter `H` (xxhash over the big-endian positions); "up to hash collisions" of the
property text is the explicit hypothesis `Function.Injective H` of `C10_replicas`.

`Inv H s` = storage ascending ∧ cached rows coherent ∧ `ChecksumInv H s` (the three are proved together
by one frame lemma; storage ascending is needed to talk about "the bits of a block" as a list).
`lookup` is the model's (`PV.C07.lookup`), on the (block, checksum) pairs `Blocks()` returns.
-/
import PV.C07.LemmasStep
namespace PV.C10
open PV.C07
open List hiding lookup

variable {η : Type}

/-- Every operation — in particular EVERY write path: setBit, clearBit, setRow, clearRow,
bulkImport (standard / mutex / clear), importValue (small and large path), importRoaring
(set / clear), setValue, clearValue — and snapshots, reads, `Blocks()` itself and
`InvalidateChecksums` keep the cached checksums valid. -/
theorem C10_inv_step (H : List Nat → η) (s : Frag η) (op : Op) (hI : Inv H s) :
    Inv H (step H s op).1 ∧ ChecksumInv H (step H s op).1 :=
  ⟨inv_step hI op, (inv_step hI op).sums⟩

/-- The invariant holds in every reachable state (any history from a fresh fragment). -/
theorem C10_inv_reachable (H : List Nat → η) (kind : Kind) (maxOpN : Nat) (ops : List Op) :
    ChecksumInv H (run H (Frag.empty kind maxOpN) ops) :=
  (inv_run (inv_empty H kind maxOpN) ops).sums

/-- `Blocks()` reports exactly the non-empty blocks, ascending, each with the hash of the bits
currently stored in it — whatever is cached and whatever writes happened before. -/
theorem C10_blocks (H : List Nat → η) (s : Frag η) (hI : Inv H s) :
    (blocks H s).2 = Spec.blocks H s.bits :=
  (blocks_spec hI).1

/-- the checksum reported for block `b`: none when the block is empty. -/
theorem C10_block_lookup (H : List Nat → η) (s : Frag η) (hI : Inv H s) (b : Nat) :
    lookup b (blocks H s).2 =
      if bitsOfBlock s.bits b = [] then none else some (H (bitsOfBlock s.bits b)) := by
  rw [C10_blocks H s hI, Spec.blocks, lookup_map_key]
  by_cases h : bitsOfBlock s.bits b = []
  · have : b ∉ Spec.blockIds s.bits := fun hb => (mem_blockIds_iff _ _).mp hb h
    simp [h, this]
  · have : b ∈ Spec.blockIds s.bits := (mem_blockIds_iff _ _).mpr h
    simp [h, this]

/-- Two replicas report equal checksums for a block exactly when they hold the same bits there
(up to hash collisions: `H` injective), in any two reachable states. -/
theorem C10_replicas (H : List Nat → η) (hinj : Function.Injective H) (s₁ s₂ : Frag η)
    (h₁ : Inv H s₁) (h₂ : Inv H s₂) (b : Nat) :
    lookup b (blocks H s₁).2 = lookup b (blocks H s₂).2 ↔
      bitsOfBlock s₁.bits b = bitsOfBlock s₂.bits b := by
  rw [C10_block_lookup H s₁ h₁, C10_block_lookup H s₂ h₂]
  by_cases e₁ : bitsOfBlock s₁.bits b = [] <;> by_cases e₂ : bitsOfBlock s₂.bits b = []
  · simp [e₁, e₂]
  · have : ¬ ([] = bitsOfBlock s₂.bits b) := fun h => e₂ h.symm
    simp [e₁, e₂, this]
  · simp [e₁, e₂]
  · simp only [e₁, e₂, ↓reduceIte, Option.some.injEq]
    exact ⟨fun h => hinj h, fun h => by rw [h]⟩

/-- Histories: after any two histories on two replicas, checksum equality is content equality. -/
theorem C10_replicas_history (H : List Nat → η) (hinj : Function.Injective H)
    (k₁ k₂ : Kind) (m₁ m₂ : Nat) (ops₁ ops₂ : List Op) (b : Nat) :
    lookup b (blocks H (run H (Frag.empty k₁ m₁) ops₁)).2 =
        lookup b (blocks H (run H (Frag.empty k₂ m₂) ops₂)).2 ↔
      bitsOfBlock (run H (Frag.empty k₁ m₁) ops₁).bits b =
        bitsOfBlock (run H (Frag.empty k₂ m₂) ops₂).bits b :=
  C10_replicas H hinj _ _ (inv_run (inv_empty H k₁ m₁) ops₁) (inv_run (inv_empty H k₂ m₂) ops₂) b

/-! Non-vacuity: a non-trivial state (bits and a cached checksum in block 0, block 1 emptied
again) satisfies the hypotheses, and the stale-checksum scenario of the original defect
(checksum cached, then `clearRow`) ends with the right answer in the model. -/

def exH : List Nat → List Nat := id

def exState : Frag (List Nat) :=
  run exH (Frag.empty .set 10000) [.setBit 0 1, .setBit 150 2, .blocks, .clearRow 150]

example : Inv exH exState := inv_run (inv_empty exH .set 10000) _

example : (blocks exH exState).2 = [(0, [1])] := by decide

example : Function.Injective exH := fun _ _ h => h

end PV.C10
