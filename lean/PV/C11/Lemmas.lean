/-
The k-way walk `kway`: on strictly sorted lists each iteration takes the least key still present, so
the walk enumerates the union (`kway_spec`).
-/
import PV.C11.Model
namespace PV.C11
open List
section kway
variable {α κ : Type} (key : α → κ) (lt : κ → κ → Bool)

structure StrictOrder : Prop where
  irrefl : ∀ a, lt a a = false
  trans : ∀ a b c, lt a b = true → lt b c = true → lt a c = true
  total : ∀ a b, lt a b = true ∨ a = b ∨ lt b a = true

variable {key lt}

def headKey (l : List α) : Option κ := l.head?.map key

theorem StrictOrder.min_ge (ho : StrictOrder lt) {a c m : κ}
    (h : lt (if lt a c then a else c) m = false) : lt a m = false ∧ lt c m = false := by
  by_cases hac : lt a c = true
  · rw [if_pos hac] at h
    refine ⟨h, Bool.eq_false_iff.mpr fun hcm => ?_⟩
    rw [ho.trans a c m hac hcm] at h; cases h
  · rw [if_neg hac] at h
    refine ⟨Bool.eq_false_iff.mpr fun ham => ?_, h⟩
    rcases ho.total a c with h1 | h1 | h1
    · exact hac h1
    · rw [h1, h] at ham; cases ham
    · rw [ho.trans c a m h1 ham] at h; cases h

variable (key lt) in
def HeadGE (k : κ) (l : List α) : Prop := ∀ a ∈ l.head?, lt (key a) k = false

theorem minKeyAux_none {ls : List (List α)} {acc : Option κ} (h : minKeyAux key lt acc ls = none) :
    acc = none ∧ ∀ l ∈ ls, l = [] := by
  induction ls generalizing acc with
  | nil => exact ⟨h, nofun⟩
  | cons l ls ih =>
    match l, acc with
    | [], _ => exact ⟨(ih h).1, forall_mem_cons.mpr ⟨rfl, (ih h).2⟩⟩
    | _ :: _, none => cases (ih h).1
    | _ :: _, some _ => cases (ih h).1

theorem minKeyAux_some (ho : StrictOrder lt) {ls : List (List α)} {acc : Option κ} {m : κ}
    (h : minKeyAux key lt acc ls = some m) :
    (acc = some m ∨ ∃ l ∈ ls, ∃ a ∈ l.head?, key a = m) ∧
      (∀ c ∈ acc, lt c m = false) ∧ ∀ l ∈ ls, HeadGE key lt m l := by
  induction ls generalizing acc with
  | nil => cases h; exact ⟨Or.inl rfl, fun c hc => by cases hc; exact ho.irrefl m, nofun⟩
  | cons l ls ih =>
    match l, acc with
    | [], _ =>
      obtain ⟨h1, h2, h3⟩ := ih h
      exact ⟨h1.imp_right fun ⟨l, hl, x⟩ => ⟨l, mem_cons_of_mem _ hl, x⟩, h2, forall_mem_cons.mpr ⟨nofun, h3⟩⟩
    | a :: t, none =>
      obtain ⟨h1, h2, h3⟩ := ih h
      refine ⟨Or.inr ?_, nofun, forall_mem_cons.mpr ⟨fun b hb => by cases hb; exact h2 _ rfl, h3⟩⟩
      rcases h1 with h1 | ⟨l, hl, x⟩
      · exact ⟨a :: t, mem_cons_self, a, rfl, Option.some.inj h1⟩
      · exact ⟨l, mem_cons_of_mem _ hl, x⟩
    | a :: t, some c =>
      obtain ⟨h1, h2, h3⟩ := ih h
      obtain ⟨ha, hc⟩ := ho.min_ge (h2 _ rfl)
      refine ⟨?_, fun c' hc' => by cases hc'; exact hc, forall_mem_cons.mpr ⟨fun b hb => by cases hb; exact ha, h3⟩⟩
      rcases h1 with h1 | ⟨l, hl, x⟩
      · by_cases hac : lt (key a) c = true
        · rw [if_pos hac] at h1
          exact Or.inr ⟨a :: t, mem_cons_self, a, rfl, Option.some.inj h1⟩
        · rw [if_neg hac] at h1
          exact Or.inl h1
      · exact Or.inr ⟨l, mem_cons_of_mem _ hl, x⟩

variable [DecidableEq κ]
variable (key lt)
/-- strictly ascending by key -/
def SortedBy (l : List α) : Prop := l.Pairwise (fun a b => lt (key a) (key b) = true)

def lookup (k : κ) (l : List α) : Option α := l.find? (fun a => decide (key a = k))
variable {key lt}

omit [DecidableEq κ] in
theorem key_ne_of_mem_tail {k : κ} {a : α} {t : List α} (hs : SortedBy key lt (a :: t))
    (hg : HeadGE key lt k (a :: t)) : ∀ b ∈ t, key b ≠ k := by
  intro b hb hbk
  have h1 := (pairwise_cons.mp hs).1 b hb
  rw [hbk, hg a rfl] at h1; cases h1

theorem headsAt_eq (k : κ) (ls : List (List α))
    (hs : ∀ l ∈ ls, SortedBy key lt l) (hg : ∀ l ∈ ls, HeadGE key lt k l) :
    headsAt key k ls = ls.map (lookup key k) := by
  apply map_congr_left
  intro l hl
  match l with
  | [] => rfl
  | a :: t =>
    by_cases hk : key a = k
    · simp [lookup, hk]
    · have : find? (fun b => decide (key b = k)) t = none :=
        find?_eq_none.mpr fun b hb => by simpa using key_ne_of_mem_tail (hs _ hl) (hg _ hl) b hb
      simp [lookup, hk, this]

theorem advance_eq (k : κ) (ls : List (List α))
    (hs : ∀ l ∈ ls, SortedBy key lt l) (hg : ∀ l ∈ ls, HeadGE key lt k l) :
    advance key k ls = ls.map (filter fun a => decide (key a ≠ k)) := by
  apply map_congr_left
  intro l hl
  match l with
  | [] => rfl
  | a :: t =>
    have ht : filter (fun b => decide (key b ≠ k)) t = t :=
      filter_eq_self.mpr fun b hb => by simpa using key_ne_of_mem_tail (hs _ hl) (hg _ hl) b hb
    show (if key a = k then t else a :: t) = _
    rw [filter_cons, ht]
    by_cases hk : key a = k
    · rw [if_pos hk, if_neg (by simpa using hk)]
    · rw [if_neg hk, if_pos (by simpa using hk)]

theorem lookup_filter_ne {k k' : κ} (hne : k' ≠ k) (l : List α) :
    lookup key k' (l.filter fun a => decide (key a ≠ k)) = lookup key k' l := by
  unfold lookup
  rw [find?_filter]
  congr 1
  funext a
  by_cases h : key a = k'
  · simp [h, hne]
  · simp [h]

theorem length_le_totalLen {l : List α} {ls : List (List α)} (h : l ∈ ls) : l.length ≤ totalLen ls := by
  induction ls with
  | nil => cases h
  | cons x xs ih =>
    simp only [totalLen, map_cons, sum_cons] at ih ⊢
    rcases mem_cons.mp h with rfl | h
    · omega
    · have := ih h; omega

theorem totalLen_map_lt (f : List α → List α) (hle : ∀ l, (f l).length ≤ l.length) (ls : List (List α)) :
    totalLen (ls.map f) ≤ totalLen ls ∧
      ((∃ l ∈ ls, (f l).length < l.length) → totalLen (ls.map f) < totalLen ls) := by
  induction ls with
  | nil => exact ⟨Nat.le_refl _, fun ⟨_, h, _⟩ => nomatch h⟩
  | cons x xs ih =>
    simp only [totalLen, map_cons, sum_cons] at ih ⊢
    have := hle x
    refine ⟨by omega, fun ⟨l, hl, h⟩ => ?_⟩
    rcases mem_cons.mp hl with rfl | hl
    · omega
    · have := ih.2 ⟨l, hl, h⟩; omega

theorem kway_spec (ho : StrictOrder lt) (fuel : Nat) (ls : List (List α))
    (hs : ∀ l ∈ ls, SortedBy key lt l) (hf : totalLen ls ≤ fuel) :
    (∀ e ∈ kway key lt fuel ls, e.2 = ls.map (lookup key e.1) ∧ ∃ l ∈ ls, ∃ a ∈ l, key a = e.1) ∧
    (∀ l ∈ ls, ∀ a ∈ l, ∃ e ∈ kway key lt fuel ls, e.1 = key a) := by
  induction fuel generalizing ls with
  | zero =>
    refine ⟨nofun, fun l hl a ha => ?_⟩
    have := length_le_totalLen hl
    rw [length_eq_zero_iff.mp (by omega : l.length = 0)] at ha; cases ha
  | succ fuel ih =>
    simp only [kway]
    cases hmk : minKey key lt ls with
    | none =>
      refine ⟨nofun, fun l hl a ha => ?_⟩
      rw [(minKeyAux_none hmk).2 l hl] at ha; cases ha
    | some k =>
      -- `k` is the key of some head `a₀` and no head is below it; the rest of the walk runs on
      -- the lists without their elements of key `k`
      dsimp only
      obtain ⟨hmem, -, hg⟩ := minKeyAux_some ho hmk
      obtain ⟨l₀, hl₀, a₀, ha₀, hk₀⟩ := hmem.resolve_left nofun
      have ha₀' : a₀ ∈ l₀ := mem_of_mem_head? ha₀
      let q := fun a : α => decide (key a ≠ k)
      have hlt := (totalLen_map_lt (filter q) (length_filter_le q) ls).2
        ⟨l₀, hl₀, length_filter_lt_length_iff_exists.mpr ⟨a₀, ha₀', by simp [q, hk₀]⟩⟩
      obtain ⟨ih1, ih2⟩ := ih (ls.map (filter q))
        (forall_mem_map.mpr fun l hl => Pairwise.filter q (hs l hl)) (by omega)
      rw [show advance key k ls = _ from advance_eq k ls hs hg]
      constructor
      · intro e he
        rcases mem_cons.mp he with rfl | he
        · exact ⟨headsAt_eq k ls hs hg, l₀, hl₀, a₀, ha₀', hk₀⟩
        · obtain ⟨h1, l', hl', a, ha, hk⟩ := ih1 e he
          obtain ⟨l, hl, rfl⟩ := mem_map.mp hl'
          obtain ⟨ha, hne⟩ := mem_filter.mp ha
          refine ⟨?_, l, hl, a, ha, hk⟩
          rw [h1, map_map]
          exact map_congr_left fun l _ => lookup_filter_ne (by simpa [q, hk] using hne) l
      · intro l hl a ha
        by_cases hk : key a = k
        · exact ⟨_, mem_cons_self, hk.symm⟩
        · obtain ⟨e, he, hek⟩ := ih2 _ (mem_map_of_mem hl) a (mem_filter.mpr ⟨ha, by simpa [q] using hk⟩)
          exact ⟨e, mem_cons_of_mem _ he, hek⟩
end kway
end PV.C11
