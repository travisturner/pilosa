/-
The blocks on which the replicas differed, singled out from `syncFragment_maj`.
-/
import PV.C11.LemmasWalk
namespace PV.C11
open List

section
variable {κ : Type} [DecidableEq κ] (H : List P → κ)

theorem syncFragment_majority (hH : Function.Injective H) (reps : List (List P)) (hs : AllSorted reps)
    (hc : AllCols reps) (id : Nat) (hd : ¬ Agree id reps) :
    Maj id reps (syncFragment H reps) :=
  -- `hd` is not needed: a block the replicas agreed on ends at its majority as well
  have _ := hd
  syncFragment_maj H hH reps hs hc id

end
end PV.C11
