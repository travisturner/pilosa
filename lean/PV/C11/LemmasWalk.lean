/-
`Blocks()` lists are strictly ascending, so `kway_spec` applies to the block-id walk: with an injective
checksum a block that is never synced was agreed on from the start.  Per block the walk has two phases:
untouched (`Init`) until the block's own event fires, at the majority of the ORIGINAL contents (`Maj`)
from then on (a second sync of the block finds it unanimous); a block the replicas agreed on is at its
majority from the start.  So every replica ends as the per-bit majority, and all replicas end equal.
-/
import PV.C11.SyncBlock
namespace PV.C11
open List

theorem mem_blockIds (l : List P) (b : Nat) : b ∈ blockIds l ↔ ∃ p ∈ l, blockOf p = b := by
  induction l with
  | nil => simp [blockIds]
  | cons p ps ih =>
    have key : b ∈ blockIds (p :: ps) ↔ b = blockOf p ∨ b ∈ blockIds ps := by
      simp only [blockIds]
      cases blockIds ps with
      | nil => simp
      | cons c cs =>
        simp only
        split
        · next h => exact ⟨Or.inr, fun hh => hh.elim (fun e => by rw [e, h]; exact mem_cons_self) id⟩
        · exact mem_cons
    rw [key, ih]
    constructor
    · rintro (h | ⟨q, hq, e⟩)
      · exact ⟨p, mem_cons_self, h.symm⟩
      · exact ⟨q, mem_cons_of_mem _ hq, e⟩
    · rintro ⟨q, hq, e⟩
      rcases mem_cons.mp hq with rfl | hq
      · exact Or.inl e.symm
      · exact Or.inr ⟨q, hq, e⟩

theorem blockOf_mono (a b : P) (h : pos a ≤ pos b) : blockOf a ≤ blockOf b :=
  Nat.div_le_div_right h

theorem blockIds_sorted (l : List P) (hs : Sorted l) (hc : Cols l) : (blockIds l).Pairwise (· < ·) := by
  induction l with
  | nil => simp [blockIds]
  | cons p ps ih =>
    unfold Sorted at hs
    have ⟨h1, h2⟩ := pairwise_cons.mp hs
    have hcp : Cols ps := fun q hq => hc q (mem_cons_of_mem _ hq)
    have ih := ih h2 hcp
    have hle : ∀ b ∈ blockIds ps, blockOf p ≤ b := by
      intro b hb
      obtain ⟨q, hq, rfl⟩ := (mem_blockIds ps b).mp hb
      exact blockOf_mono p q (Nat.le_of_lt (pos_lt_of_lt p q (hc p mem_cons_self) (h1 q hq)))
    simp only [blockIds]
    cases hb : blockIds ps with
    | nil => simp
    | cons c cs =>
      rw [hb] at ih hle
      simp only
      split
      · exact ih
      · next hne =>
        refine pairwise_cons.mpr ⟨?_, ih⟩
        intro b hbm
        have hc1 := hle c (by simp)
        have hpc : blockOf p < c := by omega
        simp only [mem_cons] at hbm
        rcases hbm with rfl | hbm
        · exact hpc
        · have := (pairwise_cons.mp ih).1 b hbm
          omega

theorem natLt_order : StrictOrder natLt where
  irrefl := by intro a; simp [natLt]
  trans := by intro a b c; simp only [natLt, decide_eq_true_eq]; omega
  total := by intro a b; simp only [natLt, decide_eq_true_eq]; omega

theorem majority_of_all (p : P) (a : List (List P)) (hne : a ≠ []) (m : Bool)
    (h : ∀ l ∈ a, (p ∈ l ↔ m = true)) : Spec.majority a p = m := by
  unfold Spec.majority Spec.votes
  have hpos : 0 < a.length := length_pos_iff.mpr hne
  cases m with
  | true =>
    rw [countP_eq_length.mpr fun l hl => decide_eq_true ((h l hl).mpr rfl)]
    exact decide_eq_true (by omega)
  | false =>
    rw [countP_eq_zero.mpr fun l hl hd => nomatch (h l hl).mp (of_decide_eq_true hd)]
    exact decide_eq_false (by omega)

section
variable {κ : Type} [DecidableEq κ] (H : List P → κ)

omit [DecidableEq κ] in
theorem blocksOf_sorted (l : List P) (hs : Sorted l) (hc : Cols l) :
    SortedBy (fun b : Nat × κ => b.1) natLt (blocksOf H l) := by
  unfold SortedBy blocksOf
  rw [pairwise_map]
  have := blockIds_sorted l hs hc
  exact this.imp (by intro a b h; simpa [natLt] using h)

omit [DecidableEq κ] in
theorem lookup_blocksOf (l : List P) (id : Nat) :
    lookup (fun b : Nat × κ => b.1) id (blocksOf H l) =
      if id ∈ blockIds l then some (id, H (blockData id l)) else none := by
  unfold lookup blocksOf
  generalize blockIds l = ids
  induction ids with
  | nil => simp
  | cons a t ih =>
    simp only [map_cons, find?_cons]
    by_cases h : a = id
    · subst h; simp
    · simp only [h, decide_false, mem_cons]
      rw [ih]
      have : ¬ id = a := fun e => h e.symm
      simp [this]

def stepF (st : List (List P)) (e : Nat × List (Option (Nat × κ))) : List (List P) :=
  if allEqual (e.2.map (Option.map (·.2))) then st else syncBlock e.1 st

/-- `n` is a parameter so that `i < n` names the same replica before and after a step. -/
structure Inv (n : Nat) (st : List (List P)) : Prop where
  len : st.length = n
  sorted : AllSorted st
  cols : AllCols st

theorem other_block_untouched (id id' : Nat) (hne : id' ≠ id) (n : Nat) (st : List (List P)) (h : Inv n st)
    (i : Nat) (hi : i < n) (p : P) (hp : inBlock id p = true) :
    p ∈ (syncBlock id' st).getD i [] ↔ p ∈ st.getD i [] := by
  have hi' : i < st.length := by rw [h.len]; exact hi
  by_cases hcol : p.col < ShardWidth
  · have hnb : ¬ inBlock id' p = true := fun h' => hne (inBlock_unique id' id p hcol h' hp)
    rw [syncBlock_spec id' st h.sorted h.cols i hi' p, if_neg hnb]
  · have a : p ∉ (syncBlock id' st).getD i [] :=
      fun hm => hcol (cols_getD _ (syncBlock_cols id' st h.sorted h.cols) i p hm)
    have b : p ∉ st.getD i [] := fun hm => hcol (cols_getD _ h.cols i p hm)
    exact iff_of_false a b

theorem stepF_inv (n : Nat) (st : List (List P)) (e : Nat × List (Option (Nat × κ))) (h : Inv n st) :
    Inv n (stepF st e) := by
  unfold stepF
  split
  · exact h
  · exact ⟨by rw [syncBlock_length, h.len], syncBlock_sorted _ _ h.sorted, syncBlock_cols _ _ h.sorted h.cols⟩

/-- The walk seen from one block `id`: `A` is kept by every step and made out of `B` by the sync of `id`;
`B` is kept by the syncs of other blocks. -/
theorem fold_stepF (n id : Nat) (A B : List (List P) → Prop)
    (keepA : ∀ st (e : Nat × List (Option (Nat × κ))), Inv n st → A st → A (stepF st e))
    (make : ∀ st, Inv n st → B st → A (syncBlock id st))
    (keepB : ∀ st id', Inv n st → id' ≠ id → B st → B (syncBlock id' st))
    (evs : List (Nat × List (Option (Nat × κ)))) (st : List (List P)) (h : Inv n st)
    (hor : A st ∨ (B st ∧ ∃ e ∈ evs, e.1 = id ∧ allEqual (e.2.map (Option.map (·.2))) = false)) :
    A (evs.foldl stepF st) := by
  induction evs generalizing st with
  | nil =>
    rcases hor with h1 | ⟨_, e, he, _⟩
    · exact h1
    · cases he
  | cons e evs ih =>
    refine ih _ (stepF_inv n st e h) ?_
    rcases hor with h1 | ⟨hB, e', he', hid, hq⟩
    · exact Or.inl (keepA st e h h1)
    · unfold stepF
      by_cases hstep : allEqual (e.2.map (Option.map (·.2))) = true
      · rw [if_pos hstep]
        rcases mem_cons.mp he' with rfl | he'
        · rw [hq] at hstep; cases hstep
        · exact Or.inr ⟨hB, e', he', hid, hq⟩
      · rw [if_neg hstep]
        by_cases he : e.1 = id
        · exact Or.inl (he ▸ make st h hB)
        · rcases mem_cons.mp he' with rfl | he'
          · exact absurd hid he
          · exact Or.inr ⟨keepB st e.1 h he hB, e', he', hid, hq⟩

theorem fold_inv (n : Nat) (evs : List (Nat × List (Option (Nat × κ)))) (st : List (List P)) (h : Inv n st) :
    Inv n (evs.foldl stepF st) :=
  foldlRecOn evs stepF h fun st h e _ => stepF_inv n st e h

theorem allEqual_spec {β : Type} [DecidableEq β] (l : List (Option β)) (h : allEqual l = true) :
    ∀ x ∈ l, ∀ y ∈ l, x = y := by
  cases l with
  | nil => intro x hx; cases hx
  | cons c cs =>
    simp only [allEqual, all_eq_true, decide_eq_true_eq] at h
    intro x hx y hy
    have hx' : x = c := by
      simp only [mem_cons] at hx; rcases hx with rfl | hx
      · rfl
      · exact h x hx
    have hy' : y = c := by
      simp only [mem_cons] at hy; rcases hy with rfl | hy
      · rfl
      · exact h y hy
    rw [hx', hy']

theorem not_mem_of_not_blockId (l : List P) (hc : Cols l) (id : Nat) (h : id ∉ blockIds l) (p : P)
    (hp : inBlock id p = true) : p ∉ l := by
  intro hm
  apply h
  rw [mem_blockIds]
  exact ⟨p, hm, inBlock_unique _ _ p (hc p hm) (inBlock_blockOf p (hc p hm)) hp⟩

theorem agree_initial (hH : Function.Injective H) (n : Nat) (st : List (List P)) (h : Inv n st) (id : Nat) :
    Agree id st ∨ ∃ e ∈ kway (fun b : Nat × κ => b.1) natLt (totalLen (st.map (blocksOf H))) (st.map (blocksOf H)),
      e.1 = id ∧ allEqual (e.2.map (Option.map (·.2))) = false := by
  refine Classical.or_iff_not_imp_right.mpr fun hno => ?_
  have hsb : ∀ l ∈ st.map (blocksOf H), SortedBy (fun b : Nat × κ => b.1) natLt l :=
    forall_mem_map.mpr fun l hl => blocksOf_sorted H l (h.sorted l hl) (h.cols l hl)
  obtain ⟨k1, k2⟩ := kway_spec natLt_order _ _ hsb (Nat.le_refl _)
  let cs : List P → Option κ := fun l => if id ∈ blockIds l then some (H (blockData id l)) else none
  have hsame : ∀ l₁ ∈ st, ∀ l₂ ∈ st, cs l₁ = cs l₂ := by
    by_cases hex : ∃ e ∈ kway (fun b : Nat × κ => b.1) natLt (totalLen (st.map (blocksOf H))) (st.map (blocksOf H)), e.1 = id
    · obtain ⟨e, he, hid⟩ := hex
      have heq := allEqual_spec _ ((Bool.not_eq_false _).mp fun hq => hno ⟨e, he, hid, hq⟩)
      have m : ∀ l ∈ st, cs l ∈ e.2.map (Option.map (·.2)) := by
        intro l hl
        rw [(k1 e he).1, map_map, map_map]
        refine mem_map.mpr ⟨l, hl, ?_⟩
        show (lookup (fun b : Nat × κ => b.1) e.1 (blocksOf H l)).map (·.2) = cs l
        rw [hid, lookup_blocksOf]
        exact apply_ite (Option.map fun b : Nat × κ => b.2) _ _ _
      exact fun l₁ h₁ l₂ h₂ => heq _ (m l₁ h₁) _ (m l₂ h₂)
    · have : ∀ l ∈ st, id ∉ blockIds l := fun l hl hmem =>
        have ⟨e, he, hek⟩ := k2 _ (mem_map_of_mem hl) (id, H (blockData id l)) (mem_map_of_mem hmem)
        hex ⟨e, he, hek⟩
      intro l₁ h₁ l₂ h₂
      show (if _ then _ else _) = (if _ then _ else _)
      rw [if_neg (this l₁ h₁), if_neg (this l₂ h₂)]
  -- equal reports: both replicas list `id` with the same block data, or neither holds a bit of it
  have key : ∀ li ∈ st, ∀ lj ∈ st, ∀ p, inBlock id p = true → (p ∈ li ↔ p ∈ lj) := by
    intro li hli lj hlj p hp
    have := hsame li hli lj hlj
    dsimp only [cs] at this
    by_cases hbi : id ∈ blockIds li
    · by_cases hbj : id ∈ blockIds lj
      · rw [if_pos hbi, if_pos hbj] at this
        rw [← and_iff_left (a := p ∈ li) hp, ← mem_blockData id _ (h.cols _ hli) p, hH (Option.some.inj this),
          mem_blockData id _ (h.cols _ hlj) p, and_iff_left hp]
      · rw [if_pos hbi, if_neg hbj] at this; cases this
    · by_cases hbj : id ∈ blockIds lj
      · rw [if_neg hbi, if_pos hbj] at this; cases this
      · exact iff_of_false (not_mem_of_not_blockId _ (h.cols _ hli) id hbi p hp)
          (not_mem_of_not_blockId _ (h.cols _ hlj) id hbj p hp)
  exact fun i j hi hj => key _ (getD_mem st i hi) _ (getD_mem st j hj)

theorem syncFragment_eq (st : List (List P)) (h : ¬ st.length ≤ 1) :
    syncFragment H st =
      (kway (fun b : Nat × κ => b.1) natLt (totalLen (st.map (blocksOf H))) (st.map (blocksOf H))).foldl stepF st := by
  unfold syncFragment
  simp only [h, if_false]
  rfl

/-- block `id` of every replica still holds its original contents -/
def Init (id : Nat) (reps st : List (List P)) : Prop :=
  ∀ i, i < reps.length → ∀ p, inBlock id p = true → (p ∈ st.getD i [] ↔ p ∈ reps.getD i [])

/-- block `id` of every replica holds the majority of the original contents -/
def Maj (id : Nat) (reps st : List (List P)) : Prop :=
  ∀ i, i < reps.length → ∀ p, inBlock id p = true → (p ∈ st.getD i [] ↔ Spec.majority reps p = true)

theorem syncBlock_maj (id : Nat) (reps st : List (List P)) (h : Inv reps.length st)
    (hv : ∀ p, inBlock id p = true → Spec.majority st p = Spec.majority reps p) : Maj id reps (syncBlock id st) := by
  intro i hlt p hp
  rw [syncBlock_spec id st h.sorted h.cols i (h.len ▸ hlt) p, if_pos hp, hv p hp]

theorem step_init_to_maj (id : Nat) (reps st : List (List P)) (h : Inv reps.length st)
    (hi : Init id reps st) : Maj id reps (syncBlock id st) :=
  syncBlock_maj id reps st h fun p hp =>
    majority_congr_index p st reps h.len fun j hj => hi j (h.len ▸ hj) p hp

theorem step_maj_same (id : Nat) (reps st : List (List P)) (h : Inv reps.length st) (hne : reps ≠ [])
    (hm : Maj id reps st) : Maj id reps (syncBlock id st) := by
  have hst : st ≠ [] := fun e => hne (length_eq_zero_iff.mp (by rw [← h.len, e]; rfl))
  refine syncBlock_maj id reps st h fun p hp => majority_of_all p st hst _ fun l hl => ?_
  obtain ⟨j, hj, rfl⟩ := mem_iff_getElem.mp hl
  rw [← getD_of_lt st j hj]
  exact hm j (h.len ▸ hj) p hp

theorem stepF_maj (id : Nat) (reps st : List (List P)) (e : Nat × List (Option (Nat × κ)))
    (h : Inv reps.length st) (hne : reps ≠ []) (hm : Maj id reps st) : Maj id reps (stepF st e) := by
  unfold stepF
  split
  · exact hm
  · by_cases he : e.1 = id
    · rw [he]; exact step_maj_same id reps st h hne hm
    · intro i hlt p hp
      rw [other_block_untouched id e.1 he reps.length st h i hlt p hp]
      exact hm i hlt p hp

theorem maj_of_agree (id : Nat) (reps st : List (List P)) (ha : Agree id reps) (hi : Init id reps st) :
    Maj id reps st := by
  intro i hlt p hp
  rw [hi i hlt p hp]
  have hne : reps ≠ [] := fun e => by rw [e] at hlt; cases hlt
  refine (Bool.eq_iff_iff.mp (majority_of_all p reps hne (decide (p ∈ reps.getD i [])) fun l hl => ?_)).trans
    decide_eq_true_iff |>.symm
  obtain ⟨j, hj, rfl⟩ := mem_iff_getElem.mp hl
  rw [← getD_of_lt reps j hj, decide_eq_true_iff]
  exact ha j i hj hlt p hp

theorem syncFragment_maj (hH : Function.Injective H) (reps : List (List P)) (hs : AllSorted reps)
    (hc : AllCols reps) (id : Nat) : Maj id reps (syncFragment H reps) := by
  have hinit : Init id reps reps := fun _ _ _ _ => Iff.rfl
  by_cases hlen : reps.length ≤ 1
  · have : syncFragment H reps = reps := by unfold syncFragment; rw [if_pos hlen]
    rw [this]
    exact maj_of_agree id reps reps (fun i j hi hj p _ => by rw [show i = j by omega]) hinit
  have hne : reps ≠ [] := by intro e; rw [e] at hlen; simp at hlen
  have hinv : Inv reps.length reps := ⟨rfl, hs, hc⟩
  rw [syncFragment_eq H reps hlen]
  apply fold_stepF reps.length id (Maj id reps) (Init id reps)
    (fun st e h => stepF_maj id reps st e h hne) (fun st h => step_init_to_maj id reps st h)
    (fun st id' h he hi i hlt p hp => (other_block_untouched id id' he _ st h i hlt p hp).trans (hi i hlt p hp))
    _ reps hinv
  exact (agree_initial H hH reps.length reps hinv id).imp (fun ha => maj_of_agree id reps reps ha hinit)
    fun hex => ⟨hinit, hex⟩

/-- every replica ends as the majority of the original contents, bit by bit. -/
theorem syncFragment_mem (hH : Function.Injective H) (reps : List (List P)) (hs : AllSorted reps)
    (hc : AllCols reps) (i : Nat) (hi : i < reps.length) (p : P) (hcol : p.col < ShardWidth) :
    p ∈ (syncFragment H reps).getD i [] ↔ Spec.majority reps p = true :=
  syncFragment_maj H hH reps hs hc (blockOf p) i hi p (inBlock_blockOf p hcol)

theorem syncFragment_inv (reps : List (List P)) (hs : AllSorted reps) (hc : AllCols reps) :
    Inv reps.length (syncFragment H reps) := by
  by_cases hlen : reps.length ≤ 1
  · unfold syncFragment; rw [if_pos hlen]; exact ⟨rfl, hs, hc⟩
  · rw [syncFragment_eq H reps hlen]; exact fold_inv _ _ _ ⟨rfl, hs, hc⟩

theorem syncFragment_equal (hH : Function.Injective H) (st : List (List P)) (hs : AllSorted st) (hc : AllCols st)
    (i j : Nat) (hi : i < st.length) (hj : j < st.length) :
    (syncFragment H st).getD i [] = (syncFragment H st).getD j [] := by
  have hfin := syncFragment_inv H st hs hc
  refine sorted_ext _ _ (sorted_getD _ hfin.sorted i) (sorted_getD _ hfin.sorted j) fun p => ?_
  by_cases hcol : p.col < ShardWidth
  · rw [syncFragment_mem H hH st hs hc i hi p hcol, syncFragment_mem H hH st hs hc j hj p hcol]
  · exact iff_of_false (fun hm => hcol (cols_getD _ hfin.cols i p hm)) (fun hm => hcol (cols_getD _ hfin.cols j p hm))

end
end PV.C11
