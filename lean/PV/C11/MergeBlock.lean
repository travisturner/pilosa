/-
mergeBlock by membership: pair lists are strictly ascending for the total order `P.lt`, so `seek`/`limit`
are filters, and `kway_spec` turns the voting loop into one event per pair of the union.
-/
import PV.Common.Asc
import PV.C11.Lemmas
import PV.C11.Spec
namespace PV.C11
open List

/-- a fragment / pair set as the iterators see it: strictly ascending -/
def Sorted (l : List P) : Prop := l.Pairwise P.lt

theorem P.lt_irrefl (a : P) : ¬ P.lt a a := by simp [P.lt]
theorem P.lt_trans {a b c : P} : P.lt a b → P.lt b c → P.lt a c := by
  simp only [P.lt]; omega
theorem P.lt_total (a b : P) : P.lt a b ∨ a = b ∨ P.lt b a := by
  cases a; cases b; simp only [P.lt, P.mk.injEq]; omega

theorem ltb_order : StrictOrder P.ltb where
  irrefl a := decide_eq_false (P.lt_irrefl a)
  trans _ _ _ h1 h2 := decide_eq_true (P.lt_trans (of_decide_eq_true h1) (of_decide_eq_true h2))
  total a b := (P.lt_total a b).imp decide_eq_true (Or.imp_right decide_eq_true)

theorem sortedBy_iff (l : List P) : SortedBy (fun p : P => p) P.ltb l ↔ Sorted l := by
  unfold SortedBy Sorted
  simp [P.ltb]

theorem sorted_ext (l₁ l₂ : List P) (h₁ : Sorted l₁) (h₂ : Sorted l₂)
    (h : ∀ p, p ∈ l₁ ↔ p ∈ l₂) : l₁ = l₂ :=
  Common.pairwise_ext (fun a _ hab hba => P.lt_irrefl a (P.lt_trans hab hba)) h₁ h₂ h

theorem sorted_getD (reps : List (List P)) (hs : ∀ l ∈ reps, Sorted l) (i : Nat) : Sorted (reps.getD i []) := by
  rw [getD_eq_getElem?_getD]
  cases h : reps[i]? with
  | none => exact Pairwise.nil
  | some l => exact hs l (mem_of_getElem? h)

theorem seekOK_iff (r c : Nat) (p : P) : seekOK r c p = true ↔ ¬ P.lt p ⟨r, c⟩ := by
  simp only [seekOK, P.lt, Bool.or_eq_true, Bool.and_eq_true, beq_iff_eq, decide_eq_true_eq]; omega

theorem within_iff (r c : Nat) (p : P) : within r c p = true ↔ ¬ P.lt ⟨r, c⟩ p := by
  simp only [within, P.lt, Bool.not_eq_eq_eq_not, Bool.not_true, Bool.or_eq_false_iff,
    Bool.and_eq_false_imp, beq_iff_eq, decide_eq_false_iff_not]; omega

theorem seek_eq_filter (r c : Nat) (l : List P) (h : Sorted l) : seek r c l = l.filter (seekOK r c) := by
  -- past the seek point every pair matches: the skipped pairs are a prefix
  have := (Common.span_eq_filter (fun p => !seekOK r c p) h fun a _ b _ hab hb => by
    rw [Bool.not_eq_true', ← Bool.not_eq_true, seekOK_iff] at hb ⊢
    exact fun ha => hb fun hb' => ha (P.lt_trans hab hb')).2
  simp only [Bool.not_not] at this
  exact this

theorem limit_eq_filter (r c : Nat) (l : List P) (h : Sorted l) : limit r c l = l.filter (within r c) :=
  (Common.span_eq_filter (within r c) h fun a _ b _ hab hb =>
    (within_iff r c a).mpr fun ha => (within_iff r c b).mp hb (P.lt_trans ha hab)).1

theorem blockItr_eq_filter (id : Nat) (l : List P) (h : Sorted l) :
    blockItr id l = l.filter (inBlock id) := by
  unfold blockItr
  rw [seek_eq_filter _ _ l h, limit_eq_filter _ _ _ (Pairwise.filter _ h), filter_filter]
  exact filter_congr fun p _ => Bool.and_comm _ _

theorem mem_blockItr (id : Nat) (l : List P) (h : Sorted l) (p : P) :
    p ∈ blockItr id l ↔ p ∈ l ∧ inBlock id p = true := by
  rw [blockItr_eq_filter id l h, mem_filter]

theorem sorted_blockItr (id : Nat) (l : List P) (h : Sorted l) : Sorted (blockItr id l) := by
  rw [blockItr_eq_filter id l h]; exact Pairwise.filter _ h

theorem mem_insertP (p q : P) (l : List P) : q ∈ insertP p l ↔ q = p ∨ q ∈ l := by
  induction l with
  | nil => simp [insertP]
  | cons a t ih =>
    simp only [insertP]
    split
    · simp
    · split
      · next h => subst h; simp
      · simp only [mem_cons, ih]
        exact or_left_comm

theorem mem_eraseP (p q : P) (l : List P) : q ∈ eraseP p l ↔ q ≠ p ∧ q ∈ l := by
  simp [eraseP, and_comm]

theorem mem_foldl_insertP (s l : List P) (q : P) :
    q ∈ s.foldl (fun acc p => insertP p acc) l ↔ q ∈ s ∨ q ∈ l := by
  induction s generalizing l with
  | nil => simp
  | cons a t ih => rw [foldl_cons, ih, mem_insertP, mem_cons, or_left_comm, or_assoc]

theorem mem_foldl_eraseP (c l : List P) (q : P) :
    q ∈ c.foldl (fun acc p => eraseP p acc) l ↔ q ∉ c ∧ q ∈ l := by
  induction c generalizing l with
  | nil => simp
  | cons a t ih => rw [foldl_cons, ih, mem_eraseP, mem_cons, not_or, and_left_comm, and_assoc]

theorem mem_applyDiff (l s c : List P) (q : P) :
    q ∈ applyDiff l s c ↔ (q ∈ l ∨ q ∈ s) ∧ q ∉ c := by
  rw [applyDiff, mem_foldl_eraseP, mem_foldl_insertP, and_comm, or_comm]

theorem sorted_insertP (p : P) (l : List P) (h : Sorted l) : Sorted (insertP p l) := by
  induction l with
  | nil => exact pairwise_singleton _ _
  | cons a t ih =>
    have ⟨h1, h2⟩ := pairwise_cons.mp h
    simp only [insertP]
    split
    · next hlt =>
      exact pairwise_cons.mpr ⟨forall_mem_cons.mpr ⟨hlt, fun b hb => P.lt_trans hlt (h1 b hb)⟩, h⟩
    · next hnlt =>
      split
      · exact h
      · next hne =>
        refine pairwise_cons.mpr ⟨fun b hb => ?_, ih h2⟩
        rcases (mem_insertP p b t).mp hb with rfl | hb
        · exact ((P.lt_total b a).resolve_left hnlt).resolve_left hne
        · exact h1 b hb

theorem sorted_eraseP (p : P) (l : List P) (h : Sorted l) : Sorted (eraseP p l) :=
  Pairwise.filter _ h

theorem sorted_applyDiff (l s c : List P) (h : Sorted l) : Sorted (applyDiff l s c) := by
  unfold applyDiff
  have h1 : Sorted (s.foldl (fun acc p => insertP p acc) l) := by
    induction s generalizing l with
    | nil => exact h
    | cons a t ih => exact ih _ (sorted_insertP a l h)
  generalize (s.foldl (fun acc p => insertP p acc) l) = m at h1
  induction c generalizing m with
  | nil => exact h1
  | cons a t ih => exact ih _ (sorted_eraseP a m h1)

theorem getD_map {α β : Type} (f : α → β) (ls : List α) (i : Nat) (d : α) :
    (ls.map f).getD i (f d) = f (ls.getD i d) := by
  rw [getD_eq_getElem?_getD, getD_eq_getElem?_getD, getElem?_map]
  cases ls[i]? <;> rfl

theorem majority_congr_index (p : P) (a b : List (List P)) (hlen : a.length = b.length)
    (h : ∀ i, i < a.length → (p ∈ a.getD i [] ↔ p ∈ b.getD i [])) :
    Spec.majority a p = Spec.majority b p := by
  have hv : Spec.votes a p = Spec.votes b p := by
    unfold Spec.votes
    induction a generalizing b with
    | nil => cases b with
      | nil => rfl
      | cons _ _ => cases hlen
    | cons x xs ih =>
      cases b with
      | nil => cases hlen
      | cons y ys =>
        have h0 : p ∈ x ↔ p ∈ y := h 0 (Nat.zero_lt_succ _)
        rw [countP_cons, countP_cons, ih ys (Nat.succ.inj hlen) fun i hi => h (i + 1) (Nat.succ_lt_succ hi),
          decide_eq_decide.mpr h0]
  rw [Spec.majority, Spec.majority, hv, hlen]

theorem majority_exists (itrs : List (List P)) (p : P) (hne : itrs ≠ [])
    (h : Spec.majority itrs p = true) : ∃ l ∈ itrs, p ∈ l := by
  have h := of_decide_eq_true h
  have : 0 < itrs.countP (fun l => decide (p ∈ l)) := by
    have := length_pos_iff.mpr hne
    unfold Spec.votes at h
    omega
  obtain ⟨l, hl, hp⟩ := countP_pos_iff.mp this
  exact ⟨l, hl, of_decide_eq_true hp⟩

theorem majority_blockItr (id : Nat) (reps : List (List P)) (hs : ∀ l ∈ reps, Sorted l) (hne : reps ≠ []) (p : P) :
    Spec.majority (reps.map (blockItr id)) p = (inBlock id p && Spec.majority reps p) := by
  cases hp : inBlock id p with
  | true =>
    refine majority_congr_index p _ reps (length_map _) fun i _ => ?_
    rw [← show blockItr id [] = [] from rfl, getD_map, mem_blockItr id _ (sorted_getD reps hs i), hp]
    exact and_iff_left rfl
  | false =>
    refine Bool.eq_false_iff.mpr fun h => ?_
    obtain ⟨l, hl, hpl⟩ := majority_exists _ p (by simpa using hne) h
    obtain ⟨l₀, hl₀, rfl⟩ := mem_map.mp hl
    rw [((mem_blockItr id l₀ (hs l₀ hl₀) p).mp hpl).2] at hp; cases hp

/-- what the loop records when it reaches pair `p` -/
def eventAt (itrs : List (List P)) (p : P) : Event :=
  { p := p, values := itrs.map (fun l => decide (p ∈ l)), newValue := Spec.majority itrs p }

theorem lookup_isSome (p : P) (l : List P) :
    (lookup (fun p : P => p) p l).isSome = decide (p ∈ l) := by
  rw [Bool.eq_iff_iff, lookup, find?_isSome, decide_eq_true_eq]
  exact ⟨fun ⟨x, hx, e⟩ => of_decide_eq_true e ▸ hx, fun h => ⟨p, h, decide_eq_true rfl⟩⟩

theorem count_true_map (f : List P → Bool) (ls : List (List P)) :
    (ls.map f).count true = ls.countP f := by
  rw [count_eq_countP, countP_map]
  exact countP_congr fun l _ => by simp

theorem mem_mergeEvents (itrs : List (List P)) (hs : ∀ l ∈ itrs, Sorted l) (e : Event) :
    e ∈ mergeEvents itrs ↔ (∃ l ∈ itrs, e.p ∈ l) ∧ e = eventAt itrs e.p := by
  obtain ⟨k1, k2⟩ := kway_spec ltb_order (totalLen itrs) itrs
    (fun l hl => (sortedBy_iff l).mpr (hs l hl)) (Nat.le_refl _)
  have form : ∀ x ∈ kway (fun p : P => p) P.ltb (totalLen itrs) itrs,
      (⟨x.1, x.2.map Option.isSome,
        decide ((x.2.map Option.isSome).count true ≥ (itrs.length + 1) / 2)⟩ : Event) = eventAt itrs x.1 := by
    intro x hx
    have hv : x.2.map Option.isSome = itrs.map (fun l => decide (x.1 ∈ l)) := by
      rw [(k1 x hx).1, map_map]
      exact map_congr_left fun l _ => lookup_isSome x.1 l
    rw [hv, count_true_map, eventAt, Spec.majority, Spec.votes]
    congr 1
    exact decide_eq_decide.mpr (by omega)
  constructor
  · intro he
    obtain ⟨⟨k, heads⟩, hx, rfl⟩ := mem_map.mp he
    obtain ⟨-, l, hl, a, ha, rfl⟩ := k1 _ hx
    exact ⟨⟨l, hl, ha⟩, form _ hx⟩
  · rintro ⟨⟨l, hl, hp⟩, he⟩
    obtain ⟨x, hx, hxk⟩ := k2 l hl e.p hp
    rw [he, ← hxk, ← form x hx]
    exact mem_map_of_mem hx

theorem mem_filterMap_events (itrs : List (List P)) (hs : ∀ l ∈ itrs, Sorted l) (c : Event → Bool) (p : P) :
    p ∈ (mergeEvents itrs).filterMap (fun e => if c e = true then some e.p else none) ↔
      (∃ l ∈ itrs, p ∈ l) ∧ c (eventAt itrs p) = true := by
  rw [mem_filterMap]
  constructor
  · rintro ⟨e, he, h⟩
    obtain ⟨hl, hev⟩ := (mem_mergeEvents itrs hs e).mp he
    by_cases hc : c e = true
    · rw [if_pos hc] at h; cases h; exact ⟨hl, hev ▸ hc⟩
    · rw [if_neg hc] at h; cases h
  · rintro ⟨hl, hc⟩
    exact ⟨eventAt itrs p, (mem_mergeEvents itrs hs _).mpr ⟨hl, rfl⟩, if_pos hc⟩

theorem getD_values_eventAt (itrs : List (List P)) (p : P) (i : Nat) :
    (eventAt itrs p).values.getD i false = decide (p ∈ itrs.getD i []) :=
  getD_map (fun l => decide (p ∈ l)) itrs i []

theorem mem_of_mem_getD (st : List (List P)) (i : Nat) (p : P) (h : p ∈ st.getD i []) : ∃ l ∈ st, p ∈ l := by
  rw [getD_eq_getElem?_getD] at h
  cases hh : st[i]? with
  | none => rw [hh] at h; cases h
  | some l => rw [hh] at h; exact ⟨l, mem_of_getElem? hh, h⟩

theorem bne_and_self (a m : Bool) : (a != m && m) = true ↔ m = true ∧ a = false := by
  cases a <;> cases m <;> decide

theorem bne_and_not (a m : Bool) : (a != m && !m) = true ↔ m = false ∧ a = true := by
  cases a <;> cases m <;> decide

theorem mem_setsOf (itrs : List (List P)) (hs : ∀ l ∈ itrs, Sorted l) (hne : itrs ≠ []) (i : Nat) (p : P) :
    p ∈ setsOf i (mergeEvents itrs) ↔ Spec.majority itrs p = true ∧ p ∉ itrs.getD i [] := by
  refine (mem_filterMap_events itrs hs
    (fun e => e.values.getD i false != e.newValue && e.newValue) p).trans ?_
  show _ ∧ ((eventAt itrs p).values.getD i false != Spec.majority itrs p && Spec.majority itrs p) = true ↔ _
  rw [getD_values_eventAt, bne_and_self, decide_eq_false_iff_not]
  exact and_iff_right_of_imp fun h => majority_exists itrs p hne h.1

theorem mem_clearsOf (itrs : List (List P)) (hs : ∀ l ∈ itrs, Sorted l) (i : Nat) (p : P) :
    p ∈ clearsOf i (mergeEvents itrs) ↔ Spec.majority itrs p = false ∧ p ∈ itrs.getD i [] := by
  refine (mem_filterMap_events itrs hs
    (fun e => e.values.getD i false != e.newValue && !e.newValue) p).trans ?_
  show _ ∧ ((eventAt itrs p).values.getD i false != Spec.majority itrs p && !Spec.majority itrs p) = true ↔ _
  rw [getD_values_eventAt, bne_and_not, decide_eq_true_eq]
  exact and_iff_right_of_imp fun h => mem_of_mem_getD itrs i p h.2

/-- mergeBlock's diffs applied to any target lists that agree with the voted data inside the block. -/
theorem merge_general (id : Nat) (reps : List (List P)) (hs : ∀ l ∈ reps, Sorted l) (hne : reps ≠ [])
    (i : Nat) (T : List P) (hT : ∀ p, inBlock id p = true → (p ∈ reps.getD i [] ↔ p ∈ T))
    (hsi : Sorted (reps.getD i [])) (p : P) :
    let es := mergeEvents (reps.map (blockItr id))
    p ∈ applyDiff T (setsOf i es) (clearsOf i es) ↔
      (if inBlock id p = true then Spec.majority reps p = true else p ∈ T) := by
  intro es
  have hs' : ∀ l ∈ reps.map (blockItr id), Sorted l :=
    forall_mem_map.mpr fun l hl => sorted_blockItr id l (hs l hl)
  rw [mem_applyDiff, mem_setsOf _ hs' (by simpa using hne), mem_clearsOf _ hs', majority_blockItr id reps hs hne,
    ← show blockItr id [] = [] from rfl, getD_map, mem_blockItr id _ hsi]
  by_cases hb : inBlock id p = true
  · rw [hT p hb, hb, if_pos rfl, Bool.true_and]
    cases Spec.majority reps p <;> by_cases hp : p ∈ T <;> simp [hp]
  · simp [hb]

end PV.C11
