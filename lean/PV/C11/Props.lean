/-
C11 property theorems.

Property: for any number of replicas of a shard and any divergent contents in any view, a completed
anti-entropy pass leaves every replica holding, in each block that differed, exactly the bits set on
a majority of replicas, ties resolved as set; the repairs land in the same view they were computed
for; afterwards all replicas report identical block checksums.

The model (Model.lean) follows fragment.go AFTER three `fix:` commits (clears built from clears,
clears sent to the synced view, limit = last pair of the block); with them every statement below is
proved at full strength.  The pre-fix witnesses are replayed from corpus/C11/.

Hypotheses that appear below and what they mean for the code:
  `Sorted l`   a replica's data is a strictly ascending pair list: what `roaringIterator` over the
               fragment storage and `blockData` (ForEachRange) produce;
  `Cols l`     columns are shard-relative (< ShardWidth);
  `Function.Injective H`   the block checksum has no collisions ("up to collisions" in the text).
-/
import PV.C11.LemmasMajority
import PV.C11.Views
namespace PV.C11
open List

/-- **C11_merge.**  mergeBlock for block `id` on the local fragment `loc` and ANY number of remote
pair sets `data` with ANY contents: after the local changes and after applying the returned diffs
to the remote data, every replica holds inside the block exactly the per-bit majority (tie => set)
and is unchanged outside the block. -/
theorem C11_merge (id : Nat) (loc : List P) (data : List (List P)) (hs : ∀ l ∈ loc :: data, Sorted l) :
    let r := mergeBlock id loc data
    (∀ p, p ∈ r.localAfter ↔
        (if inBlock id p = true then Spec.majority (loc :: data) p = true else p ∈ loc)) ∧
    (∀ i, i < data.length → ∀ p,
        p ∈ applyDiff (data.getD i []) (r.sets.getD i []) (r.clears.getD i []) ↔
        (if inBlock id p = true then Spec.majority (loc :: data) p = true else p ∈ data.getD i [])) := by
  intro r
  refine ⟨fun p => ?_, fun i hi p => ?_⟩
  · exact merge_general id (loc :: data) hs (cons_ne_nil _ _) 0 loc (fun _ _ => Iff.rfl) (sorted_getD _ hs 0) p
  · rw [mergeBlock_sets_getD id loc data i hi, mergeBlock_clears_getD id loc data i hi]
    exact merge_general id (loc :: data) hs (cons_ne_nil _ _) (i + 1) (data.getD i []) (fun _ _ => Iff.rfl)
      (sorted_getD _ hs (i + 1)) p

/-- The diffs are sent to a replica only for bits of the block, and never both set and cleared. -/
theorem C11_merge_diffs_disjoint (id : Nat) (loc : List P) (data : List (List P))
    (hs : ∀ l ∈ loc :: data, Sorted l) (i : Nat) (p : P) :
    let es := mergeEvents ((loc :: data).map (blockItr id))
    ¬ (p ∈ setsOf i es ∧ p ∈ clearsOf i es) := by
  intro es
  have hs' : ∀ l ∈ (loc :: data).map (blockItr id), Sorted l := by
    intro l hl; obtain ⟨l0, hl0, rfl⟩ := mem_map.mp hl; exact sorted_blockItr id l0 (hs l0 hl0)
  rintro ⟨h1, h2⟩
  have a := (mem_setsOf _ hs' (by simp) i p).mp h1
  have b := (mem_clearsOf _ hs' i p).mp h2
  rw [a.1] at b; cases b.1

/-- **C11_merge at the level of syncBlock** (one fragment per replica, local first): remotes answer
`blockData`, the diffs are applied to the whole remote fragments. -/
theorem C11_syncBlock (id : Nat) (reps : List (List P)) (hs : ∀ l ∈ reps, Sorted l)
    (hc : ∀ l ∈ reps, Cols l) (i : Nat) (hi : i < reps.length) (p : P) :
    p ∈ (syncBlock id reps).getD i [] ↔
      (if inBlock id p = true then Spec.majority reps p = true else p ∈ reps.getD i []) :=
  syncBlock_spec id reps hs hc i hi p

/-- Ties are resolved as set: a bit held by exactly half of an even number of replicas is in the majority. -/
theorem C11_tie_is_set (reps : List (List P)) (p : P) (h : 2 * Spec.votes reps p = reps.length) :
    Spec.majority reps p = true := by
  unfold Spec.majority; apply decide_eq_true; omega

/-- **C11_views.**  Every request syncBlock sends for view `v` (sets AND clears) carries a view key
that the receiving importWorker maps back to `v`: the repair lands in the view it was computed for. -/
theorem C11_views (view : List Char) (hv : StandardOrTime view) (r : MergeResult) :
    ∀ q ∈ syncBlockReqs view r, importViewName q.view = view := by
  intro q hq
  simp only [syncBlockReqs, mem_flatten, mem_map, mem_range] at hq
  obtain ⟨l, ⟨i, _, rfl⟩, hq⟩ := hq
  simp only [mem_append] at hq
  rcases hq with hq | hq
  · split at hq
    · cases hq
    · simp only [mem_singleton] at hq; subst hq; exact view_roundtrip view hv
  · split at hq
    · cases hq
    · simp only [mem_singleton] at hq; subst hq; exact view_roundtrip view hv

theorem find_map_ne (vs : Views) (v w : List Char) (l : List P) (hw : w ≠ v) :
    find? (fun x => decide (x.1 = w)) (vs.map (fun e => if e.1 = v then (v, l) else e)) =
      find? (fun x => decide (x.1 = w)) vs := by
  induction vs with
  | nil => rfl
  | cons e es ih =>
    rw [map_cons, find?_cons, find?_cons, ih]
    by_cases h1 : e.1 = v
    · rw [if_pos h1, decide_eq_false (p := e.1 = w) (fun h => hw (h ▸ h1)),
        decide_eq_false (p := v = w) (Ne.symm hw)]
    · rw [if_neg h1]

theorem getView_setView_ne (vs : Views) (v w : List Char) (l : List P) (hw : w ≠ v) :
    getView (setView vs v l) w = getView vs w :=
  (getView_setView vs v w l).trans (if_neg hw)

theorem getView_setView_eq (vs : Views) (v : List Char) (l : List P) :
    getView (setView vs v l) v = some l :=
  (getView_setView vs v v l).trans (if_pos rfl)

/-- and a receiving replica applies the request to exactly that view (bits added for a set request,
removed for a clear request) and leaves its other views alone. -/
theorem C11_views_apply (vs : Views) (q : Req) :
    (∀ w, w ≠ importViewName q.view → getView (applyReq vs q) w = getView vs w) ∧
    (∀ p, p ∈ (getView (applyReq vs q) (importViewName q.view)).getD [] ↔
      if q.clear = true then (p ∈ (getView vs (importViewName q.view)).getD [] ∧ p ∉ q.bits)
      else (p ∈ (getView vs (importViewName q.view)).getD [] ∨ p ∈ q.bits)) := by
  constructor
  · intro w hw
    exact getView_setView_ne vs _ w _ hw
  · intro p
    unfold applyReq
    simp only [getView_setView_eq, Option.getD_some]
    cases q.clear with
    | true => simp [mem_applyDiff]
    | false => simp [mem_applyDiff]

/-- **C11_pass.**  After `fragmentSyncer.syncFragment` all replicas hold the same fragment, hence
report identical `Blocks()` (ids and checksums). Any number of replicas, any contents. -/
theorem C11_pass {κ : Type} [DecidableEq κ] (H : List P → κ) (hH : Function.Injective H)
    (reps : List (List P)) (hs : ∀ l ∈ reps, Sorted l) (hc : ∀ l ∈ reps, Cols l)
    (i j : Nat) (hi : i < reps.length) (hj : j < reps.length) :
    (syncFragment H reps).getD i [] = (syncFragment H reps).getD j [] ∧
    blocksOf H ((syncFragment H reps).getD i []) = blocksOf H ((syncFragment H reps).getD j []) := by
  have := syncFragment_equal H hH reps hs hc i j hi hj
  exact ⟨this, by rw [this]⟩

/-- **C11_pass_majority.**  In each block on which the replicas differed, every replica ends the
pass holding exactly the bits set on a majority of the replicas' ORIGINAL contents (tie => set). -/
theorem C11_pass_majority {κ : Type} [DecidableEq κ] (H : List P → κ) (hH : Function.Injective H)
    (reps : List (List P)) (hs : ∀ l ∈ reps, Sorted l) (hc : ∀ l ∈ reps, Cols l)
    (id : Nat) (hd : ¬ Agree id reps) (i : Nat) (hi : i < reps.length) (p : P) (hp : inBlock id p = true) :
    p ∈ (syncFragment H reps).getD i [] ↔ Spec.majority reps p = true :=
  syncFragment_majority H hH reps hs hc id hd i hi p hp

/-- a block on which the replicas agreed keeps its contents (nothing is repaired that was not broken) -/
theorem C11_pass_sorted {κ : Type} [DecidableEq κ] (H : List P → κ)
    (reps : List (List P)) (hs : ∀ l ∈ reps, Sorted l) (hc : ∀ l ∈ reps, Cols l) :
    (∀ l ∈ syncFragment H reps, Sorted l) ∧ (syncFragment H reps).length = reps.length := by
  have := syncFragment_inv H reps hs hc
  exact ⟨this.sorted, this.len⟩

/-! ### non-vacuity: concrete states satisfying the hypotheses, exercising sets+clears on one replica -/

-- local {0.1}, remote0 {0.2,0.3} needs one set and two clears, remotes 1,2 {0.1}
example :
    let r := mergeBlock 0 [⟨0,1⟩] [[⟨0,2⟩,⟨0,3⟩], [⟨0,1⟩], [⟨0,1⟩]]
    r.sets = [[⟨0,1⟩], [], []] ∧ r.clears = [[⟨0,2⟩,⟨0,3⟩], [], []] ∧ r.localAfter = [⟨0,1⟩] := by decide

-- the replayed defect #6 (local {1,2}, two remotes {3}) now ends with the majority {3}
example : (mergeBlock 0 [⟨0,1⟩,⟨0,2⟩] [[⟨0,3⟩], [⟨0,3⟩]]).localAfter = [⟨0,3⟩] := by decide

-- the first row of the next block is no longer voted on with block 0
example : (mergeBlock 0 [⟨0,1⟩,⟨100,5⟩] [[], []]).localAfter = [⟨100,5⟩] := by decide

example : Sorted [⟨0,1⟩,⟨0,2⟩,⟨99,1048575⟩,⟨100,0⟩] := by unfold Sorted; decide
example : StandardOrTime "standard_2019".toList := Or.inr ⟨"2019".toList, by decide, by decide⟩
example : importViewName (cleanViewName "bsig_f".toList) ≠ "bsig_f".toList := by decide

end PV.C11
