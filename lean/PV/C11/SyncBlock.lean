/-
For shard-relative columns `pos` is strictly monotone from `P.lt` to `<`, so what a block iterator lets
through is the position range `blockData` reads; syncBlock then is `merge_general` replica by replica.
-/
import PV.C11.MergeBlock
namespace PV.C11
open List

def Cols (l : List P) : Prop := ∀ p ∈ l, p.col < ShardWidth

def AllSorted (st : List (List P)) : Prop := ∀ l ∈ st, Sorted l
def AllCols (st : List (List P)) : Prop := ∀ l ∈ st, Cols l

def Agree (id : Nat) (st : List (List P)) : Prop :=
  ∀ i j, i < st.length → j < st.length → ∀ p, inBlock id p = true → (p ∈ st.getD i [] ↔ p ∈ st.getD j [])

theorem cols_getD (st : List (List P)) (hc : AllCols st) (i : Nat) : Cols (st.getD i []) := by
  rw [getD_eq_getElem?_getD]
  cases h : st[i]? with
  | none => exact fun p hp => nomatch hp
  | some l => exact hc l (mem_of_getElem? h)

theorem getD_of_lt (st : List (List P)) (i : Nat) (hi : i < st.length) : st.getD i [] = st[i] := by
  rw [getD_eq_getElem?_getD, getElem?_eq_getElem hi]; rfl

theorem getD_mem (st : List (List P)) (i : Nat) (hi : i < st.length) : st.getD i [] ∈ st := by
  rw [getD_of_lt st i hi]; exact getElem_mem hi

theorem getD_range_map {β : Type} (n : Nat) (f : Nat → β) (d : β) (i : Nat) (h : i < n) :
    ((List.range n).map f).getD i d = f i := by
  simp [List.getD_eq_getElem?_getD, h]

theorem pos_lt_of_lt (a b : P) (ha : a.col < ShardWidth) (h : P.lt a b) : pos a < pos b := by
  simp only [P.lt, pos, ShardWidth] at *
  omega

theorem inBlock_iff (id : Nat) (p : P) (hc : p.col < ShardWidth) :
    inBlock id p = true ↔ (id * HashBlockSize * ShardWidth ≤ pos p ∧ pos p < (id + 1) * HashBlockSize * ShardWidth) := by
  rw [inBlock, Bool.and_eq_true, seekOK_iff, within_iff]
  simp only [P.lt, pos, HashBlockSize, ShardWidth] at *
  omega

theorem inBlock_iff_blockOf (id : Nat) (p : P) (hc : p.col < ShardWidth) :
    inBlock id p = true ↔ blockOf p = id := by
  rw [inBlock_iff id p hc, blockOf, Nat.div_eq_iff (by decide)]
  simp only [HashBlockSize, ShardWidth]
  omega

theorem inBlock_unique (id id' : Nat) (p : P) (hc : p.col < ShardWidth)
    (h : inBlock id p = true) (h' : inBlock id' p = true) : id = id' :=
  ((inBlock_iff_blockOf id p hc).mp h).symm.trans ((inBlock_iff_blockOf id' p hc).mp h')

theorem inBlock_blockOf (p : P) (hc : p.col < ShardWidth) : inBlock (blockOf p) p = true :=
  (inBlock_iff_blockOf _ p hc).mpr rfl

theorem mem_blockData (id : Nat) (l : List P) (hc : Cols l) (p : P) :
    p ∈ blockData id l ↔ p ∈ l ∧ inBlock id p = true := by
  rw [blockData, mem_filter, decide_eq_true_eq]
  exact and_congr_right fun h => (inBlock_iff id p (hc p h)).symm

theorem sorted_blockData (id : Nat) (l : List P) (h : Sorted l) : Sorted (blockData id l) :=
  Pairwise.filter _ h

theorem mergeBlock_sets_getD (id : Nat) (loc : List P) (data : List (List P)) (i : Nat) (hi : i < data.length) :
    (mergeBlock id loc data).sets.getD i [] = setsOf (i + 1) (mergeEvents ((loc :: data).map (blockItr id))) :=
  getD_range_map data.length _ [] i hi

theorem mergeBlock_clears_getD (id : Nat) (loc : List P) (data : List (List P)) (i : Nat) (hi : i < data.length) :
    (mergeBlock id loc data).clears.getD i [] = clearsOf (i + 1) (mergeEvents ((loc :: data).map (blockItr id))) :=
  getD_range_map data.length _ [] i hi

/-- Local replica (index 0) and remotes alike receive the diffs of their own index. -/
theorem syncBlock_getD (id : Nat) (loc : List P) (rem : List (List P)) (i : Nat) (hi : i < (loc :: rem).length) :
    (syncBlock id (loc :: rem)).getD i [] =
      applyDiff ((loc :: rem).getD i [])
        (setsOf i (mergeEvents ((loc :: rem.map (blockData id)).map (blockItr id))))
        (clearsOf i (mergeEvents ((loc :: rem.map (blockData id)).map (blockItr id)))) := by
  cases i with
  | zero => rfl
  | succ i =>
    have hi' : i < rem.length := Nat.lt_of_succ_lt_succ hi
    have hd : i < (rem.map (blockData id)).length := by rw [length_map]; exact hi'
    show ((List.range rem.length).map _).getD i [] = _
    rw [getD_range_map rem.length _ [] i hi', mergeBlock_sets_getD _ _ _ i hd, mergeBlock_clears_getD _ _ _ i hd]
    rfl

theorem syncBlock_length (id : Nat) (st : List (List P)) : (syncBlock id st).length = st.length := by
  cases st with
  | nil => rfl
  | cons loc rem => simp only [syncBlock, length_cons, length_map, length_range]

theorem mem_getD_blockData (id : Nat) (loc : List P) (rem : List (List P)) (hc : AllCols rem) (i : Nat) (p : P)
    (hp : inBlock id p = true) :
    p ∈ (loc :: rem.map (blockData id)).getD i [] ↔ p ∈ (loc :: rem).getD i [] := by
  cases i with
  | zero => exact Iff.rfl
  | succ i =>
    rw [getD_cons_succ, getD_cons_succ, ← show blockData id [] = [] from rfl, getD_map,
      mem_blockData id _ (cols_getD rem hc i)]
    exact and_iff_left hp

theorem syncBlock_spec (id : Nat) (st : List (List P)) (hs : AllSorted st) (hc : AllCols st)
    (i : Nat) (hi : i < st.length) (p : P) :
    p ∈ (syncBlock id st).getD i [] ↔
      (if inBlock id p = true then Spec.majority st p = true else p ∈ st.getD i []) := by
  cases st with
  | nil => cases hi
  | cons loc rem =>
    have hcr : AllCols rem := fun l hl => hc l (mem_cons_of_mem _ hl)
    have hs' : ∀ l ∈ loc :: rem.map (blockData id), Sorted l :=
      forall_mem_cons.mpr ⟨hs _ mem_cons_self,
        forall_mem_map.mpr fun l hl => sorted_blockData id l (hs l (mem_cons_of_mem _ hl))⟩
    rw [syncBlock_getD id loc rem i hi]
    refine (merge_general id _ hs' (cons_ne_nil _ _) i _
      (fun p hp => mem_getD_blockData id loc rem hcr i p hp) (sorted_getD _ hs' i) p).trans ?_
    by_cases hb : inBlock id p = true
    · rw [if_pos hb, if_pos hb, majority_congr_index p _ (loc :: rem) (by simp)
        fun j _ => mem_getD_blockData id loc rem hcr j p hb]
    · rw [if_neg hb, if_neg hb]

theorem syncBlock_sorted (id : Nat) (st : List (List P)) (hs : AllSorted st) : AllSorted (syncBlock id st) := by
  intro l hl
  obtain ⟨i, hi, rfl⟩ := mem_iff_getElem.mp hl
  rw [← getD_of_lt _ i hi]
  cases st with
  | nil => cases hi
  | cons loc rem =>
    rw [syncBlock_getD id loc rem i (by rwa [syncBlock_length] at hi)]
    exact sorted_applyDiff _ _ _ (sorted_getD _ hs i)

theorem syncBlock_cols (id : Nat) (st : List (List P)) (hs : AllSorted st) (hc : AllCols st) :
    AllCols (syncBlock id st) := by
  intro l hl p hp
  obtain ⟨i, hi, rfl⟩ := mem_iff_getElem.mp hl
  have hi' : i < st.length := by rwa [syncBlock_length] at hi
  rw [← getD_of_lt _ i hi, syncBlock_spec id st hs hc i hi' p] at hp
  -- a pair of the result is voted in or was there: either way some replica held it
  have : ∃ l ∈ st, p ∈ l := by
    split at hp
    · exact majority_exists st p (fun h => by rw [h] at hi'; cases hi') hp
    · exact mem_of_mem_getD st i p hp
  obtain ⟨l, hl, hpl⟩ := this
  exact hc l hl p hpl

end PV.C11
