import PV.C11.Model
namespace PV.C11
open List

theorem stripPrefix_append (pre s : List Char) : stripPrefix pre (pre ++ s) = some s := by
  induction pre with
  | nil => cases s <;> rfl
  | cons a as ih => simp [stripPrefix, ih]

/-- a view syncBlock may be asked to repair: the standard view or a time view `standard_<suffix>` -/
def StandardOrTime (view : List Char) : Prop :=
  view = viewStandard ∨ ∃ s, s ≠ [] ∧ view = viewStandard ++ ['_'] ++ s

theorem view_roundtrip (view : List Char) (hv : StandardOrTime view) :
    importViewName (cleanViewName view) = view := by
  rcases hv with rfl | ⟨s, hs, rfl⟩
  · decide
  · have : cleanViewName (viewStandard ++ ['_'] ++ s) = s := by
      unfold cleanViewName; rw [stripPrefix_append]
    rw [this]; simp [importViewName, hs]

theorem getView_setView (vs : Views) (v w : List Char) (l : List P) :
    getView (setView vs v l) w = if w = v then some l else getView vs w := by
  unfold setView getView
  split
  · next h =>
    -- the map keeps every name, so `find?` by name commutes with it
    have hk : ((fun x : List Char × List P => decide (x.1 = w)) ∘ fun e => if e.1 = v then (v, l) else e)
        = fun x => decide (x.1 = w) := by
      funext e
      by_cases he : e.1 = v <;> simp [he]
    rw [find?_map, hk]
    cases hf : find? (fun x => decide (x.1 = w)) vs with
    | none =>
      have hw : ¬ w = v := by
        rintro rfl
        obtain ⟨e, he, hev⟩ := any_eq_true.mp h
        exact find?_eq_none.mp hf e he hev
      rw [if_neg hw]; rfl
    | some x =>
      have hx : x.1 = w := of_decide_eq_true (find?_some (p := fun x : List Char × List P => decide (x.1 = w)) hf)
      by_cases hw : w = v <;> simp [hx, hw]
  · next h =>
    have hn : ∀ x ∈ vs, ¬ x.1 = v := fun x hx hxv => h (any_eq_true.mpr ⟨x, hx, decide_eq_true hxv⟩)
    rw [find?_append]
    by_cases hw : w = v
    · subst hw
      have : find? (fun x => decide (x.1 = w)) vs = none :=
        find?_eq_none.mpr fun x hx => by simpa using hn x hx
      simp [this]
    · simp [hw, Ne.symm hw]

end PV.C11
