import PV.C12.Model
namespace PV.C12
open List

theorem eget_cons (a v : Nat) (m : Entries) (k : Nat) :
    eget ((a, v) :: m) k = if a = k then v else eget m k := rfl

theorem edel_cons (a v : Nat) (m : Entries) (k : Nat) :
    edel ((a, v) :: m) k = if a = k then edel m k else (a, v) :: edel m k := by
  by_cases h : a = k <;> simp [edel, h]

theorem eget_edel_self (m : Entries) (k : Nat) : eget (edel m k) k = 0 := by
  induction m with
  | nil => rfl
  | cons p rest ih =>
    rw [edel_cons]
    split
    · exact ih
    · rename_i h; rw [eget_cons, if_neg h]; exact ih

theorem eget_edel_ne (m : Entries) (k k' : Nat) (h : k' ≠ k) : eget (edel m k) k' = eget m k' := by
  induction m with
  | nil => rfl
  | cons p rest ih =>
    rw [edel_cons, eget_cons]
    split
    · rename_i ha; rw [if_neg (ha ▸ h.symm)]; exact ih
    · rw [eget_cons, ih]

theorem eget_eset_self (m : Entries) (k v : Nat) : eget (eset m k v) k = v :=
  if_pos rfl

theorem eget_eset_ne (m : Entries) (k v k' : Nat) (h : k' ≠ k) : eget (eset m k v) k' = eget m k' :=
  (if_neg h.symm).trans (eget_edel_ne m k k' h)

theorem eget_eset_same (m : Entries) (k k' : Nat) : eget (eset m k (eget m k)) k' = eget m k' := by
  by_cases h : k' = k
  · subst h; exact eget_eset_self m k' _
  · exact eget_eset_ne m k _ k' h

theorem mem_of_eget_ne (m : Entries) (k : Nat) (h : eget m k ≠ 0) : ∃ p ∈ m, p.1 = k := by
  induction m with
  | nil => exact absurd rfl h
  | cons p rest ih =>
    by_cases hp : p.1 = k
    · exact ⟨p, mem_cons_self, hp⟩
    · rw [eget_cons, if_neg hp] at h
      obtain ⟨q, hq, e⟩ := ih h
      exact ⟨q, mem_cons_of_mem _ hq, e⟩

theorem eget_of_not_ehas (m : Entries) (k : Nat) (h : ehas m k = false) : eget m k = 0 := by
  apply Classical.byContradiction
  intro hne
  obtain ⟨p, hp, e⟩ := mem_of_eget_ne m k hne
  have : ehas m k = true := List.any_eq_true.mpr ⟨p, hp, beq_iff_eq.mpr e⟩
  rw [h] at this; exact Bool.noConfusion this

/-- `e'` is `e` with some keys dropped (a dropped key reads 0) -/
def Sub (e' e : Entries) : Prop := ∀ k, eget e' k = eget e k ∨ eget e' k = 0

theorem Sub.refl (e : Entries) : Sub e e := fun _ => Or.inl rfl

theorem Sub.trans {a b c : Entries} (h1 : Sub a b) (h2 : Sub b c) : Sub a c := by
  intro k
  rcases h1 k with h | h
  · rw [h]; exact h2 k
  · exact Or.inr h

theorem sub_edel (e : Entries) (id : Nat) : Sub (edel e id) e := by
  intro k
  by_cases h : k = id
  · right; subst h; exact eget_edel_self e k
  · left; exact eget_edel_ne e id k h

theorem sub_cons {e : Entries} {k : Nat} (v : Nat) (h : eget e k = 0) : Sub e ((k, v) :: e) := by
  intro k'
  by_cases hk : k = k'
  · right; exact hk ▸ h
  · left; exact (if_neg hk).symm

/-- A key pushed to the front, whether or not the old entry is removed. -/
theorem sub_cons_eset (e : Entries) (id n : Nat) : Sub ((id, n) :: e) (eset e id n) := by
  intro k
  left
  by_cases hk : id = k
  · exact (if_pos hk).trans (if_pos hk).symm
  · exact (if_neg hk).trans ((eget_edel_ne e id k (Ne.symm hk)).symm.trans (if_neg hk).symm)

theorem sub_foldl_edel (l : List (Nat × Nat)) (e : Entries) :
    Sub (l.foldl (fun e p => edel e p.1) e) e :=
  foldlRecOn (motive := fun e' => Sub e' e) l _ (Sub.refl e) fun e' h p _ => (sub_edel e' p.1).trans h

theorem sub_dropLast (e : Entries) : Sub e.dropLast e := by
  induction e with
  | nil => exact Sub.refl _
  | cons p rest ih =>
    cases rest with
    | nil => exact fun _ => Or.inr rfl
    | cons q rest' =>
      intro k
      show eget (p :: (q :: rest').dropLast) k = _ ∨ eget (p :: (q :: rest').dropLast) k = 0
      rw [eget_cons, eget_cons]
      split
      · exact Or.inl rfl
      · exact ih k

theorem insertPair_perm (x : Nat × Nat) (l : List (Nat × Nat)) : (insertPair x l).Perm (x :: l) := by
  induction l with
  | nil => exact Perm.refl _
  | cons y ys ih =>
    unfold insertPair
    split
    · exact Perm.refl _
    · exact (ih.cons y).trans (Perm.swap x y ys)

theorem sortPairs_perm (l : List (Nat × Nat)) : (sortPairs l).Perm l := by
  induction l with
  | nil => exact Perm.refl _
  | cons y ys ih => exact (insertPair_perm y _).trans (ih.cons y)

theorem mem_sortPairs (p : Nat × Nat) (l : List (Nat × Nat)) : p ∈ sortPairs l ↔ p ∈ l :=
  (sortPairs_perm l).mem_iff

/-- `pairBefore` is total on counts: whichever way the test goes, the counts are ordered. -/
theorem pairBefore_ge {x y : Nat × Nat} (h : pairBefore x y = true) : x.2 ≥ y.2 := by
  simp only [pairBefore, Bool.or_eq_true, decide_eq_true_eq, Bool.and_eq_true, beq_iff_eq] at h
  omega

theorem ge_of_not_pairBefore {x y : Nat × Nat} (h : ¬ pairBefore x y = true) : y.2 ≥ x.2 := by
  simp only [pairBefore, Bool.or_eq_true, decide_eq_true_eq, Bool.and_eq_true, beq_iff_eq] at h
  omega

theorem sorted_insertPair (x : Nat × Nat) (l : List (Nat × Nat))
    (h : l.Pairwise (fun a b => a.2 ≥ b.2)) : (insertPair x l).Pairwise (fun a b => a.2 ≥ b.2) := by
  induction l with
  | nil => exact pairwise_singleton _ _
  | cons y ys ih =>
    have hy := (pairwise_cons.mp h).1
    unfold insertPair
    split
    · rename_i hb
      refine pairwise_cons.mpr ⟨fun b hb' => ?_, h⟩
      rcases mem_cons.mp hb' with e | hb''
      · exact e ▸ pairBefore_ge hb
      · exact Nat.le_trans (hy b hb'') (pairBefore_ge hb)
    · rename_i hb
      refine pairwise_cons.mpr ⟨fun b hb' => ?_, ih (pairwise_cons.mp h).2⟩
      rcases mem_cons.mp ((insertPair_perm x ys).mem_iff.mp hb') with e | hb''
      · exact e ▸ ge_of_not_pairBefore hb
      · exact hy b hb''

theorem sorted_sortPairs (l : List (Nat × Nat)) : (sortPairs l).Pairwise (fun a b => a.2 ≥ b.2) := by
  induction l with
  | nil => exact Pairwise.nil
  | cons y ys ih => exact sorted_insertPair y _ ih

theorem nodup_of_nodupB (l : List Nat) (h : nodupB l = true) : l.Nodup := by
  induction l with
  | nil => exact nodup_nil
  | cons x xs ih =>
    simp only [nodupB, Bool.and_eq_true, Bool.not_eq_true', contains_eq_mem, decide_eq_false_iff_not] at h
    exact nodup_cons.mpr ⟨h.1, ih h.2⟩

theorem nonIncr_pairwise (m : Entries) (l : List Nat) (h : nonIncr m l = true) :
    l.Pairwise (fun a b => eget m a ≥ eget m b) := by
  induction l with
  | nil => exact Pairwise.nil
  | cons a rest ih =>
    cases rest with
    | nil => exact pairwise_singleton _ _
    | cons b rest' =>
      simp only [nonIncr, Bool.and_eq_true, decide_eq_true_eq] at h
      have hp := ih h.2
      refine pairwise_cons.mpr ⟨fun x hx => ?_, hp⟩
      rcases mem_cons.mp hx with e | hx'
      · exact e ▸ h.1
      · exact Nat.le_trans ((pairwise_cons.mp hp).1 x hx') h.1

theorem filterMap_ite {α β} (p : α → Bool) (g : α → β) (l : List α) :
    l.filterMap (fun x => if p x = true then some (g x) else none) = (l.filter p).map g := by
  induction l with
  | nil => rfl
  | cons a l ih =>
    by_cases h : p a = true
    · rw [filterMap_cons, if_pos h, filter_cons_of_pos h, map_cons, ih]
    · rw [filterMap_cons, if_neg h, filter_cons_of_neg h, ih]

theorem pairwise_take {α} {R : α → α → Prop} {l : List α} (h : l.Pairwise R) (n : Nat) {a b : α}
    (ha : a ∈ l.take n) (hb : b ∈ l) (hnb : b ∉ l.take n) : R a b := by
  rw [← take_append_drop n l] at h hb
  rcases mem_append.mp hb with h' | h'
  · exact absurd h' hnb
  · exact (pairwise_append.mp h).2.2 a ha b h'

end PV.C12
