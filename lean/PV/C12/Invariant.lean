/-
Why every write path keeps `CacheInv`: a cache operation keeps the kind and at most drops cached counts,
apart from the one count that `Add` / `BulkAdd` set (`Le`), and every write path recounts exactly the
rows it touches (`Keeps`).
-/
import PV.C12.Entries
namespace PV.C12
open List

theorem count_filter (s : Store) (q : Nat × Nat → Bool) (r : Nat)
    (h : ∀ p ∈ s, p.1 = r → q p = true) : Store.count (s.filter q) r = s.count r := by
  unfold Store.count
  rw [filter_filter]
  congr 1
  apply filter_congr
  intro p hp
  by_cases e : p.1 = r
  · rw [h p hp e, Bool.and_true]
  · rw [beq_eq_false_iff_ne.mpr e, Bool.false_and]

theorem count_set_ne (s : Store) (r c r' : Nat) (h : r' ≠ r) : (s.set r c).count r' = s.count r' := by
  unfold Store.set
  split
  · rfl
  · exact congrArg length (filter_cons_of_neg (by simpa using h.symm))

theorem count_clear_ne (s : Store) (r c r' : Nat) (h : r' ≠ r) : (s.clear r c).count r' = s.count r' :=
  count_filter s _ r' (fun _ _ e => bne_iff_ne.mpr (fun e' => h (e ▸ congrArg Prod.fst e')))

theorem count_clearRow_ne (s : Store) (r r' : Nat) (h : r' ≠ r) : (s.clearRow r).count r' = s.count r' :=
  count_filter s _ r' (fun _ _ e => bne_iff_ne.mpr (e ▸ h))

theorem count_clearRow_self (s : Store) (r : Nat) : (s.clearRow r).count r = 0 := by
  unfold Store.clearRow Store.count
  rw [filter_filter, length_eq_zero_iff, filter_eq_nil_iff]
  intro p _
  by_cases hp : p.1 = r <;> simp [hp]

theorem count_foldl (g : Store → Nat × Nat → Store) (bits : List (Nat × Nat)) (s : Store) (r : Nat)
    (h : ∀ s p, p ∈ bits → Store.count (g s p) r = s.count r) :
    Store.count (bits.foldl g s) r = s.count r :=
  foldlRecOn (motive := fun s' => Store.count s' r = s.count r) bits g rfl
    fun s' hs p hp => (h s' p hp).trans hs

theorem count_setMany_notin (bits : List (Nat × Nat)) (s : Store) (r : Nat)
    (h : ∀ p ∈ bits, p.1 ≠ r) : (s.setMany bits).count r = s.count r :=
  count_foldl _ bits s r (fun s p hp => count_set_ne s p.1 p.2 r (h p hp).symm)

theorem count_clearMany_notin (bits : List (Nat × Nat)) (s : Store) (r : Nat)
    (h : ∀ p ∈ bits, p.1 ≠ r) : (s.clearMany bits).count r = s.count r :=
  count_foldl _ bits s r (fun s p hp => count_clear_ne s p.1 p.2 r (h p hp).symm)

theorem mem_rowsOf (bits : List (Nat × Nat)) (p : Nat × Nat) (h : p ∈ bits) : p.1 ∈ rowsOf bits := by
  suffices H : ∀ acc : List Nat, p.1 ∈ acc ∨ p ∈ bits →
      p.1 ∈ bits.foldl (fun acc p => if acc.contains p.1 then acc else acc ++ [p.1]) acc from
    H [] (Or.inr h)
  clear h
  induction bits with
  | nil => exact fun acc h => h.elim id (fun h => absurd h not_mem_nil)
  | cons q rest ih =>
    intro acc h
    refine ih (if acc.contains q.1 then acc else acc ++ [q.1]) ?_
    rcases h with h | h
    · left; split
      · exact h
      · exact mem_append_left _ h
    · rcases mem_cons.mp h with e | h'
      · left; subst e; split
        · rename_i hc; simpa using hc
        · exact mem_append_right _ mem_cons_self
      · exact Or.inr h'

theorem import_frame (s : Store) (bits : List (Nat × Nat)) (clear : Bool) (id : Nat)
    (h : id ∉ rowsOf bits) :
    Store.count (if clear = true then s.clearMany bits else s.setMany bits) id = s.count id := by
  have hn : ∀ p ∈ bits, p.1 ≠ id := fun p hp e => h (e ▸ mem_rowsOf bits p hp)
  split
  · exact count_clearMany_notin bits s id hn
  · exact count_setMany_notin bits s id hn

/-- `importRoaring` recounts only the rows of the batch whose count changed; the others kept
theirs for that very reason. -/
theorem changed_frame (s s' : Store) (rows : List Nat)
    (h : ∀ id, id ∉ rows → s'.count id = s.count id) (id : Nat)
    (hid : id ∉ rows.filter (fun r => s'.count r != s.count r)) : s'.count id = s.count id := by
  by_cases hm : id ∈ rows
  · exact Decidable.byContradiction fun hne => hid (mem_filter.mpr ⟨hm, bne_iff_ne.mpr hne⟩)
  · exact h id hm

/-- Same kind and (unless that is `none`) entries only dropped.  For `Add` / `BulkAdd` the right-hand side
is the cache with the one count already set. -/
structure Le (c' c : Cache) : Prop where
  kind : c'.kind = c.kind
  sub : c.kind ≠ .none → Sub c'.entries c.entries

theorem Le.of_eq {c' c : Cache} (hk : c'.kind = c.kind) (he : c'.entries = c.entries) : Le c' c :=
  ⟨hk, fun _ => he ▸ Sub.refl _⟩

theorem Le.refl (c : Cache) : Le c c := Le.of_eq rfl rfl

theorem Le.trans {a b c : Cache} (h1 : Le a b) (h2 : Le b c) : Le a c :=
  ⟨h1.kind.trans h2.kind, fun hk => (h1.sub (h2.kind ▸ hk)).trans (h2.sub hk)⟩

theorem popHint_le (c : Cache) (t : HintTag) : Le (c.popHint t).2 c := by
  unfold Cache.popHint
  split
  · exact Le.refl c
  · split <;> exact Le.of_eq rfl rfl

theorem recalcWith_le (c : Cache) (full : List Nat) : Le (c.recalcWith full) c := by
  unfold Cache.recalcWith
  simp only
  split
  · refine ⟨rfl, fun _ => ?_⟩
    simp only
    split
    · exact sub_foldl_edel _ _
    · exact Sub.refl _
  · exact Le.of_eq rfl rfl

theorem recalc_le (c : Cache) : Le c.recalc c := by
  unfold Cache.recalc
  simp only
  split
  · exact (recalcWith_le _ _).trans (popHint_le c _)
  · exact Le.trans (b := (c.popHint .recalc).2) (Le.of_eq rfl rfl) (popHint_le c _)

theorem invalidate_le (c : Cache) : Le c.invalidate c := by
  unfold Cache.invalidate
  split
  · split
    · exact Le.refl c
    · exact recalc_le c
  · exact Le.refl c

theorem recalculate_le (c : Cache) : Le c.recalculate c := by
  unfold Cache.recalculate
  split
  · exact recalc_le c
  · exact Le.refl c

theorem lruAdd_le (c : Cache) (id n : Nat) :
    Le (c.lruAdd id n) { c with entries := eset c.entries id n } := by
  unfold Cache.lruAdd
  split
  · exact Le.refl _
  · simp only
    split
    · exact ⟨rfl, fun _ => (sub_dropLast _).trans (sub_cons_eset _ _ _)⟩
    · exact ⟨rfl, fun _ => sub_cons_eset _ _ _⟩

/-- `Add`: the row's count is set, or (below the threshold) its entry deleted; a recalculation
may follow. -/
theorem add_le (c : Cache) (id n : Nat) : Le (c.add id n) { c with entries := eset c.entries id n } := by
  unfold Cache.add
  split
  · split
    · exact ⟨rfl, fun _ => sub_cons n (eget_edel_self _ _)⟩
    · exact invalidate_le _
  · exact lruAdd_le c id n
  · exact ⟨rfl, fun hk => absurd ‹c.kind = Kind.none› hk⟩

theorem bulkAdd_le (c : Cache) (id n : Nat) :
    Le (c.bulkAdd id n) { c with entries := eset c.entries id n } := by
  unfold Cache.bulkAdd
  split
  · split
    · exact ⟨rfl, fun _ => sub_cons n (eget_edel_self _ _)⟩
    · exact Le.refl _
  · exact lruAdd_le c id n
  · exact ⟨rfl, fun hk => absurd ‹c.kind = Kind.none› hk⟩

/-- A nopCache ignores `Add`, so the fragment's test of the cache kind changes nothing. -/
theorem add_guard (c : Cache) (id n : Nat) : (if c.kind ≠ .none then c.add id n else c) = c.add id n := by
  by_cases h : c.kind = .none
  · rw [if_neg (not_not_intro h)]; unfold Cache.add; rw [h]
  · exact if_pos h

theorem bulkAdd_guard (c : Cache) (id n : Nat) :
    (if c.kind ≠ .none then c.bulkAdd id n else c) = c.bulkAdd id n := by
  by_cases h : c.kind = .none
  · rw [if_neg (not_not_intro h)]; unfold Cache.bulkAdd; rw [h]
  · exact if_pos h

theorem foldl_bulkAdd_kind (order : List Nat) (g : Nat → Nat) (c : Cache) :
    (order.foldl (fun c r => c.bulkAdd r (g r)) c).kind = c.kind :=
  foldlRecOn (motive := fun c' => c'.kind = c.kind) order _ rfl
    fun c' hc r _ => (bulkAdd_le c' r _).kind.trans hc

theorem get_le (c : Cache) (id : Nat) : Le (c.get id).2 c := by
  unfold Cache.get
  split
  · exact Le.refl c
  · split
    · exact ⟨rfl, fun _ _ => Or.inl (eget_eset_same _ _ _)⟩
    · exact Le.refl c
  · exact Le.refl c

theorem get_val (c : Cache) (id : Nat) (hk : c.kind ≠ .none) : (c.get id).1 = eget c.entries id := by
  unfold Cache.get
  split
  · rfl
  · split
    · rfl
    · rename_i h; exact (eget_of_not_ehas _ _ (by simpa using h)).symm
  · exact absurd ‹c.kind = Kind.none› hk

theorem cacheTop_le (c : Cache) : Le c.top.2 c := by
  unfold Cache.top
  split
  · exact Le.refl c
  · simp only
    split
    · exact popHint_le c .top
    · exact Le.trans (b := (c.popHint .top).2) (Le.of_eq rfl rfl) (popHint_le c _)
  · exact Le.refl c

theorem rowOrder_le (c : Cache) (rows : List Nat) : Le (c.rowOrder rows).2 c := by
  unfold Cache.rowOrder
  split
  · split <;> exact Le.of_eq rfl rfl
  · exact Le.refl c

theorem rowOrder_mem (c : Cache) (rows : List Nat) (r : Nat) (hr : r ∈ rows) : r ∈ (c.rowOrder rows).1 := by
  unfold Cache.rowOrder
  split
  · split
    · rename_i hp
      simp only [samePerm, Bool.and_eq_true] at hp
      exact contains_iff_mem.mp (all_eq_true.mp hp.2 r hr)
    · exact hr
  · exact hr

/-- A cached non-zero count is the true count. (A nopCache caches nothing.) -/
def CacheInv (c : Cache) (cnt : Nat → Nat) : Prop :=
  c.kind ≠ .none → ∀ id, eget c.entries id ≠ 0 → eget c.entries id = cnt id

theorem CacheInv.of_none {c : Cache} {cnt : Nat → Nat} (h : c.kind = .none) : CacheInv c cnt :=
  fun hk => absurd h hk

theorem CacheInv.of_nil {c : Cache} {cnt : Nat → Nat} (h : c.entries = []) : CacheInv c cnt :=
  fun _ _ hne => absurd (h ▸ rfl) hne

theorem CacheInv.congr {c : Cache} {f g : Nat → Nat} (h : CacheInv c f) (e : ∀ id, f id = g id) :
    CacheInv c g :=
  fun hk id hne => (h hk id hne).trans (e id)

theorem CacheInv.le {c c' : Cache} {cnt : Nat → Nat} (h : CacheInv c cnt) (l : Le c' c) :
    CacheInv c' cnt := by
  intro hk' id hne
  have hk : c.kind ≠ .none := l.kind ▸ hk'
  rcases l.sub hk id with e | e
  · rw [e] at hne ⊢; exact h hk id hne
  · exact absurd e hne

theorem CacheInv.set {c : Cache} {cnt cnt' : Nat → Nat} {r n : Nat} (h : CacheInv c cnt)
    (hn : n = cnt' r) (frame : ∀ id, id ≠ r → cnt' id = cnt id) :
    CacheInv { c with entries := eset c.entries r n } cnt' := by
  intro hk id
  show eget (eset c.entries r n) id ≠ 0 → eget (eset c.entries r n) id = cnt' id
  by_cases e : id = r
  · subst e; exact fun _ => (eget_eset_self _ _ _).trans hn
  · rw [eget_eset_ne _ _ _ _ e, frame id e]; exact h hk id

theorem CacheInv.bulkAdd {c : Cache} {cnt cnt' : Nat → Nat} {r n : Nat} (h : CacheInv c cnt)
    (hn : n = cnt' r) (frame : ∀ id, id ≠ r → cnt' id = cnt id) : CacheInv (c.bulkAdd r n) cnt' :=
  (h.set hn frame).le (bulkAdd_le c r n)

/-- The counts move from `cnt` to `cnt'` one row at a time, so the induction is over the list AND the
count function the cache is exact for. -/
theorem CacheInv.recount {c : Cache} {cnt cnt' : Nat → Nat} (rows : List Nat) (h : CacheInv c cnt)
    (frame : ∀ id, id ∉ rows → cnt' id = cnt id) :
    CacheInv (rows.foldl (fun c r => c.bulkAdd r (cnt' r)) c) cnt' := by
  induction rows generalizing c cnt with
  | nil => exact h.congr (fun id => (frame id not_mem_nil).symm)
  | cons r rest ih =>
    refine ih (cnt := fun id => if id = r then cnt' r else cnt id)
      (h.bulkAdd (if_pos rfl).symm (fun id hid => if_neg hid)) (fun id hid => ?_)
    by_cases e : id = r
    · rw [if_pos e, e]
    · rw [if_neg e]; exact frame id (fun hm => (mem_cons.mp hm).elim e hid)

structure Keeps (f f' : Frag) : Prop where
  kind : f'.cache.kind = f.cache.kind
  inv : CacheInv f.cache f.store.count → CacheInv f'.cache f'.store.count

theorem Keeps.refl (f : Frag) : Keeps f f := ⟨rfl, id⟩

theorem Keeps.trans {f g k : Frag} (h1 : Keeps f g) (h2 : Keeps g k) : Keeps f k :=
  ⟨h2.kind.trans h1.kind, fun h => h2.inv (h1.inv h)⟩

theorem Keeps.of_le {f f' : Frag} (hs : f'.store = f.store) (l : Le f'.cache f.cache) : Keeps f f' :=
  ⟨l.kind, fun h => hs ▸ h.le l⟩

theorem add_keeps (f : Frag) (s' : Store) (r n : Nat) (hn : n = s'.count r)
    (frame : ∀ id, id ≠ r → s'.count id = f.store.count id) :
    Keeps f { store := s', cache := f.cache.add r n } :=
  ⟨(add_le _ _ _).kind, fun h => (h.set hn frame).le (add_le _ r n)⟩

theorem setBit_keeps (f : Frag) (r c : Nat) : Keeps f (f.setBit r c).2 := by
  unfold Frag.setBit
  split
  · exact Keeps.refl f
  · simp only [add_guard]
    exact add_keeps f _ r _ rfl (count_set_ne f.store r c)

theorem clearBit_keeps (f : Frag) (r c : Nat) : Keeps f (f.clearBit r c).2 := by
  unfold Frag.clearBit
  split
  · exact Keeps.refl f
  · simp only [add_guard]
    exact add_keeps f _ r _ rfl (count_clear_ne f.store r c)

theorem setRow_keeps (f : Frag) (r : Nat) (cols : List Nat) : Keeps f (f.setRow r cols) := by
  unfold Frag.setRow
  simp only [bulkAdd_guard]
  refine ⟨(bulkAdd_le _ _ _).kind, fun h => h.bulkAdd rfl (fun id hid => ?_)⟩
  refine (count_setMany_notin _ _ id (fun p hp => ?_)).trans (count_clearRow_ne f.store r id hid)
  obtain ⟨c, _, rfl⟩ := mem_map.mp hp
  exact Ne.symm hid

theorem clearRow_keeps (f : Frag) (r : Nat) : Keeps f (f.clearRow r) :=
  add_keeps f _ r 0 (count_clearRow_self f.store r).symm (count_clearRow_ne f.store r)

/-- The shared tail of importPositions / importRoaring, `rows` in the order the runtime picked. -/
theorem recount_keeps (f : Frag) (s' : Store) (rows : List Nat)
    (frame : ∀ id, id ∉ rows → s'.count id = f.store.count id) :
    Keeps f { store := s', cache := ((f.cache.rowOrder rows).1.foldl
      (fun c r => c.bulkAdd r (s'.count r)) (f.cache.rowOrder rows).2).recalculate } := by
  constructor
  · exact ((recalculate_le _).kind.trans (foldl_bulkAdd_kind _ _ _)).trans (rowOrder_le _ _).kind
  · intro h
    refine (CacheInv.recount _ (h.le (rowOrder_le _ rows)) (fun id hid => ?_)).le (recalculate_le _)
    exact frame id (fun hm => hid (rowOrder_mem _ _ id hm))

theorem importBits_keeps (f : Frag) (bits : List (Nat × Nat)) (clear : Bool) :
    Keeps f (f.importBits bits clear) := by
  unfold Frag.importBits
  simp only
  have frame := import_frame f.store bits clear
  generalize (if clear = true then f.store.clearMany bits else f.store.setMany bits) = s' at frame ⊢
  split
  · exact ⟨rfl, fun _ => CacheInv.of_none ‹_›⟩
  · exact recount_keeps f s' _ frame

theorem importRoaring_keeps (f : Frag) (bits : List (Nat × Nat)) (clear : Bool) :
    Keeps f (f.importRoaring bits clear) := by
  unfold Frag.importRoaring
  simp only
  have frame := changed_frame f.store _ (rowsOf bits) (import_frame f.store bits clear)
  generalize (if clear = true then f.store.clearMany bits else f.store.setMany bits) = s' at frame ⊢
  split
  · exact ⟨rfl, fun _ => CacheInv.of_none ‹_›⟩
  · split
    · rename_i hempty
      refine ⟨rfl, fun h => h.congr (fun id => (frame id ?_).symm)⟩
      rw [isEmpty_iff.mp hempty]; exact not_mem_nil
    · exact recount_keeps f s' _ frame

theorem reopen_eq (f : Frag) : f.reopen = f.openCacheWith f.cache.ids := by
  unfold Frag.reopen Frag.openCacheWith
  split <;> rfl

theorem openCacheWith_kind (f : Frag) (ids : List Nat) : (f.openCacheWith ids).cache.kind = f.cache.kind := by
  unfold Frag.openCacheWith
  split
  · rfl
  · exact (invalidate_le _).kind.trans (foldl_bulkAdd_kind _ _ _)

theorem transfer_kind (dst src : Frag) : (dst.transfer src).cache.kind = dst.cache.kind := by
  unfold Frag.transfer
  simp only
  split
  · rfl
  · exact openCacheWith_kind _ _

end PV.C12
