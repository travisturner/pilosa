/-
C12 property theorems.

Property (properties.jsonl C12): for any history of writes through any path, every count TopN
reports for explicitly requested rows equals the number of columns set in that row, restricted to
the filter row if one is given; on a shard whose rows fit in a freshly recalculated cache TopN(n)
returns min(n, number of non-empty rows) rows with the largest counts, in non-increasing order,
with exact counts.
-/
import PV.C12.Top
namespace PV.C12
open List

theorem CacheInv_open (k : Kind) (size : Nat) : CacheInv (Frag.open k size).cache (Frag.open k size).store.count :=
  CacheInv.of_nil rfl

theorem CacheInv_openCacheWith (f : Frag) (ids : List Nat) :
    CacheInv (f.openCacheWith ids).cache (f.openCacheWith ids).store.count ∧ (f.openCacheWith ids).store = f.store := by
  unfold Frag.openCacheWith
  split
  · exact ⟨CacheInv.of_none ‹_›, rfl⟩
  · exact ⟨((CacheInv.of_nil rfl).recount ids (fun _ _ => rfl)).le (invalidate_le _), rfl⟩

/-- Fragment hand-over (`WriteTo` on the source, `ReadFrom` on the receiver — any receiver: fresh
or holding other data, any cache kind and size): afterwards the receiver's cached counts are
counts of the TRANSFERRED storage. (A source without a cache sends no cache entry; then the
receiver must not have one either — fragments of one field share the cache type.) -/
theorem CacheInv_transfer (dst src : Frag) (h : src.cache.kind = .none → dst.cache.kind = .none) :
    CacheInv (dst.transfer src).cache (dst.transfer src).store.count ∧ (dst.transfer src).store = src.store := by
  unfold Frag.transfer
  simp only
  split
  · exact ⟨CacheInv.of_none (h ‹_›), rfl⟩
  · exact CacheInv_openCacheWith { dst with store := src.store } src.cache.ids

theorem top_cache (f : Frag) (o : TopOpt) (h : CacheInv f.cache f.store.count) :
    CacheInv (f.top o).2.cache (f.top o).2.store.count ∧ (f.top o).2.store = f.store :=
  ⟨(top_keeps f o).inv h, top_store f o⟩

theorem CacheInv_setBit (f : Frag) (r c : Nat) (h : CacheInv f.cache f.store.count) :
    CacheInv (f.setBit r c).2.cache (f.setBit r c).2.store.count :=
  (setBit_keeps f r c).inv h

theorem CacheInv_clearBit (f : Frag) (r c : Nat) (h : CacheInv f.cache f.store.count) :
    CacheInv (f.clearBit r c).2.cache (f.clearBit r c).2.store.count :=
  (clearBit_keeps f r c).inv h

theorem CacheInv_setRow (f : Frag) (r : Nat) (cols : List Nat) (h : CacheInv f.cache f.store.count) :
    CacheInv (f.setRow r cols).cache (f.setRow r cols).store.count :=
  (setRow_keeps f r cols).inv h

theorem CacheInv_clearRow (f : Frag) (r : Nat) (h : CacheInv f.cache f.store.count) :
    CacheInv (f.clearRow r).cache (f.clearRow r).store.count :=
  (clearRow_keeps f r).inv h

theorem rowOrder_spec (c : Cache) (rows : List Nat) :
    (c.rowOrder rows).2.entries = c.entries ∧ (c.rowOrder rows).2.kind = c.kind ∧
    ∀ r ∈ rows, r ∈ (c.rowOrder rows).1 := by
  refine ⟨?_, (rowOrder_le c rows).kind, rowOrder_mem c rows⟩
  unfold Cache.rowOrder
  split
  · split <;> rfl
  · rfl

/-- The shared tail of importPositions / importRoaring: recount the rows in `order`, recalculate. -/
theorem CacheInv_recount (c : Cache) (order : List Nat) (cnt cnt' : Nat → Nat)
    (h : CacheInv c cnt) (frame : ∀ id, id ∉ order → cnt' id = cnt id) :
    CacheInv ((order.foldl (fun c r => c.bulkAdd r (cnt' r)) c).recalculate) cnt' :=
  (h.recount order frame).le (recalculate_le _)

theorem CacheInv_importBits (f : Frag) (bits : List (Nat × Nat)) (clear : Bool)
    (h : CacheInv f.cache f.store.count) :
    CacheInv (f.importBits bits clear).cache (f.importBits bits clear).store.count :=
  (importBits_keeps f bits clear).inv h

theorem CacheInv_importRoaring (f : Frag) (bits : List (Nat × Nat)) (clear : Bool)
    (h : CacheInv f.cache f.store.count) :
    CacheInv (f.importRoaring bits clear).cache (f.importRoaring bits clear).store.count :=
  (importRoaring_keeps f bits clear).inv h

theorem CacheInv_recalculateCache (f : Frag) (h : CacheInv f.cache f.store.count) :
    CacheInv f.recalculateCache.cache f.recalculateCache.store.count :=
  (Keeps.of_le (f := f) (f' := f.recalculateCache) rfl (recalculate_le _)).inv h

theorem CacheInv_reopen (f : Frag) (_h : CacheInv f.cache f.store.count) :
    CacheInv f.reopen.cache f.reopen.store.count :=
  reopen_eq f ▸ (CacheInv_openCacheWith f _).1

/-- One step of a fragment's life. `env` is what the Go runtime decides before an operation:
whether rankCache.invalidate is inside its throttle window, and the orders it will pick. -/
inductive Op
  | setBit (r c : Nat)
  | clearBit (r c : Nat)
  | setRow (r : Nat) (cols : List Nat)
  | clearRow (r : Nat)
  | importBits (bits : List (Nat × Nat)) (clear : Bool)
  | importRoaring (bits : List (Nat × Nat)) (clear : Bool)
  | recalculate
  | reopen
  | top (o : TopOpt)
  | transfer (src : Frag) (hsrc : src.cache.kind ≠ Kind.none)
  | env (throttled : Bool) (hints : List Hint)

def Frag.step (f : Frag) : Op → Frag
  | .setBit r c => (f.setBit r c).2
  | .clearBit r c => (f.clearBit r c).2
  | .setRow r cols => f.setRow r cols
  | .clearRow r => f.clearRow r
  | .importBits bits clear => f.importBits bits clear
  | .importRoaring bits clear => f.importRoaring bits clear
  | .recalculate => f.recalculateCache
  | .reopen => f.reopen
  | .top o => (f.top o).2
  | .transfer src _ => f.transfer src
  | .env t hs => { f with cache := { f.cache with throttled := t, hints := hs, bad := false } }

theorem step_keeps (f : Frag) (op : Op) : Keeps f (f.step op) := by
  cases op with
  | setBit r c => exact setBit_keeps f r c
  | clearBit r c => exact clearBit_keeps f r c
  | setRow r cols => exact setRow_keeps f r cols
  | clearRow r => exact clearRow_keeps f r
  | importBits bits clear => exact importBits_keeps f bits clear
  | importRoaring bits clear => exact importRoaring_keeps f bits clear
  | recalculate => exact Keeps.of_le rfl (recalculate_le _)
  | reopen =>
    show Keeps f f.reopen
    rw [reopen_eq]
    exact ⟨openCacheWith_kind f _, fun _ => (CacheInv_openCacheWith f _).1⟩
  | top o => exact top_keeps f o
  | transfer src hsrc =>
    exact ⟨transfer_kind f src, fun _ => (CacheInv_transfer f src (fun hk => absurd hk hsrc)).1⟩
  | env t hs => exact Keeps.of_le rfl (Le.of_eq rfl rfl)

theorem step_kind (f : Frag) (op : Op) : (f.step op).cache.kind = f.cache.kind :=
  (step_keeps f op).kind

theorem steps_keeps (ops : List Op) (f : Frag) : Keeps f (ops.foldl Frag.step f) :=
  List.foldlRecOn ops Frag.step (Keeps.refl f) fun g hg op _ => hg.trans (step_keeps g op)

theorem CacheInv_step (f : Frag) (op : Op) (h : CacheInv f.cache f.store.count) :
    CacheInv (f.step op).cache (f.step op).store.count :=
  (step_keeps f op).inv h

/-- After any history on a fragment opened with any cache kind and size. -/
theorem CacheInv_reachable (k : Kind) (size : Nat) (ops : List Op) :
    let f := ops.foldl Frag.step (Frag.open k size)
    CacheInv f.cache f.store.count :=
  (steps_keeps ops _).inv (CacheInv_open k size)

/-- C12, first sentence, full strength: for explicitly requested ids `fragment.top` reports exactly
the requested rows whose number of columns (within the filter row, if given) is non-zero and
reaches the threshold, each with exactly that number. -/
theorem C12_ids (f : Frag) (o : TopOpt) (h : CacheInv f.cache f.store.count)
    (hk : f.cache.kind ≠ .none) (hids : o.ids ≠ []) :
    (f.top o).1 = Spec.topIds f.store o.ids o.src o.minThr := by
  rw [top_ids f o hk hids, idPairs_fst o.ids f hk h, topLoop_eq f.store o 0 (Or.inl rfl) _ [] (Or.inl rfl),
    if_pos rfl, nil_append, filterMap_filterMap]
  unfold Spec.topIds
  rw [filter_map, ← filterMap_ite]
  exact congrArg sortPairs (congrArg (filterMap · o.ids) (funext (idPair_keepPair f.store o)))

/-- The same over histories: whatever was written through whatever path, with whatever cache. -/
theorem C12_ids_reachable (k : Kind) (size : Nat) (ops : List Op) (o : TopOpt)
    (hk : k ≠ .none) (hids : o.ids ≠ []) :
    let f := ops.foldl Frag.step (Frag.open k size)
    (f.top o).1 = Spec.topIds f.store o.ids o.src o.minThr :=
  C12_ids _ o (CacheInv_reachable k size ops) (by rw [(steps_keeps ops _).kind]; exact hk) hids

/-- The loop of `fragment.top` (no ids, no filter row) over candidate pairs that list every cache
entry once in non-increasing order of count, when the cache holds every non-empty row. -/
theorem fresh_core (f : Frag) (n thr : Nat) (full rows : List Nat)
    (hkn : f.cache.kind ≠ .none)
    (hvalid : validOrder f.cache.entries full = true)
    (hinv : CacheInv f.cache f.store.count)
    (hcomplete : ∀ r, f.store.count r > 0 → eget f.cache.entries r = f.store.count r)
    (hrowsnd : rows.Nodup)
    (hrows : ∀ r, r ∈ rows ↔ (f.store.count r ≥ 1 ∧ f.store.count r ≥ thr)) :
    let res := sortPairs (topLoop f.store { n := n, minThr := thr } n
      (full.map (fun id => (id, eget f.cache.entries id))) [])
    (∀ p ∈ res, p.2 = f.store.count p.1 ∧ p.1 ∈ rows) ∧
    res.Pairwise (fun a b => a.2 ≥ b.2) ∧
    res.length = (if n = 0 then rows.length else Nat.min n rows.length) ∧
    (∀ r ∈ rows, r ∉ res.map (·.1) → ∀ p ∈ res, p.2 ≥ f.store.count r) := by
  -- invariant + completeness: the cache is the table of true counts
  have hm : eget f.cache.entries = f.store.count := funext fun id => by
    by_cases h0 : eget f.cache.entries id = 0
    · by_cases hc : f.store.count id > 0
      · exact hcomplete id hc
      · exact h0.trans (Nat.eq_zero_of_not_pos hc).symm
    · exact hinv hkn id h0
  simp only [validOrder, Bool.and_eq_true] at hvalid
  obtain ⟨⟨⟨hnd, _⟩, hcov⟩, hni⟩ := hvalid
  -- the ranking, cut down to the ids that qualify, enumerates `rows`
  have hperm : (full.filter (fun id => Spec.qualifies thr (f.store.count id))).Perm rows := by
    refine (perm_ext_iff_of_nodup ((nodup_of_nodupB full hnd).filter _) hrowsnd).mpr (fun r => ?_)
    rw [mem_filter, hrows]
    simp only [Spec.qualifies, Bool.and_eq_true, decide_eq_true_eq]
    refine ⟨fun h => h.2, fun hq => ⟨?_, hq⟩⟩
    obtain ⟨p, hp, e⟩ := mem_of_eget_ne f.cache.entries r (hm ▸ Nat.ne_of_gt hq.1)
    exact e ▸ contains_iff_mem.mp (all_eq_true.mp hcov p hp)
  have hsorted := (nonIncr_pairwise _ full hni).filter (fun id => Spec.qualifies thr (f.store.count id))
  rw [hm] at hsorted
  rw [topLoop_nosrc f.store _ n rfl, hm]
  have hsel := top_select f.store.count _ rows
    (if n = 0 then (full.filter (fun id => Spec.qualifies thr (f.store.count id))).length else n) hperm hsorted
  refine ⟨hsel.1, hsel.2.1, hsel.2.2.1.trans ?_, hsel.2.2.2⟩
  split
  · rw [hperm.length_eq]; exact Nat.min_self _
  · rfl

/-- C12, second sentence. The cache is ranked, was recalculated just now (`rankings` is a sorted
listing `full` of all entries, nothing cut off: the rows fit; the next invalidate is throttled) and
holds every non-empty row. `rows` is any duplicate-free enumeration of the rows whose count is
non-zero and reaches the threshold. Then TopN(n):
  * reports only such rows, each with its exact count,
  * in non-increasing order of count,
  * min(n, number of such rows) of them (all of them for n = 0),
  * and no row left out has a larger count than a reported one. -/
theorem C12_fresh (f : Frag) (n thr : Nat) (full rows : List Nat)
    (hkind : f.cache.kind = .ranked) (hthrot : f.cache.throttled = true)
    (hvalid : validOrder f.cache.entries full = true)
    (hrank : f.cache.rankings = full.map (fun id => (id, eget f.cache.entries id)))
    (hinv : CacheInv f.cache f.store.count)
    (hcomplete : ∀ r, f.store.count r > 0 → eget f.cache.entries r = f.store.count r)
    (hrowsnd : rows.Nodup)
    (hrows : ∀ r, r ∈ rows ↔ (f.store.count r ≥ 1 ∧ f.store.count r ≥ thr)) :
    let res := (f.top { n := n, minThr := thr }).1
    (∀ p ∈ res, p.2 = f.store.count p.1 ∧ p.1 ∈ rows) ∧
    res.Pairwise (fun a b => a.2 ≥ b.2) ∧
    res.length = (if n = 0 then rows.length else Nat.min n rows.length) ∧
    (∀ r ∈ rows, r ∉ res.map (·.1) → ∀ p ∈ res, p.2 ≥ f.store.count r) := by
  have hkn : f.cache.kind ≠ .none := by rw [hkind]; exact fun h => Kind.noConfusion h
  have hinvd : f.cache.invalidate = f.cache := by
    unfold Cache.invalidate; rw [hkind]; exact if_pos hthrot
  have htop : f.cache.top = (full.map (fun id => (id, eget f.cache.entries id)), f.cache) := by
    unfold Cache.top; rw [hkind, ← hrank]
  rw [top_of_ranking f n thr full _ hkn hinvd htop]
  exact fresh_core f n thr full rows hkn hvalid hinv hcomplete hrowsnd hrows

/-- The same for the LRU cache (`Top()` sorts all cached counts on every call; `full` is the order
it produced, `c'` the cache afterwards): nothing was evicted, every non-empty row is cached. -/
theorem C12_fresh_lru (f : Frag) (n thr : Nat) (full rows : List Nat) (c' : Cache)
    (hkind : f.cache.kind = .lru)
    (hvalid : validOrder f.cache.entries full = true)
    (htop : f.cache.top = (full.map (fun id => (id, eget f.cache.entries id)), c'))
    (hinv : CacheInv f.cache f.store.count)
    (hcomplete : ∀ r, f.store.count r > 0 → eget f.cache.entries r = f.store.count r)
    (hrowsnd : rows.Nodup)
    (hrows : ∀ r, r ∈ rows ↔ (f.store.count r ≥ 1 ∧ f.store.count r ≥ thr)) :
    let res := (f.top { n := n, minThr := thr }).1
    (∀ p ∈ res, p.2 = f.store.count p.1 ∧ p.1 ∈ rows) ∧
    res.Pairwise (fun a b => a.2 ≥ b.2) ∧
    res.length = (if n = 0 then rows.length else Nat.min n rows.length) ∧
    (∀ r ∈ rows, r ∉ res.map (·.1) → ∀ p ∈ res, p.2 ≥ f.store.count r) := by
  have hkn : f.cache.kind ≠ .none := by rw [hkind]; exact fun h => Kind.noConfusion h
  have hinvd : f.cache.invalidate = f.cache := by
    unfold Cache.invalidate; rw [hkind]
  rw [top_of_ranking f n thr full c' hkn hinvd htop]
  exact fresh_core f n thr full rows hkn hvalid hinv hcomplete hrowsnd hrows

/-- The hypotheses of C12_fresh are met by a non-trivial state: two rows, cache of size 2, after an
import (which recalculates). -/
example :
    let f := (Frag.open .ranked 2).importBits [(1, 0), (1, 1), (2, 0)] false
    f.cache.kind = .ranked ∧ f.cache.throttled = true ∧ validOrder f.cache.entries [1, 2] = true ∧
    f.cache.rankings = [1, 2].map (fun id => (id, eget f.cache.entries id)) ∧
    f.store.count 1 = 2 ∧ f.store.count 2 = 1 ∧ (f.top { n := 1 }).1 = [(1, 2)] := by decide

/-- The hypotheses of C12_fresh_lru on a non-trivial state: LRU of size 3 holding three rows. -/
example :
    let f := (Frag.open .lru 3).importBits [(1, 0), (1, 1), (2, 0), (4, 0), (4, 1), (4, 2)] false
    f.cache.kind = .lru ∧ validOrder f.cache.entries [4, 1, 2] = true ∧
    f.cache.top.1 = [4, 1, 2].map (fun id => (id, eget f.cache.entries id)) ∧
    (f.top { n := 2 }).1 = [(4, 3), (1, 2)] := by decide

/-- C12_ids on a non-trivial state: LRU of size 1, row 2 evicted, then changed by a roaring import. -/
example :
    let f := ((((((Frag.open .lru 1).setBit 2 0).2.setBit 2 1).2.setBit 2 2).2.setBit 5 0).2).importRoaring [(2, 4)] false
    (f.top { ids := [2, 5] }).1 = [(2, 4), (5, 1)] := by decide

/-- importRoaring with `cache.Get(row)+delta` (before the fix): LRU of size 1, row 2 (3 bits) evicted
by row 5, one more bit imported into row 2: TopN(ids=[2]) reported 1, the true count is 4. -/
theorem C12_importRoaring_delta_witness :
    let f0 := (((((Frag.open .lru 1).setBit 2 0).2.setBit 2 1).2.setBit 2 2).2.setBit 5 0).2
    let f := Legacy.importRoaringSet f0 [(2, 4)]
    (f.top { ids := [2] }).1 = [(2, 1)] ∧ Spec.topIds f.store [2] none 0 = [(2, 4)] := by decide

/-- rankCache.Add ignoring a count below the threshold (before the fix): cache of size 1, rows 1
(5 bits) and 2 (4 bits) imported, two bits of row 1 cleared while invalidate is throttled:
TopN(ids=[1]) reported 4, the true count is 3. -/
theorem C12_rankAdd_stale_witness :
    let f0 := (Frag.open .ranked 1).importBits
      [(1, 0), (1, 1), (1, 2), (1, 3), (1, 4), (2, 0), (2, 1), (2, 2), (2, 3)] false
    let f := Legacy.clearBit (Legacy.clearBit f0 1 0) 1 1
    (f.top { ids := [1] }).1 = [(1, 4)] ∧ Spec.topIds f.store [1] none 0 = [(1, 3)] := by decide

/-- Known finding `topn-threshold-per-shard`: the executor applies TopN's threshold to each shard's
count before adding the shards up. Row 1 has one bit in each of two shards; TopN(ids=[1],
threshold=2) reports nothing although the row has 2 columns set. -/
theorem C12_threshold_per_shard_witness :
    let f0 := ((Frag.open .ranked 1).setBit 1 3).2
    let f1 := ((Frag.open .ranked 1).setBit 1 0).2
    (topN { ids := [1], minThr := 2 } [f0, f1] [none, none] none).1 = [] ∧
    f0.store.count 1 + f1.store.count 1 = 2 := by decide

/-- The hand-over with the archive entries swapped (cache before data): a fresh receiver recounts the
transferred ids against its empty storage, so TopN(n) finds nothing and TopN(ids) is only right
because it falls back to storage; a receiver holding an older copy reports the OLD count. The
modelled hand-over (data first) gives the true counts. -/
theorem C12_transfer_order_witness :
    let src := (Frag.open .ranked 2).importBits [(1, 0), (1, 1), (2, 0)] false
    let old := (Frag.open .ranked 2).importBits [(1, 5)] false
    ((Legacy.transferCacheFirst (Frag.open .ranked 2) src).top { n := 5 }).1 = [] ∧
    ((Legacy.transferCacheFirst old src).top { ids := [1] }).1 = [(1, 1)] ∧
    (((Frag.open .ranked 2).transfer src).top { n := 5 }).1 = [(1, 2), (2, 1)] ∧
    ((old.transfer src).top { ids := [1] }).1 = [(1, 2)] := by decide

end PV.C12
