/-
`fragment.top`: the candidates `topBitmapPairs` hands to the loop, what the loop keeps of them, and which
rows a ranking ordered by count selects.
-/
import PV.C12.Invariant
import PV.C12.Spec
namespace PV.C12
open List

theorem top_ids (f : Frag) (o : TopOpt) (hk : f.cache.kind ≠ .none) (hids : o.ids ≠ []) :
    (f.top o).1 = sortPairs (topLoop f.store o 0 (f.idPairs o.ids).1 []) := by
  have hne : o.ids.isEmpty = false := by simpa using hids
  unfold Frag.top Frag.topBitmapPairs
  simp only [if_neg hk, hne, Bool.false_eq_true, if_false]

theorem top_noids (f : Frag) (o : TopOpt) (hk : f.cache.kind ≠ .none) (hids : o.ids = []) :
    (f.top o).1 = sortPairs (topLoop f.store o o.n f.cache.invalidate.top.1 []) := by
  unfold Frag.top Frag.topBitmapPairs
  rw [if_neg hk, hids]
  rfl

theorem top_of_ranking (f : Frag) (n thr : Nat) (full : List Nat) (c' : Cache)
    (hkn : f.cache.kind ≠ .none) (hinvd : f.cache.invalidate = f.cache)
    (htop : f.cache.top = (full.map (fun id => (id, eget f.cache.entries id)), c')) :
    (f.top { n := n, minThr := thr }).1 = sortPairs (topLoop f.store { n := n, minThr := thr } n
      (full.map (fun id => (id, eget f.cache.entries id))) []) := by
  rw [top_noids f _ hkn rfl, hinvd, htop]

theorem idPairs_le (ids : List Nat) (f : Frag) : Le (f.idPairs ids).2 f.cache := by
  induction ids generalizing f with
  | nil => exact Le.refl _
  | cons id rest ih =>
    have : (f.idPairs (id :: rest)).2 = (Frag.idPairs { f with cache := (f.cache.get id).2 } rest).2 := by
      rw [Frag.idPairs]
      simp only
      split
      · rfl
      · split <;> rfl
    rw [this]
    exact (ih _).trans (get_le f.cache id)

theorem top_store (f : Frag) (o : TopOpt) : (f.top o).2.store = f.store := by
  show (f.topBitmapPairs o.ids).2.store = f.store
  unfold Frag.topBitmapPairs
  by_cases hk : f.cache.kind = .none
  · rw [if_pos hk]
  · rw [if_neg hk]
    by_cases hi : o.ids.isEmpty = true
    · rw [if_pos hi]
    · rw [if_neg hi]

theorem top_le (f : Frag) (o : TopOpt) : Le (f.top o).2.cache f.cache := by
  show Le (f.topBitmapPairs o.ids).2.cache f.cache
  unfold Frag.topBitmapPairs
  by_cases hk : f.cache.kind = .none
  · rw [if_pos hk]; exact Le.refl _
  · rw [if_neg hk]
    by_cases hi : o.ids.isEmpty = true
    · rw [if_pos hi]; exact (cacheTop_le _).trans (invalidate_le _)
    · rw [if_neg hi]; exact idPairs_le _ _

/-- Reading never changes the store, and the cache only through `Invalidate`, `Top` and `Get`. -/
theorem top_keeps (f : Frag) (o : TopOpt) : Keeps f (f.top o).2 :=
  Keeps.of_le (top_store f o) (top_le f o)

/-- What `topBitmapPairs(ids)` yields per requested id under `CacheInv`. -/
def idPair (s : Store) (id : Nat) : Option (Nat × Nat) :=
  if s.count id > 0 then some (id, s.count id) else none

theorem idPairs_fst (ids : List Nat) (f : Frag) (hk : f.cache.kind ≠ .none)
    (h : CacheInv f.cache f.store.count) : (f.idPairs ids).1 = ids.filterMap (idPair f.store) := by
  induction ids generalizing f with
  | nil => rfl
  | cons id rest ih =>
    have ih' := ih { f with cache := (f.cache.get id).2 } ((get_le f.cache id).kind ▸ hk)
      (h.le (get_le f.cache id))
    rw [Frag.idPairs, filterMap_cons]
    simp only [get_val f.cache id hk, ih', idPair]
    by_cases hz : eget f.cache.entries id > 0
    · have e := h hk id (Nat.ne_of_gt hz)
      rw [if_pos hz, e, if_pos (e ▸ hz)]
    · rw [if_neg hz]
      split <;> rfl

/-- The count the loop reports for a candidate: the candidate's own, or its count within the
filter row. -/
def loopCount (s : Store) (o : TopOpt) (p : Nat × Nat) : Nat :=
  match o.src with
  | none => p.2
  | some src => s.countIn p.1 src

/-- The per-candidate decision of `fragment.top` as long as the heap is not full. -/
def keepPair (s : Store) (o : TopOpt) (p : Nat × Nat) : Option (Nat × Nat) :=
  if p.2 = 0 then none
  else if p.2 < o.minThr then none
  else if loopCount s o p = 0 then none
  else if loopCount s o p < o.minThr then none
  else some (p.1, loopCount s o p)

/-- The two tests on the candidate's own count are implied by those on the reported count. -/
theorem keepPair_eq (s : Store) (o : TopOpt) (p : Nat × Nat) (hle : loopCount s o p ≤ p.2) :
    keepPair s o p =
      if Spec.qualifies o.minThr (loopCount s o p) = true then some (p.1, loopCount s o p) else none := by
  unfold keepPair Spec.qualifies
  generalize loopCount s o p = t at hle ⊢
  simp only [Bool.and_eq_true, decide_eq_true_eq]
  by_cases h : t ≥ 1 ∧ t ≥ o.minThr
  · rw [if_neg (Nat.ne_of_gt (Nat.lt_of_lt_of_le h.1 hle)), if_neg (Nat.not_lt.mpr (Nat.le_trans h.2 hle)),
      if_neg (Nat.ne_of_gt h.1), if_neg (Nat.not_lt.mpr h.2), if_pos h]
  · rw [if_neg h]
    by_cases h0 : p.2 = 0
    · exact if_pos h0
    · rw [if_neg h0]
      by_cases h1 : p.2 < o.minThr
      · exact if_pos h1
      · rw [if_neg h1]
        by_cases h2 : t = 0
        · exact if_pos h2
        · rw [if_neg h2]
          by_cases h3 : t < o.minThr
          · exact if_pos h3
          · exact absurd ⟨Nat.pos_of_ne_zero h2, Nat.le_of_not_lt h3⟩ h

theorem countIn_le_count (s : Store) (r : Nat) (src : List Nat) : s.countIn r src ≤ s.count r := by
  unfold Store.countIn Store.count
  have : s.filter (fun p => p.1 == r && src.contains p.2) =
      (s.filter (fun p => p.1 == r)).filter (fun p => src.contains p.2) := by
    rw [filter_filter]
    exact filter_congr (fun p _ => Bool.and_comm _ _)
  rw [this]
  exact length_filter_le _ _

theorem loopCount_count (s : Store) (o : TopOpt) (id : Nat) :
    loopCount s o (id, s.count id) = Spec.trueCount s id o.src := by
  unfold loopCount Spec.trueCount
  cases o.src <;> rfl

theorem trueCount_le_count (s : Store) (id : Nat) (src : Option (List Nat)) :
    Spec.trueCount s id src ≤ s.count id := by
  unfold Spec.trueCount
  split
  · exact Nat.le_refl _
  · exact countIn_le_count s id _

theorem idPair_keepPair (s : Store) (o : TopOpt) (id : Nat) :
    (idPair s id).bind (keepPair s o) =
      if Spec.qualifies o.minThr (Spec.trueCount s id o.src) = true
      then some (id, Spec.trueCount s id o.src) else none := by
  have hle := trueCount_le_count s id o.src
  unfold idPair
  split
  · rw [Option.bind_some, keepPair_eq _ _ _ (by rw [loopCount_count]; exact hle), loopCount_count]
  · rw [if_neg]
    · rfl
    · unfold Spec.qualifies
      simp only [Bool.and_eq_true, decide_eq_true_eq]
      omega

/-- With a limit and no filter row the loop leaves as soon as the heap is full.  The one place where the
loop body is opened: each of the four tests skips the candidate on both sides. -/
theorem topLoop_eq (s : Store) (o : TopOpt) (n : Nat) (h : n = 0 ∨ o.src = none)
    (pairs res : List (Nat × Nat)) (hlen : n = 0 ∨ res.length < n) :
    topLoop s o n pairs res =
      if n = 0 then res ++ pairs.filterMap (keepPair s o)
      else (res ++ pairs.filterMap (keepPair s o)).take n := by
  induction pairs generalizing res with
  | nil =>
    rw [topLoop, filterMap_nil, append_nil]
    by_cases hn : n = 0
    · rw [if_pos hn]
    · rw [if_neg hn]; exact (take_of_length_le (Nat.le_of_lt (hlen.resolve_left hn))).symm
  | cons p rest ih =>
    obtain ⟨row, cnt⟩ := p
    have hk : keepPair s o (row, cnt) =
        if cnt = 0 then none else if cnt < o.minThr then none
        else if loopCount s o (row, cnt) = 0 then none
        else if loopCount s o (row, cnt) < o.minThr then none
        else some (row, loopCount s o (row, cnt)) := rfl
    rw [topLoop, filterMap_cons, if_pos hlen, hk]
    by_cases h0 : cnt = 0
    · rw [if_pos h0, if_pos h0]; exact ih res hlen
    · rw [if_neg h0, if_neg h0]
      by_cases h1 : cnt < o.minThr
      · rw [if_pos h1, if_pos h1]; exact ih res hlen
      · rw [if_neg h1, if_neg h1]
        show (if loopCount s o (row, cnt) = 0 then topLoop s o n rest res
          else if loopCount s o (row, cnt) < o.minThr then topLoop s o n rest res
          else if n > 0 ∧ (res ++ [(row, loopCount s o (row, cnt))]).length = n ∧ o.src.isNone
            then res ++ [(row, loopCount s o (row, cnt))]
          else topLoop s o n rest (res ++ [(row, loopCount s o (row, cnt))])) = _
        generalize loopCount s o (row, cnt) = t
        by_cases h2 : t = 0
        · rw [if_pos h2, if_pos h2]; exact ih res hlen
        · rw [if_neg h2, if_neg h2]
          by_cases h3 : t < o.minThr
          · rw [if_pos h3, if_pos h3]; exact ih res hlen
          · rw [if_neg h3, if_neg h3, append_cons res (row, t) (filterMap (keepPair s o) rest)]
            by_cases hc : n > 0 ∧ (res ++ [(row, t)]).length = n ∧ o.src.isNone = true
            · rw [if_pos hc, if_neg (Nat.ne_of_gt hc.1), take_left' hc.2.1]
            · rw [if_neg hc]
              refine ih _ (hlen.imp id fun hl => ?_)
              have hnone : o.src.isNone = true := by
                rcases h with h | h
                · exact absurd hl (h ▸ Nat.not_lt_zero _)
                · rw [h]; rfl
              rw [length_append, length_singleton] at hc ⊢
              exact Nat.lt_of_le_of_ne hl (fun e => hc ⟨Nat.zero_lt_of_lt hl, e, hnone⟩)

theorem topLoop_nosrc (s : Store) (o : TopOpt) (n : Nat) (hs : o.src = none) (c : Nat → Nat)
    (full : List Nat) :
    topLoop s o n (full.map (fun id => (id, c id))) [] =
      ((full.filter (fun id => Spec.qualifies o.minThr (c id))).take
        (if n = 0 then (full.filter (fun id => Spec.qualifies o.minThr (c id))).length else n)).map
        (fun id => (id, c id)) := by
  have hkeep : (keepPair s o ∘ fun id => (id, c id)) =
      fun id => if Spec.qualifies o.minThr (c id) = true then some (id, c id) else none := by
    funext id
    have e : loopCount s o (id, c id) = c id := by unfold loopCount; rw [hs]
    exact (keepPair_eq s o _ (Nat.le_of_eq e)).trans (by rw [e])
  rw [topLoop_eq s o n (Or.inr hs) _ [] (Nat.eq_zero_or_pos n), nil_append, filterMap_map,
    hkeep, filterMap_ite]
  split
  · rw [take_length]
  · rw [map_take]

theorem top_select (cnt : Nat → Nat) (F rows : List Nat) (k : Nat) (hperm : F.Perm rows)
    (hsorted : F.Pairwise (fun a b => cnt a ≥ cnt b)) :
    let res := sortPairs ((F.take k).map (fun id => (id, cnt id)))
    (∀ p ∈ res, p.2 = cnt p.1 ∧ p.1 ∈ rows) ∧
    res.Pairwise (fun a b => a.2 ≥ b.2) ∧
    res.length = Nat.min k rows.length ∧
    (∀ r ∈ rows, r ∉ res.map (·.1) → ∀ p ∈ res, p.2 ≥ cnt r) := by
  intro res
  have hmem : ∀ p, p ∈ res ↔ ∃ id ∈ F.take k, (id, cnt id) = p :=
    fun p => (mem_sortPairs p _).trans mem_map
  refine ⟨?_, sorted_sortPairs _, ?_, ?_⟩
  · intro p hp
    obtain ⟨id, hid, rfl⟩ := (hmem p).mp hp
    exact ⟨rfl, hperm.mem_iff.mp (mem_of_mem_take hid)⟩
  · exact (sortPairs_perm _).length_eq.trans (by rw [length_map, length_take, hperm.length_eq])
  · intro r hr hnot p hp
    obtain ⟨id, hid, rfl⟩ := (hmem p).mp hp
    refine pairwise_take hsorted k hid (hperm.mem_iff.mpr hr) (fun hrt => hnot ?_)
    exact mem_map.mpr ⟨(r, cnt r), (hmem _).mpr ⟨r, hrt, rfl⟩, rfl⟩

end PV.C12
