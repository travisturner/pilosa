/-
C13 property theorems: mutex and bool fields hold at most one value per column, and it is the
last one written — including batches that repeat a column with conflicting rows.

Model: PV/C07/Model.lean (shared fragment model): `setBit` + `handleMutex`, `mutexGet`
(= rowsVector.Get / boolVector.Get = rows(0, filterColumn)), `bulkImportMutex` as coded after the
fix (colSet = row of the LAST occurrence of each column, then one lookup per distinct column
against the pre-batch storage), clear imports, clearRow.
Spec: PV/C07/Spec.lean `MState = column → Option row`, `mstep`: last write wins, a batch is
applied left to right.

`WF H s` for a mutex / bool fragment: `Inv H s` ∧ AtMostOne ∧ (bool: only rows 0, 1).
`OpOK kind op`: operations that reach such a fragment through the API (Set, Clear, Import set /
clear, ClearRow, reads, snapshots; Store and roaring imports are refused for these field types)
with, for bool, rows 0 / 1 only (PQL translation; `Field.Import` refuses anything else — that
check is exercised on the real Field by the harness, `err:boolrow`).
Columns are in-shard offsets `c < SW`.
-/
import PV.C07.LemmasWF
namespace PV.C13
open PV.C07
open List hiding lookup

variable {η : Type}

/-- Invariant, one step: no column ever holds two rows. -/
theorem C13_at_most_one (H : List Nat → η) (s : Frag η) (op : Op) (hw : WF H s)
    (hk : s.kind ≠ .set) (hop : OpOK s.kind op) :
    AtMostOne (step H s op).1.bits ∧ WF H (step H s op).1 := by
  have h := wf_step hw op hop
  exact ⟨h.amo (by rw [step_kind]; exact hk), h⟩

/-- Invariant, all histories of Set / Clear / Import / ClearRow from a fresh mutex or bool fragment. -/
theorem C13_at_most_one_history (H : List Nat → η) (kind : Kind) (maxOpN : Nat) (ops : List Op)
    (hk : kind ≠ .set) (hall : AllOK kind ops) :
    AtMostOne (run H (Frag.empty kind maxOpN) ops).bits := by
  have h := (history ops (Frag.empty kind maxOpN) (wf_empty H kind maxOpN) hall).2.2
  exact h.amo (by rw [run_kind]; exact hk)

/-- Refinement, one step: the column → row view after the step is `mstep` of the view before
(the last write for a column wins), and the step answers what the specification answers (in
particular it never fails with "multiple row values" / "non-boolean value"). -/
theorem C13_last_wins (H : List Nat → η) (s : Frag η) (op : Op) (hw : WF H s)
    (hk : s.kind ≠ .set) (hop : OpOK s.kind op) :
    (∀ c, c < SW → Spec.mview (step H s op).1.bits c = Spec.mstep (Spec.mview s.bits) op c) ∧
    (step H s op).2 = Spec.out H s.kind s.bits op := by
  have hm := (hop.mutex hk).1
  refine ⟨?_, step_out hw op hop (isSetRow_of_mutexOp hm)⟩
  intro c hc
  exact ((graph_model_step hw hk op hop (graph_mview hw.inv.sorted (hw.amo hk))).agree
    (wf_step hw op hop).inv.sorted c hc).symm

/-- A batch that repeats a column: the row of the column's LAST entry is what the column holds
afterwards; columns the batch does not mention keep their value. -/
theorem C13_import_batch_last_wins (H : List Nat → η) (s : Frag η) (pairs : List (Nat × Nat))
    (hw : WF H s) (hk : s.kind ≠ .set) (hrows : s.kind = .bool → ∀ rc ∈ pairs, rc.1 ≤ 1) :
    ∀ c, c < SW → Spec.mview (step H s (.bulkImport false pairs)).1.bits c =
      match lastRowOf pairs c with
      | some r => some r
      | none => Spec.mview s.bits c := by
  intro c hc
  have hop : OpOK s.kind (.bulkImport false pairs) := Or.inr ⟨hk, rfl, hrows⟩
  rw [(C13_last_wins H s _ hw hk hop).1 c hc]
  simp only [Spec.mstep, Bool.false_eq_true, ↓reduceIte]
  exact foldl_mset pairs _ c

/-- Refinement, all histories from any well-formed mutex / bool fragment. -/
theorem C13_last_wins_run (H : List Nat → η) : ∀ (ops : List Op) (s : Frag η) (m : Spec.MState),
    WF H s → s.kind ≠ .set → AllOK s.kind ops → Agree m s.bits →
    Agree (ops.foldl Spec.mstep m) (run H s ops).bits := by
  intro ops
  induction ops with
  | nil => exact fun _ _ _ _ _ hm => hm
  | cons op ops ih =>
    intro s m hw hk hall hm
    have hop : OpOK s.kind op := hall op mem_cons_self
    have hkind := step_kind H s op
    have hstep : Agree (Spec.mstep m op) (step H s op).1.bits :=
      (graph_model_step hw hk op hop (hm.graph hw.inv.sorted (hw.amo hk))).agree (wf_step hw op hop).inv.sorted
    simp only [foldl_cons, run]
    exact ih (step H s op).1 (Spec.mstep m op) (wf_step hw op hop)
      (by rw [hkind]; exact hk) (by rw [hkind]; exact fun o ho => hall o (mem_cons_of_mem _ ho)) hstep

/-- Refinement, all histories from a fresh mutex / bool fragment: the value of every column is
the last one written. -/
theorem C13_last_wins_history (H : List Nat → η) (kind : Kind) (maxOpN : Nat) (hk : kind ≠ .set)
    (ops : List Op) (hall : AllOK kind ops) :
    ∀ c, c < SW → Spec.mview (run H (Frag.empty kind maxOpN) ops).bits c =
      (ops.foldl Spec.mstep (fun _ => none)) c := by
  intro c hc
  exact ((C13_last_wins_run H ops (Frag.empty kind maxOpN) (fun _ => none) (wf_empty H kind maxOpN) hk hall
    (fun c _ => by simp [Spec.mview, rowsWithCol, Frag.empty])) c hc).symm

/-- A restart — close + reopen of the fragment, its field, the holder or the whole server, at any
position of a history (`Op.reopen` is an ordinary member of the histories of
`C13_at_most_one_history` / `C13_last_wins_history`) — keeps the field's kind (hence its mutex
vector), the stored bits, every column's value and the invariant. -/
theorem C13_reopen (H : List Nat → η) (s : Frag η) (hw : WF H s) (hk : s.kind ≠ .set) :
    (step H s .reopen).1.kind = s.kind ∧ (step H s .reopen).1.bits = s.bits ∧
    WF H (step H s .reopen).1 ∧ AtMostOne (step H s .reopen).1.bits ∧
    ∀ c, Spec.mview (step H s .reopen).1.bits c = Spec.mview s.bits c :=
  ⟨rfl, rfl, wf_step hw .reopen (opOK_any_kind rfl rfl trivial), hw.amo hk, fun _ => rfl⟩

/-- The first write after a restart still replaces the column's value: a Set on a column that
holds another row leaves exactly the new row. -/
theorem C13_set_after_reopen (H : List Nat → η) (s : Frag η) (r c : Nat) (hw : WF H s)
    (hk : s.kind ≠ .set) (hr : s.kind = .bool → r ≤ 1) (hc : c < SW) :
    Spec.mview (step H (step H s .reopen).1 (.setBit r c)).1.bits c = some r ∧
    AtMostOne (step H (step H s .reopen).1 (.setBit r c)).1.bits := by
  have h0 := C13_reopen H s hw hk
  have hk' : (step H s .reopen).1.kind ≠ .set := by rw [h0.1]; exact hk
  have hop : OpOK (step H s .reopen).1.kind (.setBit r c) :=
    Or.inr ⟨hk', rfl, by rw [h0.1]; exact hr⟩
  refine ⟨?_, (C13_at_most_one H _ _ h0.2.2.1 hk' hop).1⟩
  rw [(C13_last_wins H _ _ h0.2.2.1 hk' hop).1 c hc]
  simp [Spec.mstep, Spec.mset, Nat.mod_eq_of_lt hc]

/-! Non-vacuity and the scenario of the original defect (column 7 holds row 2, batch
[(1,7),(2,7)]): the model — like the repaired code — ends with row 2. -/

def exState : Frag (List Nat) := run id (Frag.empty .mutex 10000) [.setBit 2 7]

example : WF (id : List Nat → List Nat) exState :=
  (history [.setBit 2 7] _ (wf_empty _ _ _) (by
    intro op hop
    simp only [mem_cons, not_mem_nil, or_false] at hop
    subst hop
    exact Or.inr ⟨by decide, rfl, by intro h; cases h⟩)).2.2

example : Spec.mview (step id exState (.bulkImport false [(1, 7), (2, 7)])).1.bits 7 = some 2 := by decide

example : lastRowOf [(1, 7), (2, 7)] 7 = some 2 := by decide

/-- restart between two writes of the same column (the scenario of a lost mutex vector). -/
example : Spec.mview (run id (Frag.empty .mutex 10000) [.setBit 2 7, .reopen, .setBit 1 7]).bits 7 = some 1 ∧
    (run (id : List Nat → List Nat) (Frag.empty .mutex 10000) [.setBit 2 7, .reopen, .setBit 1 7]).bits = [pos 1 7] := by decide

end PV.C13
