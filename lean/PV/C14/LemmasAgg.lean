/-
C14, one fragment: fragment.sum / min / max against `sumInt`, `Spec.minCount`, `Spec.maxCount`.
-/
import PV.C14.LemmasField
namespace PV.C14
open BA

def sumInt : List Int → Int
  | [] => 0
  | x :: xs => x + sumInt xs

theorem foldl_add_eq (l : List Int) (a : Int) : l.foldl (· + ·) a = a + sumInt l := by
  induction l generalizing a with
  | nil => simp [sumInt]
  | cons x xs ih => simp only [List.foldl_cons, ih, sumInt]; omega

/-- `r.frag.mag d`, named on the record. -/
def Rec.low (r : Rec) (d : Nat) : Nat := lowBits r.mag.testBit d

theorem Rec.low_zero (r : Rec) : r.low 0 = 0 := rfl
theorem Rec.low_succ (r : Rec) (n : Nat) : r.low (n+1) = r.low n + (if r.mag.testBit n then 2^n else 0) := rfl
theorem Rec.low_lt (r : Rec) (n : Nat) : r.low n < 2^n := lowBits_lt _ _

theorem Rec.low_eq_mag {r : Rec} {d : Nat} (h : RecWF r d) : r.low d = r.mag := by
  simp only [Rec.low, lowBits_testBit, Nat.mod_eq_of_lt h.mag_lt]

theorem Rec.val_eq {r : Rec} (d : Nat) : r.frag.val d = if r.sg then -(r.low d : Int) else (r.low d : Int) := rfl


def sumLow (l : List Rec) (d : Nat) : Nat :=
  match l with
  | [] => 0
  | r :: rs => r.low d + sumLow rs d

theorem sumLow_succ (l : List Rec) (d : Nat) :
    sumLow l (d+1) = sumLow l d + 2^d * bitCount d l := by
  induction l with
  | nil => simp [sumLow, bitCount]
  | cons r rs ih =>
    simp only [sumLow, ih, Rec.low, lowBits, bitCount, List.filter_cons]
    cases h : r.mag.testBit d
    · simp only [Bool.false_eq_true, if_false]; simp only [bitCount] at *; omega
    · simp only [if_true, List.length_cons, Nat.mul_add]; simp only [bitCount] at *; omega

theorem planes_eq (prow nrow : List Rec) (d : Nat) :
    (List.range d).foldl
      (fun (s : Int) i => s + ((2 ^ i * bitCount i prow : Nat) : Int) - ((2 ^ i * bitCount i nrow : Nat) : Int)) 0
    = (sumLow prow d : Int) - (sumLow nrow d : Int) := by
  induction d with
  | zero =>
    have : ∀ l : List Rec, sumLow l 0 = 0 := by
      intro l; induction l with
      | nil => rfl
      | cons r rs ih => simp [sumLow, ih, Rec.low, lowBits]
    simp [this]
  | succ d ih =>
    rw [List.range_succ, List.foldl_append, ih]
    simp only [List.foldl_cons, List.foldl_nil, sumLow_succ]
    push_cast
    omega

theorem sumVal_split (l : List Rec) (d : Nat) :
    sumInt (l.map (fun r => r.frag.val d)) =
      (sumLow (l.filter (fun r => !r.sg)) d : Int) - (sumLow (l.filter (fun r => r.sg)) d : Int) := by
  induction l with
  | nil => simp [sumInt, sumLow]
  | cons r rs ih =>
    simp only [List.map_cons, sumInt, ih, List.filter_cons]
    cases h : r.sg
    · simp only [Bool.not_false, if_true, Bool.false_eq_true, if_false, sumLow, Frag.val, Frag.mag, Rec.low, Rec.frag, h]
      push_cast; omega
    · simp only [Bool.not_true, Bool.false_eq_true, if_false, if_true, sumLow, Frag.val, Frag.mag, Rec.low, Rec.frag, h]
      push_cast; omega

/-- Values of the columns `fragment.sum/min/max` consider. -/
def consideredVals (cols : List Rec) (flt : Filter) (d : Nat) : List Int :=
  (considerOf cols flt).map (fun r => r.frag.val d)

theorem fragSum_eq (cols : List Rec) (flt : Filter) (d : Nat) :
    fragSum cols flt d =
      (sumInt ((considerOf cols flt).map (fun r => r.frag.val d)), (considerOf cols flt).length) := by
  simp only [fragSum, planes_eq, sumVal_split]


theorem length_pos_mem {α} {l : List α} (h : l.length > 0) : ∃ x, x ∈ l := by
  cases l with
  | nil => simp at h
  | cons x xs => exact ⟨x, List.mem_cons_self ..⟩

/-- `cnt` reaches the result only when no round runs (every round recounts): hence `h0`. -/
theorem minU_spec (n : Nat) (filter : List Rec) (acc cnt : Nat) (hne : filter ≠ [])
    (h0 : n = 0 → cnt = filter.length) :
    ∃ m, minU n filter acc cnt = (acc + m, (filter.filter (fun r => r.low n = m)).length) ∧
      (∃ r ∈ filter, r.low n = m) ∧ ∀ r ∈ filter, m ≤ r.low n := by
  induction n generalizing filter acc cnt with
  | zero =>
    obtain ⟨x, hx⟩ := List.exists_mem_of_ne_nil filter hne
    refine ⟨0, ?_, ⟨x, hx, rfl⟩, fun r _ => Nat.zero_le _⟩
    rw [minU, h0 rfl, List.filter_eq_self.mpr (fun r _ => by simp [Rec.low_zero])]; rfl
  | succ n ih =>
    rw [minU]
    by_cases hrow : (filter.filter (fun r => !r.mag.testBit n)).length > 0
    · -- columns with bit `n` clear are below the others: go on among them
      obtain ⟨m, hres, ⟨w, hw, hwm⟩, hmin⟩ := ih _ acc _ (List.ne_nil_of_length_pos hrow) (fun _ => rfl)
      have hwf := List.mem_filter.mp hw
      have hmlt : m < 2^n := hwm ▸ Rec.low_lt w n
      refine ⟨m, ?_, ⟨w, hwf.1, ?_⟩, fun r hr => ?_⟩
      · simp only [if_pos hrow, hres, List.filter_filter]
        congr 2
        refine List.filter_congr (fun r _ => ?_)
        have := Rec.low_lt r n
        rw [Rec.low_succ]
        cases hb : r.mag.testBit n <;> simp <;> omega
      · rw [Rec.low_succ, if_neg (by simpa using hwf.2), hwm]; rfl
      · rw [Rec.low_succ]
        cases hb : r.mag.testBit n
        · have := hmin r (List.mem_filter.mpr ⟨hr, by simp [hb]⟩); simp; omega
        · simp; omega
    · -- all have bit `n` set: `2^n` more than the least of the lower bits
      have hall : ∀ r ∈ filter, r.mag.testBit n = true := fun r hr => by
        simpa using List.filter_eq_nil_iff.mp (List.eq_nil_of_length_eq_zero (Nat.eq_zero_of_not_pos hrow)) r hr
      obtain ⟨m, hres, ⟨w, hw, hwm⟩, hmin⟩ := ih filter (acc + 2^n)
        (if n = 0 then filter.length else (filter.filter (fun r => !r.mag.testBit n)).length) hne
        (fun h => by simp [h])
      refine ⟨m + 2^n, ?_, ⟨w, hw, ?_⟩, fun r hr => ?_⟩
      · simp only [if_neg hrow, hres]
        refine Prod.ext (by simp; omega) (congrArg List.length (List.filter_congr (fun r hr => ?_)))
        rw [Rec.low_succ, hall r hr]; simp
      · rw [Rec.low_succ, hall w hw, hwm]; rfl
      · rw [Rec.low_succ, hall r hr]; have := hmin r hr; simp; omega

theorem maxU_spec (n : Nat) (filter : List Rec) (acc cnt : Nat) (hne : filter ≠ [])
    (h0 : n = 0 → cnt = filter.length) :
    ∃ m, maxU n filter acc cnt = (acc + m, (filter.filter (fun r => r.low n = m)).length) ∧
      (∃ r ∈ filter, r.low n = m) ∧ ∀ r ∈ filter, r.low n ≤ m := by
  induction n generalizing filter acc cnt with
  | zero =>
    obtain ⟨x, hx⟩ := List.exists_mem_of_ne_nil filter hne
    refine ⟨0, ?_, ⟨x, hx, rfl⟩, fun r _ => Nat.le_refl _⟩
    rw [maxU, h0 rfl, List.filter_eq_self.mpr (fun r _ => by simp [Rec.low_zero])]; rfl
  | succ n ih =>
    rw [maxU]
    by_cases hrow : (filter.filter (fun r => r.mag.testBit n)).length > 0
    · obtain ⟨m, hres, ⟨w, hw, hwm⟩, hmax⟩ := ih _ (acc + 2^n) _ (List.ne_nil_of_length_pos hrow) (fun _ => rfl)
      have hwf := List.mem_filter.mp hw
      refine ⟨m + 2^n, ?_, ⟨w, hwf.1, ?_⟩, fun r hr => ?_⟩
      · simp only [if_pos hrow, hres, List.filter_filter]
        refine Prod.ext (by simp; omega) (congrArg List.length (List.filter_congr (fun r _ => ?_)))
        have := Rec.low_lt r n
        rw [Rec.low_succ]
        cases hb : r.mag.testBit n <;> simp <;> omega
      · rw [Rec.low_succ, if_pos hwf.2, hwm]
      · rw [Rec.low_succ]
        have := Rec.low_lt r n
        cases hb : r.mag.testBit n
        · simp; omega
        · have := hmax r (List.mem_filter.mpr ⟨hr, hb⟩); simp; omega
    · have hall : ∀ r ∈ filter, r.mag.testBit n = false := fun r hr => by
        simpa using List.filter_eq_nil_iff.mp (List.eq_nil_of_length_eq_zero (Nat.eq_zero_of_not_pos hrow)) r hr
      obtain ⟨m, hres, ⟨w, hw, hwm⟩, hmax⟩ := ih filter acc
        (if n = 0 then filter.length else (filter.filter (fun r => r.mag.testBit n)).length) hne
        (fun h => by simp [h])
      refine ⟨m, ?_, ⟨w, hw, ?_⟩, fun r hr => ?_⟩
      · simp only [if_neg hrow, hres]
        congr 2
        refine List.filter_congr (fun r hr => ?_)
        rw [Rec.low_succ, hall r hr]; simp
      · rw [Rec.low_succ, hall w hw, hwm]; rfl
      · rw [Rec.low_succ, hall r hr]; exact hmax r hr

def IsMin (l : List Int) (m : Int) (k : Nat) : Prop :=
  m ∈ l ∧ (∀ x ∈ l, m ≤ x) ∧ k = (l.filter (fun x => decide (x = m))).length

def IsMax (l : List Int) (m : Int) (k : Nat) : Prop :=
  m ∈ l ∧ (∀ x ∈ l, x ≤ m) ∧ k = (l.filter (fun x => decide (x = m))).length

theorem IsMin.unique {l : List Int} {m m' : Int} {k k' : Nat} (h : IsMin l m k) (h' : IsMin l m' k') :
    (m, k) = (m', k') := by
  have e : m = m' := by have := h.2.1 m' h'.1; have := h'.2.1 m h.1; omega
  subst e
  rw [h.2.2, h'.2.2]

theorem IsMax.unique {l : List Int} {m m' : Int} {k k' : Nat} (h : IsMax l m k) (h' : IsMax l m' k') :
    (m, k) = (m', k') := by
  have e : m = m' := by have := h.2.1 m' h'.1; have := h'.2.1 m h.1; omega
  subst e
  rw [h.2.2, h'.2.2]

theorem IsMin.pos {l : List Int} {m : Int} {k : Nat} (h : IsMin l m k) : k ≥ 1 := by
  rw [h.2.2]
  exact List.length_pos_of_mem (List.mem_filter.mpr ⟨h.1, by simp⟩)

theorem count_eq_zero {l : List Int} {m : Int} (h : ∀ x ∈ l, m < x) :
    (l.filter (fun x => decide (x = m))).length = 0 := by
  rw [List.filter_eq_nil_iff.mpr (fun x hx => by have := h x hx; simp; omega)]; rfl

theorem IsMin.single (x : Int) : IsMin [x] x 1 :=
  ⟨List.mem_singleton.mpr rfl, fun y hy => by rw [List.mem_singleton.mp hy]; exact Int.le_refl _, by simp⟩

theorem IsMin.append_left {P l : List Int} {m : Int} {k : Nat} (h : IsMin P m k) (hl : ∀ x ∈ l, m < x) :
    IsMin (P ++ l) m k :=
  ⟨List.mem_append_left _ h.1,
   fun x hx => (List.mem_append.mp hx).elim (h.2.1 x) (fun hx => Int.le_of_lt (hl x hx)),
   by rw [List.filter_append, List.length_append, ← h.2.2, count_eq_zero hl]; rfl⟩

theorem IsMin.append_right {P l : List Int} {m : Int} {k : Nat} (h : IsMin l m k) (hP : ∀ x ∈ P, m < x) :
    IsMin (P ++ l) m k :=
  ⟨List.mem_append_right _ h.1,
   fun x hx => (List.mem_append.mp hx).elim (fun hx => Int.le_of_lt (hP x hx)) (h.2.1 x),
   by rw [List.filter_append, List.length_append, ← h.2.2, count_eq_zero hP, Nat.zero_add]⟩

theorem IsMin.append {P l : List Int} {m : Int} {k k' : Nat} (h : IsMin P m k) (h' : IsMin l m k') :
    IsMin (P ++ l) m (k + k') :=
  ⟨List.mem_append_left _ h.1, fun x hx => (List.mem_append.mp hx).elim (h.2.1 x) (h'.2.1 x),
   by rw [List.filter_append, List.length_append, ← h.2.2, ← h'.2.2]⟩

theorem minCount_spec (l : List Int) (hl : l ≠ []) : IsMin l (Spec.minCount l).1 (Spec.minCount l).2 := by
  induction l with
  | nil => exact absurd rfl hl
  | cons x xs ih =>
    by_cases hxs : xs = []
    · subst hxs; exact IsMin.single x
    · have h := ih hxs
      have hp := h.pos
      rw [Spec.minCount]
      generalize Spec.minCount xs = mc at h hp ⊢
      obtain ⟨m, k⟩ := mc
      cases k with
      | zero => exact absurd hp (by simp)
      | succ n =>
        show IsMin ([x] ++ xs) (if x < m then (x, 1) else if x = m then (m, n + 2) else (m, n + 1)).1
          (if x < m then (x, 1) else if x = m then (m, n + 2) else (m, n + 1)).2
        split
        · exact (IsMin.single x).append_left (fun y hy => by have := h.2.1 y hy; omega)
        · split
          · rename_i hxm; subst hxm
            have := (IsMin.single x).append h
            rwa [Nat.add_comm] at this
          · exact h.append_right (fun y hy => by rw [List.mem_singleton.mp hy]; omega)

theorem IsMin.eq_minCount {l : List Int} {m : Int} {k : Nat} (h : IsMin l m k) : Spec.minCount l = (m, k) :=
  (minCount_spec l (List.ne_nil_of_mem h.1)).unique h

/-! ### Max is Min of the negated values -/

theorem IsMax_iff_neg {l : List Int} {m : Int} {k : Nat} :
    IsMax l m k ↔ IsMin (l.map (- ·)) (-m) k := by
  have hc : ((l.map (- ·)).filter (fun x => decide (x = -m))).length =
      (l.filter (fun x => decide (x = m))).length := by
    rw [List.filter_map, List.length_map]
    congr 1; apply List.filter_congr; intro x _; simp [Int.neg_inj]
  unfold IsMax IsMin
  rw [hc]
  constructor
  · rintro ⟨h1, h2, h3⟩
    refine ⟨List.mem_map.mpr ⟨m, h1, rfl⟩, fun x hx => ?_, h3⟩
    obtain ⟨a, ha, rfl⟩ := List.mem_map.mp hx
    have := h2 a ha; omega
  · rintro ⟨h1, h2, h3⟩
    obtain ⟨a, ha, e⟩ := List.mem_map.mp h1
    refine ⟨(by omega : a = m) ▸ ha, fun x hx => ?_, h3⟩
    have := h2 (-x) (List.mem_map.mpr ⟨x, hx, rfl⟩); omega

theorem maxCount_neg (l : List Int) :
    Spec.maxCount l = (-(Spec.minCount (l.map (- ·))).1, (Spec.minCount (l.map (- ·))).2) := by
  induction l with
  | nil => rfl
  | cons x xs ih =>
    simp only [List.map_cons, Spec.maxCount, Spec.minCount, ih]
    generalize Spec.minCount (xs.map (- ·)) = r
    obtain ⟨m, k⟩ := r
    cases k with
    | zero => simp
    | succ n =>
      simp only
      by_cases h1 : x > -m
      · rw [if_pos h1, if_pos (by omega)]; simp
      · by_cases h2 : x = -m
        · rw [if_neg h1, if_pos h2, if_neg (by omega), if_pos (by omega)]
        · rw [if_neg h1, if_neg h2, if_neg (by omega), if_neg (by omega)]

theorem maxCount_spec (l : List Int) (hl : l ≠ []) : IsMax l (Spec.maxCount l).1 (Spec.maxCount l).2 := by
  rw [IsMax_iff_neg, maxCount_neg, Int.neg_neg]
  exact minCount_spec _ (by simpa using hl)

theorem IsMax.eq_maxCount {l : List Int} {m : Int} {k : Nat} (h : IsMax l m k) : Spec.maxCount l = (m, k) :=
  (maxCount_spec l (List.ne_nil_of_mem h.1)).unique h

theorem length_filter_map {α : Type} (f : α → Int) (l : List α) (m : Int) :
    ((l.map f).filter (fun x => decide (x = m))).length = (l.filter (fun r => decide (f r = m))).length := by
  rw [List.filter_map, List.length_map]; rfl

theorem minUnsigned_isMin (d : Nat) {L : List Rec} (hne : L ≠ []) :
    IsMin (L.map (fun r => (r.low d : Int))) (minUnsigned L d).1 (minUnsigned L d).2 := by
  obtain ⟨m, hres, ⟨w, hw, hwm⟩, hmin⟩ := minU_spec d L 0 L.length hne (fun _ => rfl)
  rw [minUnsigned, hres, Nat.zero_add]
  refine ⟨List.mem_map.mpr ⟨w, hw, by rw [hwm]⟩, fun x hx => ?_, ?_⟩
  · obtain ⟨r, hr, rfl⟩ := List.mem_map.mp hx
    exact Int.ofNat_le.mpr (hmin r hr)
  · rw [length_filter_map]
    exact congrArg _ (List.filter_congr fun r _ => by simp; omega)

theorem maxUnsigned_isMax (d : Nat) {L : List Rec} (hne : L ≠ []) :
    IsMax (L.map (fun r => (r.low d : Int))) (maxUnsigned L d).1 (maxUnsigned L d).2 := by
  obtain ⟨m, hres, ⟨w, hw, hwm⟩, hmax⟩ := maxU_spec d L 0 L.length hne (fun _ => rfl)
  rw [maxUnsigned, hres, Nat.zero_add]
  refine ⟨List.mem_map.mpr ⟨w, hw, by rw [hwm]⟩, fun x hx => ?_, ?_⟩
  · obtain ⟨r, hr, rfl⟩ := List.mem_map.mp hx
    exact Int.ofNat_le.mpr (hmax r hr)
  · rw [length_filter_map]
    exact congrArg _ (List.filter_congr fun r _ => by simp; omega)

theorem IsMax.of_filter {α : Type} {L : List α} {w : α → Int} {q : α → Bool} {m : Int} {c : Nat}
    (h : IsMax ((L.filter q).map w) m c) (hlt : ∀ r ∈ L, q r = false → w r < m) : IsMax (L.map w) m c := by
  obtain ⟨h1, h2, h3⟩ := h
  refine ⟨?_, fun x hx => ?_, ?_⟩
  · obtain ⟨r, hr, e⟩ := List.mem_map.mp h1
    exact List.mem_map.mpr ⟨r, (List.mem_filter.mp hr).1, e⟩
  · obtain ⟨r, hr, rfl⟩ := List.mem_map.mp hx
    cases hq : q r
    · exact Int.le_of_lt (hlt r hr hq)
    · exact h2 _ (List.mem_map.mpr ⟨r, List.mem_filter.mpr ⟨hr, hq⟩, rfl⟩)
  · rw [h3, length_filter_map, length_filter_map, List.filter_filter]; congr 1
    refine List.filter_congr (fun r hr => ?_)
    cases hq : q r
    · have := hlt r hr hq; simp; omega
    · simp

theorem fragMin_eq (cols : List Rec) (flt : Filter) (d : Nat) (wf : ∀ r ∈ cols, RecWF r d) :
    fragMin cols flt d = Spec.minCount ((considerOf cols flt).map (fun r => r.frag.val d)) := by
  simp only [fragMin]
  have wfL : ∀ r ∈ considerOf cols flt, RecWF r d := fun r hr => wf r (List.mem_filter.mp hr).1
  generalize considerOf cols flt = L at wfL ⊢
  by_cases hemp : L.length = 0
  · rw [if_pos hemp, List.eq_nil_of_length_eq_zero hemp]; rfl
  have hne : L ≠ [] := fun h => hemp (h ▸ rfl)
  rw [if_neg hemp]
  by_cases hneg : (L.filter (fun r => r.sg)).length > 0
  · rw [if_pos hneg]
    have hM := maxUnsigned_isMax d (List.ne_nil_of_length_pos hneg)
    obtain ⟨w, hw, hwm⟩ := List.mem_map.mp hM.1
    have hws := List.mem_filter.mp hw
    have hpos : (1 : Int) ≤ (maxUnsigned (L.filter (fun r => r.sg)) d).1 := by
      have := (wfL w hws.1).sg_nz hws.2
      rw [← hwm, Rec.low_eq_mag (wfL w hws.1)]; omega
    -- a maximum of `-val` over the negative columns, by `of_filter` over all: a minimum of `val`
    have e : (L.filter (fun r => r.sg)).map (fun r => (r.low d : Int)) =
        (L.filter (fun r => r.sg)).map (fun r => -r.frag.val d) :=
      List.map_congr_left (fun r hr => by rw [Rec.val_eq, (List.mem_filter.mp hr).2]; simp)
    have h := (e ▸ hM).of_filter (fun r _ hs => by rw [Rec.val_eq, hs]; simp; omega)
    have e' : L.map ((fun x => -x) ∘ fun r : Rec => -r.frag.val d) = L.map (fun r => r.frag.val d) :=
      List.map_congr_left (fun r _ => Int.neg_neg _)
    rw [IsMax_iff_neg, List.map_map, e'] at h
    exact h.eq_minCount.symm
  · rw [if_neg hneg]
    have e : L.map (fun r => (r.low d : Int)) = L.map (fun r => r.frag.val d) :=
      List.map_congr_left (fun r hr => by
        cases hs : r.sg
        · rw [Rec.val_eq, hs]; rfl
        · exact absurd (List.length_pos_of_mem (List.mem_filter.mpr ⟨hr, hs⟩)) hneg)
    exact (e ▸ minUnsigned_isMin d hne).eq_minCount.symm

theorem fragMax_eq (cols : List Rec) (flt : Filter) (d : Nat) (wf : ∀ r ∈ cols, RecWF r d) :
    fragMax cols flt d = Spec.maxCount ((considerOf cols flt).map (fun r => r.frag.val d)) := by
  simp only [fragMax]
  have wfL : ∀ r ∈ considerOf cols flt, RecWF r d := fun r hr => wf r (List.mem_filter.mp hr).1
  generalize considerOf cols flt = L at wfL ⊢
  by_cases hemp : L.length = 0
  · rw [if_pos hemp, List.eq_nil_of_length_eq_zero hemp]; rfl
  have hne : L ≠ [] := fun h => hemp (h ▸ rfl)
  rw [if_neg hemp]
  by_cases hpos : (L.filter (fun r => !r.sg)).length = 0
  · rw [if_pos hpos]
    have e : L.map (fun r => (r.low d : Int)) = (L.map (fun r => r.frag.val d)).map (- ·) := by
      rw [List.map_map]
      refine List.map_congr_left (fun r hr => ?_)
      cases hs : r.sg
      · have := List.length_pos_of_mem (List.mem_filter.mpr ⟨hr, by simp [hs]⟩ : r ∈ L.filter (fun r => !r.sg))
        omega
      · simp [Rec.val_eq, hs]
    have h := e ▸ minUnsigned_isMin d hne
    exact (IsMax_iff_neg.mpr (by rw [Int.neg_neg]; exact h)).eq_maxCount.symm
  · rw [if_neg hpos]
    have hM := maxUnsigned_isMax d (fun h => hpos (h ▸ rfl) : L.filter (fun r => !r.sg) ≠ [])
    have e : (L.filter (fun r => !r.sg)).map (fun r => (r.low d : Int)) =
        (L.filter (fun r => !r.sg)).map (fun r => r.frag.val d) :=
      List.map_congr_left (fun r hr => by
        have := (List.mem_filter.mp hr).2
        rw [Rec.val_eq, if_neg (by simpa using this)])
    refine ((e ▸ hM).of_filter (fun r hr hs => ?_)).eq_maxCount.symm
    have hs' : r.sg = true := by simpa using hs
    have := (wfL r hr).sg_nz hs'
    rw [Rec.val_eq, hs', ← Rec.low_eq_mag (wfL r hr)] at *
    simp; omega

end PV.C14
