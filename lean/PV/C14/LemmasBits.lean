/-
C14, bit level, one column.  The loops walk the bit planes from the top; `cmpLT_succ` (the top bit
decides unless the two top bits agree) makes every round a propositional identity in `filter`,
`keep` and the row bit.
-/
import PV.C14.Model
namespace PV.C14
open BA

/-- The number formed by bits `0..n-1`. -/
def lowBits (bit : Nat → Bool) : Nat → Nat
  | 0 => 0
  | n+1 => lowBits bit n + (if bit n then 2^n else 0)

theorem lowBits_lt (bit : Nat → Bool) (n : Nat) : lowBits bit n < 2^n := by
  induction n with
  | zero => simp [lowBits]
  | succ n ih =>
    simp only [lowBits, Nat.pow_succ]
    split <;> omega

theorem lowBits_succ_eq (a b : Nat → Bool) (n : Nat) :
    lowBits a (n+1) = lowBits b (n+1) ↔ (a n = b n ∧ lowBits a n = lowBits b n) := by
  have ha := lowBits_lt a n
  have hb := lowBits_lt b n
  simp only [lowBits]
  cases a n <;> cases b n <;> simp <;> omega

theorem eqLoop_bool (f : Frag Bool) (p : Nat) (n : Nat) (b : Bool) :
    eqLoop f p n b = true ↔ (b = true ∧ lowBits f.bit n = lowBits p.testBit n) := by
  induction n generalizing b with
  | zero => simp [eqLoop, lowBits]
  | succ n ih =>
    rw [eqLoop, ih, lowBits_succ_eq]
    cases p.testBit n <;> cases b <;> cases f.bit n <;> simp [BA.inter, BA.diff]

/-- `v ⋈ q` for LT/LTE. -/
def cmpLT (eq : Bool) (v q : Nat) : Prop := if eq then v ≤ q else v < q

theorem cmpLT_succ (eq : Bool) (a b : Nat → Bool) (n : Nat) :
    cmpLT eq (lowBits a (n+1)) (lowBits b (n+1)) ↔
      (a n = false ∧ b n = true) ∨ (a n = b n ∧ cmpLT eq (lowBits a n) (lowBits b n)) := by
  have ha := lowBits_lt a n
  have hb := lowBits_lt b n
  simp only [cmpLT, lowBits]
  cases eq <;> cases a n <;> cases b n <;> simp <;> omega

theorem cmpLT_zero (eq : Bool) (a b : Nat → Bool) : cmpLT eq (lowBits a 0) (lowBits b 0) ↔ eq = true := by
  cases eq <;> simp [cmpLT, lowBits]

/-- `v ⋈ q` for GT/GTE. -/
def cmpGT (eq : Bool) (v q : Nat) : Prop := if eq then v ≥ q else v > q

theorem cmpGT_iff (eq : Bool) (v q : Nat) : cmpGT eq v q ↔ cmpLT eq q v := Iff.rfl

/-! The loops read their state as `filter ∧ (keep ∨ the bits to come compare as wanted)`.  `hn` says
that the round is not the early exit of a strict comparison at bit 0. -/

theorem keep_or_iff {f k : Bool} (hk : k = true → f = true) (C : Prop) :
    (k = true ∨ (f = true ∧ C)) ↔ (f = true ∧ (k = true ∨ C)) := by
  revert hk; cases f <;> cases k <;> simp

theorem ltRound (t f k r : Bool) (C : Prop) :
    ((if t then f else diff f (diff r k)) = true ∧ ((if t then union k (diff f r) else k) = true ∨ C)) ↔
      (f = true ∧ (k = true ∨ (r = false ∧ t = true) ∨ (r = t ∧ C))) := by
  cases t <;> cases f <;> cases k <;> cases r <;> simp [BA.diff, BA.union]

theorem ltRound_keep (t : Bool) {f k : Bool} (r : Bool) (hk : k = true → f = true) :
    (if t then union k (diff f r) else k) = true → (if t then f else diff f (diff r k)) = true := by
  revert hk; cases t <;> cases f <;> cases k <;> simp [BA.diff, BA.union]

theorem gtRound (t f k r : Bool) (C : Prop) :
    ((if t then diff f (diff (diff f r) k) else f) = true ∧
        ((if t then k else union k (inter f r)) = true ∨ C)) ↔
      (f = true ∧ (k = true ∨ (t = false ∧ r = true) ∨ (t = r ∧ C))) := by
  cases t <;> cases f <;> cases k <;> cases r <;> simp [BA.diff, BA.union, BA.inter]

theorem gtRound_keep (t : Bool) {f k : Bool} (r : Bool) (hk : k = true → f = true) :
    (if t then k else union k (inter f r)) = true → (if t then diff f (diff (diff f r) k) else f) = true := by
  revert hk; cases t <;> cases f <;> cases k <;> simp [BA.diff, BA.union, BA.inter]

theorem earlyExit_false {eq : Bool} {n : Nat} (hn : eq = true ∨ 1 ≤ n) : (decide (n = 0) && !eq) = false := by
  rcases hn with rfl | h
  · simp
  · simp; omega

section Rounds
variable {α : Type} [BA α] (F : Frag α) (p : Nat) (eq : Bool)

theorem ltU_succ {n : Nat} (hn : eq = true ∨ 1 ≤ n) (filter keep : α) :
    ltU F p eq (n+1) filter keep false =
      ltU F p eq n (if p.testBit n then filter else diff filter (diff (F.bit n) keep))
        (if p.testBit n then union keep (diff filter (F.bit n)) else keep) false := by
  have h0 := earlyExit_false hn
  rw [ltU]
  simp only [Bool.false_and, h0, Bool.false_eq_true, if_false]
  cases p.testBit n
  · simp
  · cases n with
    | zero =>
      have he : eq = true := hn.resolve_right (Nat.not_succ_le_zero 0)
      subst he; simp [ltU]
    | succ m => simp

theorem gtU_succ {n : Nat} (hn : eq = true ∨ 1 ≤ n) (filter keep : α) :
    gtU F p eq (n+1) filter keep =
      gtU F p eq n (if p.testBit n then diff filter (diff (diff filter (F.bit n)) keep) else filter)
        (if p.testBit n then keep else union keep (inter filter (F.bit n))) := by
  have h0 := earlyExit_false hn
  rw [gtU]
  simp only [h0, Bool.false_eq_true, if_false]
  cases p.testBit n
  · cases n with
    | zero =>
      have he : eq = true := hn.resolve_right (Nat.not_succ_le_zero 0)
      subst he; simp [gtU]
    | succ m => simp
  · simp

theorem btwU_succ (lo hi n : Nat) (filter k1 k2 : α) :
    btwU F lo hi (n+1) filter k1 k2 =
      let f1 := if lo.testBit n then diff filter (diff (diff filter (F.bit n)) k1) else filter
      btwU F lo hi n (if hi.testBit n then f1 else diff f1 (diff (F.bit n) k2))
        (if lo.testBit n then k1 else union k1 (inter filter (F.bit n)))
        (if hi.testBit n then union k2 (diff f1 (F.bit n)) else k2) := by
  rw [btwU]
  cases n with
  | zero => cases hi.testBit 0 <;> rfl
  | succ m => cases hi.testBit (m+1) <;> cases lo.testBit (m+1) <;> simp

end Rounds

theorem ltU_nolz (f : Frag Bool) (p : Nat) (eq : Bool) (n : Nat) (filter keep : Bool)
    (hk : keep = true → filter = true) (hn : eq = true ∨ 1 ≤ n) :
    ltU f p eq n filter keep false = true ↔
      (keep = true ∨ (filter = true ∧ cmpLT eq (lowBits f.bit n) (lowBits p.testBit n))) := by
  induction n generalizing filter keep with
  | zero =>
    have he : eq = true := hn.resolve_right (Nat.not_succ_le_zero 0)
    subst he
    revert hk; cases keep <;> simp [ltU, cmpLT_zero]
  | succ n ih =>
    by_cases hn' : eq = true ∨ 1 ≤ n
    · have hk' := ltRound_keep (p.testBit n) (f.bit n) hk
      rw [ltU_succ f p eq hn', ih _ _ hk' hn', keep_or_iff hk', keep_or_iff hk, cmpLT_succ]
      exact ltRound ..
    · have he : eq = false := by cases eq; rfl; exact absurd (Or.inl rfl) hn'
      have h0 : n = 0 := by omega
      subst he h0
      simp only [ltU, cmpLT_succ, cmpLT_zero]
      revert hk; cases p.testBit 0 <;> cases keep <;> simp [BA.diff]

theorem ltU_lz (f : Frag Bool) (p : Nat) (eq : Bool) (n : Nat) (filter : Bool) :
    ltU f p eq n filter false true = true ↔
      (filter = true ∧ cmpLT eq (lowBits f.bit n) (lowBits p.testBit n)) := by
  induction n generalizing filter with
  | zero => cases eq <;> simp [ltU, cmpLT_zero, BA.empty]
  | succ n ih =>
    cases ht : p.testBit n
    · -- predicate bit 0: still leading zeros
      rw [ltU]
      simp only [ht, Bool.not_false, Bool.and_self, if_true]
      rw [ih, cmpLT_succ, ht]
      cases filter <;> simp [BA.diff]
    · -- first predicate bit 1: from here on it is `ltU_nolz`
      have e : ltU f p eq (n+1) filter false true = ltU f p eq (n+1) filter false false := by
        rw [ltU, ltU]; simp [ht]
      rw [e, ltU_nolz f p eq (n+1) filter false (by simp) (Or.inr (by omega))]
      simp

theorem gtU_spec (f : Frag Bool) (p : Nat) (eq : Bool) (n : Nat) (filter keep : Bool)
    (hk : keep = true → filter = true) (hn : eq = true ∨ 1 ≤ n) :
    gtU f p eq n filter keep = true ↔
      (keep = true ∨ (filter = true ∧ cmpGT eq (lowBits f.bit n) (lowBits p.testBit n))) := by
  rw [cmpGT_iff]
  induction n generalizing filter keep with
  | zero =>
    have he : eq = true := hn.resolve_right (Nat.not_succ_le_zero 0)
    subst he
    revert hk; cases keep <;> simp [gtU, cmpLT_zero]
  | succ n ih =>
    by_cases hn' : eq = true ∨ 1 ≤ n
    · have hk' := gtRound_keep (p.testBit n) (f.bit n) hk
      rw [gtU_succ f p eq hn', ih _ _ hk' hn', keep_or_iff hk', keep_or_iff hk, cmpLT_succ]
      exact gtRound ..
    · have he : eq = false := by cases eq; rfl; exact absurd (Or.inl rfl) hn'
      have h0 : n = 0 := by omega
      subst he h0
      simp only [gtU, cmpLT_succ, cmpLT_zero]
      revert hk; cases p.testBit 0 <;> cases keep <;> cases filter <;> simp [BA.diff]

theorem gtU_empty (f : Frag Bool) (p : Nat) (eq : Bool) (n : Nat) (filter : Bool) :
    gtU f p eq n filter false = true ↔
      (filter = true ∧ cmpGT eq (lowBits f.bit n) (lowBits p.testBit n)) := by
  cases n with
  | zero => cases eq <;> simp [gtU, cmpGT, lowBits, BA.empty]
  | succ n => simp [gtU_spec f p eq (n+1) filter false (by simp) (Or.inr (by omega))]

theorem btwU_spec (f : Frag Bool) (lo hi : Nat) (n : Nat) (filter k1 k2 : Bool) :
    btwU f lo hi n filter k1 k2 = true ↔
      (filter = true ∧ (k1 = true ∨ lowBits f.bit n ≥ lowBits lo.testBit n) ∧
        (k2 = true ∨ lowBits f.bit n ≤ lowBits hi.testBit n)) := by
  induction n generalizing filter k1 k2 with
  | zero => simp [btwU, lowBits]
  | succ n ih =>
    -- lower bound: a `gtU` round; upper bound: a `ltU` round on the filter it leaves
    have hA : lowBits f.bit (n+1) ≥ lowBits lo.testBit (n+1) ↔ _ := cmpLT_succ true lo.testBit f.bit n
    have hB : lowBits f.bit (n+1) ≤ lowBits hi.testBit (n+1) ↔ _ := cmpLT_succ true f.bit hi.testBit n
    rw [btwU_succ, ih, hA, hB]
    refine and_left_comm.trans ?_
    rw [ltRound]
    refine and_left_comm.trans ?_
    rw [← and_assoc, gtRound, and_assoc]
    exact Iff.rfl

theorem lowBits_testBit (p n : Nat) : lowBits p.testBit n = p % 2^n := by
  induction n with
  | zero => simp [lowBits, Nat.mod_one]
  | succ n ih =>
    simp only [lowBits, ih, Nat.mod_pow_succ, Nat.testBit_eq_decide_div_mod_eq]
    have h : p / 2^n % 2 < 2 := Nat.mod_lt _ (by omega)
    by_cases h1 : p / 2^n % 2 = 1
    · simp [h1]
    · have : p / 2^n % 2 = 0 := by omega
      simp [this]

theorem lowBits_testBit_of_lt {p n : Nat} (h : p < 2^n) : lowBits p.testBit n = p := by
  rw [lowBits_testBit, Nat.mod_eq_of_lt h]

end PV.C14
