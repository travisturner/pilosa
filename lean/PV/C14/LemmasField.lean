/-
C14, stored columns and the field: round trip, bit-depth growth, the invariant of reachable fields.
-/
import PV.C14.LemmasQuery
namespace PV.C14
open BA

theorem Rec.frag_mag (r : Rec) (d : Nat) : r.frag.mag d = r.mag % 2^d := by
  simp [Frag.mag, Rec.frag, lowBits_testBit]

theorem Rec.value_eq (r : Rec) (d : Nat) :
    r.value d = if r.ex then some (r.frag.val d) else none := by
  unfold Rec.value Frag.val
  rw [Rec.frag_mag]
  cases r.ex <;> rfl

theorem Rec.set_mag (r : Rec) (d : Nat) (v : Int) (clear : Bool) :
    (r.set d v clear).mag % 2^d = v.natAbs % 2^d := by
  simp only [Rec.set]
  rw [Nat.add_comm, Nat.add_mul_mod_self_right]
  exact Nat.mod_mod _ _

theorem Rec.val_set (r : Rec) (d : Nat) (v : Int) (hv : v.natAbs < 2^d) :
    (r.set d v false).frag.val d = v := by
  have hm := Rec.set_mag r d v false
  rw [Nat.mod_eq_of_lt hv] at hm
  simp only [Frag.val, Rec.frag_mag, hm]
  simp only [Rec.set, Rec.frag]
  by_cases h : v ≥ 0 <;> simp [h] <;> omega

theorem Rec.value_set (r : Rec) (d : Nat) (v : Int) (hv : v.natAbs < 2^d) :
    (r.set d v false).value d = some v := by
  rw [Rec.value_eq, Rec.val_set r d v hv]; rfl

theorem Rec.value_clear (r : Rec) (d : Nat) (v : Int) : (r.set d v true).value d = none := by
  simp [Rec.value, Rec.set]

/-- Invariant of a stored column at bit depth `d` (`ColWF` on its rows, and no bit at or above `d`). -/
structure RecWF (r : Rec) (d : Nat) : Prop where
  mag_lt : r.mag < 2^d
  sg_ex : r.sg = true → r.ex = true
  sg_nz : r.sg = true → r.mag ≠ 0

theorem RecWF.colWF {r : Rec} {d : Nat} (h : RecWF r d) : ColWF r.frag d :=
  ⟨h.sg_ex, by intro hs; rw [Rec.frag_mag, Nat.mod_eq_of_lt h.mag_lt]; exact h.sg_nz hs⟩

theorem RecWF.set {r : Rec} {d : Nat} (h : RecWF r d) (v : Int) (clear : Bool) (hv : v.natAbs < 2^d) :
    RecWF (r.set d v clear) d := by
  have h0 : r.mag / 2^d = 0 := Nat.div_eq_of_lt h.mag_lt
  have hm : (r.set d v clear).mag = v.natAbs := by
    simp only [Rec.set, h0, Nat.zero_mul, Nat.zero_add]; exact Nat.mod_eq_of_lt hv
  refine ⟨by rw [hm]; exact hv, ?_, ?_⟩
  · simp only [Rec.set]; cases clear <;> simp
  · rw [hm]; simp only [Rec.set]; cases clear <;> simp <;> omega

theorem RecWF.mono {r : Rec} {d d' : Nat} (h : RecWF r d) (hd : d ≤ d') : RecWF r d' :=
  ⟨Nat.lt_of_lt_of_le h.mag_lt (Nat.pow_le_pow_right (by omega) hd), h.sg_ex, h.sg_nz⟩

theorem RecWF.val_mono {r : Rec} {d d' : Nat} (h : RecWF r d) (hd : d ≤ d') :
    r.frag.val d' = r.frag.val d := by
  have h' := (h.mono hd).mag_lt
  simp only [Frag.val, Rec.frag_mag, Nat.mod_eq_of_lt h.mag_lt, Nat.mod_eq_of_lt h']

theorem RecWF.value_mono {r : Rec} {d d' : Nat} (h : RecWF r d) (hd : d ≤ d') : r.value d' = r.value d := by
  rw [Rec.value_eq, Rec.value_eq, h.val_mono hd]

theorem getRec_putRec (cols : List Rec) (r : Rec) (c : Nat) :
    getRec (putRec cols r) c = if r.col = c then r else getRec cols c := by
  induction cols with
  | nil => simp only [putRec, getRec]
  | cons x xs ih =>
    simp only [putRec]
    split
    · simp only [getRec]
    · split
      · rename_i _ h2
        simp only [getRec, ← h2]
        by_cases hc : r.col = c <;> simp only [hc, if_true, if_false]
      · rename_i _ h2
        simp only [getRec, ih]
        by_cases hx : x.col = c
        · rw [if_pos hx, if_neg (fun e => h2 (e.trans hx.symm)), if_pos hx]
        · rw [if_neg hx, if_neg hx]

theorem getRec_col (cols : List Rec) (c : Nat) : (getRec cols c).col = c := by
  induction cols with
  | nil => rfl
  | cons x xs ih =>
    rw [getRec]
    split
    · assumption
    · exact ih

theorem bitDepthLoop_props (v : Nat) (fuel i : Nat) (hi : i + fuel = 63) :
    bitDepthLoop v fuel i ≤ 63 ∧ (v < 2^63 → v < 2 ^ bitDepthLoop v fuel i) ∧
      (2^62 ≤ v → bitDepthLoop v fuel i = 63) := by
  induction fuel generalizing i with
  | zero => exact ⟨Nat.le_refl _, id, fun _ => rfl⟩
  | succ n ih =>
    rw [bitDepthLoop]
    split
    · rename_i h
      refine ⟨by omega, fun _ => h, fun hv => ?_⟩
      have : 2^i ≤ 2^62 := Nat.pow_le_pow_right (by omega) (by omega)
      omega
    · exact ih (i+1) (by omega)

theorem bitDepth_spec {v : Nat} (hv : v < 2^63) : v < 2 ^ bitDepth v := (bitDepthLoop_props v 63 0 rfl).2.1 hv
theorem bitDepth_le (v : Nat) : bitDepth v ≤ 63 := (bitDepthLoop_props v 63 0 rfl).1
theorem bitDepth_big {v : Nat} (hv : 2^62 ≤ v) : bitDepth v = 63 := (bitDepthLoop_props v 63 0 rfl).2.2 hv

theorem natAbs_lt_of_bitDepthInt_le {x : Int} {d : Nat} (hx : x.natAbs < 2^63) (h : bitDepthInt x ≤ d) :
    x.natAbs < 2^d :=
  Nat.lt_of_lt_of_le (bitDepth_spec hx) (Nat.pow_le_pow_right (by omega) h)

theorem u64_abs_or_big {x : Int} (hx : x.natAbs < 2^63) : u64 x = x.natAbs ∨ 2^62 ≤ u64 x := by
  simp only [u64]; omega

theorem growDepth_ok (depth : Nat) (value bv : Int) (hb : bv.natAbs < 2^63) :
    depth ≤ growDepth depth value bv ∧ bv.natAbs < 2 ^ growDepth depth value bv := by
  have hs := bitDepth_spec hb
  unfold growDepth
  by_cases hgt : bitDepthInt bv > depth
  · -- whichever sign the code tests, `uvalue` is `|bv|` or needs all 63 bits
    have hu : ∀ u, (u = bv.natAbs ∨ 2^62 ≤ u) → depth ≤ bitDepth u ∧ bv.natAbs < 2 ^ bitDepth u := by
      rintro u (rfl | hu)
      · exact ⟨Nat.le_of_lt hgt, hs⟩
      · rw [bitDepth_big hu]; exact ⟨Nat.le_trans (Nat.le_of_lt hgt) (bitDepth_le _), hb⟩
    rw [if_pos hgt]
    split
    · exact hu _ (Int.natAbs_neg bv ▸ u64_abs_or_big (by rwa [Int.natAbs_neg]))
    · exact hu _ (u64_abs_or_big hb)
  · rw [if_neg hgt]
    exact ⟨Nat.le_refl _, natAbs_lt_of_bitDepthInt_le hb (Nat.le_of_not_lt hgt)⟩

theorem mem_putRec {cols : List Rec} {r x : Rec} (h : x ∈ putRec cols r) : x = r ∨ x ∈ cols := by
  induction cols with
  | nil => exact Or.inl (List.mem_singleton.mp h)
  | cons y ys ih =>
    simp only [putRec] at h
    split at h
    · exact List.mem_cons.mp h
    · split at h
      · exact (List.mem_cons.mp h).imp_right (List.mem_cons_of_mem _)
      · rcases List.mem_cons.mp h with h | h
        · exact Or.inr (h ▸ List.mem_cons_self ..)
        · exact (ih h).imp_right (List.mem_cons_of_mem _)

theorem getRec_mem_or_default (cols : List Rec) (c : Nat) :
    getRec cols c ∈ cols ∨ getRec cols c = ⟨c, false, false, 0⟩ := by
  induction cols with
  | nil => exact Or.inr rfl
  | cons x xs ih =>
    simp only [getRec]
    split
    · exact Or.inl (List.mem_cons_self ..)
    · rcases ih with h | h
      · exact Or.inl (List.mem_cons_of_mem _ h)
      · exact Or.inr h

theorem RecWF.default (c d : Nat) : RecWF ⟨c, false, false, 0⟩ d :=
  ⟨Nat.pow_pos (by omega), by simp, by simp⟩

/-- What every reachable int field satisfies. -/
structure Field.WF (f : Field) : Prop where
  recs : ∀ r ∈ f.cols, RecWF r f.g.depth
  rng : ∀ r ∈ f.cols, r.ex = true →
    f.g.min ≤ r.frag.val f.g.depth + f.g.base ∧ r.frag.val f.g.depth + f.g.base ≤ f.g.max

theorem Field.WF.setCol {f : Field} (h : f.WF) (c : Nat) (d' : Nat) (hd : f.g.depth ≤ d') (bv : Int)
    (clear : Bool) (hb : bv.natAbs < 2^d')
    (hr : f.g.min ≤ bv + f.g.base ∧ bv + f.g.base ≤ f.g.max) :
    Field.WF { g := { f.g with depth := d' }, cols := (PV.C14.setCol f.cols c d' bv clear).1 } := by
  have hold : RecWF (getRec f.cols c) d' := by
    rcases getRec_mem_or_default f.cols c with hm | hm
    · exact (h.recs _ hm).mono hd
    · rw [hm]; exact RecWF.default c d'
  constructor
  · intro r hr'
    simp only [PV.C14.setCol] at hr'
    rcases mem_putRec hr' with rfl | hm
    · exact hold.set bv clear hb
    · exact (h.recs r hm).mono hd
  · intro r hr' hex
    simp only [PV.C14.setCol] at hr'
    rcases mem_putRec hr' with rfl | hm
    · cases clear
      · simp only [Rec.val_set _ _ _ hb]; exact hr
      · simp [Rec.set] at hex
    · simp only [(h.recs r hm).val_mono hd]
      exact h.rng r hm hex

theorem Field.WF.setValue {f : Field} (h : f.WF) (c : Nat) (value : Int)
    (hb : (value - f.g.base).natAbs < 2^63) : (f.setValue c value).1.WF := by
  simp only [Field.setValue]
  split
  · exact h
  · split
    · exact h
    · have hg := growDepth_ok f.g.depth value (value - f.g.base) hb
      exact h.setCol c _ hg.1 _ false hg.2 (by omega)

theorem setValue_depth_le (f : Field) (c : Nat) (value : Int) (hb : (value - f.g.base).natAbs < 2^63) :
    f.g.depth ≤ (f.setValue c value).1.g.depth := by
  simp only [Field.setValue]
  split
  · exact Nat.le_refl _
  · split
    · exact Nat.le_refl _
    · exact (growDepth_ok f.g.depth value (value - f.g.base) hb).1

/-- Read `¬ lt a b` as "`a` does not beat `b`". -/
theorem foldl_pick_spec (lt : Int → Int → Prop) [DecidableRel lt] (irrefl : ∀ a, ¬ lt a a)
    (loser : ∀ x a r, lt x a → ¬ lt x r → ¬ lt a r) (challenger : ∀ x a r, ¬ lt x a → ¬ lt a r → ¬ lt x r)
    (l : List Int) (a : Int) :
    l.foldl (fun m v => if lt v m then v else m) a ∈ a :: l ∧
    ∀ v ∈ a :: l, ¬ lt v (l.foldl (fun m v => if lt v m then v else m) a) := by
  induction l generalizing a with
  | nil => exact ⟨List.mem_cons_self .., fun v hv => List.mem_singleton.mp hv ▸ irrefl a⟩
  | cons x xs ih =>
    rw [List.foldl_cons]
    obtain ⟨hm, hb⟩ := ih (if lt x a then x else a)
    generalize xs.foldl (fun m v => if lt v m then v else m) (if lt x a then x else a) = r at hm hb ⊢
    have hr := hb _ (List.mem_cons_self ..)
    have hxa : ¬ lt x r ∧ ¬ lt a r := by
      by_cases hx : lt x a
      · rw [if_pos hx] at hr; exact ⟨hr, loser _ _ _ hx hr⟩
      · rw [if_neg hx] at hr; exact ⟨challenger _ _ _ hx hr, hr⟩
    refine ⟨?_, fun v hv => ?_⟩
    · rcases List.mem_cons.mp hm with h | h
      · rw [h]; split
        · exact List.mem_cons_of_mem _ (List.mem_cons_self ..)
        · exact List.mem_cons_self ..
      · exact List.mem_cons_of_mem _ (List.mem_cons_of_mem _ h)
    · rcases List.mem_cons.mp hv with rfl | hv
      · exact hxa.2
      · rcases List.mem_cons.mp hv with rfl | hv
        · exact hxa.1
        · exact hb v (List.mem_cons_of_mem _ hv)

theorem listMin_spec (l : List Int) (hl : l ≠ []) : listMin l ∈ l ∧ ∀ v ∈ l, listMin l ≤ v := by
  cases l with
  | nil => exact absurd rfl hl
  | cons x xs =>
    have h := foldl_pick_spec (· < ·) (by intros; omega) (by intros; omega) (by intros; omega) xs x
    exact ⟨h.1, fun v hv => Int.not_lt.mp (h.2 v hv)⟩

theorem listMax_spec (l : List Int) (hl : l ≠ []) : listMax l ∈ l ∧ ∀ v ∈ l, v ≤ listMax l := by
  cases l with
  | nil => exact absurd rfl hl
  | cons x xs =>
    have h := foldl_pick_spec (· > ·) (by intros; omega) (by intros; omega) (by intros; omega) xs x
    exact ⟨h.1, fun v hv => Int.not_lt.mp (h.2 v hv)⟩

theorem firstBad_ok {g : BSI} {pairs : List (Nat × Int)} (h : firstBad g pairs = .ok) :
    ∀ p ∈ pairs, g.min ≤ p.2 ∧ p.2 ≤ g.max := by
  induction pairs with
  | nil => simp
  | cons x xs ih =>
    obtain ⟨c, v⟩ := x
    simp only [firstBad] at h
    split at h
    · cases h
    · split at h
      · cases h
      · intro p hp
        simp only [List.mem_cons] at hp
        rcases hp with rfl | hp
        · exact ⟨by simp; omega, by simp; omega⟩
        · exact ih h p hp

theorem Field.WF.grow {f : Field} (h : f.WF) (d' : Nat) (hd : f.g.depth ≤ d') :
    Field.WF { g := { f.g with depth := d' }, cols := f.cols } :=
  ⟨fun r hr => (h.recs r hr).mono hd,
   fun r hr hex => by simp only [(h.recs r hr).val_mono hd]; exact h.rng r hr hex⟩

theorem Field.WF.importCols {f : Field} (h : f.WF) (pairs : List (Nat × Int)) (clear : Bool)
    (hp : ∀ p ∈ pairs, p.2.natAbs < 2^f.g.depth ∧ f.g.min ≤ p.2 + f.g.base ∧ p.2 + f.g.base ≤ f.g.max) :
    Field.WF { g := f.g, cols := PV.C14.importCols f.cols pairs f.g.depth clear } := by
  induction pairs generalizing f with
  | nil => exact h
  | cons x xs ih =>
    simp only [PV.C14.importCols, List.foldl_cons]
    have hx := hp x (List.mem_cons_self ..)
    have h1 := h.setCol x.1 f.g.depth (Nat.le_refl _) x.2 clear hx.1 hx.2
    exact ih h1 (fun p hp' => hp p (List.mem_cons_of_mem _ hp'))

/-- Apart from its caller so that `omega` sees four facts only. -/
theorem natAbs_sub_lt_of_between {mn mx v b : Int} {X : Nat} (h1 : mn ≤ v) (h2 : v ≤ mx)
    (b1 : (mn - b).natAbs < X) (b2 : (mx - b).natAbs < X) : (v - b).natAbs < X := by
  omega

theorem Field.WF.importValue {f : Field} (h : f.WF) (pairs : List (Nat × Int)) (clear : Bool)
    (hb : ∀ p ∈ pairs, (p.2 - f.g.base).natAbs < 2^63) : (f.importValue pairs clear).1.WF := by
  simp only [Field.importValue]
  generalize hreq : Nat.max (bitDepthInt (listMin (pairs.map (·.2)) - f.g.base))
    (bitDepthInt (listMax (pairs.map (·.2)) - f.g.base)) = required
  generalize hdep : (if required > f.g.depth then required else f.g.depth) = depth
  have hd : f.g.depth ≤ depth := by rw [← hdep]; split <;> omega
  have hrd : required ≤ depth := by rw [← hdep]; split <;> omega
  have hg := h.grow depth hd
  split
  · rename_i hok
    -- every value lies between the least and the greatest, which the depth holds
    have key : ∀ p ∈ pairs, (p.2 - f.g.base).natAbs < 2^depth := by
      intro p hp
      have hpv : p.2 ∈ pairs.map (·.2) := List.mem_map_of_mem hp
      obtain ⟨hmn, hle⟩ := listMin_spec _ (List.ne_nil_of_mem hpv)
      obtain ⟨hmx, hge⟩ := listMax_spec _ (List.ne_nil_of_mem hpv)
      obtain ⟨q1, hq1, e1⟩ := List.mem_map.mp hmn
      obtain ⟨q2, hq2, e2⟩ := List.mem_map.mp hmx
      have b1 := natAbs_lt_of_bitDepthInt_le (e1 ▸ hb q1 hq1)
        (Nat.le_trans (Nat.le_max_left ..) (hreq ▸ hrd))
      have b2 := natAbs_lt_of_bitDepthInt_le (e2 ▸ hb q2 hq2)
        (Nat.le_trans (Nat.le_max_right ..) (hreq ▸ hrd))
      exact natAbs_sub_lt_of_between (hle _ hpv) (hge _ hpv) b1 b2
    refine hg.importCols (pairs.map (fun p => (p.1, p.2 - f.g.base))) clear (fun p hp => ?_)
    obtain ⟨q, hq, rfl⟩ := List.mem_map.mp hp
    have : f.g.min ≤ q.2 ∧ q.2 ≤ f.g.max := firstBad_ok hok q hq
    exact ⟨key q hq, by simp; omega, by simp; omega⟩
  · exact hg

end PV.C14
