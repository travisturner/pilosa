/-
C14: every generic range algorithm, run on a fragment (rows = `κ → Bool`), gives at column `c` what
the same algorithm gives on that column alone (rows = `Bool`).  The control flow never looks at a
row, so evaluation at `c` moves through every `if` (`ite_at`); at the leaves the two sides are the
pointwise operations unfolded.
-/
import PV.C14.Model
namespace PV.C14
open BA
variable {κ : Type}

theorem ite_at {β : Type} (P : Prop) [Decidable P] (f g : κ → β) (c : κ) :
    (if P then f else g) c = if P then f c else g c := by
  split <;> rfl

theorem union_at (a b : κ → Bool) (c : κ) : union a b c = (a c || b c) := rfl
theorem diff_at (a b : κ → Bool) (c : κ) : diff a b c = (a c && !b c) := rfl

theorem eqLoop_at (F : Frag (κ → Bool)) (p n : Nat) (b : κ → Bool) (c : κ) :
    eqLoop F p n b c = eqLoop (F.at c) p n (b c) := by
  induction n generalizing b with
  | zero => rfl
  | succ n ih => simp only [eqLoop, ih, ite_at]; rfl

theorem ltU_at (F : Frag (κ → Bool)) (p : Nat) (eq : Bool) (n : Nat) (filter keep : κ → Bool) (lz : Bool) (c : κ) :
    ltU F p eq n filter keep lz c = ltU (F.at c) p eq n (filter c) (keep c) lz := by
  induction n generalizing filter keep lz with
  | zero => simp only [ltU, ite_at]; rfl
  | succ n ih => simp only [ltU, ite_at, ih]; rfl

theorem gtU_at (F : Frag (κ → Bool)) (p : Nat) (eq : Bool) (n : Nat) (filter keep : κ → Bool) (c : κ) :
    gtU F p eq n filter keep c = gtU (F.at c) p eq n (filter c) (keep c) := by
  induction n generalizing filter keep with
  | zero => simp only [gtU, ite_at]; rfl
  | succ n ih => simp only [gtU, ite_at, ih]; rfl

theorem btwU_at (F : Frag (κ → Bool)) (lo hi : Nat) (n : Nat) (filter k1 k2 : κ → Bool) (c : κ) :
    btwU F lo hi n filter k1 k2 c = btwU (F.at c) lo hi n (filter c) (k1 c) (k2 c) := by
  induction n generalizing filter k1 k2 with
  | zero => rfl
  | succ n ih => simp only [btwU, ite_at, ih, diff_at, union_at]; rfl

theorem rangeEQ_at (F : Frag (κ → Bool)) (d : Nat) (p : Int) (c : κ) :
    rangeEQ F d p c = rangeEQ (F.at c) d p := by
  simp only [rangeEQ, eqLoop_at, ite_at]; rfl

theorem rangeLT_at (F : Frag (κ → Bool)) (d : Nat) (p : Int) (eq : Bool) (c : κ) :
    rangeLT F d p eq c = rangeLT (F.at c) d p eq := by
  simp only [rangeLT, ite_at, gtU_at]
  rw [union_at, ltU_at]; rfl

theorem rangeGT_at (F : Frag (κ → Bool)) (d : Nat) (p : Int) (eq : Bool) (c : κ) :
    rangeGT F d p eq c = rangeGT (F.at c) d p eq := by
  simp only [rangeGT, ite_at, gtU_at]
  rw [union_at, ltU_at]; rfl

theorem rangeOp_at (F : Frag (κ → Bool)) (op : Op) (d : Nat) (p : Int) (c : κ) :
    rangeOp F op d p c = rangeOp (F.at c) op d p := by
  cases op
  · exact rangeEQ_at F d p c
  · show (F.ex c && !rangeEQ F d p c) = _; rw [rangeEQ_at]; rfl
  · exact rangeLT_at F d p false c
  · exact rangeLT_at F d p true c
  · exact rangeGT_at F d p false c
  · exact rangeGT_at F d p true c

theorem rangeBetween_at (F : Frag (κ → Bool)) (d : Nat) (lo hi : Int) (c : κ) :
    rangeBetween F d lo hi c = rangeBetween (F.at c) d lo hi := by
  simp only [rangeBetween, ite_at, btwU_at]
  rw [union_at, ltU_at, ltU_at]; rfl

theorem execRange_at (F : Frag (κ → Bool)) (g : BSI) (op : Op) (value : Int) (c : κ) :
    execRange F g op value c = execRange (F.at c) g op value := by
  simp only [execRange, ite_at, rangeOp_at]; rfl

theorem execBetween_at (F : Frag (κ → Bool)) (g : BSI) (lo hi : Int) (c : κ) :
    execBetween F g lo hi c = execBetween (F.at c) g lo hi := by
  simp only [execBetween, ite_at, rangeBetween_at]; rfl

end PV.C14
