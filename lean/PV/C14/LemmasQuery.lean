/-
C14, value level, one column: sign/magnitude composition and the executor's decision table.
-/
import PV.C14.LemmasBits
import PV.C14.Spec
namespace PV.C14
open BA

def Frag.mag (f : Frag Bool) (d : Nat) : Nat := lowBits f.bit d
def Frag.val (f : Frag Bool) (d : Nat) : Int := if f.sg then -(f.mag d : Int) else (f.mag d : Int)

/-- What the write paths maintain for every column: a sign bit only on columns that exist and
hold a non-zero magnitude. -/
structure ColWF (f : Frag Bool) (d : Nat) : Prop where
  sg_ex : f.sg = true → f.ex = true
  sg_nz : f.sg = true → f.mag d ≠ 0

theorem Frag.val_lt_iff {f : Frag Bool} {d : Nat} (wf : ColWF f d) (p : Int) (eq : Bool) :
    (if eq then f.val d ≤ p else f.val d < p) ↔
      if p ≥ 0 then (f.sg = true ∨ cmpLT eq (f.mag d) p.natAbs)
      else (f.sg = true ∧ cmpGT eq (f.mag d) p.natAbs) := by
  have hz := wf.sg_nz
  unfold Frag.val cmpLT cmpGT
  generalize f.mag d = m at *
  revert hz; cases eq <;> cases f.sg <;> simp <;> omega

theorem Frag.val_gt_iff {f : Frag Bool} {d : Nat} (wf : ColWF f d) (p : Int) (eq : Bool) :
    (if eq then f.val d ≥ p else f.val d > p) ↔
      if p ≥ 0 then (f.sg = false ∧ cmpGT eq (f.mag d) p.natAbs)
      else (f.sg = false ∨ cmpLT eq (f.mag d) p.natAbs) := by
  have hz := wf.sg_nz
  unfold Frag.val cmpLT cmpGT
  generalize f.mag d = m at *
  revert hz; cases eq <;> cases f.sg <;> simp <;> omega

theorem Frag.val_eq_iff {f : Frag Bool} {d : Nat} (wf : ColWF f d) (p : Int) :
    f.val d = p ↔ (f.sg = decide (p < 0) ∧ f.mag d = p.natAbs) := by
  have hz := wf.sg_nz
  unfold Frag.val
  generalize f.mag d = m at *
  revert hz; cases f.sg <;> simp <;> omega

theorem rangeEQ_bool (f : Frag Bool) (d : Nat) (p : Int) (hp : p.natAbs < 2^d) (wf : ColWF f d) :
    rangeEQ f d p = true ↔ (f.ex = true ∧ f.val d = p) := by
  have hs := wf.sg_ex
  rw [rangeEQ, eqLoop_bool, lowBits_testBit_of_lt hp, Frag.val_eq_iff wf, Frag.mag]
  by_cases h : p < 0 <;> simp only [h, if_true, if_false, decide_true, decide_false]
  · revert hs; cases f.sg <;> cases f.ex <;> simp [BA.inter]
  · revert hs; cases f.sg <;> cases f.ex <;> simp [BA.diff]

theorem rangeNEQ_bool (f : Frag Bool) (d : Nat) (p : Int) (hp : p.natAbs < 2^d) (wf : ColWF f d) :
    rangeNEQ f d p = true ↔ (f.ex = true ∧ f.val d ≠ p) := by
  have h := rangeEQ_bool f d p hp wf
  simp only [rangeNEQ, BA.diff, Bool.and_eq_true, Bool.not_eq_true', ← Bool.not_eq_true, h]
  exact ⟨fun ⟨h1, h2⟩ => ⟨h1, fun e => h2 ⟨h1, e⟩⟩, fun ⟨h1, h2⟩ => ⟨h1, fun e => h2 e.2⟩⟩

theorem rangeLT_bool (f : Frag Bool) (d : Nat) (p : Int) (eq : Bool) (hp : p.natAbs < 2^d) (wf : ColWF f d) :
    rangeLT f d p eq = true ↔ (f.ex = true ∧ (if eq then f.val d ≤ p else f.val d < p)) := by
  have hs := wf.sg_ex
  rw [rangeLT, Frag.val_lt_iff wf, Frag.mag]
  split
  · simp only [BA.union, BA.empty, Bool.or_eq_true, ltU_lz, lowBits_testBit_of_lt hp]
    revert hs; cases f.sg <;> cases f.ex <;> simp [BA.diff]
  · simp only [BA.empty, gtU_empty, lowBits_testBit_of_lt hp]
    revert hs; cases f.sg <;> cases f.ex <;> simp [BA.inter]

theorem rangeGT_bool (f : Frag Bool) (d : Nat) (p : Int) (eq : Bool) (hp : p.natAbs < 2^d) (wf : ColWF f d) :
    rangeGT f d p eq = true ↔ (f.ex = true ∧ (if eq then f.val d ≥ p else f.val d > p)) := by
  have hs := wf.sg_ex
  rw [rangeGT, Frag.val_gt_iff wf, Frag.mag]
  split
  · simp only [BA.empty, gtU_empty, lowBits_testBit_of_lt hp]
    revert hs; cases f.sg <;> cases f.ex <;> simp [BA.diff]
  · simp only [BA.union, BA.empty, Bool.or_eq_true, ltU_lz, lowBits_testBit_of_lt hp]
    revert hs; cases f.sg <;> cases f.ex <;> simp [BA.diff, BA.inter]

theorem rangeBetween_bool (f : Frag Bool) (d : Nat) (lo hi : Int) (hlo : lo.natAbs < 2^d) (hhi : hi.natAbs < 2^d)
    (wf : ColWF f d) :
    rangeBetween f d lo hi = true ↔ (f.ex = true ∧ lo ≤ f.val d ∧ f.val d ≤ hi) := by
  have hs := wf.sg_ex
  have h1 : lo ≤ f.val d ↔ _ := Frag.val_gt_iff wf lo true
  have h2 : f.val d ≤ hi ↔ _ := Frag.val_lt_iff wf hi true
  by_cases h0 : lo > hi
  · simp only [rangeBetween, h0, if_true]
    exact ⟨fun h => (nomatch h), fun h => by omega⟩
  rw [h1, h2]
  simp only [rangeBetween, h0, if_false, cmpLT, cmpGT, if_true, Frag.mag, BA.empty]
  by_cases hl : lo ≥ 0
  · have hh : hi ≥ 0 := by omega
    simp only [hl, hh, if_true, btwU_spec, lowBits_testBit_of_lt hlo, lowBits_testBit_of_lt hhi]
    revert hs; cases f.sg <;> cases f.ex <;> simp [BA.diff]
  by_cases hh : hi < 0
  · have hh' : ¬ hi ≥ 0 := by omega
    simp only [hl, hh, hh', if_true, if_false, btwU_spec, lowBits_testBit_of_lt hlo, lowBits_testBit_of_lt hhi]
    revert hs; cases f.sg <;> cases f.ex <;> simp [BA.inter, and_comm]
  · have hh' : hi ≥ 0 := by omega
    simp only [hl, hh, hh', if_true, if_false, BA.union, Bool.or_eq_true, ltU_lz, lowBits_testBit_of_lt hlo,
      lowBits_testBit_of_lt hhi, cmpLT]
    revert hs; cases f.sg <;> cases f.ex <;> simp [BA.diff, BA.inter]

/-- The comparison a range query asks for. -/
def Op.holds : Op → Int → Int → Prop
  | .eq, v, p => v = p
  | .neq, v, p => v ≠ p
  | .lt, v, p => v < p
  | .lte, v, p => v ≤ p
  | .gt, v, p => v > p
  | .gte, v, p => v ≥ p

theorem Op.holds_iff_cmp (op : Op) (v p : Int) : op.holds v p ↔ Spec.cmp op v p = true := by
  cases op <;> simp only [Op.holds, Spec.cmp, decide_eq_true_eq]

theorem rangeOp_bool (f : Frag Bool) (op : Op) (d : Nat) (p : Int) (hp : p.natAbs < 2^d) (wf : ColWF f d) :
    rangeOp f op d p = true ↔ (f.ex = true ∧ op.holds (f.val d) p) := by
  cases op
  · exact rangeEQ_bool f d p hp wf
  · exact rangeNEQ_bool f d p hp wf
  · exact rangeLT_bool f d p false hp wf
  · exact rangeLT_bool f d p true hp wf
  · exact rangeGT_bool f d p false hp wf
  · exact rangeGT_bool f d p true hp wf

/-! The executor's decision table: some comparisons are decided from bounds alone
(`Op.holds_of_outside`); otherwise `baseValue` is the predicate shifted by the base. -/

theorem BSI.inDepth_iff (g : BSI) (x : Int) :
    (g.bitDepthMin ≤ x + g.base ∧ x + g.base ≤ g.bitDepthMax) ↔ x.natAbs < 2^g.depth := by
  have e : ((2^g.depth : Nat) : Int) = (2:Int)^g.depth := by norm_cast
  simp only [BSI.bitDepthMin, BSI.bitDepthMax]
  omega

theorem Frag.val_inDepth (f : Frag Bool) (g : BSI) :
    g.bitDepthMin ≤ f.val g.depth + g.base ∧ f.val g.depth + g.base ≤ g.bitDepthMax := by
  have h := lowBits_lt f.bit g.depth
  rw [BSI.inDepth_iff, Frag.val, Frag.mag]
  split <;> omega

theorem Op.holds_sub (op : Op) (x p b : Int) : op.holds x (p - b) ↔ op.holds (x + b) p := by
  cases op <;> simp only [Op.holds] <;> omega

@[reducible] def Op.outside (op : Op) (value m M : Int) : Prop :=
  (op = .lt ∧ value > M) ∨ (op = .lte ∧ value ≥ M) ∨ (op = .gt ∧ value < m) ∨ (op = .gte ∧ value ≤ m)

theorem Op.holds_of_outside {op : Op} {value m M : Int} (h : op.outside value m M)
    {v : Int} (h1 : m ≤ v) (h2 : v ≤ M) : op.holds v value := by
  rcases h with ⟨rfl, h⟩ | ⟨rfl, h⟩ | ⟨rfl, h⟩ | ⟨rfl, h⟩ <;> simp only [Op.holds] <;> omega

theorem baseValue_oor {g : BSI} {op : Op} {value : Int} (h : (baseValue g op value).2 = true)
    {v : Int} (h1 : g.bitDepthMin ≤ v) (h2 : v ≤ g.bitDepthMax) : op.holds v value ↔ op = .neq := by
  revert h
  cases op <;> simp only [baseValue, Op.holds] <;> (repeat' split) <;> simp <;> omega

theorem baseValue_exact {g : BSI} {op : Op} {value : Int} (h : (baseValue g op value).2 = false)
    (h' : ¬ op.outside value g.bitDepthMin g.bitDepthMax) :
    (baseValue g op value).1 = value - g.base ∧ g.bitDepthMin ≤ value ∧ value ≤ g.bitDepthMax := by
  revert h h'
  cases op <;> simp only [baseValue, Op.outside] <;> (repeat' split) <;> simp <;> omega

theorem execRange_bool (f : Frag Bool) (g : BSI) (op : Op) (value : Int) (wf : ColWF f g.depth)
    (hr : f.ex = true → g.min ≤ f.val g.depth + g.base ∧ f.val g.depth + g.base ≤ g.max) :
    execRange f g op value = true ↔ (f.ex = true ∧ op.holds (f.val g.depth + g.base) value) := by
  have hd := f.val_inDepth g
  rw [execRange]
  cases ho : (baseValue g op value).2
  · simp only [Bool.false_and, Bool.false_eq_true, if_false]
    by_cases h2 : op.outside value g.min g.max
    · rw [if_pos h2]
      exact ⟨fun e => ⟨e, Op.holds_of_outside h2 (hr e).1 (hr e).2⟩, fun e => e.1⟩
    by_cases h3 : op.outside value g.bitDepthMin g.bitDepthMax
    · rw [if_neg h2, if_pos h3]
      exact ⟨fun e => ⟨e, Op.holds_of_outside h3 hd.1 hd.2⟩, fun e => e.1⟩
    · obtain ⟨e, b1, b2⟩ := baseValue_exact ho h3
      rw [if_neg h2, if_neg h3, e, ← Op.holds_sub,
        rangeOp_bool f op g.depth _ ((g.inDepth_iff _).mp (by omega)) wf]
  · have hv := baseValue_oor ho hd.1 hd.2
    by_cases hn : op = .neq
    · -- the first three tests of `execRange` do not fire for `≠`, the fourth does
      subst hn
      rw [if_neg (by simp), if_neg (by simp), if_neg (by simp), if_pos (by simp)]
      exact ⟨fun e => ⟨e, hv.mpr rfl⟩, fun e => e.1⟩
    · rw [if_pos (by simpa using hn)]
      exact ⟨fun e => (nomatch e), fun e => absurd (hv.mp e.2) hn⟩

theorem baseValueBetween_oor {g : BSI} {lo hi : Int} (h : (baseValueBetween g lo hi).2.2 = true)
    {v : Int} (h1 : g.bitDepthMin ≤ v) (h2 : v ≤ g.bitDepthMax) : ¬ (lo ≤ v ∧ v ≤ hi) := by
  revert h
  simp only [baseValueBetween]
  split <;> simp <;> omega

theorem baseValueBetween_clamp {g : BSI} {lo hi : Int} {r : Int × Int × Bool} (hr : baseValueBetween g lo hi = r)
    (h : r.2.2 = false) {x : Int} (h1 : g.bitDepthMin ≤ x + g.base) (h2 : x + g.base ≤ g.bitDepthMax) :
    (g.bitDepthMin ≤ r.1 + g.base ∧ r.1 + g.base ≤ g.bitDepthMax) ∧
    (g.bitDepthMin ≤ r.2.1 + g.base ∧ r.2.1 + g.base ≤ g.bitDepthMax) ∧
    ((r.1 ≤ x ∧ x ≤ r.2.1) ↔ (lo ≤ x + g.base ∧ x + g.base ≤ hi)) := by
  subst hr
  revert h
  simp only [baseValueBetween]
  split
  · simp
  · intro _; split <;> split <;> dsimp only <;> omega

theorem execBetween_bool (f : Frag Bool) (g : BSI) (lo hi : Int) (wf : ColWF f g.depth)
    (hr : f.ex = true → g.min ≤ f.val g.depth + g.base ∧ f.val g.depth + g.base ≤ g.max) :
    execBetween f g lo hi = true ↔
      (f.ex = true ∧ lo ≤ f.val g.depth + g.base ∧ f.val g.depth + g.base ≤ hi) := by
  have hd := f.val_inDepth g
  rw [execBetween]
  cases ho : (baseValueBetween g lo hi).2.2
  · simp only [Bool.false_eq_true, if_false]
    by_cases h2 : lo ≤ g.min ∧ hi ≥ g.max
    · rw [if_pos h2]
      exact ⟨fun e => ⟨e, by have := hr e; omega⟩, fun e => e.1⟩
    · obtain ⟨b1, b2, e⟩ := baseValueBetween_clamp rfl ho hd.1 hd.2
      rw [if_neg h2, rangeBetween_bool f _ _ _ ((g.inDepth_iff _).mp b1) ((g.inDepth_iff _).mp b2) wf, e]
  · rw [if_pos rfl]
    exact ⟨fun e => (nomatch e), fun e => absurd e.2 (baseValueBetween_oor ho hd.1 hd.2)⟩

end PV.C14
