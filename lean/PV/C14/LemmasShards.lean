/-
C14, all shards: folding the per-shard results gives the result over all columns of the field.
-/
import PV.C14.LemmasAgg
import PV.Common.Asc
namespace PV.C14
open BA

/-- `has` = some value seen so far; the accumulator then describes them. -/
theorem viewMinStep_spec {P l : List Int} {m : Int} {k : Nat} {has : Bool}
    (hacc : if has then IsMin P m k else P = []) :
    let r := viewMinStep (m, k, has) (Spec.minCount l)
    if r.2.2 then IsMin (P ++ l) r.1 r.2.1 else P ++ l = [] := by
  by_cases hl : l = []
  · subst hl
    simpa [Spec.minCount, viewMinStep] using hacc
  · have hs := minCount_spec l hl
    have hp := hs.pos
    generalize Spec.minCount l = mc at hs hp
    obtain ⟨fm, fc⟩ := mc
    simp only [viewMinStep, if_neg (by omega : ¬ fc = 0)]
    cases has
    · rw [if_neg (by simp)] at hacc
      subst hacc
      simpa using hs
    · rw [if_pos rfl] at hacc
      simp only [Bool.not_true, Bool.false_or, decide_eq_true_eq]
      by_cases h1 : fm < m
      · rw [if_pos h1]
        exact hs.append_right (fun x hx => by have := hacc.2.1 x hx; omega)
      by_cases h2 : fm = m
      · subst h2
        rw [if_neg h1, if_pos rfl]
        exact hacc.append hs
      · rw [if_neg h1, if_neg h2]
        exact hacc.append_left (fun x hx => by have := hs.2.1 x hx; omega)

theorem viewMin_fold (L : List (List Int)) (P : List Int) (m : Int) (k : Nat) (has : Bool)
    (hacc : if has then IsMin P m k else P = []) :
    let r := (L.map Spec.minCount).foldl viewMinStep (m, k, has)
    if r.2.2 then IsMin (P ++ L.flatten) r.1 r.2.1 else P ++ L.flatten = [] := by
  induction L generalizing P m k has with
  | nil => simpa using hacc
  | cons l ls ih =>
    simp only [List.map_cons, List.foldl_cons, List.flatten_cons, ← List.append_assoc]
    have h := viewMinStep_spec (l := l) hacc
    generalize viewMinStep (m, k, has) (Spec.minCount l) = r at h
    obtain ⟨m', k', has'⟩ := r
    exact ih (P ++ l) m' k' has' h

theorem viewMin_fold_nil (L : List (List Int)) (hL : ∀ l ∈ L, l = []) (a : Int × Nat × Bool) :
    (L.map Spec.minCount).foldl viewMinStep a = a := by
  induction L generalizing a with
  | nil => rfl
  | cons l ls ih =>
    have : l = [] := hL l (List.mem_cons_self ..)
    subst this
    simp only [List.map_cons, List.foldl_cons, Spec.minCount, viewMinStep, if_true]
    exact ih (fun l hl => hL l (List.mem_cons_of_mem _ hl)) a

theorem viewMin_fold_eq (L : List (List Int)) :
    (L.map Spec.minCount).foldl viewMinStep (0, 0, false) =
      ((Spec.minCount L.flatten).1, (Spec.minCount L.flatten).2, decide ((Spec.minCount L.flatten).2 > 0)) := by
  by_cases hV : L.flatten = []
  · rw [viewMin_fold_nil L (List.flatten_eq_nil_iff.mp hV), hV]; rfl
  · have h := viewMin_fold L [] 0 0 false rfl
    rw [List.nil_append] at h
    generalize (L.map Spec.minCount).foldl viewMinStep (0, 0, false) = r at h
    obtain ⟨m, k, has⟩ := r
    cases has
    · exact absurd h hV
    · have h' : IsMin L.flatten m k := h
      have hk := h'.pos
      rw [h'.eq_minCount]
      simp; omega

theorem viewMaxStep_neg (m : Int) (k : Nat) (has : Bool) (fm : Int) (fc : Nat) :
    viewMaxStep (m, k, has) (fm, fc) =
      (-(viewMinStep (-m, k, has) (-fm, fc)).1, (viewMinStep (-m, k, has) (-fm, fc)).2) := by
  -- once `-fm < -m` reads `m < fm`, both sides branch on the same conditions
  simp only [viewMaxStep, viewMinStep, Int.neg_lt_neg_iff, Int.neg_inj]
  by_cases h0 : fc = 0
  · simp only [if_pos h0, Int.neg_neg]
  by_cases h1 : (!has || decide (fm > m)) = true
  · simp only [if_neg h0, if_pos h1, Int.neg_neg]
  by_cases h2 : fm = m
  · simp only [if_neg h0, if_neg h1, if_pos h2, Int.neg_neg]
  · simp only [if_neg h0, if_neg h1, if_neg h2, Int.neg_neg]

theorem viewMax_fold_neg (L : List (List Int)) (m : Int) (k : Nat) (has : Bool) :
    (L.map Spec.maxCount).foldl viewMaxStep (m, k, has) =
      (-(((L.map (List.map (- ·))).map Spec.minCount).foldl viewMinStep (-m, k, has)).1,
        (((L.map (List.map (- ·))).map Spec.minCount).foldl viewMinStep (-m, k, has)).2) := by
  induction L generalizing m k has with
  | nil => simp
  | cons l ls ih =>
    simp only [List.map_cons, List.foldl_cons]
    rw [maxCount_neg, viewMaxStep_neg, ih, Int.neg_neg, Int.neg_neg]

theorem viewMax_fold_eq (L : List (List Int)) :
    (L.map Spec.maxCount).foldl viewMaxStep (0, 0, false) =
      ((Spec.maxCount L.flatten).1, (Spec.maxCount L.flatten).2, decide ((Spec.maxCount L.flatten).2 > 0)) := by
  rw [viewMax_fold_neg, Int.neg_zero, viewMin_fold_eq, maxCount_neg, List.map_flatten]

/-- A `ValCount` accumulator and a `view.min`-style accumulator describe the same partial result. -/
def SimVC (base : Int) (a : Int × Nat × Bool) (vc : ValCount) : Prop :=
  vc.count = a.2.1 ∧ (a.2.2 = true ↔ a.2.1 > 0) ∧ (a.2.1 > 0 → vc.val = a.1 + base)

theorem SimVC.smaller {base : Int} {a : Int × Nat × Bool} {vc : ValCount} (h : SimVC base a vc)
    (fm : Int) (fc : Nat) :
    SimVC base (viewMinStep a (fm, fc)) (vc.smaller ⟨fm + base, fc⟩) := by
  obtain ⟨m, k, has⟩ := a
  obtain ⟨v, c⟩ := vc
  obtain ⟨h1, h2, h3⟩ := h
  simp only at h1 h2 h3
  subst h1
  simp only [viewMinStep, ValCount.smaller]
  cases has
  · have hk : k = 0 := Nat.eq_zero_of_not_pos (fun h => Bool.noConfusion (h2.mpr h))
    subst hk
    rw [if_pos (Or.inl rfl : ((0 : Nat) : Int) = 0 ∨ _)]
    by_cases hfc : fc = 0
    · subst hfc; rw [if_pos rfl]; exact ⟨rfl, h2, fun h => absurd h (Nat.lt_irrefl 0)⟩
    · rw [if_neg hfc, if_pos (by simp)]; exact ⟨rfl, by simp; omega, fun _ => rfl⟩
  · have hk : k > 0 := h2.mp rfl
    obtain rfl := h3 hk
    by_cases hfc : fc = 0
    · subst hfc
      rw [if_pos rfl, if_neg (by omega), if_neg (by omega)]
      exact ⟨rfl, h2, h3⟩
    rw [if_neg hfc]
    by_cases hlt : fm < m
    · rw [if_pos (by simp [hlt]), if_pos (Or.inr ⟨by omega, by omega⟩)]
      exact ⟨rfl, by simp; omega, fun _ => rfl⟩
    by_cases heq : fm = m
    · subst heq
      rw [if_neg (by simp), if_pos rfl, if_neg (by omega), if_pos ⟨by omega, rfl⟩]
      exact ⟨by simp, by simp; omega, fun _ => rfl⟩
    · rw [if_neg (by simp [hlt]), if_neg heq, if_neg (by omega), if_neg (by omega)]
      exact ⟨rfl, h2, h3⟩

theorem ValCount.larger_neg (v c ov oc : Int) :
    (⟨v, c⟩ : ValCount).larger ⟨ov, oc⟩ =
      ⟨-((⟨-v, c⟩ : ValCount).smaller ⟨-ov, oc⟩).val, ((⟨-v, c⟩ : ValCount).smaller ⟨-ov, oc⟩).count⟩ := by
  simp only [ValCount.larger, ValCount.smaller, Int.neg_lt_neg_iff, Int.neg_inj]
  by_cases h1 : c = 0 ∨ (ov > v ∧ oc > 0)
  · simp only [if_pos h1, Int.neg_neg]
  by_cases h2 : oc > 0 ∧ ov = v
  · simp only [if_neg h1, if_pos h2, Int.neg_neg]
  · simp only [if_neg h1, if_neg h2, Int.neg_neg]

theorem SimVC.neg {base : Int} {a : Int × Nat × Bool} {vc : ValCount} (h : SimVC base a vc) :
    SimVC (-base) (-a.1, a.2) ⟨-vc.val, vc.count⟩ :=
  ⟨h.1, h.2.1, fun hk => by have := h.2.2 hk; show -vc.val = -a.1 + -base; omega⟩

theorem SimVC.larger {base : Int} {a : Int × Nat × Bool} {vc : ValCount} (h : SimVC base a vc)
    (fm : Int) (fc : Nat) :
    SimVC base (viewMaxStep a (fm, fc)) (vc.larger ⟨fm + base, fc⟩) := by
  obtain ⟨m, k, has⟩ := a
  obtain ⟨v, c⟩ := vc
  have h' := (h.neg.smaller (-fm) fc).neg
  rw [Int.neg_neg] at h'
  rwa [viewMaxStep_neg, ValCount.larger_neg, Int.neg_add]

theorem partition_perm (key : Rec → Nat) (ss : List Nat) (l : List Rec) (hnd : ss.Nodup)
    (hcov : ∀ r ∈ l, key r ∈ ss) :
    ((ss.map (fun s => l.filter (fun r => decide (key r = s)))).flatten).Perm l := by
  induction ss generalizing l with
  | nil =>
    cases l with
    | nil => exact List.Perm.refl _
    | cons x xs => exact absurd (hcov x (List.mem_cons_self ..)) (by simp)
  | cons s rest ih =>
    simp only [List.map_cons, List.flatten_cons]
    have hnd' := (List.nodup_cons.mp hnd)
    have hrest : rest.map (fun s' => l.filter (fun r => decide (key r = s'))) =
        rest.map (fun s' => (l.filter (fun r => !decide (key r = s))).filter (fun r => decide (key r = s'))) := by
      apply List.map_congr_left
      intro s' hs'
      rw [List.filter_filter]
      apply List.filter_congr
      intro r _
      have : s' ≠ s := fun e => hnd'.1 (e ▸ hs')
      by_cases h : key r = s' <;> simp [h] ; omega
    rw [hrest]
    have hih := ih (l.filter (fun r => !decide (key r = s))) hnd'.2 (by
      intro r hr
      have hm := List.mem_filter.mp hr
      have := hcov r hm.1
      rcases List.mem_cons.mp this with h | h
      · simp [h] at hm
      · exact h)
    exact (List.Perm.append_left _ hih).trans (List.filter_append_perm _ l)

theorem insertAsc_eq_ins : @insertAsc = @Common.Asc.ins := by
  funext x l; induction l <;> simp [insertAsc, Common.Asc.ins, *]

theorem mem_insertAsc (x y : Nat) (l : List Nat) : y ∈ insertAsc x l ↔ y = x ∨ y ∈ l :=
  insertAsc_eq_ins ▸ Common.Asc.mem_ins

theorem pairwise_insertAsc (x : Nat) (l : List Nat) (h : l.Pairwise (· < ·)) :
    (insertAsc x l).Pairwise (· < ·) :=
  insertAsc_eq_ins ▸ Common.Asc.asc_ins h

/-- The shards of a field are the shards of its columns, inserted one by one. -/
theorem Field.shards_eq (f : Field) : f.shards = Common.Asc.insAll [] (f.cols.map (·.col / shardWidth)) := by
  rw [Field.shards, insertAsc_eq_ins, Common.Asc.insAll, List.foldl_map]

theorem Field.shards_nodup (f : Field) : f.shards.Nodup :=
  f.shards_eq ▸ Common.Asc.nodup (Common.Asc.asc_insAll List.Pairwise.nil)

theorem Field.shards_cover (f : Field) : ∀ r ∈ f.cols, r.col / shardWidth ∈ f.shards :=
  fun _ hr => f.shards_eq ▸ Common.Asc.mem_insAll.mpr (Or.inr (List.mem_map_of_mem hr))

/-- Considered values listed shard by shard. -/
def Field.shardVals (f : Field) (flt : Filter) : List (List Int) :=
  f.shards.map (fun sh => (considerOf (f.shardCols sh) flt).map (fun r => r.frag.val f.g.depth))

theorem Field.shardVals_perm (f : Field) (flt : Filter) :
    (f.shardVals flt).flatten.Perm ((considerOf f.cols flt).map (fun r => r.frag.val f.g.depth)) := by
  have hp := partition_perm (fun r => r.col / shardWidth) f.shards (considerOf f.cols flt) f.shards_nodup
    (fun r hr => f.shards_cover r (List.mem_filter.mp hr).1)
  have := hp.map (fun r => r.frag.val f.g.depth)
  refine List.Perm.trans ?_ this
  apply List.Perm.of_eq
  simp only [Field.shardVals, Field.shardCols, considerOf, List.map_flatten, List.map_map]
  congr 1
  apply List.map_congr_left
  intro s _
  simp only [Function.comp, List.filter_filter]
  congr 1
  apply List.filter_congr
  intro r _
  simp [Bool.and_comm]

theorem Field.shardCols_wf {f : Field} (h : f.WF) (sh : Nat) : ∀ r ∈ f.shardCols sh, RecWF r f.g.depth :=
  fun r hr => h.recs r (List.mem_filter.mp hr).1

theorem IsMin.perm {l l' : List Int} {m : Int} {k : Nat} (p : l.Perm l') (h : IsMin l m k) : IsMin l' m k :=
  ⟨p.mem_iff.mp h.1, fun x hx => h.2.1 x (p.mem_iff.mpr hx), by rw [h.2.2]; exact (p.filter _).length_eq⟩

theorem minCount_perm {l l' : List Int} (p : l.Perm l') : Spec.minCount l = Spec.minCount l' := by
  by_cases hl : l = []
  · subst hl; rw [p.nil_eq]
  · exact ((minCount_spec l hl).perm p).eq_minCount.symm

theorem maxCount_perm {l l' : List Int} (p : l.Perm l') : Spec.maxCount l = Spec.maxCount l' := by
  rw [maxCount_neg, maxCount_neg, minCount_perm (p.map _)]

theorem Field.viewMin_eq {f : Field} (h : f.WF) (flt : Filter) :
    (f.shards.map (fun sh => fragMin (f.shardCols sh) flt f.g.depth)).foldl viewMinStep (0, 0, false) =
      let s := Spec.minCount (consideredVals f.cols flt f.g.depth)
      (s.1, s.2, decide (s.2 > 0)) := by
  have e : f.shards.map (fun sh => fragMin (f.shardCols sh) flt f.g.depth) =
      (f.shardVals flt).map Spec.minCount := by
    rw [Field.shardVals, List.map_map]
    exact List.map_congr_left (fun sh _ => fragMin_eq _ flt _ (Field.shardCols_wf h sh))
  rw [e, viewMin_fold_eq, minCount_perm (f.shardVals_perm flt)]
  rfl

theorem Field.viewMax_eq {f : Field} (h : f.WF) (flt : Filter) :
    (f.shards.map (fun sh => fragMax (f.shardCols sh) flt f.g.depth)).foldl viewMaxStep (0, 0, false) =
      let s := Spec.maxCount (consideredVals f.cols flt f.g.depth)
      (s.1, s.2, decide (s.2 > 0)) := by
  have e : f.shards.map (fun sh => fragMax (f.shardCols sh) flt f.g.depth) =
      (f.shardVals flt).map Spec.maxCount := by
    rw [Field.shardVals, List.map_map]
    exact List.map_congr_left (fun sh _ => fragMax_eq _ flt _ (Field.shardCols_wf h sh))
  rw [e, viewMax_fold_eq, maxCount_perm (f.shardVals_perm flt)]
  rfl

/-- `pql`, `api`: the bodies of `Field.pqlMin`, `apiMin` and their Max twins, step and reducer left open. -/
theorem Field.agg_spec {f : Field} {step : Int × Nat × Bool → Int × Nat → Int × Nat × Bool}
    {red : ValCount → ValCount → ValCount}
    (hs : ∀ a vc (r : Int × Nat), SimVC f.g.base a vc → SimVC f.g.base (step a r) (red vc ⟨r.1 + f.g.base, r.2⟩))
    {per : Nat → Int × Nat} {s : Int × Nat}
    (hR : (f.shards.map per).foldl step (0, 0, false) = (s.1, s.2, decide (s.2 > 0))) :
    let pql := (f.shards.map (fun sh => (⟨(per sh).1 + f.g.base, (per sh).2⟩ : ValCount))).foldl red ⟨0, 0⟩
    let api : ValCount :=
      if f.shards.isEmpty then ⟨0, 0⟩
      else
        let (m, c, _) := (f.shards.map per).foldl step (0, 0, false)
        ⟨m + f.g.base, c⟩
    (pql.count = s.2 ∧ (s.2 > 0 → pql.val = s.1 + f.g.base)) ∧
    (api.count = s.2 ∧ (s.2 > 0 → api.val = s.1 + f.g.base)) := by
  have hsim : ∀ (rs : List (Int × Nat)) a vc, SimVC f.g.base a vc →
      SimVC f.g.base (rs.foldl step a) ((rs.map (fun r => (⟨r.1 + f.g.base, r.2⟩ : ValCount))).foldl red vc) := by
    intro rs
    induction rs with
    | nil => exact fun _ _ h => h
    | cons r rs ih => exact fun a vc h => ih _ _ (hs a vc r h)
  have h := hsim (f.shards.map per) (0, 0, false) ⟨0, 0⟩ ⟨rfl, by simp, fun h => absurd h (Nat.lt_irrefl 0)⟩
  rw [hR, List.map_map] at h
  refine ⟨⟨h.1, h.2.2⟩, ?_⟩
  by_cases hemp : f.shards.isEmpty = true
  · rw [if_pos hemp]
    rw [List.isEmpty_iff.mp hemp] at hR
    have hs0 : s.2 = 0 := (Prod.mk.inj (Prod.mk.inj hR).2).1.symm
    exact ⟨by rw [hs0]; rfl, fun hp => absurd hp (by omega)⟩
  · rw [if_neg hemp, hR]
    exact ⟨rfl, fun _ => rfl⟩

theorem sumInt_append (a b : List Int) : sumInt (a ++ b) = sumInt a + sumInt b := by
  induction a with
  | nil => simp [sumInt]
  | cons x xs ih => simp only [List.cons_append, sumInt, ih]; omega

theorem sumInt_perm {a b : List Int} (p : a.Perm b) : sumInt a = sumInt b := by
  induction p with
  | nil => rfl
  | cons x _ ih => simp only [sumInt, ih]
  | swap x y l => simp only [sumInt]; omega
  | trans _ _ ih1 ih2 => rw [ih1, ih2]

theorem apiSum_fold {σ : Type} (vals : σ → List Int) (ss : List σ) (a : Int × Nat) :
    ss.foldl (fun acc s => (acc.1 + sumInt (vals s), acc.2 + (vals s).length)) a =
      (a.1 + sumInt (ss.map vals).flatten, a.2 + (ss.map vals).flatten.length) := by
  induction ss generalizing a with
  | nil => simp [sumInt]
  | cons s ss ih =>
    simp only [List.map_cons, List.foldl_cons, ih, List.flatten_cons, sumInt_append, List.length_append]
    refine Prod.ext ?_ ?_ <;> simp <;> omega

theorem pqlSum_fold {σ : Type} (base : Int) (vals : σ → List Int) (ss : List σ) (a : ValCount) :
    (ss.map (fun s => (⟨sumInt (vals s) + ((vals s).length : Int) * base, (vals s).length⟩ : ValCount))).foldl
        ValCount.add a =
      ⟨a.val + sumInt (ss.map vals).flatten + ((ss.map vals).flatten.length : Int) * base,
        a.count + (ss.map vals).flatten.length⟩ := by
  induction ss generalizing a with
  | nil => simp [sumInt]
  | cons s ss ih =>
    simp only [List.map_cons, List.foldl_cons, ih, List.flatten_cons, sumInt_append, List.length_append,
      ValCount.add]
    congr 1
    · push_cast
      rw [Int.add_mul]
      omega
    · push_cast; omega

end PV.C14
