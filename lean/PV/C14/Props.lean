/-
C14 property theorems.  Core Lean only.

Full-strength statement (C14_query / C14_query_between / C14_field_query): for every int field
(any `min ≤ max`, any base, any bit depth), every set of stored in-range values, every comparison
and EVERY integer predicate — inside or outside the bit-depth range and the field bounds — the
executor's answer is exactly the set of columns whose value satisfies the comparison.  The model
is the code after the `fix:` commits of verif/a06 (see design/C14.md); nothing is excluded.

The fragment-level functions themselves carry the precondition `|predicate| < 2^bitDepth`
(`C14_*_unsigned`, `C14_signed*`): `C14_unsigned_needs_pred_in_depth` shows it is needed and the
query theorems show that `baseValue` / `baseValueBetween` plus the decision table always meet it.
-/
import PV.C14.LemmasPointwise
import PV.C14.LemmasField
import PV.C14.LemmasAgg
import PV.C14.LemmasShards
namespace PV.C14
open BA

/-! ### The generic algorithm on a fragment is the one-column algorithm at every column -/

theorem C14_pointwise {κ : Type} (F : Frag (κ → Bool)) (c : κ) :
    (∀ op d p, rangeOp F op d p c = rangeOp (F.at c) op d p) ∧
    (∀ d lo hi, rangeBetween F d lo hi c = rangeBetween (F.at c) d lo hi) ∧
    (∀ g op value, execRange F g op value c = execRange (F.at c) g op value) ∧
    (∀ g lo hi, execBetween F g lo hi c = execBetween (F.at c) g lo hi) :=
  ⟨fun op d p => rangeOp_at F op d p c, fun d lo hi => rangeBetween_at F d lo hi c,
   fun g op value => execRange_at F g op value c, fun g lo hi => execBetween_at F g lo hi c⟩

/-! ### Unsigned bit-sliced comparisons (one column, magnitude `v = f.mag d`, predicate `p < 2^d`) -/

theorem C14_lt_unsigned (f : Frag Bool) (d p : Nat) (hp : p < 2^d) (filter eq : Bool) :
    ltU f p eq d filter BA.empty true = true ↔
      (filter = true ∧ (if eq then f.mag d ≤ p else f.mag d < p)) := by
  have h := ltU_lz f p eq d filter
  rw [lowBits_testBit_of_lt hp] at h
  exact h

theorem C14_gt_unsigned (f : Frag Bool) (d p : Nat) (hp : p < 2^d) (filter eq : Bool) :
    gtU f p eq d filter BA.empty = true ↔
      (filter = true ∧ (if eq then f.mag d ≥ p else f.mag d > p)) := by
  have h := gtU_empty f p eq d filter
  rw [lowBits_testBit_of_lt hp] at h
  exact h

theorem C14_eq_unsigned (f : Frag Bool) (d p : Nat) (hp : p < 2^d) (b : Bool) :
    eqLoop f p d b = true ↔ (b = true ∧ f.mag d = p) := by
  have h := eqLoop_bool f p d b
  rw [lowBits_testBit_of_lt hp] at h
  exact h

theorem C14_between_unsigned (f : Frag Bool) (d lo hi : Nat) (hlo : lo < 2^d) (hhi : hi < 2^d) (filter : Bool) :
    btwU f lo hi d filter BA.empty BA.empty = true ↔ (filter = true ∧ lo ≤ f.mag d ∧ f.mag d ≤ hi) := by
  have h := btwU_spec f lo hi d filter BA.empty BA.empty
  rw [lowBits_testBit_of_lt hlo, lowBits_testBit_of_lt hhi] at h
  simpa [BA.empty, Frag.mag] using h

/-- The precondition `p < 2^d` is needed: at depth 1 the predicate 2 is treated as 0. -/
theorem C14_unsigned_needs_pred_in_depth :
    ltU (⟨true, false, fun _ => true⟩ : Frag Bool) 2 true 1 true false true = false := by decide

/-! ### Sign / magnitude composition (one column, `|p| < 2^d`) -/

theorem C14_signed (f : Frag Bool) (op : Op) (d : Nat) (p : Int) (hp : p.natAbs < 2^d) (wf : ColWF f d) :
    rangeOp f op d p = true ↔ (f.ex = true ∧ op.holds (f.val d) p) := rangeOp_bool f op d p hp wf

theorem C14_neq (f : Frag Bool) (d : Nat) (p : Int) (hp : p.natAbs < 2^d) (wf : ColWF f d) :
    rangeNEQ f d p = true ↔ (f.ex = true ∧ f.val d ≠ p) := rangeNEQ_bool f d p hp wf

theorem C14_signed_between (f : Frag Bool) (d : Nat) (lo hi : Int) (hlo : lo.natAbs < 2^d)
    (hhi : hi.natAbs < 2^d) (wf : ColWF f d) :
    rangeBetween f d lo hi = true ↔ (f.ex = true ∧ lo ≤ f.val d ∧ f.val d ≤ hi) :=
  rangeBetween_bool f d lo hi hlo hhi wf

/-! ### Values: round trip and growth -/

/-- A column written with a bit depth that holds the value reads that value back; the other
columns are untouched. -/
theorem C14_value_roundtrip (cols : List Rec) (c d : Nat) (v : Int) (hv : v.natAbs < 2^d) :
    (getRec (setCol cols c d v false).1 c).value d = some v ∧
    (getRec (setCol cols c d v true).1 c).value d = none ∧
    ∀ c', c' ≠ c → ∀ clear, getRec (setCol cols c d v clear).1 c' = getRec cols c' := by
  refine ⟨?_, ?_, ?_⟩
  · simp only [setCol, getRec_putRec, Rec.set, getRec_col, if_true]
    exact Rec.value_set (getRec cols c) d v hv
  · simp only [setCol, getRec_putRec, Rec.set, getRec_col, if_true]
    exact Rec.value_clear (getRec cols c) d v
  · intro c' hc clear
    simp only [setCol, getRec_putRec, Rec.set, getRec_col]
    split
    · omega
    · rfl

/-- Growing the bit depth keeps every stored value readable. -/
theorem C14_growth (r : Rec) (d d' : Nat) (h : RecWF r d) (hd : d ≤ d') :
    r.value d' = r.value d ∧ RecWF r d' := ⟨h.value_mono hd, h.mono hd⟩

/-- `Field.SetValue` always continues with a bit depth that holds the value (also when the
sign test of the growth code looks at the wrong variable) and never shrinks it. -/
theorem C14_setvalue_depth (depth : Nat) (value bv : Int) (hb : bv.natAbs < 2^63) :
    depth ≤ growDepth depth value bv ∧ bv.natAbs < 2 ^ growDepth depth value bv :=
  growDepth_ok depth value bv hb

/-- The invariant of reachable fields: it holds for a new field and `Field.SetValue` /
`Field.importValue` keep it. -/
theorem C14_reachable_wf :
    (∀ g, Field.WF ⟨g, []⟩) ∧
    (∀ f : Field, f.WF → ∀ c value, (value - f.g.base).natAbs < 2^63 → (f.setValue c value).1.WF) ∧
    (∀ f : Field, f.WF → ∀ pairs clear, (∀ p ∈ pairs, (p.2 - f.g.base).natAbs < 2^63) →
      (f.importValue pairs clear).1.WF) :=
  ⟨fun _ => ⟨by simp, by simp⟩, fun _ h c value hb => h.setValue c value hb,
   fun _ h pairs clear hb => h.importValue pairs clear hb⟩

/-! ### The query theorem (FULL strength) -/

/-- `Row(f <op> value)` on one shard's fragment: exactly the columns whose value satisfies the
comparison, for any bounds, base, depth, comparison and integer predicate. -/
theorem C14_query {κ : Type} (F : Frag (κ → Bool)) (g : BSI) (op : Op) (value : Int)
    (wf : ∀ c, ColWF (F.at c) g.depth)
    (inrange : ∀ c, F.ex c = true →
      g.min ≤ (F.at c).val g.depth + g.base ∧ (F.at c).val g.depth + g.base ≤ g.max) (c : κ) :
    execRange F g op value c = true ↔
      (F.ex c = true ∧ op.holds ((F.at c).val g.depth + g.base) value) := by
  rw [execRange_at]
  exact execRange_bool (F.at c) g op value (wf c) (inrange c)

theorem C14_query_between {κ : Type} (F : Frag (κ → Bool)) (g : BSI) (lo hi : Int)
    (wf : ∀ c, ColWF (F.at c) g.depth)
    (inrange : ∀ c, F.ex c = true →
      g.min ≤ (F.at c).val g.depth + g.base ∧ (F.at c).val g.depth + g.base ≤ g.max) (c : κ) :
    execBetween F g lo hi c = true ↔
      (F.ex c = true ∧ lo ≤ (F.at c).val g.depth + g.base ∧ (F.at c).val g.depth + g.base ≤ hi) := by
  rw [execBetween_at]
  exact execBetween_bool (F.at c) g lo hi (wf c) (inrange c)

/-- The same on the model's column lists, against the specification (`Spec.cmp` on the value
`Field.Value` returns): what the driver prints as model and as `#spec` is equal. -/
theorem C14_field_query (f : Field) (h : f.WF) (op : Op) (value : Int) :
    f.rowRange op value =
      (f.cols.filter (fun r => r.ex && Spec.cmp op (r.frag.val f.g.depth + f.g.base) value)).map (·.col) := by
  simp only [Field.rowRange, selectCols]
  congr 1
  apply List.filter_congr
  intro r hr
  have := execRange_bool r.frag f.g op value (h.recs r hr).colWF (h.rng r hr)
  have hex : r.frag.ex = r.ex := rfl
  rw [Bool.eq_iff_iff, this, hex]
  rw [Op.holds_iff_cmp, Bool.and_eq_true]

theorem C14_field_query_between (f : Field) (h : f.WF) (lo hi : Int) :
    f.rowBetween lo hi =
      (f.cols.filter (fun r => r.ex && (decide (lo ≤ r.frag.val f.g.depth + f.g.base) &&
        decide (r.frag.val f.g.depth + f.g.base ≤ hi)))).map (·.col) := by
  simp only [Field.rowBetween, selectCols]
  congr 1
  apply List.filter_congr
  intro r hr
  have := execBetween_bool r.frag f.g lo hi (h.recs r hr).colWF (h.rng r hr)
  have hex : r.frag.ex = r.ex := rfl
  rw [Bool.eq_iff_iff, this, hex]
  simp

/-- Non-vacuity: the field of DESIGN §8 #9 (bounds [-100,1000], values 0..7 and -7, depth 3)
satisfies the hypotheses, and the two queries that used to fail are answered exactly. -/
def exampleField : Field :=
  ((List.range 8).foldl (fun f k => (f.setValue k k).1)
    (⟨⟨-100, 1000, 0, 1⟩, []⟩ : Field)).setValue 8 (-7) |>.1

example : exampleField.g.depth = 3 := by decide
example : exampleField.rowRange .lt 500 = [0, 1, 2, 3, 4, 5, 6, 7, 8] := by decide
example : exampleField.rowRange .gt (-50) = [0, 1, 2, 3, 4, 5, 6, 7, 8] := by decide
example : exampleField.rowRange .gte (-7) = [0, 1, 2, 3, 4, 5, 6, 7, 8] := by decide
example : exampleField.rowRange .lt (-1) = [8] := by decide

/-! ### Sum / Min / Max on a fragment: exact sum, extreme value and multiplicity -/

theorem C14_sum (cols : List Rec) (flt : Filter) (d : Nat) :
    fragSum cols flt d = ((consideredVals cols flt d).foldl (· + ·) 0, (consideredVals cols flt d).length) := by
  rw [fragSum_eq, foldl_add_eq]; simp [consideredVals]

theorem C14_min (cols : List Rec) (flt : Filter) (d : Nat) (wf : ∀ r ∈ cols, RecWF r d) :
    fragMin cols flt d = Spec.minCount (consideredVals cols flt d) := fragMin_eq cols flt d wf

theorem C14_max (cols : List Rec) (flt : Filter) (d : Nat) (wf : ∀ r ∈ cols, RecWF r d) :
    fragMax cols flt d = Spec.maxCount (consideredVals cols flt d) := fragMax_eq cols flt d wf

/-- `Spec.minCount` / `maxCount` are what the property asks for: the extreme value and the
number of elements holding it. -/
theorem C14_spec_min_max (l : List Int) (hl : l ≠ []) :
    IsMin l (Spec.minCount l).1 (Spec.minCount l).2 ∧ IsMax l (Spec.maxCount l).1 (Spec.maxCount l).2 :=
  ⟨minCount_spec l hl, maxCount_spec l hl⟩

example : fragMin [⟨1, true, true, 7⟩, ⟨2, true, false, 0⟩, ⟨3, true, true, 7⟩] none 3 = (-7, 2) := by decide
example : fragMax [⟨1, true, true, 7⟩, ⟨3, true, true, 5⟩] none 3 = (-5, 1) := by decide
example : fragSum [⟨1, true, true, 3⟩, ⟨2, true, false, 5⟩] (some [2]) 3 = (5, 1) := by decide

/-! ### Sum / Min / Max of a field over all its shards, through PQL and through the Go API -/

/-- `Min`: the executor's reduce (`ValCount.smaller` over the per-shard results, any arrival order by
C17) and `Field.Min` (`view.min`) both return the least value of the considered columns of ALL shards and
the total number of columns holding it (count 0 when there is none). -/
theorem C14_field_min (f : Field) (h : f.WF) (flt : Filter) :
    let s := Spec.minCount (consideredVals f.cols flt f.g.depth)
    ((f.pqlMin flt).count = s.2 ∧ (s.2 > 0 → (f.pqlMin flt).val = s.1 + f.g.base)) ∧
    ((f.apiMin flt).count = s.2 ∧ (s.2 > 0 → (f.apiMin flt).val = s.1 + f.g.base)) :=
  Field.agg_spec (fun _ _ r h => h.smaller r.1 r.2) (Field.viewMin_eq h flt)

/-- `Max`: likewise with the greatest value. -/
theorem C14_field_max (f : Field) (h : f.WF) (flt : Filter) :
    let s := Spec.maxCount (consideredVals f.cols flt f.g.depth)
    ((f.pqlMax flt).count = s.2 ∧ (s.2 > 0 → (f.pqlMax flt).val = s.1 + f.g.base)) ∧
    ((f.apiMax flt).count = s.2 ∧ (s.2 > 0 → (f.apiMax flt).val = s.1 + f.g.base)) :=
  Field.agg_spec (fun _ _ r h => h.larger r.1 r.2) (Field.viewMax_eq h flt)

/-- `Sum`: both paths return the exact sum of the considered values of all shards (each value is the
stored base-relative value plus the base) and their number. -/
theorem C14_field_sum (f : Field) (flt : Filter) :
    let V := consideredVals f.cols flt f.g.depth
    f.pqlSum flt = ⟨sumInt V + (V.length : Int) * f.g.base, V.length⟩ ∧
    f.apiSum flt = ⟨sumInt V + (V.length : Int) * f.g.base, V.length⟩ := by
  intro V
  have hp := f.shardVals_perm flt
  unfold Field.shardVals at hp
  have hv : ∀ cols, fragSum cols flt f.g.depth = (sumInt ((considerOf cols flt).map (fun r => r.frag.val f.g.depth)),
      ((considerOf cols flt).map (fun r => r.frag.val f.g.depth)).length) := fun cols => by
    rw [fragSum_eq, List.length_map]
  constructor
  · show (f.shards.map (fun sh => f.sumShard flt sh)).foldl ValCount.add ⟨0, 0⟩ = _
    simp only [Field.sumShard, hv]
    rw [pqlSum_fold, sumInt_perm hp, hp.length_eq]
    simp [V, consideredVals]
  · simp only [Field.apiSum, hv]
    rw [apiSum_fold, sumInt_perm hp, hp.length_eq]
    split
    · rename_i hemp
      rw [List.isEmpty_iff.mp hemp] at hp
      simp [V, consideredVals, (List.Perm.nil_eq hp).symm, sumInt]
    · simp [V, consideredVals]

end PV.C14
