/- C15: the Row algebra — column sets, the walk of mergeSegmentIterator (`zipSegs`), the operations built on it. -/
import PV.C15.Model
import PV.C15.Spec
namespace PV.C15
open List

@[simp] theorem mem_sAdd (c x : Nat) (l : List Nat) : x ∈ sAdd c l ↔ x = c ∨ x ∈ l := by
  unfold sAdd
  split
  · next h =>
    have : c ∈ l := by simpa using h
    exact ⟨Or.inr, fun h => h.elim (fun e => e ▸ this) id⟩
  · simp [or_comm]

@[simp] theorem mem_sUnion (a b : List Nat) (x : Nat) : x ∈ sUnion a b ↔ x ∈ a ∨ x ∈ b := by
  by_cases ha : x ∈ a <;> simp [sUnion, ha]

@[simp] theorem mem_sInter (a b : List Nat) (x : Nat) : x ∈ sInter a b ↔ x ∈ a ∧ x ∈ b := by
  simp [sInter]

@[simp] theorem mem_sDiff (a b : List Nat) (x : Nat) : x ∈ sDiff a b ↔ x ∈ a ∧ x ∉ b := by
  simp [sDiff]

@[simp] theorem mem_sXor (a b : List Nat) (x : Nat) : x ∈ sXor a b ↔ (x ∈ a ∧ x ∉ b) ∨ (x ∈ b ∧ x ∉ a) := by
  simp [sXor]

theorem mem_setOp (op : Op) (a b : List Nat) (x : Nat) :
    x ∈ Spec.setOp op a b ↔
      match op with
      | .union => x ∈ a ∨ x ∈ b
      | .inter => x ∈ a ∧ x ∈ b
      | .diff => x ∈ a ∧ x ∉ b
      | .xor => (x ∈ a ∧ x ∉ b) ∨ (x ∈ b ∧ x ∉ a) := by
  cases op <;> simp [Spec.setOp]

theorem mem_foldl_sUnion {α : Type} (g : α → List Nat) (l : List α) (init : List Nat) (c : Nat) :
    c ∈ l.foldl (fun acc x => sUnion acc (g x)) init ↔ c ∈ init ∨ ∃ x ∈ l, c ∈ g x := by
  induction l generalizing init with
  | nil => simp
  | cons x xs ih => simp [ih, or_assoc]

theorem nodup_sInter (a b : List Nat) (h : a.Nodup) : (sInter a b).Nodup := Pairwise.filter _ h
theorem nodup_sDiff (a b : List Nat) (h : a.Nodup) : (sDiff a b).Nodup := Pairwise.filter _ h

theorem nodup_sUnion (a b : List Nat) (ha : a.Nodup) (hb : b.Nodup) : (sUnion a b).Nodup := by
  refine nodup_append.mpr ⟨ha, Pairwise.filter _ hb, ?_⟩
  rintro x hx _ hy rfl
  simp [hx] at hy

theorem nodup_sXor (a b : List Nat) (ha : a.Nodup) (hb : b.Nodup) : (sXor a b).Nodup := by
  refine nodup_append.mpr ⟨nodup_sDiff a b ha, nodup_sDiff b a hb, ?_⟩
  rintro x hx _ hy rfl
  exact ((mem_sDiff _ _ _).mp hy).2 ((mem_sDiff _ _ _).mp hx).1

theorem nodup_sAdd (c : Nat) (l : List Nat) (h : l.Nodup) : (sAdd c l).Nodup := by
  unfold sAdd
  split
  · exact h
  · next hc =>
    refine nodup_append.mpr ⟨h, by simp, ?_⟩
    rintro x hx _ hy rfl
    simp only [mem_singleton] at hy
    exact hc (by simpa [hy] using hx)

theorem nodup_map_add (n : Nat) (l : List Nat) (h : l.Nodup) : (l.map (· + n)).Nodup :=
  Pairwise.map _ (by intro a b hab; omega) h

theorem nodup_foldl_sUnion {α : Type} (g : α → List Nat) (l : List α) (init : List Nat) (hi : init.Nodup)
    (hg : ∀ x ∈ l, (g x).Nodup) : (l.foldl (fun acc x => sUnion acc (g x)) init).Nodup := by
  induction l generalizing init with
  | nil => exact hi
  | cons x xs ih =>
    exact ih _ (nodup_sUnion _ _ hi (hg x (by simp))) (fun y hy => hg y (by simp [hy]))

theorem mem_cols (r : Row) (c : Nat) : c ∈ Row.cols r ↔ ∃ sg ∈ r, c ∈ sg.cols := by
  simp [Row.cols, mem_flatMap]

@[simp] theorem cols_nil : Row.cols [] = [] := rfl

@[simp] theorem cols_single (sg : Seg) : Row.cols [sg] = sg.cols := by simp [Row.cols]

/-! fuel of `zipSegs` = segments still to come; a step uses one unit and one segment, or two -/
theorem fuel_left {m n f : Nat} (h : m + 1 + n ≤ f + 1) : m + n ≤ f := by omega
theorem fuel_right {m n f : Nat} (h : m + (n + 1) ≤ f + 1) : m + n ≤ f := by omega
theorem fuel_both {m n f : Nat} (h : m + 1 + (n + 1) ≤ f + 1) : m + n ≤ f := by omega

theorem zipSegs_proj (f : Nat) (a b : Row) (hf : a.length + b.length ≤ f) :
    (zipSegs f a b).filterMap (·.1) = a ∧ (zipSegs f a b).filterMap (·.2) = b := by
  fun_induction zipSegs f a b with
  | case1 a b => simp at hf; simp [hf]
  | case2 => simp
  | case3 f y ys ih => simp [ih (fuel_right hf)]
  | case4 f x xs ih => simp [ih (fuel_left hf)]
  | case5 f x xs y ys _ ih => simp [ih (fuel_left hf)]
  | case6 f x xs y ys _ _ ih => simp [ih (fuel_right hf)]
  | case7 f x xs y ys _ _ ih => simp [ih (fuel_both hf)]

theorem zipRows_fst (a b : Row) : (zipRows a b).filterMap (·.1) = a := (zipSegs_proj _ a b (Nat.le_refl _)).1
theorem zipRows_snd (a b : Row) : (zipRows a b).filterMap (·.2) = b := (zipSegs_proj _ a b (Nat.le_refl _)).2

/-- the step of Merge/Intersect/Xor/Difference on a pair of the walk; `kl`/`kr`: keep a segment without partner -/
def segOp (kl kr : Bool) (op : List Nat → List Nat → List Nat) : Option Seg × Option Seg → Option Seg
  | (some x, some y) => some ⟨x.shard, op x.cols y.cols⟩
  | (some x, none) => if kl then some x else none
  | (none, some y) => if kr then some y else none
  | (none, none) => none

theorem merge_eq (a b : Row) : a.merge b = (zipRows a b).filterMap (segOp true true sUnion) := by
  unfold Row.merge; congr 1; funext ⟨u, v⟩; cases u <;> cases v <;> rfl
theorem inter_eq (a b : Row) : a.inter b = (zipRows a b).filterMap (segOp false false sInter) := by
  unfold Row.inter; congr 1; funext ⟨u, v⟩; cases u <;> cases v <;> rfl
theorem xor_eq (a b : Row) : a.xor b = (zipRows a b).filterMap (segOp true true sXor) := by
  unfold Row.xor; congr 1; funext ⟨u, v⟩; cases u <;> cases v <;> rfl
theorem diff_eq (a b : Row) : a.diff b = (zipRows a b).filterMap (segOp true false sDiff) := by
  unfold Row.diff; congr 1; funext ⟨u, v⟩; cases u <;> cases v <;> rfl

theorem mem_cols_filterMap {α : Type} (F : α → Option Seg) (ps : List α) (c : Nat) :
    c ∈ Row.cols (ps.filterMap F) ↔ ∃ p ∈ ps, ∃ sg, F p = some sg ∧ c ∈ sg.cols := by
  simp only [mem_cols, mem_filterMap]
  exact ⟨fun ⟨sg, ⟨p, hp, hF⟩, hc⟩ => ⟨p, hp, sg, hF, hc⟩, fun ⟨p, hp, sg, hF, hc⟩ => ⟨sg, ⟨p, hp, hF⟩, hc⟩⟩

theorem mem_cols_merge (a b : Row) (c : Nat) :
    c ∈ Row.cols (Row.merge a b) ↔ c ∈ Row.cols a ∨ c ∈ Row.cols b := by
  have h : c ∈ Row.cols ((zipRows a b).filterMap (segOp true true sUnion)) ↔
      c ∈ Row.cols ((zipRows a b).filterMap (·.1)) ∨ c ∈ Row.cols ((zipRows a b).filterMap (·.2)) := by
    simp only [mem_cols_filterMap, ← exists_or, ← and_or_left]
    refine exists_congr fun p => and_congr_right fun _ => ?_
    rcases p with ⟨_ | x, _ | y⟩ <;> simp [segOp, exists_or]
  rwa [zipRows_fst, zipRows_snd, ← merge_eq] at h

/-- segments in ascending shard order, one per shard (the invariant of `Row.segments`) -/
def Asc (r : Row) : Prop := r.Pairwise (fun a b => a.shard < b.shard)

/-- the columns of row `r` held in the segment(s) of shard `s` -/
def colsAt (r : Row) (s : Nat) : List Nat := (r.filter (fun sg => sg.shard = s)).flatMap (·.cols)

theorem mem_colsAt (r : Row) (s c : Nat) : c ∈ colsAt r s ↔ ∃ sg ∈ r, sg.shard = s ∧ c ∈ sg.cols := by
  simp [colsAt, and_assoc]

theorem colsAt_cons (x : Seg) (xs : Row) (s c : Nat) :
    c ∈ colsAt (x :: xs) s ↔ (x.shard = s ∧ c ∈ x.cols) ∨ c ∈ colsAt xs s := by
  simp [mem_colsAt]

theorem colsAt_nil (s c : Nat) : ¬ c ∈ colsAt [] s := by simp [colsAt]

theorem colsAt_cons_ne {x : Seg} {xs : Row} {s c : Nat} (h : x.shard ≠ s) :
    c ∈ colsAt (x :: xs) s ↔ c ∈ colsAt xs s := by
  simp [colsAt_cons, h]

theorem asc_tail_none {x : Seg} {xs : Row} (h : Asc (x :: xs)) {s c : Nat} (hs : s ≤ x.shard) :
    ¬ c ∈ colsAt xs s := by
  rw [mem_colsAt]
  rintro ⟨sg, hsg, h2, _⟩
  have := (pairwise_cons.mp h).1 sg hsg
  omega

theorem asc_all_none {x : Seg} {xs : Row} (h : Asc (x :: xs)) {s c : Nat} (hs : s < x.shard) :
    ¬ c ∈ colsAt (x :: xs) s := by
  rw [colsAt_cons_ne (by omega)]
  exact asc_tail_none h (Nat.le_of_lt hs)

theorem colsAt_head {x : Seg} {xs : Row} (h : Asc (x :: xs)) {s c : Nat} (hs : x.shard = s) :
    c ∈ colsAt (x :: xs) s ↔ c ∈ x.cols := by
  simp [colsAt_cons, hs, asc_tail_none h (Nat.le_of_eq hs.symm)]

theorem asc_tail {x : Seg} {xs : Row} (h : Asc (x :: xs)) : Asc xs := (pairwise_cons.mp h).2

section generic
variable (F : Option Seg × Option Seg → Option Seg) (G : Prop → Prop → Prop)

/-- step `F` computes, per column, the connective `G` of the set operation on "is in the left / right
segment" (missing segment = `False`); `ff`: absent on both sides, absent in the result -/
structure StepSpec : Prop where
  ff : ¬ G False False
  left : ∀ x s c, (∃ sg, F (some x, none) = some sg ∧ sg.shard = s ∧ c ∈ sg.cols) ↔ (x.shard = s ∧ G (c ∈ x.cols) False)
  right : ∀ y s c, (∃ sg, F (none, some y) = some sg ∧ sg.shard = s ∧ c ∈ sg.cols) ↔ (y.shard = s ∧ G False (c ∈ y.cols))
  both : ∀ x y s c, x.shard = y.shard →
    ((∃ sg, F (some x, some y) = some sg ∧ sg.shard = s ∧ c ∈ sg.cols) ↔ (x.shard = s ∧ G (c ∈ x.cols) (c ∈ y.cols)))

variable {F G}

theorem StepSpec.operand_of_result (hS : StepSpec F G) {p q : Prop} (h : G p q) : p ∨ q := by
  by_cases hp : p
  · exact Or.inl hp
  · by_cases hq : q
    · exact Or.inr hq
    · exact absurd h (by simpa [hp, hq] using hS.ff)

theorem colsAt_filterMap_cons (p : Option Seg × Option Seg) (ps : List (Option Seg × Option Seg)) (s c : Nat) :
    c ∈ colsAt ((p :: ps).filterMap F) s ↔
      (∃ sg, F p = some sg ∧ sg.shard = s ∧ c ∈ sg.cols) ∨ c ∈ colsAt (ps.filterMap F) s := by
  simp only [filterMap_cons]
  cases hF : F p with
  | none => simp
  | some sg => rw [colsAt_cons]; simp

/-- in each step the head's shard is `s`, and then neither tail holds anything in `s`, or it is not, and
the head contributes nothing -/
theorem zip_colsAt (hS : StepSpec F G) (f : Nat) (a b : Row) (ha : Asc a) (hb : Asc b)
    (hf : a.length + b.length ≤ f) (s c : Nat) :
    c ∈ colsAt ((zipSegs f a b).filterMap F) s ↔ G (c ∈ colsAt a s) (c ∈ colsAt b s) := by
  fun_induction zipSegs f a b with
  | case1 a b => simp at hf; simp [hf, colsAt_nil, hS.ff]
  | case2 => simp [colsAt_nil, hS.ff]
  | case3 f y ys ih =>
    rw [colsAt_filterMap_cons, hS.right, ih ha (asc_tail hb) (fuel_right hf)]
    by_cases hy : y.shard = s
    · simp [hy, colsAt_head hb hy, asc_tail_none hb (Nat.le_of_eq hy.symm), colsAt_nil, hS.ff]
    · simp [hy, colsAt_cons_ne hy]
  | case4 f x xs ih =>
    rw [colsAt_filterMap_cons, hS.left, ih (asc_tail ha) hb (fuel_left hf)]
    by_cases hx : x.shard = s
    · simp [hx, colsAt_head ha hx, asc_tail_none ha (Nat.le_of_eq hx.symm), colsAt_nil, hS.ff]
    · simp [hx, colsAt_cons_ne hx]
  | case5 f x xs y ys hlt ih =>
    rw [colsAt_filterMap_cons, hS.left, ih (asc_tail ha) hb (fuel_left hf)]
    by_cases hx : x.shard = s
    · simp [hx, colsAt_head ha hx, asc_tail_none ha (Nat.le_of_eq hx.symm), asc_all_none hb (hx ▸ hlt), hS.ff]
    · simp [hx, colsAt_cons_ne hx]
  | case6 f x xs y ys _ hgt ih =>
    rw [colsAt_filterMap_cons, hS.right, ih ha (asc_tail hb) (fuel_right hf)]
    by_cases hy : y.shard = s
    · simp [hy, colsAt_head hb hy, asc_tail_none hb (Nat.le_of_eq hy.symm), asc_all_none ha (hy ▸ hgt), hS.ff]
    · simp [hy, colsAt_cons_ne hy]
  | case7 f x xs y ys hnlt hngt ih =>
    have heq : x.shard = y.shard := by omega
    rw [colsAt_filterMap_cons, hS.both x y s c heq, ih (asc_tail ha) (asc_tail hb) (fuel_both hf)]
    by_cases hx : x.shard = s
    · have hy : y.shard = s := heq ▸ hx
      simp [hx, colsAt_head ha hx, colsAt_head hb hy, asc_tail_none ha (Nat.le_of_eq hx.symm),
        asc_tail_none hb (Nat.le_of_eq hy.symm), hS.ff]
    · have hy : y.shard ≠ s := heq ▸ hx
      simp [hx, colsAt_cons_ne hx, colsAt_cons_ne hy]

end generic

theorem segOp_spec {kl kr : Bool} {op : List Nat → List Nat → List Nat} {G : Prop → Prop → Prop}
    (hop : ∀ a b x, x ∈ op a b ↔ G (x ∈ a) (x ∈ b))
    (hl : ∀ p, G p False ↔ kl = true ∧ p) (hr : ∀ q, G False q ↔ kr = true ∧ q) :
    StepSpec (segOp kl kr op) G where
  ff := by simp [hl]
  left := by intro x s c; cases kl <;> simp [segOp, hl]
  right := by intro y s c; cases kr <;> simp [segOp, hr]
  both := by intro x y s c _; simp [segOp, hop]

theorem mergeSpec : StepSpec (segOp true true sUnion) (fun p q => p ∨ q) :=
  segOp_spec mem_sUnion (by simp) (by simp)
theorem interSpec : StepSpec (segOp false false sInter) (fun p q => p ∧ q) :=
  segOp_spec mem_sInter (by simp) (by simp)
theorem diffSpec : StepSpec (segOp true false sDiff) (fun p q => p ∧ ¬ q) :=
  segOp_spec mem_sDiff (by simp) (by simp)
theorem xorSpec : StepSpec (segOp true true sXor) (fun p q => (p ∧ ¬ q) ∨ (q ∧ ¬ p)) :=
  segOp_spec mem_sXor (by simp) (by simp)

/-- the value of a bitmap call evaluated in shard `s` when no Shift carried: at most the segment of
shard `s`, holding only columns of shard `s`. -/
def Local (s : Nat) (r : Row) : Prop :=
  r = [] ∨ ∃ cs, r = [⟨s, cs⟩] ∧ ∀ c ∈ cs, c / ShardWidth = s

theorem local_nil (s : Nat) : Local s [] := Or.inl rfl

theorem local_single (s : Nat) (cs : List Nat) (h : ∀ c ∈ cs, c / ShardWidth = s) : Local s [⟨s, cs⟩] :=
  Or.inr ⟨cs, rfl, h⟩

theorem local_mem_shard {s : Nat} {r : Row} (h : Local s r) {c : Nat} (hc : c ∈ Row.cols r) : c / ShardWidth = s := by
  rcases h with rfl | ⟨cs, rfl, hcs⟩
  · cases hc
  · exact hcs c (by simpa using hc)

theorem local_asc {s : Nat} {r : Row} (h : Local s r) : Asc r := by
  rcases h with rfl | ⟨cs, rfl, _⟩ <;> simp [Asc]

theorem local_colsAt {s : Nat} {r : Row} (h : Local s r) (c : Nat) : c ∈ colsAt r s ↔ c ∈ Row.cols r := by
  rcases h with rfl | ⟨cs, rfl, _⟩ <;> simp [colsAt]

theorem zip_local {kl kr : Bool} {op : List Nat → List Nat → List Nat} {G : Prop → Prop → Prop}
    (hS : StepSpec (segOp kl kr op) G) {s : Nat} {a b : Row} (ha : Local s a) (hb : Local s b) :
    Local s ((zipRows a b).filterMap (segOp kl kr op)) ∧
    ∀ c, c ∈ Row.cols ((zipRows a b).filterMap (segOp kl kr op)) ↔ G (c ∈ Row.cols a) (c ∈ Row.cols b) := by
  have hloc : Local s ((zipRows a b).filterMap (segOp kl kr op)) := by
    rcases ha with rfl | ⟨ca, rfl, hca⟩ <;> rcases hb with rfl | ⟨cb, rfl, hcb⟩
    · exact local_nil s
    · cases kr
      · exact local_nil s
      · exact local_single s cb hcb
    · cases kl
      · exact local_nil s
      · exact local_single s ca hca
    · have e : zipRows [⟨s, ca⟩] [⟨s, cb⟩] = [(some ⟨s, ca⟩, some ⟨s, cb⟩)] := by simp [zipRows, zipSegs]
      rw [e]
      refine local_single s _ fun c hc => ?_
      have := (hS.both ⟨s, ca⟩ ⟨s, cb⟩ s c rfl).mp ⟨_, rfl, rfl, hc⟩
      exact (hS.operand_of_result this.2).elim (hca c) (hcb c)
  refine ⟨hloc, fun c => ?_⟩
  rw [← local_colsAt hloc, ← local_colsAt ha, ← local_colsAt hb]
  exact zip_colsAt hS _ a b (local_asc ha) (local_asc hb) (Nat.le_refl _) s c

/-- every segment is duplicate-free -/
def NodupRow (r : Row) : Prop := ∀ sg ∈ r, sg.cols.Nodup

theorem nodupRow_nil : NodupRow [] := fun _ h => nomatch h

theorem nodupRow_single (s : Nat) (cs : List Nat) (h : cs.Nodup) : NodupRow [⟨s, cs⟩] := by
  intro sg hsg
  rw [mem_singleton.mp hsg]
  exact h

theorem nodupRow_zip {kl kr : Bool} {op : List Nat → List Nat → List Nat}
    (hop : ∀ a b, a.Nodup → b.Nodup → (op a b).Nodup) {a b : Row} (ha : NodupRow a) (hb : NodupRow b) :
    NodupRow ((zipRows a b).filterMap (segOp kl kr op)) := by
  intro sg hsg
  obtain ⟨⟨u, v⟩, hp, hF⟩ := mem_filterMap.mp hsg
  have hu : ∀ x, u = some x → x.cols.Nodup := fun x hx =>
    ha x (zipRows_fst a b ▸ mem_filterMap.mpr ⟨_, hp, hx⟩)
  have hv : ∀ y, v = some y → y.cols.Nodup := fun y hy =>
    hb y (zipRows_snd a b ▸ mem_filterMap.mpr ⟨_, hp, hy⟩)
  rcases u with _ | x <;> rcases v with _ | y <;> simp only [segOp] at hF
  · cases hF
  · split at hF
    · cases hF; exact hv _ rfl
    · cases hF
  · split at hF
    · cases hF; exact hu _ rfl
    · cases hF
  · cases hF; exact hop _ _ (hu _ rfl) (hv _ rfl)

end PV.C15
