/- C15: `evalShard` and `Spec.eval` walk an expression in lock step (`evalShard_rel`); hence a shard evaluation returns
the shard's part of the set-algebra value (no Shift carry), fails exactly when that fails, and has duplicate-free segments. -/
import PV.C15.LemmasUnion
namespace PV.C15
open List

/-- every stored bit / value lives in an existing fragment (established by the write paths) -/
structure WF (st : St) : Prop where
  bitFrag : ∀ b ∈ st.bits, (b.field, b.view, b.col / ShardWidth) ∈ st.frags
  valFrag : ∀ e ∈ st.vals, (e.1, St.bsiView e.1, e.2.1 / ShardWidth) ∈ st.frags

theorem ite_ok {α : Type} (c : Prop) [Decidable c] (a b : α) :
    (if c then (.ok a : Except Err α) else .ok b) = .ok (if c then a else b) := by
  split <;> rfl

/-- `r` is the part of `cs` lying in shard `s` (what `leaf_local` and `evalShard_spec` conclude, written out there) -/
def Part (s : Nat) (cs : List Nat) (r : Row) : Prop :=
  Local s r ∧ ∀ c, c ∈ Row.cols r ↔ c ∈ cs ∧ c / ShardWidth = s

theorem part_nil {s : Nat} {cs : List Nat} (h : ∀ c ∈ cs, c / ShardWidth ≠ s) : Part s cs [] :=
  ⟨local_nil s, fun c => by simpa using h c⟩

theorem part_single {s : Nat} {cs seg : List Nat} (h : ∀ c, c ∈ seg ↔ c ∈ cs ∧ c / ShardWidth = s) :
    Part s cs [⟨s, seg⟩] :=
  ⟨local_single s seg fun c hc => ((h c).mp hc).2, fun c => by simpa using h c⟩

theorem part_leaf {s : Nat} {cs seg : List Nat} (present : Bool)
    (hseg : ∀ c, c ∈ seg ↔ c ∈ cs ∧ c / ShardWidth = s)
    (habs : present = false → ∀ c ∈ cs, c / ShardWidth ≠ s) :
    Part s cs (if present then [⟨s, seg⟩] else []) := by
  cases present
  · exact part_nil (habs rfl)
  · exact part_single hseg

theorem mem_fieldCols (st : St) (f v : String) (r x : Nat) :
    x ∈ Spec.fieldCols st f v r ↔ (⟨f, v, r, x⟩ : Bit) ∈ st.bits := by
  simp only [Spec.fieldCols, mem_eraseDups, mem_map, mem_filter, decide_eq_true_eq]
  constructor
  · rintro ⟨⟨_, _, _, _⟩, ⟨hb, rfl, rfl, rfl⟩, rfl⟩; exact hb
  · intro h; exact ⟨_, ⟨h, rfl, rfl, rfl⟩, rfl⟩

theorem mem_fragRow (st : St) (f v : String) (r s c : Nat) :
    c ∈ st.fragRow f v r s ↔ c ∈ Spec.fieldCols st f v r ∧ c / ShardWidth = s := by
  simp only [St.fragRow, Spec.fieldCols, mem_eraseDups, mem_map, mem_filter, decide_eq_true_eq]
  constructor
  · rintro ⟨b, ⟨hb, h1, h2, h3, h4⟩, rfl⟩
    exact ⟨⟨b, ⟨hb, h1, h2, h3⟩, rfl⟩, h4⟩
  · rintro ⟨⟨b, ⟨hb, h1, h2, h3⟩, rfl⟩, h4⟩
    exact ⟨b, ⟨hb, h1, h2, h3, h4⟩, rfl⟩

theorem no_frag_no_col (st : St) (hw : WF st) (f v : String) (r s : Nat)
    (hf : st.hasFrag f v s = false) (c : Nat) (hc : c ∈ Spec.fieldCols st f v r) : c / ShardWidth ≠ s := by
  intro hs
  have := hw.bitFrag _ ((mem_fieldCols st f v r c).mp hc)
  simp only [St.hasFrag, contains_eq_mem, decide_eq_false_iff_not] at hf
  exact hf (hs ▸ this)

theorem leaf_local (st : St) (hw : WF st) (f v : String) (r s : Nat) :
    let row : Row := if st.hasFrag f v s then [⟨s, st.fragRow f v r s⟩] else []
    Local s row ∧ ∀ c, c ∈ Row.cols row ↔ c ∈ Spec.fieldCols st f v r ∧ c / ShardWidth = s :=
  part_leaf _ (mem_fragRow st f v r s) (no_frag_no_col st hw f v r s)

/-- `G` commutes with "lies in shard `s`" because it is false on two absent columns (`hS.ff`; `hS` also names `G`) -/
theorem Part.binary {F : Option Seg × Option Seg → Option Seg} {G : Prop → Prop → Prop} (hS : StepSpec F G)
    {s : Nat} {ca cb cs : List Nat} {a b r : Row}
    (ha : Part s ca a) (hb : Part s cb b) (hcs : ∀ x, x ∈ cs ↔ G (x ∈ ca) (x ∈ cb))
    (hr : Local s r ∧ ∀ c, c ∈ Row.cols r ↔ G (c ∈ Row.cols a) (c ∈ Row.cols b)) : Part s cs r := by
  refine ⟨hr.1, fun c => ?_⟩
  rw [hr.2, ha.2, hb.2, hcs]
  by_cases h : c / ShardWidth = s <;> simp [h, hS.ff]

theorem part_applyOp (op : Op) {s : Nat} {ca cb : List Nat} {a b : Row} (ha : Part s ca a) (hb : Part s cb b) :
    Part s (Spec.setOp op ca cb) (applyOp op a b) := by
  cases op
  · exact Part.binary mergeSpec ha hb (mem_sUnion ca cb) (union_local s a b ha.1 hb.1)
  · rw [applyOp, inter_eq]
    exact Part.binary interSpec ha hb (mem_sInter ca cb) (zip_local interSpec ha.1 hb.1)
  · rw [applyOp, diff_eq]
    exact Part.binary diffSpec ha hb (mem_sDiff ca cb) (zip_local diffSpec ha.1 hb.1)
  · rw [applyOp, xor_eq]
    exact Part.binary xorSpec ha hb (mem_sXor ca cb) (zip_local xorSpec ha.1 hb.1)

theorem part_shift {s n : Nat} {ca : List Nat} {a : Row} (ha : Part s ca a)
    (hall : ∀ c ∈ ca, c % ShardWidth + n < ShardWidth) : Part s (ca.map (· + n)) (Row.shift n a) := by
  -- the shifted columns of shard `s` are the shifts of the columns of shard `s`
  have hmem : ∀ c, c ∈ (Row.cols a).map (· + n) ↔ c ∈ ca.map (· + n) ∧ c / ShardWidth = s := by
    intro c
    simp only [mem_map, ha.2]
    constructor
    · rintro ⟨c0, ⟨hc0, hs⟩, rfl⟩; exact ⟨⟨c0, hc0, rfl⟩, (shard_add (hall c0 hc0)).1.trans hs⟩
    · rintro ⟨⟨c0, hc0, rfl⟩, hs⟩; exact ⟨c0, ⟨hc0, (shard_add (hall c0 hc0)).1.symm.trans hs⟩, rfl⟩
  rcases ha.1 with rfl | ⟨cols, rfl, hcols⟩
  · rw [shift_nil]
    exact part_nil fun c hc hs => by simpa using (hmem c).mpr ⟨hc, hs⟩
  · have hca : ∀ c ∈ cols, c ∈ ca := fun c hc => ((ha.2 c).mp (by simpa using hc)).1
    rw [shift_local s n cols fun c hc => ⟨hcols c hc, hall c (hca c hc)⟩]
    exact part_single (by simpa only [cols_single] using hmem)

theorem part_timeViews (st : St) (hw : WF st) (f : String) (r s : Nat) (views : List String) :
    Part s (views.foldl (fun acc v => sUnion acc (Spec.fieldCols st f v r)) [])
      (unionRows ((views.filter (fun v => st.hasFrag f v s)).map (fun v => [⟨s, st.fragRow f v r s⟩]))) := by
  obtain ⟨h1, h2⟩ := unionRows_local s
    ((views.filter (fun v => st.hasFrag f v s)).map (fun v => ([⟨s, st.fragRow f v r s⟩] : Row))) (by
      intro l hl
      obtain ⟨v, _, rfl⟩ := mem_map.mp hl
      exact (part_single (mem_fragRow st f v r s)).1)
  refine ⟨h1, fun c => ?_⟩
  rw [h2, mem_foldl_sUnion]
  simp only [not_mem_nil, false_or, mem_map, mem_filter]
  constructor
  · rintro ⟨l, ⟨v, ⟨hv, _⟩, rfl⟩, hc⟩
    have := (mem_fragRow st f v r s c).mp (by simpa using hc)
    exact ⟨⟨v, hv, this.1⟩, this.2⟩
  · rintro ⟨⟨v, hv, hc⟩, hs⟩
    have hfrag : st.hasFrag f v s = true := by
      cases hq : st.hasFrag f v s with
      | true => rfl
      | false => exact absurd hs (no_frag_no_col st hw f v r s hq c hc)
    exact ⟨_, ⟨v, ⟨hv, hfrag⟩, rfl⟩, by simpa using (mem_fragRow st f v r s c).mpr ⟨hc, hs⟩⟩

theorem part_cond (st : St) (hw : WF st) (f : String) (cnd : Cond) (s : Nat) :
    Part s (Spec.condCols st f cnd)
      (if st.hasFrag f (St.bsiView f) s then
        [⟨s, ((st.vals.filter (fun e => e.1 = f ∧ e.2.1 / ShardWidth = s ∧ cnd.holds e.2.2)).map (·.2.1)).eraseDups⟩]
       else []) := by
  refine part_leaf _ (fun c => ?_) (fun hfr c hc hs => ?_)
  · simp only [Spec.condCols, mem_eraseDups, mem_map, mem_filter, decide_eq_true_eq]
    constructor
    · rintro ⟨e, ⟨he, h1, h2, h3⟩, rfl⟩; exact ⟨⟨e, ⟨he, h1, h3⟩, rfl⟩, h2⟩
    · rintro ⟨⟨e, ⟨he, h1, h3⟩, rfl⟩, h2⟩; exact ⟨e, ⟨he, h1, h2, h3⟩, rfl⟩
  · simp only [Spec.condCols, mem_eraseDups, mem_map, mem_filter, decide_eq_true_eq] at hc
    obtain ⟨e, ⟨he, h1, _⟩, rfl⟩ := hc
    have := hw.valFrag e he
    rw [h1, hs] at this
    simp [St.hasFrag, this] at hfr

def errOf {α : Type} : Except Err α → Option Err
  | .ok _ => none
  | .error x => some x

theorem errOf_eq_some {α : Type} {x : Except Err α} {e : Err} : errOf x = some e ↔ x = .error e := by
  cases x <;> simp [errOf]

theorem errOf_eq_none {α : Type} {x : Except Err α} : errOf x = none ↔ ∃ a, x = .ok a := by
  cases x <;> simp [errOf]

/-- The two evaluators side by side: both fail with the same error, or both succeed with related values. -/
def Rel (R : List Nat → Row → Prop) : Except Err (List Nat) → Except Err Row → Prop
  | .ok cs, .ok r => R cs r
  | .error x, .error y => x = y
  | _, _ => False

theorem Rel.bind {R R' : List Nat → Row → Prop} {x : Except Err (List Nat)} {y : Except Err Row}
    {f : List Nat → Except Err (List Nat)} {g : Row → Except Err Row}
    (h : Rel R x y) (hfg : ∀ cs r, x = .ok cs → R cs r → Rel R' (f cs) (g r)) : Rel R' (x >>= f) (y >>= g) := by
  cases x <;> cases y <;> first | exact h.elim | exact h | exact hfg _ _ rfl h

theorem Rel.ok {R : List Nat → Row → Prop} {x : Except Err (List Nat)} {y : Except Err Row} (h : Rel R x y)
    {cs : List Nat} (hx : x = .ok cs) : ∃ r, y = .ok r ∧ R cs r := by
  subst hx; cases y
  · exact h.elim
  · exact ⟨_, rfl, h⟩

theorem Rel.ok' {R : List Nat → Row → Prop} {x : Except Err (List Nat)} {y : Except Err Row} (h : Rel R x y)
    {r : Row} (hy : y = .ok r) : ∃ cs, x = .ok cs ∧ R cs r := by
  subst hy; cases x
  · exact h.elim
  · exact ⟨_, rfl, h⟩

theorem Rel.errOf {R : List Nat → Row → Prop} {x : Except Err (List Nat)} {y : Except Err Row} (h : Rel R x y) :
    errOf y = errOf x := by
  cases x <;> cases y <;> first | exact h.elim | rfl | exact congrArg some (Eq.symm h)

/-- What a relation between a column set and a shard's row has to respect: the leaves of shard `s` and the
operations.  `carry`: the relation needs every Shift to stay inside its shard (`Spec.noCarry`). -/
structure Respects (st : St) (s : Nat) (carry : Prop) (R : List Nat → Row → Prop) : Prop where
  nil : R [] []
  leaf : ∀ (f v : String) (r : Nat),
    R (Spec.fieldCols st f v r) (if st.hasFrag f v s then [⟨s, st.fragRow f v r s⟩] else [])
  time : ∀ (f : String) (r : Nat) (views : List String),
    R (views.foldl (fun acc v => sUnion acc (Spec.fieldCols st f v r)) [])
      (unionRows ((views.filter (fun v => st.hasFrag f v s)).map (fun v => [⟨s, st.fragRow f v r s⟩])))
  cond : ∀ (f : String) (c : Cond), R (Spec.condCols st f c)
    (if st.hasFrag f (St.bsiView f) s then
      [⟨s, ((st.vals.filter (fun e => e.1 = f ∧ e.2.1 / ShardWidth = s ∧ c.holds e.2.2)).map (·.2.1)).eraseDups⟩]
     else [])
  op : ∀ (op : Op) {ca cb : List Nat} {a b : Row}, R ca a → R cb b → R (Spec.setOp op ca cb) (applyOp op a b)
  shift : ∀ (n : Nat) {ca : List Nat} {a : Row}, (carry → ∀ c ∈ ca, c % ShardWidth + n < ShardWidth) → R ca a →
    R (ca.map (· + n)) (Row.shift n a)

/-- `evalShard` and `Spec.eval` go through the same checks in the same order; whatever the leaves and the
operations respect holds of their results. -/
theorem evalShard_rel {st : St} {s : Nat} {carry : Prop} {R : List Nat → Row → Prop} (h : Respects st s carry R) :
    ∀ e : Expr, (carry → Spec.noCarry st e = true) → Rel R (Spec.eval st e) (evalShard st e s) := by
  intro e
  induction e with
  | row f r =>
    intro _
    simp only [Spec.eval, evalShard]
    cases st.fieldType f with
    | none => exact rfl
    | some t => rw [ite_ok]; exact h.leaf f viewStandard r
  | rowTime f r views =>
    intro _
    simp only [Spec.eval, evalShard]
    cases st.fieldType f with
    | none => exact rfl
    | some t =>
      dsimp only
      split
      · exact h.nil
      · exact h.time f r views
  | rowCond f c =>
    intro _
    simp only [Spec.eval, evalShard]
    cases st.fieldType f with
    | none => exact rfl
    | some t =>
      dsimp only
      split
      · exact rfl
      · rw [ite_ok]; exact h.cond f c
  | empty op => intro _; cases op <;> first | exact h.nil | exact rfl
  | bin op a b iha ihb =>
    intro hnc
    simp only [Spec.noCarry, Bool.and_eq_true] at hnc
    simp only [Spec.eval, evalShard]
    exact (iha fun c => (hnc c).1).bind fun _ _ _ pa => (ihb fun c => (hnc c).2).bind fun _ _ _ pb => h.op op pa pb
  | not a iha =>
    intro hnc
    simp only [Spec.eval, evalShard]
    split
    · exact rfl
    · exact (iha hnc).bind fun _ _ _ pa => h.op .diff (h.leaf existenceField viewStandard 0) pa
  | notArity => intro _; exact rfl
  | shiftArity => intro _; exact rfl
  | shift n a iha =>
    intro hnc
    simp only [Spec.eval, evalShard]
    refine (iha fun c => (Bool.and_eq_true _ _ ▸ hnc c : _ ∧ _).1).bind fun ca _ hev pa => ?_
    split
    · exact rfl
    · refine h.shift n.toNat (fun c => ?_) pa
      have := hnc c
      simp only [Spec.noCarry, hev, Bool.and_eq_true, all_eq_true, decide_eq_true_eq] at this
      exact this.2

theorem part_respects (st : St) (hw : WF st) (s : Nat) : Respects st s True (Part s) where
  nil := part_nil (by simp)
  leaf f v r := leaf_local st hw f v r s
  time f r views := part_timeViews st hw f r s views
  cond f c := part_cond st hw f c s
  op op _ _ _ _ := part_applyOp op
  shift _ _ _ hall pa := part_shift pa (hall trivial)

/-- **the per-shard lemma**: without a Shift carry the evaluation in shard `s` returns exactly the part of
the set-algebra value `cs` lying in `s` -/
theorem evalShard_spec (st : St) (hw : WF st) (s : Nat) :
    ∀ (e : Expr) (cs : List Nat), Spec.noCarry st e = true → Spec.eval st e = .ok cs →
      ∃ r, evalShard st e s = .ok r ∧ Local s r ∧ ∀ c, c ∈ Row.cols r ↔ c ∈ cs ∧ c / ShardWidth = s :=
  fun e _ hnc hev => (evalShard_rel (part_respects st hw s) e fun _ => hnc).ok hev

/-- also when a Shift carries -/
theorem evalShard_err (st : St) (s : Nat) (e : Expr) : errOf (evalShard st e s) = errOf (Spec.eval st e) :=
  (evalShard_rel (carry := False) (R := fun _ _ => True)
    ⟨trivial, fun _ _ _ => trivial, fun _ _ _ => trivial, fun _ _ => trivial, fun _ _ _ _ _ _ _ => trivial,
     fun _ _ _ _ _ => trivial⟩ e False.elim).errOf

theorem evalShard_error {st : St} {e : Expr} {x : Err} (s : Nat) (hev : Spec.eval st e = .error x) :
    evalShard st e s = .error x :=
  errOf_eq_some.mp ((evalShard_err st s e).trans (errOf_eq_some.mpr hev))

theorem nodup_eraseDups (l : List Nat) : l.eraseDups.Nodup := by
  induction h : l.length using Nat.strongRecOn generalizing l with
  | _ n ih =>
    cases l with
    | nil => simp
    | cons a as =>
      rw [eraseDups_cons, nodup_cons]
      refine ⟨by simp, ih _ ?_ _ rfl⟩
      have := length_filter_le (fun b => !b == a) as
      simp at h; omega

theorem nodupRow_applyOp (op : Op) (a b : Row) (ha : NodupRow a) (hb : NodupRow b) : NodupRow (applyOp op a b) := by
  cases op
  · exact nodupRow_unionLoop _ _ (by simp [ha, hb])
  · rw [applyOp, inter_eq]; exact nodupRow_zip (fun a b h _ => nodup_sInter a b h) ha hb
  · rw [applyOp, diff_eq]; exact nodupRow_zip (fun a b h _ => nodup_sDiff a b h) ha hb
  · rw [applyOp, xor_eq]; exact nodupRow_zip nodup_sXor ha hb

theorem nodupRow_leaf (present : Bool) (s : Nat) (cs : List Nat) (h : cs.Nodup) :
    NodupRow (if present then [⟨s, cs⟩] else []) := by
  cases present
  · exact nodupRow_nil
  · exact nodupRow_single s cs h

theorem nodup_setOp (op : Op) (a b : List Nat) (ha : a.Nodup) (hb : b.Nodup) : (Spec.setOp op a b).Nodup := by
  cases op
  · exact nodup_sUnion a b ha hb
  · exact nodup_sInter a b ha
  · exact nodup_sDiff a b ha
  · exact nodup_sXor a b ha hb

theorem nodup_respects (st : St) (s : Nat) : Respects st s False (fun cs r => cs.Nodup ∧ NodupRow r) where
  nil := ⟨nodup_nil, nodupRow_nil⟩
  leaf _ _ _ := ⟨nodup_eraseDups _, nodupRow_leaf _ _ _ (nodup_eraseDups _)⟩
  time _ _ _ := ⟨nodup_foldl_sUnion _ _ _ nodup_nil fun _ _ => nodup_eraseDups _,
    nodupRow_unionRows _ fun l hl => by
      obtain ⟨v, _, rfl⟩ := mem_map.mp hl
      exact nodupRow_single _ _ (nodup_eraseDups _)⟩
  cond _ _ := ⟨nodup_eraseDups _, nodupRow_leaf _ _ _ (nodup_eraseDups _)⟩
  op op _ _ _ _ ha hb := ⟨nodup_setOp op _ _ ha.1 hb.1, nodupRow_applyOp op _ _ ha.2 hb.2⟩
  shift _ _ _ _ ha := ⟨nodup_map_add _ _ ha.1, nodupRow_shift _ _ ha.2⟩

/-- every segment a shard evaluation returns is duplicate-free (also when a Shift carries) -/
theorem evalShard_nodup (st : St) (s : Nat) : ∀ (e : Expr) (r : Row), evalShard st e s = .ok r → NodupRow r :=
  fun e _ h => ((evalShard_rel (nodup_respects st s) e False.elim).ok' h).elim fun _ hr => hr.2.2

theorem spec_nodup (st : St) : ∀ (e : Expr) (cs : List Nat), Spec.eval st e = .ok cs → cs.Nodup :=
  fun e _ h => ((evalShard_rel (nodup_respects st 0) e False.elim).ok h).elim fun _ hr => hr.2.1

end PV.C15
