/- C15: the reduce over shards: Merge of the per-shard rows, Count as the sum of the per-shard counts. -/
import PV.C15.LemmasEval
namespace PV.C15
open List

theorem execute_fold (st : St) (hw : WF st) (e : Expr) (cs : List Nat) (hnc : Spec.noCarry st e = true)
    (hev : Spec.eval st e = .ok cs) (shards : List Nat) (acc : Row) :
    ∃ row, shards.foldl (fun acc s => do
        let r ← acc
        let v ← evalShard st e s
        pure (r.merge v)) (Except.ok acc) = .ok row ∧
      ∀ c, c ∈ Row.cols row ↔ c ∈ Row.cols acc ∨ (c ∈ cs ∧ c / ShardWidth ∈ shards) := by
  induction shards generalizing acc with
  | nil => exact ⟨acc, rfl, by intro c; simp⟩
  | cons s rest ih =>
    obtain ⟨r, hr, _, hm⟩ := evalShard_spec st hw s e cs hnc hev
    obtain ⟨row, hrow, hmem⟩ := ih (acc.merge r)
    refine ⟨row, by rw [foldl_cons, hr]; exact hrow, fun c => ?_⟩
    rw [hmem, mem_cols_merge, hm, mem_cons, and_or_left, or_assoc]

theorem mem_insertAsc (x y : Nat) (l : List Nat) : y ∈ Row.insertAsc x l ↔ y = x ∨ y ∈ l := by
  induction l with
  | nil => simp [Row.insertAsc]
  | cons a t ih =>
    simp only [Row.insertAsc]
    split
    · simp
    · simp [ih, or_left_comm]

theorem mem_sortAsc (l : List Nat) (y : Nat) : y ∈ Row.sortAsc l ↔ y ∈ l := by
  unfold Row.sortAsc
  suffices H : ∀ acc, y ∈ l.foldl (fun acc x => Row.insertAsc x acc) acc ↔ y ∈ acc ∨ y ∈ l by simpa using H []
  induction l with
  | nil => intro acc; simp
  | cons a t ih => intro acc; simp [ih, mem_insertAsc, or_assoc, or_left_comm]

theorem mem_columns (r : Row) (c : Nat) : c ∈ Row.columns r ↔ c ∈ Row.cols r := by
  simp [Row.columns, Row.cols, mem_flatMap, mem_sortAsc]

theorem count_eq_length (r : Row) : Row.count r = (Row.cols r).length := by
  induction r with
  | nil => rfl
  | cons x t ih =>
    simp only [Row.count, Row.cols, map_cons, sum_cons, flatMap_cons, length_append] at *
    rw [ih]

theorem part_count {s : Nat} {cs : List Nat} {r : Row} (hp : Part s cs r) (hn : NodupRow r) (hcs : cs.Nodup) :
    r.count = cs.countP (fun c => c / ShardWidth = s) := by
  have hnr : (Row.cols r).Nodup := by
    rcases hp.1 with rfl | ⟨seg, rfl, _⟩
    · simp
    · simpa using hn _ mem_cons_self
  rw [count_eq_length, countP_eq_length_filter]
  exact ((perm_ext_iff_of_nodup hnr (Pairwise.filter _ hcs)).mpr fun c => by rw [hp.2 c]; simp).length_eq

theorem countP_or {α : Type} (p q : α → Bool) (l : List α) (h : ∀ x ∈ l, ¬ (p x = true ∧ q x = true)) :
    l.countP (fun x => p x || q x) = l.countP p + l.countP q := by
  induction l with
  | nil => rfl
  | cons x xs ih =>
    have hx := h x mem_cons_self
    rw [countP_cons, countP_cons, countP_cons, ih fun y hy => h y (mem_cons_of_mem _ hy)]
    cases hp : p x <;> cases hq : q x <;> simp [hp, hq] at hx ⊢ <;> omega

/-- each shard's result is the duplicate-free part of a duplicate-free value; distinct shards select disjoint columns -/
theorem count_fold (st : St) (hw : WF st) (e : Expr) (cs : List Nat) (hnc : Spec.noCarry st e = true)
    (hev : Spec.eval st e = .ok cs) (shards : List Nat) (hs : shards.Nodup) (acc : Nat) :
    shards.foldl (fun acc s => do
        let n ← acc
        let v ← evalShard st e s
        pure (n + v.count)) (Except.ok acc) =
      .ok (acc + cs.countP (fun c => c / ShardWidth ∈ shards)) := by
  induction shards generalizing acc with
  | nil => simp
  | cons s rest ih =>
    obtain ⟨r, hr, hp⟩ := evalShard_spec st hw s e cs hnc hev
    have hsplit := countP_or (fun c => decide (c / ShardWidth = s)) (fun c => decide (c / ShardWidth ∈ rest)) cs
      (fun c _ h => (nodup_cons.mp hs).1 (of_decide_eq_true h.1 ▸ of_decide_eq_true h.2))
    rw [foldl_cons, hr]
    refine (ih (nodup_cons.mp hs).2 (acc + r.count)).trans ?_
    simp only [mem_cons, Bool.decide_or, hsplit, Nat.add_assoc,
      part_count hp (evalShard_nodup st s e r hr) (spec_nodup st e cs hev)]

end PV.C15
