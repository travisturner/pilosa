/- C15: Row.Union (the k-way walk) and Row.Shift on the rows a shard evaluation produces; both keep
segments duplicate-free on any rows. -/
import PV.C15.Lemmas
namespace PV.C15
open List

theorem unionLoop_all_nil (f : Nat) (ls : List Row) (h : ∀ l ∈ ls, l = []) : Row.unionLoop f ls = [] := by
  cases f with
  | zero => rfl
  | succ f =>
    have : ls.filter Row.nonEmpty = [] := by
      apply filter_eq_nil_iff.mpr
      intro l hl; rw [h l hl]; simp [Row.nonEmpty]
    simp [Row.unionLoop, this, Row.minShard]

theorem minShard_singles (s : Nat) (ls : List Row) (h : ∀ l ∈ ls, ∃ cs, l = [⟨s, cs⟩]) (hne : ls ≠ []) :
    Row.minShard ls = some s := by
  induction ls with
  | nil => exact absurd rfl hne
  | cons l ls ih =>
    obtain ⟨cs, rfl⟩ := h l (by simp)
    by_cases hls : ls = []
    · subst hls; rfl
    · simp [Row.minShard, ih (fun l hl => h l (by simp [hl])) hls]

theorem mem_unionSegs (sh : Nat) (P : List Seg) (c : Nat) :
    c ∈ (Row.unionSegs sh P).cols ↔ ∃ o ∈ P, c ∈ o.cols := by
  cases P with
  | nil => simp [Row.unionSegs]
  | cons p ps => simp [Row.unionSegs, mem_foldl_sUnion]

/-- one round consumes everything: the non-empty lists are single segments of shard `s` -/
theorem unionLoop_local (s f : Nat) (ls : List Row) (h : ∀ l ∈ ls, Local s l) (hf : ∀ l ∈ ls, l.length ≤ f) :
    Local s (Row.unionLoop f ls) ∧ ∀ c, c ∈ Row.cols (Row.unionLoop f ls) ↔ ∃ l ∈ ls, c ∈ Row.cols l := by
  have hfil : ∀ l ∈ ls.filter Row.nonEmpty, ∃ cs, l = [⟨s, cs⟩] := by
    intro l hl
    have ⟨hl1, hl2⟩ := mem_filter.mp hl
    rcases h l hl1 with rfl | ⟨cs, rfl, _⟩
    · simp [Row.nonEmpty] at hl2
    · exact ⟨cs, rfl⟩
  by_cases hne : ls.filter Row.nonEmpty = []
  · have hall : ∀ l ∈ ls, l = [] := by
      intro l hl
      cases l with
      | nil => rfl
      | cons x t => exact absurd (mem_filter.mpr ⟨hl, rfl⟩) (hne ▸ not_mem_nil)
    rw [unionLoop_all_nil _ _ hall]
    refine ⟨local_nil s, fun c => ?_⟩
    constructor
    · intro hc; simp at hc
    · rintro ⟨l, hl, hc⟩; rw [hall l hl] at hc; simp at hc
  · obtain ⟨l0, hl0⟩ := exists_mem_of_ne_nil _ hne
    obtain ⟨f, rfl⟩ : ∃ f', f = f' + 1 := by
      obtain ⟨cs, rfl⟩ := hfil l0 hl0
      have := hf _ (mem_filter.mp hl0).1
      exact ⟨f - 1, by simp at this; omega⟩
    have hnext : ∀ l ∈ (ls.filter Row.nonEmpty).map (Row.dropIf s), l = [] := by
      intro l hl
      obtain ⟨l1, hl1, rfl⟩ := mem_map.mp hl
      obtain ⟨cs, rfl⟩ := hfil l1 hl1
      simp [Row.dropIf]
    have hheads : ∀ o, o ∈ (ls.filter Row.nonEmpty).filterMap (Row.headIf s) ↔ [o] ∈ ls ∧ o.shard = s := by
      intro o
      rw [mem_filterMap]
      constructor
      · rintro ⟨l, hl, hh⟩
        obtain ⟨cs, rfl⟩ := hfil l hl
        simp [Row.headIf] at hh; subst hh
        exact ⟨(mem_filter.mp hl).1, rfl⟩
      · rintro ⟨hl, hs⟩
        exact ⟨[o], mem_filter.mpr ⟨hl, rfl⟩, by simp [Row.headIf, hs]⟩
    have hshard : (Row.unionSegs s ((ls.filter Row.nonEmpty).filterMap (Row.headIf s))).shard = s := by
      cases hP : (ls.filter Row.nonEmpty).filterMap (Row.headIf s) with
      | nil => rfl
      | cons p ps => exact ((hheads p).mp (hP ▸ mem_cons_self)).2
    have hmem : ∀ c, c ∈ (Row.unionSegs s ((ls.filter Row.nonEmpty).filterMap (Row.headIf s))).cols ↔
        ∃ l ∈ ls, c ∈ Row.cols l := by
      intro c
      rw [mem_unionSegs]
      constructor
      · rintro ⟨o, ho, hc⟩
        exact ⟨[o], ((hheads o).mp ho).1, by simpa using hc⟩
      · rintro ⟨l, hl, hc⟩
        rcases h l hl with rfl | ⟨cs, rfl, _⟩
        · simp at hc
        · exact ⟨⟨s, cs⟩, (hheads _).mpr ⟨hl, rfl⟩, by simpa using hc⟩
    simp only [Row.unionLoop, minShard_singles s _ hfil hne, unionLoop_all_nil _ _ hnext]
    generalize Row.unionSegs s ((ls.filter Row.nonEmpty).filterMap (Row.headIf s)) = U at hshard hmem
    obtain ⟨sh, cs⟩ := U
    subst hshard
    refine ⟨local_single _ cs fun c hc => ?_, fun c => by simpa using hmem c⟩
    obtain ⟨l, hl, hcl⟩ := (hmem c).mp hc
    exact local_mem_shard (h l hl) hcl

theorem length_le_sum {α : Type} (ls : List (List α)) (l : List α) (hl : l ∈ ls) :
    l.length ≤ (ls.map List.length).sum := by
  induction ls with
  | nil => cases hl
  | cons x xs ih =>
    simp only [map_cons, sum_cons]
    rcases mem_cons.mp hl with rfl | hl
    · omega
    · have := ih hl; omega

theorem unionK_local (s : Nat) (r : Row) (others : List Row) (h : ∀ l ∈ r :: others, Local s l) :
    Local s (Row.unionK r others) ∧
    ∀ c, c ∈ Row.cols (Row.unionK r others) ↔ ∃ l ∈ r :: others, c ∈ Row.cols l :=
  unionLoop_local s _ _ h (length_le_sum _)

theorem union_local (s : Nat) (a b : Row) (ha : Local s a) (hb : Local s b) :
    Local s (a.union b) ∧ ∀ c, c ∈ Row.cols (a.union b) ↔ c ∈ Row.cols a ∨ c ∈ Row.cols b := by
  have := unionK_local s a [b] (by simp [ha, hb])
  simpa [Row.union] using this

theorem unionRows_local (s : Nat) (rows : List Row) (h : ∀ l ∈ rows, Local s l) :
    Local s (unionRows rows) ∧ ∀ c, c ∈ Row.cols (unionRows rows) ↔ ∃ l ∈ rows, c ∈ Row.cols l := by
  match rows, h with
  | [], _ => exact ⟨local_nil s, by intro c; simp [unionRows]⟩
  | [r0], h => exact ⟨h r0 (by simp), by intro c; simp [unionRows]⟩
  | r0 :: r1 :: rest, h => exact unionK_local s r0 (r1 :: rest) h

theorem shard_add {c n : Nat} (h : c % ShardWidth + n < ShardWidth) :
    (c + n) / ShardWidth = c / ShardWidth ∧ (c + n) % ShardWidth = c % ShardWidth + n := by
  have e : c + n = c % ShardWidth + n + ShardWidth * (c / ShardWidth) := by
    have := Nat.mod_add_div c ShardWidth; omega
  rw [e, Nat.add_mul_div_left _ _ (by decide), Nat.add_mul_mod_self_left, Nat.div_eq_of_lt h, Nat.mod_eq_of_lt h]
  simp

theorem shift1_local (s : Nat) (cs : List Nat) (h : ∀ c ∈ cs, (c + 1) / ShardWidth = s) :
    Row.shift1 [⟨s, cs⟩] = [⟨s, cs.map (· + 1)⟩] := by
  have hnc : ∀ c ∈ cs.map (· + 1), ¬ (c / ContainerWidth = (s + 1) * (ShardWidth / ContainerWidth)) := by
    intro c hc
    obtain ⟨c0, hc0, rfl⟩ := mem_map.mp hc
    have := h c0 hc0
    simp only [ShardWidth, ContainerWidth] at *
    omega
  have hfilter : (cs.map (· + 1)).filter (fun c => !decide (c / ContainerWidth = (s + 1) * (ShardWidth / ContainerWidth))) = cs.map (· + 1) :=
    filter_eq_self.mpr fun c hc => by simpa using hnc c hc
  have hany : (cs.map (· + 1)).any (fun c => decide (c / ContainerWidth = (s + 1) * (ShardWidth / ContainerWidth))) = false :=
    any_eq_false.mpr fun c hc => by simpa using hnc c hc
  simp only [Row.shift1, map_cons, map_nil, hfilter, hany]
  simp

/-- `n` rounds move a segment's columns by `n` as long as every column stays in the shard on the way -/
theorem shift_of_stay (s n : Nat) (cs : List Nat) (h : ∀ c ∈ cs, ∀ k, 1 ≤ k → k ≤ n → (c + k) / ShardWidth = s) :
    Row.shift n [⟨s, cs⟩] = [⟨s, cs.map (· + n)⟩] := by
  induction n generalizing cs with
  | zero => simp [Row.shift]
  | succ n ih =>
    rw [Row.shift, shift1_local s cs fun c hc => h c hc 1 (Nat.le_refl _) (by omega), ih, map_map]
    · congr 2
      exact map_congr_left fun c _ => by simp; omega
    · intro c' hc' k h1 hk
      obtain ⟨c, hc, rfl⟩ := mem_map.mp hc'
      rw [Nat.add_assoc]
      exact h c hc (1 + k) (by omega) (by omega)

theorem shift_local (s n : Nat) (cs : List Nat) (h : ∀ c ∈ cs, c / ShardWidth = s ∧ c % ShardWidth + n < ShardWidth) :
    Row.shift n [⟨s, cs⟩] = [⟨s, cs.map (· + n)⟩] :=
  shift_of_stay s n cs fun c hc k _ hk =>
    (shard_add (by have := (h c hc).2; omega)).1.trans (h c hc).1

theorem shift_nil (n : Nat) : Row.shift n [] = [] := by
  induction n with
  | zero => rfl
  | succ n ih => simp [Row.shift, Row.shift1, ih]

theorem nodupRow_unionLoop (f : Nat) (ls : List Row) (h : ∀ l ∈ ls, NodupRow l) : NodupRow (Row.unionLoop f ls) := by
  induction f generalizing ls with
  | zero => exact nodupRow_nil
  | succ f ih =>
    simp only [Row.unionLoop]
    cases hm : Row.minShard (ls.filter Row.nonEmpty) with
    | none => exact nodupRow_nil
    | some sh =>
      intro sg hsg
      rcases mem_cons.mp hsg with rfl | hsg
      · -- the united segment: every head is a segment of one of the rows
        have hheads : ∀ o ∈ (ls.filter Row.nonEmpty).filterMap (Row.headIf sh), o.cols.Nodup := by
          intro o ho
          obtain ⟨l, hl, hh⟩ := mem_filterMap.mp ho
          cases l with
          | nil => cases hh
          | cons x t =>
            simp only [Row.headIf] at hh
            split at hh
            · cases hh; exact h _ (mem_filter.mp hl).1 _ mem_cons_self
            · cases hh
        cases hP : (ls.filter Row.nonEmpty).filterMap (Row.headIf sh) with
        | nil => simp [Row.unionSegs]
        | cons p ps =>
          rw [hP] at hheads
          exact nodup_foldl_sUnion _ ps p.cols (hheads p mem_cons_self) (fun o ho => hheads o (mem_cons_of_mem _ ho))
      · -- the rest: what is left of each row
        refine ih _ (fun l hl => ?_) sg hsg
        obtain ⟨l0, hl0, rfl⟩ := mem_map.mp hl
        have hn := h l0 (mem_filter.mp hl0).1
        cases l0 with
        | nil => exact nodupRow_nil
        | cons x t =>
          simp only [Row.dropIf]
          split
          · exact fun sg' hsg' => hn sg' (mem_cons_of_mem _ hsg')
          · exact hn

theorem nodupRow_unionRows (rows : List Row) (h : ∀ l ∈ rows, NodupRow l) : NodupRow (unionRows rows) := by
  match rows, h with
  | [], _ => exact nodupRow_nil
  | [r0], h => exact h r0 mem_cons_self
  | r0 :: r1 :: rest, h => exact nodupRow_unionLoop _ _ h

theorem nodupRow_setBit (c : Nat) (r : Row) (h : NodupRow r) : NodupRow (Row.setBit c r) := by
  induction r with
  | nil => exact nodupRow_single _ _ (by simp)
  | cons x t ih =>
    have hx := h x mem_cons_self
    have ht : NodupRow t := fun sg hsg => h sg (mem_cons_of_mem _ hsg)
    simp only [Row.setBit]
    intro sg hsg
    split at hsg
    · rcases mem_cons.mp hsg with rfl | hsg
      · exact nodup_sAdd _ _ hx
      · exact ht sg hsg
    · split at hsg
      · rcases mem_cons.mp hsg with rfl | hsg
        · simp
        · exact h sg hsg
      · rcases mem_cons.mp hsg with rfl | hsg
        · exact hx
        · exact ih ht sg hsg

theorem nodupRow_foldl_setBit (cs : List Nat) (r : Row) (h : NodupRow r) :
    NodupRow (cs.foldl (fun acc c => Row.setBit c acc) r) := by
  induction cs generalizing r with
  | nil => exact h
  | cons c cs ih => exact ih _ (nodupRow_setBit c r h)

theorem nodupRow_shift1 (r : Row) (h : NodupRow r) : NodupRow (Row.shift1 r) := by
  unfold Row.shift1
  apply nodupRow_foldl_setBit
  intro sg hsg
  simp only [map_map, mem_map, Function.comp] at hsg
  obtain ⟨sg0, hsg0, rfl⟩ := hsg
  exact Pairwise.filter _ (nodup_map_add 1 _ (h sg0 hsg0))

theorem nodupRow_shift (n : Nat) (r : Row) (h : NodupRow r) : NodupRow (Row.shift n r) := by
  induction n generalizing r with
  | zero => exact h
  | succ n ih => exact ih _ (nodupRow_shift1 r h)

end PV.C15
