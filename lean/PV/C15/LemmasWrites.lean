/- C15: the write paths Set, Clear, ClearRow and Store on the logical column sets. -/
import PV.C15.LemmasEval
namespace PV.C15
open List

theorem wf_filter_bits {st : St} (hw : WF st) (p : Bit → Bool) : WF { st with bits := st.bits.filter p } :=
  ⟨fun b hb => hw.bitFrag b (mem_filter.mp hb).1, hw.valFrag⟩

theorem addFrag_bits (st : St) (f v : String) (s : Nat) : (st.addFrag f v s).bits = st.bits := by
  unfold St.addFrag; split <;> rfl

theorem addFrag_vals (st : St) (f v : String) (s : Nat) : (st.addFrag f v s).vals = st.vals := by
  unfold St.addFrag; split <;> rfl

theorem addFrag_exist (st : St) (f v : String) (s : Nat) : (st.addFrag f v s).exist = st.exist := by
  unfold St.addFrag; split <;> rfl

theorem addFrag_frags (st : St) (f v : String) (s : Nat) (x : String × String × Nat) :
    x ∈ (st.addFrag f v s).frags ↔ x ∈ st.frags ∨ x = (f, v, s) := by
  unfold St.addFrag St.hasFrag
  split
  · next h =>
    have : (f, v, s) ∈ st.frags := by simpa using h
    exact ⟨Or.inl, fun h => h.elim id (· ▸ this)⟩
  · simp

theorem addFrag_wf (st : St) (hw : WF st) (f v : String) (s : Nat) : WF (st.addFrag f v s) where
  bitFrag := by
    intro b hb; rw [addFrag_bits] at hb
    exact (addFrag_frags st f v s _).mpr (Or.inl (hw.bitFrag b hb))
  valFrag := by
    intro e he; rw [addFrag_vals] at he
    exact (addFrag_frags st f v s _).mpr (Or.inl (hw.valFrag e he))

theorem addBit_mem (st : St) (b x : Bit) : x ∈ (st.addBit b).bits ↔ x ∈ st.bits ∨ x = b := by
  unfold St.addBit St.hasBit
  simp only [addFrag_bits]
  split
  · next h =>
    have hb : b ∈ st.bits := by simpa using h
    rw [addFrag_bits]
    exact ⟨Or.inl, fun h => h.elim id (· ▸ hb)⟩
  · simp

theorem addBit_vals (st : St) (b : Bit) : (st.addBit b).vals = st.vals := by
  unfold St.addBit; simp only; split <;> simp [addFrag_vals]

theorem addBit_exist (st : St) (b : Bit) : (st.addBit b).exist = st.exist := by
  unfold St.addBit; simp only; split <;> simp [addFrag_exist]

theorem addBit_wf (st : St) (hw : WF st) (b : Bit) : WF (st.addBit b) := by
  have hwf := addFrag_wf st hw b.field b.view (b.col / ShardWidth)
  unfold St.addBit
  simp only
  split
  · exact hwf
  · constructor
    · intro x hx
      simp only [mem_append, mem_singleton] at hx
      rcases hx with hx | rfl
      · exact hwf.bitFrag x hx
      · exact (addFrag_frags st _ _ _ _).mpr (Or.inr rfl)
    · exact hwf.valFrag

theorem foldl_addBit_mem (st : St) (f : String) (r c : Nat) (views : List String) (x : Bit) :
    x ∈ (views.foldl (fun s v => s.addBit ⟨f, v, r, c⟩) st).bits ↔
      x ∈ st.bits ∨ ∃ v ∈ views, x = ⟨f, v, r, c⟩ := by
  induction views generalizing st with
  | nil => simp
  | cons v vs ih => simp [ih, addBit_mem, or_assoc]

theorem foldl_addBit_vals (st : St) (f : String) (r c : Nat) (views : List String) :
    (views.foldl (fun s v => s.addBit ⟨f, v, r, c⟩) st).vals = st.vals :=
  foldlRecOn (motive := fun s => s.vals = st.vals) views _ rfl fun s hs _ _ => (addBit_vals s _).trans hs

theorem foldl_addBit_wf (st : St) (hw : WF st) (f : String) (r c : Nat) (views : List String) :
    WF (views.foldl (fun s v => s.addBit ⟨f, v, r, c⟩) st) :=
  foldlRecOn views _ hw fun s hs _ _ => addBit_wf s hs _

theorem set_eq {st st' : St} {f : String} {r c : Nat} {views : List String} {ch : Bool}
    (h : st.set f r c views = .ok (st', ch)) :
    st' = (viewStandard :: views).foldl (fun s v => s.addBit ⟨f, v, r, c⟩)
      (if st.exist then st.addBit ⟨existenceField, viewStandard, 0, c⟩ else st) := by
  unfold St.set at h
  split at h
  · cases h
  · cases h; rfl

theorem set_bits {st st' : St} {f : String} {r c : Nat} {views : List String} {ch : Bool}
    (h : st.set f r c views = .ok (st', ch)) (b : Bit) :
    b ∈ st'.bits ↔ b ∈ st.bits ∨ (∃ v ∈ viewStandard :: views, b = ⟨f, v, r, c⟩) ∨
                   (st.exist = true ∧ b = ⟨existenceField, viewStandard, 0, c⟩) := by
  rw [set_eq h, foldl_addBit_mem]
  cases st.exist
  · simp
  · rw [if_pos rfl, addBit_mem, or_assoc, or_comm (a := b = _)]; simp

theorem segmentOf_local (s : Nat) (r : Row) (h : Local s r) (c : Nat) :
    c ∈ St.segmentOf r s ↔ c ∈ Row.cols r := by
  rcases h with rfl | ⟨cs, rfl, _⟩ <;> simp [St.segmentOf]

theorem mem_map_bit (f v : String) (r : Nat) (l : List Nat) (b : Bit) :
    b ∈ l.map (fun c => (⟨f, v, r, c⟩ : Bit)) ↔ b.field = f ∧ b.view = v ∧ b.row = r ∧ b.col ∈ l := by
  obtain ⟨bf, bv, br, bc⟩ := b
  simp only [mem_map, Bit.mk.injEq]
  constructor
  · rintro ⟨c, hc, rfl, rfl, rfl, rfl⟩; exact ⟨rfl, rfl, rfl, hc⟩
  · rintro ⟨rfl, rfl, rfl, hc⟩; exact ⟨bc, hc, rfl, rfl, rfl, rfl⟩

/-- `fragment.setRow` in shard `s` -/
def storeShard (f : String) (r s : Nat) (src : Row) (cur : St) : St :=
  let cur := cur.addFrag f viewStandard s
  let kept := cur.bits.filter (fun b => !(b.field = f ∧ b.view = viewStandard ∧ b.row = r ∧ b.col / ShardWidth = s))
  let added := ((St.segmentOf src s).filter (fun c => c / ShardWidth = s)).map (fun c => (⟨f, viewStandard, r, c⟩ : Bit))
  { cur with bits := kept ++ added }

def storeStep (st : St) (f : String) (r : Nat) (e : Expr) (acc : Except Err St) (s : Nat) : Except Err St := do
  let cur ← acc
  let src ← evalShard st e s
  pure (storeShard f r s src cur)

theorem store_eq (st : St) (f : String) (r : Nat) (e : Expr) (shards : List Nat)
    (hft : st.fieldType f = some .set) :
    st.store f r e shards = shards.foldl (storeStep st f r e) (.ok st) := by
  simp only [St.store, hft]
  rfl

theorem storeShard_wf (f : String) (r s : Nat) (src : Row) (cur : St) (hw : WF cur) : WF (storeShard f r s src cur) := by
  refine ⟨fun b hb => ?_, (addFrag_wf cur hw f viewStandard s).valFrag⟩
  simp only [storeShard, mem_append, mem_filter, mem_map_bit, decide_eq_true_eq] at hb
  rcases hb with ⟨hb, _⟩ | ⟨h1, h2, _, _, h4⟩
  · exact (addFrag_wf cur hw f viewStandard s).bitFrag b hb
  · exact (addFrag_frags cur _ _ _ _).mpr (Or.inr (by rw [h1, h2, h4]))

theorem storeShard_bits {f : String} {r s : Nat} {src : Row} {cs : List Nat} (hp : Part s cs src) (cur : St) (b : Bit) :
    b ∈ (storeShard f r s src cur).bits ↔
      (if b.field = f ∧ b.view = viewStandard ∧ b.row = r ∧ b.col / ShardWidth = s then b.col ∈ cs
       else b ∈ cur.bits) := by
  simp only [storeShard, mem_append, mem_filter, mem_map_bit, addFrag_bits, Bool.not_eq_true',
    decide_eq_false_iff_not, decide_eq_true_eq, segmentOf_local s src hp.1, hp.2]
  by_cases h : b.field = f ∧ b.view = viewStandard ∧ b.row = r ∧ b.col / ShardWidth = s
  · simp [h]
  · rw [if_neg h]
    exact ⟨fun h' => h'.elim (·.1) fun ⟨h1, h2, h3, ⟨_, h4⟩, _⟩ => absurd ⟨h1, h2, h3, h4⟩ h, fun hb => Or.inl ⟨hb, h⟩⟩

theorem store_fold (st : St) (hw : WF st) (f : String) (r : Nat) (e : Expr) (cs : List Nat)
    (hnc : Spec.noCarry st e = true) (hev : Spec.eval st e = .ok cs) (shards : List Nat) (cur : St) (hwc : WF cur) :
    ∃ st', shards.foldl (storeStep st f r e) (.ok cur) = .ok st' ∧ WF st' ∧ st'.vals = cur.vals ∧ st'.exist = cur.exist ∧
      ∀ b, b ∈ st'.bits ↔
        (if b.field = f ∧ b.view = viewStandard ∧ b.row = r ∧ b.col / ShardWidth ∈ shards then b.col ∈ cs
         else b ∈ cur.bits) := by
  induction shards generalizing cur with
  | nil => exact ⟨cur, rfl, hwc, rfl, rfl, by simp⟩
  | cons s rest ih =>
    obtain ⟨src, hsrc, hp⟩ := evalShard_spec st hw s e cs hnc hev
    obtain ⟨st', k1, k2, k3, k4, k5⟩ := ih _ (storeShard_wf f r s src cur hwc)
    refine ⟨st', by rw [foldl_cons, storeStep, hsrc]; exact k1, k2, k3.trans (addFrag_vals ..),
      k4.trans (addFrag_exist ..), fun b => ?_⟩
    have ite_or : ∀ (p q a c : Prop) [Decidable p] [Decidable q],
        (if p then a else if q then a else c) = if q ∨ p then a else c := by
      intro p q a c _ _; by_cases p <;> by_cases q <;> simp [*]
    rw [k5, storeShard_bits hp]
    simp only [ite_or, ← and_or_left, mem_cons]

end PV.C15
