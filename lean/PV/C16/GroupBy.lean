/-
GroupBy above the per-shard iterator: the combinations in lexicographic order, the merge of the shard results
(PV.C17.K.kmerge theory).
-/
import PV.C16.RowsExec
import PV.C17.MergeInstances
namespace PV.C16
open List
open PV.C17 (GroupCount mergeGroupCounts)
open PV.C17.K

theorem tuples_length (doms : List (List Nat)) : ∀ t ∈ Spec.tuples doms, t.length = doms.length := by
  induction doms with
  | nil => intro t ht; simp [Spec.tuples] at ht; simp [ht]
  | cons d ds ih =>
    intro t ht
    simp only [Spec.tuples, List.mem_flatMap, List.mem_map] at ht
    obtain ⟨r, _, t', ht', rfl⟩ := ht
    simp [ih t' ht']

theorem pairwise_flatMap_of {α β : Type} (R : β → β → Prop) (f : α → List β) (l : List α)
    (S : α → α → Prop) (hl : l.Pairwise S) (hin : ∀ a ∈ l, (f a).Pairwise R)
    (hx : ∀ a b, S a b → ∀ x ∈ f a, ∀ y ∈ f b, R x y) : (l.flatMap f).Pairwise R := by
  induction l with
  | nil => simp
  | cons a rest ih =>
    simp only [List.flatMap_cons]
    have hl' := List.pairwise_cons.mp hl
    apply List.pairwise_append.mpr
    refine ⟨hin a (by simp), ih hl'.2 (fun b hb => hin b (List.mem_cons_of_mem _ hb)), ?_⟩
    intro x hx' y hy
    rcases List.mem_flatMap.mp hy with ⟨b, hb, hyb⟩
    exact hx a b (hl'.1 b hb) x hx' y hyb

theorem tuples_sorted (doms : List (List Nat)) (h : ∀ d ∈ doms, d.Pairwise (· < ·)) :
    (Spec.tuples doms).Pairwise (· < ·) := by
  induction doms with
  | nil => simp [Spec.tuples]
  | cons d ds ih =>
    have ihs := ih (fun d' hd => h d' (List.mem_cons_of_mem _ hd))
    simp only [Spec.tuples]
    apply pairwise_flatMap_of (· < ·) _ d (· < ·) (h d (by simp))
    · intro r _
      apply List.pairwise_map.mpr
      apply ihs.imp
      intro x y hxy
      exact List.cons_lt_cons_iff.mpr (Or.inr ⟨rfl, hxy⟩)
    · intro r1 r2 hr x hx y hy
      rcases List.mem_map.mp hx with ⟨x', _, rfl⟩
      rcases List.mem_map.mp hy with ⟨y', _, rfl⟩
      exact List.cons_lt_cons_iff.mpr (Or.inl hr)

theorem lexGE_cons (a b : Nat) (as bs : List Nat) :
    Spec.lexGE (a :: as) (b :: bs) = (decide (b < a) || (decide (b = a) && Spec.lexGE as bs)) := by
  rw [Spec.lexGE]
  rcases Nat.lt_trichotomy b a with h | h | h
  · rw [if_pos h, decide_eq_true h, Bool.true_or]
  · subst h
    rw [if_neg (Nat.lt_irrefl b), if_neg (Nat.lt_irrefl b), decide_eq_false (Nat.lt_irrefl b), decide_eq_true rfl,
      Bool.false_or, Bool.true_and]
  · rw [if_neg (Nat.lt_asymm h), if_pos h, decide_eq_false (Nat.lt_asymm h), decide_eq_false (Nat.ne_of_gt h),
      Bool.false_or, Bool.false_and]

theorem look_filterMap (T : List (List Nat)) (hT : T.Pairwise (· < ·)) (g : List Nat → Option GroupCount)
    (hg : ∀ t y, g t = some y → y.group = t) (k : List Nat) :
    look GroupCount.group k (T.filterMap g) = if k ∈ T then g k else none := by
  induction T with
  | nil => simp [look]
  | cons t rest ih =>
    have hT' := List.pairwise_cons.mp hT
    have ih' := ih hT'.2
    simp only [List.filterMap_cons, List.mem_cons]
    by_cases hk : k = t
    · subst hk
      simp only [true_or, if_true]
      cases hgt : g k with
      | none =>
        simp only
        rw [ih']
        have : k ∉ rest := fun hm => absurd (hT'.1 k hm) (List.lt_irrefl k)
        simp [this]
      | some y =>
        simp only [look, hg k y hgt, if_true]
    · cases hgt : g t with
      | none =>
        simp only [hk, false_or]
        exact ih'
      | some y =>
        have hy : y.group ≠ k := by rw [hg t y hgt]; exact fun e => hk e.symm
        simp only [look, hy, if_false, hk, false_or]
        exact ih'

theorem sortedK_filterMap (T : List (List Nat)) (hT : T.Pairwise (· < ·)) (g : List Nat → Option GroupCount)
    (hg : ∀ t y, g t = some y → y.group = t) : SortedK GroupCount.group (T.filterMap g) := by
  induction T with
  | nil => simp [SortedK]
  | cons t rest ih =>
    have hT' := List.pairwise_cons.mp hT
    simp only [List.filterMap_cons]
    cases hgt : g t with
    | none => exact ih hT'.2
    | some y =>
      simp only [SortedK, List.map_cons]
      apply List.pairwise_cons.mpr
      refine ⟨?_, ih hT'.2⟩
      intro k hk
      rcases List.mem_map.mp hk with ⟨z, hz, rfl⟩
      rcases List.mem_filterMap.mp hz with ⟨t', ht', hgz⟩
      rw [hg t y hgt, hg t' z hgz]
      exact hT'.1 t' ht'

open PV.C17 (addGC gmerge addGC_laws listNatStrictTotal GLen GAsc mergeGroupCounts_eq GLen_kmergeLim)

theorem sorted_foldl_gmerge (ls : List (List GroupCount)) (acc : List GroupCount)
    (hacc : SortedK GroupCount.group acc) (h : ∀ l ∈ ls, SortedK GroupCount.group l) :
    SortedK GroupCount.group (ls.foldl gmerge acc) := by
  induction ls generalizing acc with
  | nil => exact hacc
  | cons l rest ih =>
    simp only [List.foldl_cons]
    apply ih
    · exact kmerge_sorted listNatStrictTotal addGC_laws.key_comb acc l hacc (h l (by simp))
    · exact fun l' hl' => h l' (List.mem_cons_of_mem _ hl')

theorem look_foldl_gmerge (k : List Nat) (ls : List (List GroupCount)) (acc : List GroupCount)
    (hacc : SortedK GroupCount.group acc) (h : ∀ l ∈ ls, SortedK GroupCount.group l) :
    look GroupCount.group k (ls.foldl gmerge acc) =
      (ls.map (look GroupCount.group k)).foldl (oc addGC) (look GroupCount.group k acc) := by
  induction ls generalizing acc with
  | nil => rfl
  | cons l rest ih =>
    simp only [List.foldl_cons, List.map_cons]
    rw [ih _ (kmerge_sorted listNatStrictTotal addGC_laws.key_comb acc l hacc (h l (by simp)))
      (fun l' hl' => h l' (List.mem_cons_of_mem _ hl'))]
    rw [look_kmerge listNatStrictTotal addGC_laws.key_comb k acc l hacc (h l (by simp))]

theorem groupOf_group (a : GroupByArgs) (t : List Nat) (c : Nat) (y : GroupCount)
    (h : Spec.groupOf a t c = some y) : y.group = t := by
  unfold Spec.groupOf at h
  split at h
  · cases h; rfl
  · cases h

/-- A count of 0 gives no group, so the group of a sum is there iff one of the two is (by computation). -/
theorem oc_groupOf (a : GroupByArgs) (t : List Nat) (m n : Nat) :
    oc addGC (Spec.groupOf a t m) (Spec.groupOf a t n) = Spec.groupOf a t (m + n) := by
  unfold Spec.groupOf
  cases m with
  | zero => rw [Nat.zero_add]; cases Spec.startOK a t <;> cases n <;> rfl
  | succ m => cases Spec.startOK a t <;> cases n <;> rfl

theorem foldl_oc_groupOf (a : GroupByArgs) (t : List Nat) (cs : List Nat) (s0 : Nat) :
    (cs.map (Spec.groupOf a t)).foldl (oc addGC) (Spec.groupOf a t s0) =
      Spec.groupOf a t (cs.foldl (· + ·) s0) := by
  induction cs generalizing s0 with
  | nil => rfl
  | cons c rest ih =>
    simp only [List.map_cons, List.foldl_cons]
    rw [oc_groupOf, ih]

theorem foldl_oc_none {ι : Type} (l : List ι) :
    (l.map (fun _ => (none : Option GroupCount))).foldl (oc addGC) none = none := by
  induction l with
  | nil => rfl
  | cons x rest ih => simp only [List.map_cons, List.foldl_cons, oc]; exact ih

theorem filterMap_congr_mem {α β : Type} (f g : α → Option β) (l : List α)
    (h : ∀ x ∈ l, f x = g x) : l.filterMap f = l.filterMap g := by
  induction l with
  | nil => rfl
  | cons x rest ih =>
    simp only [List.filterMap_cons]
    rw [h x (by simp), ih (fun y hy => h y (List.mem_cons_of_mem _ hy))]

/-- A GroupBy that differs only in where it starts lists a part of the same groups. -/
theorem allGroups_filter (db : DB) (a a' : GroupByArgs) (shards : List Nat) (p : List Nat → Bool)
    (hd : Spec.groupDoms db a' shards = Spec.groupDoms db a shards)
    (hf : a'.children.map (·.field) = a.children.map (·.field)) (hflt : a'.filter = a.filter)
    (hs : ∀ t ∈ Spec.tuples (Spec.groupDoms db a shards), Spec.startOK a' t = (Spec.startOK a t && p t)) :
    Spec.allGroups db a' shards = (Spec.allGroups db a shards).filter (fun x => p x.group) := by
  rw [Spec.allGroups, Spec.allGroups, hd, hf, hflt, List.filter_filterMap]
  apply filterMap_congr_mem
  intro t ht
  rw [Spec.groupOf, Spec.groupOf, hs t ht]
  cases decide (Spec.groupCount db (a.children.map (·.field)) t a.filter shards > 0) <;>
    cases Spec.startOK a t <;> rfl

theorem allGroups_eq_merge (db : DB) (a : GroupByArgs) (shards : List Nat)
    (hd : ∀ d ∈ Spec.groupDoms db a shards, d.Pairwise (· < ·)) :
    (shards.map (Spec.shardGroups db a shards)).foldl gmerge [] = Spec.allGroups db a shards := by
  have hT := tuples_sorted _ hd
  have hsh : ∀ l ∈ shards.map (Spec.shardGroups db a shards), SortedK GroupCount.group l := by
    intro l hl
    rcases List.mem_map.mp hl with ⟨sh, _, rfl⟩
    exact sortedK_filterMap _ hT _ (fun t y h => groupOf_group a t _ y h)
  apply ext listNatStrictTotal
  · exact sorted_foldl_gmerge _ [] (by simp [SortedK]) hsh
  · exact sortedK_filterMap _ hT _ (fun t y h => groupOf_group a t _ y h)
  intro k
  rw [look_foldl_gmerge k _ [] (by simp [SortedK]) hsh]
  unfold Spec.allGroups
  rw [look_filterMap _ hT _ (fun t y h => groupOf_group a t _ y h)]
  simp only [List.map_map, look]
  have hfun : (look GroupCount.group k ∘ Spec.shardGroups db a shards) =
      fun sh => if k ∈ Spec.tuples (Spec.groupDoms db a shards) then
        Spec.groupOf a k (Spec.shardGroupCount db (a.children.map (·.field)) k a.filter sh) else none := by
    funext sh
    simp only [Function.comp, Spec.shardGroups]
    rw [look_filterMap _ hT _ (fun t y h => groupOf_group a t _ y h)]
  rw [hfun]
  by_cases hk : k ∈ Spec.tuples (Spec.groupDoms db a shards)
  · simp only [hk, if_true]
    have h0 : (none : Option GroupCount) = Spec.groupOf a k 0 := by simp [Spec.groupOf]
    rw [h0]
    have := foldl_oc_groupOf a k (shards.map (Spec.shardGroupCount db (a.children.map (·.field)) k a.filter)) 0
    simp only [List.map_map] at this
    rw [← Spec.groupCount] at this
    exact this
  · simp only [hk, if_false]
    exact foldl_oc_none shards

theorem foldl_mergeGroupCounts (n L : Nat) (ls : List (List GroupCount)) (hlen : ∀ l ∈ ls, GLen n l) :
    (ls.map (·.take L)).foldl (fun acc l => mergeGroupCounts acc l L) [] = (ls.foldl gmerge []).take L := by
  -- mergeGroupCounts is the limited keyed merge on lists of groups of equal length
  have hcongr : ∀ (xs : List (List GroupCount)) (acc : List GroupCount), GLen n acc → (∀ l ∈ xs, GLen n l) →
      xs.foldl (fun acc l => mergeGroupCounts acc l L) acc =
        xs.foldl (kmergeLim GroupCount.group addGC L) acc := by
    intro xs
    induction xs with
    | nil => intro acc _ _; rfl
    | cons x rest ih =>
      intro acc hacc hx
      simp only [List.foldl_cons]
      rw [mergeGroupCounts_eq n L acc x hacc (hx x (by simp))]
      exact ih _ (GLen_kmergeLim n L acc x hacc (hx x (by simp))) (fun l hl => hx l (List.mem_cons_of_mem _ hl))
  have hl2 : ∀ l ∈ ls.map (·.take L), GLen n l := by
    intro l hl
    rcases List.mem_map.mp hl with ⟨l', hl', rfl⟩
    exact fun z hz => hlen l' hl' z (List.mem_of_mem_take hz)
  rw [hcongr _ [] (fun z hz => by cases hz) hl2]
  have h1 := foldl_kmergeLim (key := GroupCount.group) (comb := addGC) L ls (fun l => l.take L) id
    (fun i _ => by simp [List.take_take]) [] [] rfl
  have h2 := length_foldl_kmergeLim (key := GroupCount.group) (comb := addGC) L (ls.map (·.take L)) [] (by simp)
  rw [List.take_of_length_le h2] at h1
  rw [h1]
  simp

/-- The two guards of the slicing at the end of executeGroupBy change nothing. -/
theorem drop_or_nil {α : Type} (m : List α) (o : Nat) : (if o < m.length then m.drop o else []) = m.drop o := by
  by_cases ho : o < m.length
  · rw [if_pos ho]
  · rw [if_neg ho, List.drop_eq_nil_iff.mpr (Nat.le_of_not_lt ho)]

theorem take_or_self {α : Type} (r : List α) (l : Nat) : (if l < r.length then r.take l else r) = r.take l := by
  by_cases hl : l < r.length
  · rw [if_pos hl]
  · rw [if_neg hl, List.take_of_length_le (Nat.le_of_not_lt hl)]

/-- Fetching `l + o` groups is enough for offset `o` and limit `l`. -/
theorem drop_take_fetch {α : Type} (all : List α) (o l : Nat) :
    ((all.take (l + o)).drop o).take l = (all.drop o).take l := by
  rw [List.drop_take, Nat.add_sub_cancel, List.take_take, Nat.min_self]

theorem groupDoms_plain (db : DB) (a : GroupByArgs) (shards : List Nat)
    (hplain : ∀ ch ∈ a.children, ch.limit = none ∧ ch.column = none) :
    Spec.groupDoms db a shards = a.children.map (fun ch => Spec.fieldRows db ch.field shards) := by
  unfold Spec.groupDoms
  apply List.map_congr_left
  intro ch hch
  have := hplain ch hch
  simp [this.1, this.2]

theorem groupDoms_sorted (db : DB) (a : GroupByArgs) (shards : List Nat)
    (hplain : ∀ ch ∈ a.children, ch.limit = none ∧ ch.column = none) :
    ∀ d ∈ Spec.groupDoms db a shards, d.Pairwise (· < ·) := by
  rw [groupDoms_plain db a shards hplain]
  intro d hd
  rcases List.mem_map.mp hd with ⟨ch, _, rfl⟩
  exact sorted_sortDedup _

theorem shardGroups_GLen (db : DB) (a : GroupByArgs) (shards : List Nat) (sh : Nat) :
    GLen a.children.length (Spec.shardGroups db a shards sh) := by
  intro z hz
  rcases List.mem_filterMap.mp hz with ⟨t, ht, hg⟩
  rw [groupOf_group a t _ z hg, tuples_length _ t ht]
  simp [Spec.groupDoms]

/-- Merging what the shards return, each the first `L` of its groups, keeps the first `L` groups of the totals. -/
theorem merge_shards_take (db : DB) (a : GroupByArgs) (shards : List Nat)
    (hdoms : ∀ d ∈ Spec.groupDoms db a shards, d.Pairwise (· < ·)) (L : Nat) (f : Nat → List GroupCount)
    (hf : ∀ sh ∈ shards, f sh = (Spec.shardGroups db a shards sh).take L) :
    shards.foldl (fun acc sh => mergeGroupCounts acc (f sh) L) [] = (Spec.allGroups db a shards).take L := by
  have hlen : ∀ l ∈ shards.map (Spec.shardGroups db a shards), GLen a.children.length l := by
    intro l hl
    rcases List.mem_map.mp hl with ⟨sh, _, rfl⟩
    exact shardGroups_GLen db a shards sh
  have hmap : shards.map ((·.take L) ∘ Spec.shardGroups db a shards) = shards.map f :=
    List.map_congr_left (fun sh hsh => (hf sh hsh).symm)
  rw [← allGroups_eq_merge db a shards hdoms, ← foldl_mergeGroupCounts a.children.length L _ hlen,
    List.map_map, hmap, List.foldl_map]

theorem lexGE_bumpLast : ∀ (p t : List Nat), t.length = p.length → p ≠ [] →
    Spec.lexGE t (Spec.bumpLast p) = decide (p < t) := by
  intro p
  induction p with
  | nil => intro _ _ hp; exact absurd rfl hp
  | cons x rest ih =>
    intro t hlen _
    cases t with
    | nil => cases hlen
    | cons a as =>
      cases rest with
      | nil =>
        cases as with
        | cons _ _ => cases hlen
        | nil =>
          rw [Spec.bumpLast, lexGE_cons, Spec.lexGE, Bool.and_true, ← Bool.decide_or]
          refine decide_eq_decide.mpr (Iff.trans ?_ List.cons_lt_cons_iff.symm)
          simp only [List.lt_irrefl, and_false, or_false]
          exact Nat.le_iff_lt_or_eq.symm
      | cons y rest =>
        rw [Spec.bumpLast, lexGE_cons, ih as (Nat.succ.inj hlen) (List.cons_ne_nil _ _), ← Bool.decide_and,
          ← Bool.decide_or]
        exact decide_eq_decide.mpr List.cons_lt_cons_iff.symm

/-- Set `previous` of every child to the components of a group. -/
def withPrevious (chs : List ChildArgs) (t : List Nat) : List ChildArgs :=
  (chs.zip t).map (fun (ch, p) => { ch with previous := some p })

def gLt (x y : GroupCount) : Bool := decide (x.group < y.group)

theorem withPrevious_facts : ∀ (chs : List ChildArgs) (t : List Nat), t.length = chs.length →
    (withPrevious chs t).map (·.field) = chs.map (·.field) ∧
    (withPrevious chs t).map (fun ch => ch.previous.getD 0) = t ∧
    (withPrevious chs t).all (fun ch => ch.previous.isSome) = true ∧
    (withPrevious chs t).length = chs.length ∧
    (∀ ch ∈ withPrevious chs t, ∃ ch0 ∈ chs, ch.field = ch0.field ∧ ch.limit = ch0.limit ∧ ch.column = ch0.column) := by
  intro chs
  induction chs with
  | nil =>
    intro t h
    cases t with
    | nil => exact ⟨rfl, rfl, rfl, rfl, fun _ h => nomatch h⟩
    | cons _ _ => cases h
  | cons ch chs ih =>
    intro t h
    cases t with
    | nil => cases h
    | cons p ps =>
      obtain ⟨h1, h2, h3, h4, h5⟩ := ih ps (Nat.succ.inj h)
      -- `withPrevious (ch :: chs) (p :: ps)` is `{ ch with previous := some p } :: withPrevious chs ps`
      refine ⟨congrArg (ch.field :: ·) h1, congrArg (p :: ·) h2, h3, congrArg Nat.succ h4, fun c hc => ?_⟩
      rcases List.mem_cons.mp hc with rfl | hc'
      · exact ⟨ch, List.mem_cons_self, rfl, rfl, rfl⟩
      · obtain ⟨c0, hc0, h6⟩ := h5 c hc'
        exact ⟨c0, List.mem_cons_of_mem _ hc0, h6⟩

theorem allGroups_sorted (db : DB) (a : GroupByArgs) (shards : List Nat)
    (hdoms : ∀ d ∈ Spec.groupDoms db a shards, d.Pairwise (· < ·)) :
    (Spec.allGroups db a shards).Pairwise (fun x y => gLt x y = true) := by
  have := sortedK_filterMap _ (tuples_sorted _ hdoms) (fun t => Spec.groupOf a t
    (Spec.groupCount db (a.children.map (·.field)) t a.filter shards)) (fun t y h => groupOf_group a t _ y h)
  exact (List.pairwise_map.mp this).imp (fun h => decide_eq_true h)

/-- Same combinations, and the start is the combination right after `g` (`lexGE_bumpLast`). -/
theorem allGroups_withPrevious (db : DB) (a : GroupByArgs) (shards : List Nat)
    (hplain : ∀ ch ∈ a.children, ch.limit = none ∧ ch.column = none)
    (hprev : ∀ ch ∈ a.children, ch.previous = none) (hk : a.children ≠ [])
    (g : List Nat) (hg : g.length = a.children.length) (lim : Option Nat) :
    Spec.allGroups db { a with children := withPrevious a.children g, limit := lim } shards =
      (Spec.allGroups db a shards).filter (fun x => decide (g < x.group)) := by
  obtain ⟨hf, hp, hall, hlen, hmem⟩ := withPrevious_facts a.children g hg
  let a' : GroupByArgs := { a with children := withPrevious a.children g, limit := lim }
  have hplain' : ∀ ch ∈ a'.children, ch.limit = none ∧ ch.column = none := by
    intro ch hch
    obtain ⟨c0, hc0, _, h2, h3⟩ := hmem ch hch
    have := hplain c0 hc0
    exact ⟨by rw [h2]; exact this.1, by rw [h3]; exact this.2⟩
  have hd' : Spec.groupDoms db a' shards = Spec.groupDoms db a shards := by
    -- the domains depend on the children's fields only
    have hfld : ∀ chs : List ChildArgs, chs.map (fun ch => Spec.fieldRows db ch.field shards) =
        (chs.map (·.field)).map (fun f => Spec.fieldRows db f shards) := fun chs => by
      rw [List.map_map]; rfl
    rw [groupDoms_plain db a' shards hplain', groupDoms_plain db a shards hplain, hfld, hfld a.children, hf]
  have hstart0 : Spec.startTuple a = none := by
    unfold Spec.startTuple
    cases hc : a.children with
    | nil => exact absurd hc hk
    | cons c rest =>
      have := hprev c (by rw [hc]; simp)
      simp [this]
  have hstart' : Spec.startTuple a' = some (Spec.bumpLast g) := by
    unfold Spec.startTuple
    have hpos : (withPrevious a.children g).length > 0 := by
      rw [hlen]; exact List.length_pos_iff.mpr hk
    simp only [a', hall, hp, Bool.true_and, decide_eq_true_eq, hpos, if_true]
  have hgne : g ≠ [] := by
    intro e; rw [e] at hg
    exact hk (List.eq_nil_of_length_eq_zero hg.symm)
  refine allGroups_filter db a a' shards (fun t => decide (g < t)) hd' hf rfl ?_
  intro t ht
  have htl : t.length = g.length := by
    rw [tuples_length _ t ht, hg]; simp [Spec.groupDoms]
  rw [Spec.startOK, Spec.startOK, hstart', hstart0, Bool.true_and]
  exact lexGE_bumpLast g t htl hgne

end PV.C16
