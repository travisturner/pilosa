/-
The group iterator.  Field 0 of any iterator advances to its next row with a bit inside the filter
(`nextAtIdx_fld0`); from that the iterator for ONE field — nextAtIdx / Next / the result loop (with their fuel)
and newGroupByIterator with `previous` — and the first field of the iterator for TWO fields.
-/
import PV.C16.Model
namespace PV.C16
open List
open PV.C17 (GroupCount)

theorem setAt_cons_zero {α : Type} (x y : α) (xs : List α) : setAt (x :: xs) 0 y = y :: xs := by
  simp [setAt, List.zipIdx_succ, List.map_map, Function.comp_def]

theorem setAt_cons_succ {α : Type} (x y : α) (xs : List α) (i : Nat) :
    setAt (x :: xs) (i + 1) y = x :: setAt xs i y := by
  simp [setAt, List.zipIdx_succ, List.map_map, Function.comp_def]

theorem setAt_single {α : Type} (x y : α) : setAt [x] 0 y = [y] := rfl
theorem setAt_pair0 {α : Type} (x y z : α) : setAt [x, y] 0 z = [z, y] := rfl
theorem setAt_pair1 {α : Type} (x y z : α) : setAt [x, y] 1 z = [x, z] := rfl

/-- columns of row r inside the filter -/
def colsIn (st : Store) (f : Option (List Nat)) (r : Nat) : List Nat :=
  match f with
  | some fl => inter (st.row r) fl
  | none => st.row r

/-- An iterator whose field 0 stands on index `i` of its row list `A`, whatever the other fields do. -/
def fld0 (sa : Store) (f : Option (List Nat)) (A : List Nat) (i : Nat) (ss : List Store) (its : List RowIter)
    (rs : List (List Nat × Nat)) : GBI :=
  { stores := sa :: ss, iters := { ids := A, cur := i + 1, wrap := false } :: its,
    rows := (colsIn sa f (A.getD i 0), A.getD i 0) :: rs, filter := f, done := false }

theorem nextAtIdx_fld0_step (sa : Store) (f : Option (List Nat)) (A : List Nat) (i : Nat) (ss : List Store)
    (its : List RowIter) (rs : List (List Nat × Nat)) (fuel : Nat) :
    nextAtIdx (fuel + 1) (fld0 sa f A i ss its rs) 0 =
      if i + 1 ≥ A.length then { fld0 sa f A i ss its rs with done := true }
      else if !(colsIn sa f (A.getD (i + 1) 0)).isEmpty then fld0 sa f A (i + 1) ss its rs
      else nextAtIdx fuel (fld0 sa f A (i + 1) ss its rs) 0 := by
  rw [nextAtIdx]
  simp only [fld0, List.getElem?_cons_zero, RowIter.next]
  by_cases hend : i + 1 ≥ A.length
  · simp only [hend, if_true, Bool.not_false, true_or]
  · simp only [hend, if_false, Bool.false_eq_true, false_and, setAt_cons_zero, if_true, colsIn]
    rfl

theorem nextAtIdx_fld0 (sa : Store) (f : Option (List Nat)) (A : List Nat) (ss : List Store) (its : List RowIter)
    (rs : List (List Nat × Nat)) : ∀ (fuel i : Nat), i < A.length → fuel ≥ A.length - i →
      ((nextAtIdx fuel (fld0 sa f A i ss its rs) 0).done = true ∧
        ∀ k, i < k → k < A.length → colsIn sa f (A.getD k 0) = []) ∨
      (∃ i', i < i' ∧ i' < A.length ∧ colsIn sa f (A.getD i' 0) ≠ [] ∧
        (∀ k, i < k → k < i' → colsIn sa f (A.getD k 0) = []) ∧
        nextAtIdx fuel (fld0 sa f A i ss its rs) 0 = fld0 sa f A i' ss its rs) := by
  intro fuel
  induction fuel with
  | zero => intro i hi hf; exact absurd (Nat.sub_pos_of_lt hi) (Nat.not_lt.mpr hf)
  | succ fuel ih =>
    intro i hi hf
    rw [nextAtIdx_fld0_step]
    by_cases hend : i + 1 ≥ A.length
    · rw [if_pos hend]
      exact .inl ⟨rfl, fun k h1 h2 => absurd (Nat.lt_of_le_of_lt h1 h2) (Nat.not_lt.mpr hend)⟩
    · rw [if_neg hend]
      cases he : (colsIn sa f (A.getD (i + 1) 0)).isEmpty with
      | false =>
        rw [Bool.not_false, if_pos rfl]
        exact .inr ⟨i + 1, Nat.lt_succ_self i, Nat.lt_of_not_ge hend, (fun h => by rw [h] at he; cases he),
          (fun k h1 h2 => absurd h2 (Nat.not_lt.mpr h1)), rfl⟩
      | true =>
        rw [Bool.not_true, if_neg Bool.false_ne_true]
        -- row i+1 is skipped
        have hskip : ∀ k, i < k → (i + 1 < k → colsIn sa f (A.getD k 0) = []) → colsIn sa f (A.getD k 0) = [] :=
          fun k hk h => if e : k = i + 1 then e ▸ List.isEmpty_iff.mp he
            else h (Nat.lt_of_le_of_ne hk (fun e' => e e'.symm))
        rcases ih (i + 1) (Nat.lt_of_not_ge hend) (show A.length - i - 1 ≤ fuel from Nat.sub_le_of_le_add hf) with
          ⟨hd, hall⟩ | ⟨i', h1, h2, h3, h4, h5⟩
        · exact .inl ⟨hd, fun k hk1 hk2 => hskip k hk1 (fun h => hall k h hk2)⟩
        · exact .inr ⟨i', Nat.lt_of_succ_lt h1, h2, h3, fun k hk1 hk2 => hskip k hk1 (fun h => h4 k h hk2), h5⟩

/-- the single-field iterator standing on index j of its row list -/
def st1 (st : Store) (f : Option (List Nat)) (R : List Nat) (j : Nat) : GBI :=
  { stores := [st], iters := [{ ids := R, cur := j + 1, wrap := false }],
    rows := [(colsIn st f (R.getD j 0), R.getD j 0)], filter := f, done := false }

/-- what `Next` returns for row `r`: nothing if the row has no bit in the filter -/
def emit1 (st : Store) (f : Option (List Nat)) (r : Nat) : Option (List Nat × Nat) :=
  if (colsIn st f r).length = 0 then none else some ([r], (colsIn st f r).length)

/-- everything the single-field iterator still returns when it stands on index `j` -/
def stream1 (st : Store) (f : Option (List Nat)) (R : List Nat) (j : Nat) : List (List Nat × Nat) :=
  (R.drop j).filterMap (emit1 st f)

/-- state `s` is done and `σ` is empty, or `s` stands on an index `j ≥ lo` and `σ` is what is still to come (`lo` bounds
the fuel `gbiNext` needs) -/
def Good (st : Store) (f : Option (List Nat)) (R : List Nat) (lo : Nat) (s : GBI) (σ : List (List Nat × Nat)) : Prop :=
  (s.done = true ∧ σ = []) ∨ (∃ j, lo ≤ j ∧ j < R.length ∧ s = st1 st f R j ∧ σ = stream1 st f R j)

theorem stream1_step (st : Store) (f : Option (List Nat)) (R : List Nat) (j : Nat) (hj : j < R.length) :
    stream1 st f R j = (emit1 st f (R.getD j 0)).toList ++ stream1 st f R (j + 1) := by
  unfold stream1
  rw [List.drop_eq_getElem_cons hj, List.filterMap_cons, List.getD_eq_getElem?_getD, List.getElem?_eq_getElem hj,
    Option.getD_some]
  cases emit1 st f R[j] <;> rfl

theorem stream1_of_ge (st : Store) (f : Option (List Nat)) (R : List Nat) (j : Nat) (hj : R.length ≤ j) :
    stream1 st f R j = [] := by
  rw [stream1, List.drop_eq_nil_iff.mpr hj]; rfl

theorem stream1_skip (st : Store) (f : Option (List Nat)) (R : List Nat) (j j' : Nat) (hjj : j ≤ j')
    (h : ∀ k, j ≤ k → k < j' → colsIn st f (R.getD k 0) = []) : stream1 st f R j = stream1 st f R j' := by
  obtain ⟨d, rfl⟩ := Nat.exists_eq_add_of_le hjj
  induction d with
  | zero => rfl
  | succ d ih =>
    rw [ih (Nat.le_add_right _ _) (fun k h1 h2 => h k h1 (Nat.lt_succ_of_lt h2)), ← Nat.add_assoc]
    by_cases hlen : j + d < R.length
    · rw [stream1_step st f R _ hlen, emit1, h _ (Nat.le_add_right _ _) (Nat.lt_succ_self _)]; rfl
    · rw [stream1_of_ge st f R _ (Nat.le_of_not_lt hlen), stream1_of_ge st f R _ (Nat.le_succ_of_le (Nat.le_of_not_lt hlen))]

theorem nextAtIdx_single (st : Store) (f : Option (List Nat)) (R : List Nat) :
    ∀ (fuel j : Nat), j < R.length → fuel ≥ R.length - j →
      Good st f R (j + 1) (nextAtIdx fuel (st1 st f R j) 0) (stream1 st f R (j + 1)) := by
  intro fuel j hj hf
  rcases nextAtIdx_fld0 st f R [] [] [] fuel j hj hf with ⟨hd, hall⟩ | ⟨j', h1, h2, _, h4, h5⟩
  · refine .inl ⟨hd, ?_⟩
    rw [stream1_skip st f R (j + 1) R.length hj (fun k h1 h2 => hall k h1 h2), stream1_of_ge st f R _ (Nat.le_refl _)]
  · exact .inr ⟨j', h1, h2, h5, stream1_skip st f R (j + 1) j' h1 (fun k hk1 hk2 => h4 k hk1 hk2)⟩

theorem gbiNext_st1 (st : Store) (f : Option (List Nat)) (R : List Nat) (j fuel : Nat) :
    gbiNext (fuel + 1) (st1 st f R j) =
      if (colsIn st f (R.getD j 0)).length = 0 then gbiNext fuel (nextAtIdx fuel (st1 st f R j) 0)
      else (some ([R.getD j 0], (colsIn st f (R.getD j 0)).length), nextAtIdx fuel (st1 st f R j) 0) := by
  rw [gbiNext]; rfl

theorem gbiNext_single (st : Store) (f : Option (List Nat)) (R : List Nat) :
    ∀ (fuel lo : Nat) (s : GBI) (σ : List (List Nat × Nat)), Good st f R lo s σ →
      fuel ≥ R.length - lo + 2 →
      (gbiNext fuel s).1 = σ.head? ∧ ∃ lo', Good st f R lo' (gbiNext fuel s).2 σ.tail := by
  intro fuel
  induction fuel with
  | zero => intro lo s σ _ hf; exact absurd hf (Nat.not_succ_le_zero _)
  | succ fuel ih =>
    intro lo s σ hg hf
    rcases hg with ⟨hd, rfl⟩ | ⟨j, hlo, hj, rfl, rfl⟩
    · rw [gbiNext, if_pos hd]
      exact ⟨rfl, 0, .inl ⟨hd, rfl⟩⟩
    · have hf' : R.length - lo + 1 ≤ fuel := Nat.le_of_succ_le_succ hf
      have hnext := nextAtIdx_single st f R fuel j hj
        (Nat.le_trans (Nat.sub_le_sub_left hlo _) (Nat.le_of_succ_le hf'))
      rw [gbiNext_st1, stream1_step st f R j hj, emit1]
      by_cases hc : (colsIn st f (R.getD j 0)).length = 0
      · rw [if_pos hc, if_pos hc]
        have hlt : R.length - (j + 1) < R.length - lo :=
          Nat.sub_lt_sub_left (Nat.lt_of_le_of_lt hlo hj) (Nat.lt_succ_of_le hlo)
        exact ih (j + 1) _ _ hnext (Nat.le_trans (Nat.succ_le_succ (Nat.succ_le_of_lt hlt)) hf')
      · rw [if_neg hc, if_neg hc]
        exact ⟨rfl, j + 1, hnext⟩

theorem gbiCollect_single (st : Store) (f : Option (List Nat)) (R : List Nat) (sf : Nat) (hsf : sf ≥ R.length + 2) :
    ∀ (L fuelC lo : Nat) (s : GBI) (σ : List (List Nat × Nat)), Good st f R lo s σ →
      fuelC ≥ Nat.min L σ.length + 1 →
      gbiCollect fuelC sf s L = (σ.take L).map (fun p => (⟨p.1, p.2⟩ : GroupCount)) := by
  intro L
  induction L with
  | zero => intro fuelC lo s σ _ _; cases fuelC <;> rfl
  | succ L ih =>
    intro fuelC lo s σ hg hf
    cases fuelC with
    | zero => exact absurd hf (Nat.not_succ_le_zero _)
    | succ fuelC =>
      obtain ⟨h1, lo', h2⟩ := gbiNext_single st f R sf lo s σ hg
        (Nat.le_trans (Nat.add_le_add_right (Nat.sub_le _ _) 2) hsf)
      rw [gbiCollect, show gbiNext sf s = ((gbiNext sf s).1, (gbiNext sf s).2) from rfl, h1]
      cases σ with
      | nil => rfl
      | cons p rest =>
        change fuelC + 1 ≥ min (L + 1) (rest.length + 1) + 1 at hf
        rw [Nat.add_min_add_right] at hf
        exact congrArg _ (ih fuelC lo' _ rest h2 (Nat.le_of_succ_le_succ hf))

/-- where the single-field iterator starts: the first row after `previous` -/
def start1 (R : List Nat) (prev : Option Nat) : Nat :=
  match prev with
  | none => 0
  | some p => R.findIdx (fun x => decide (x ≥ p + 1))

/-- `newGroupByIterator` for one field: seek to the start, take the first row, intersect with the filter. -/
theorem gbiInit_single_eq (st : Store) (f : Option (List Nat)) (ch : ChildArgs) :
    gbiFinish (gbiInit { stores := [], iters := [], rows := [], filter := f } 1 [(ch, [], st)] 0 false) =
      if start1 (fragRows st 0 []) ch.previous ≥ (fragRows st 0 []).length then
        { stores := [st], iters := [{ ids := fragRows st 0 [], cur := start1 (fragRows st 0 []) ch.previous, wrap := false }],
          rows := [([], 0)], filter := f, done := true }
      else st1 st f (fragRows st 0 []) (start1 (fragRows st 0 []) ch.previous) := by
  rw [gbiInit]
  by_cases h0 : start1 (fragRows st 0 []) ch.previous ≥ (fragRows st 0 []).length
  · rw [if_pos h0]
    cases hp : ch.previous <;> rw [hp] at h0 <;> simp only [start1, ge_iff_le] at h0 <;>
      simp only [List.isEmpty_nil, if_true, bne_self_eq_false, Bool.not_false, Nat.sub_self, start1, RowIter.seek,
        RowIter.next, true_or, List.nil_append, ge_iff_le, h0] <;> rfl
  · rw [if_neg h0]
    cases hp : ch.previous <;> rw [hp] at h0 <;> simp only [start1, ge_iff_le] at h0 <;>
      simp only [List.isEmpty_nil, if_true, bne_self_eq_false, Bool.not_false, Nat.sub_self, start1, RowIter.seek,
        RowIter.next, true_or, List.nil_append, ge_iff_le, h0, if_false, Bool.false_eq_true, gbiInit] <;>
      cases f <;> rfl

theorem gbiInit_single (st : Store) (f : Option (List Nat)) (ch : ChildArgs) :
    let R := fragRows st 0 []
    Good st f R 0
      (gbiFinish (gbiInit { stores := [], iters := [], rows := [], filter := f } 1 [(ch, [], st)] 0 false))
      (stream1 st f R (start1 R ch.previous)) := by
  intro R
  rw [gbiInit_single_eq]
  split
  · exact .inl ⟨rfl, stream1_of_ge st f R _ ‹_›⟩
  · exact .inr ⟨_, Nat.zero_le _, Nat.lt_of_not_ge ‹_›, rfl, rfl⟩

theorem stream1_length_le (st : Store) (f : Option (List Nat)) (R : List Nat) (j : Nat) :
    (stream1 st f R j).length ≤ R.length :=
  Nat.le_trans (List.length_filterMap_le _ _) (by rw [List.length_drop]; exact Nat.sub_le _ _)

/-- two-field iterator state: field 0 on index i of A; field 1 given by its iterator and cached row -/
def s2 (sa sb : Store) (f : Option (List Nat)) (A : List Nat) (i : Nat) (it1 : RowIter) (r1 : List Nat × Nat) : GBI :=
  { stores := [sa, sb], iters := [{ ids := A, cur := i + 1, wrap := false }, it1],
    rows := [(colsIn sa f (A.getD i 0), A.getD i 0), r1], filter := f, done := false }

/-- the conclusion of `nextAtIdx_fld0` for two fields -/
def Adv0 (sa sb : Store) (f : Option (List Nat)) (A : List Nat) (i : Nat) (it1 : RowIter) (r1 : List Nat × Nat)
    (g' : GBI) : Prop :=
  (g'.done = true ∧ ∀ k, i < k → k < A.length → colsIn sa f (A.getD k 0) = []) ∨
  (∃ i', i < i' ∧ i' < A.length ∧ colsIn sa f (A.getD i' 0) ≠ [] ∧
    (∀ k, i < k → k < i' → colsIn sa f (A.getD k 0) = []) ∧ g' = s2 sa sb f A i' it1 r1)

theorem nextAtIdx_two_level0 (sa sb : Store) (f : Option (List Nat)) (A : List Nat) (it1 : RowIter)
    (r1 : List Nat × Nat) :
    ∀ (fuel i : Nat), i < A.length → fuel ≥ A.length - i →
      Adv0 sa sb f A i it1 r1 (nextAtIdx fuel (s2 sa sb f A i it1 r1) 0) :=
  nextAtIdx_fld0 sa f A [sb] [it1] [r1]

/-- two-field iterator standing on (A[i], B[j]) -/
def st2 (sa sb : Store) (f : Option (List Nat)) (A B : List Nat) (i j : Nat) : GBI :=
  s2 sa sb f A i { ids := B, cur := j + 1, wrap := true } (sb.row (B.getD j 0), B.getD j 0)

end PV.C16
