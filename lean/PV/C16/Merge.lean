/-
RowIDs.merge (PV.C17.rowIDsMerge) on ascending duplicate-free lists is the first `limit` elements of the sorted
union, from C17's keyed merge (`rowIDsMerge = (nmerge a b).take limit`).
-/
import PV.C16.Sorted
import PV.C17.MergeInstances
namespace PV.C16
open List
open PV.C17 (rowIDsMerge keepB keepB_laws mem_nmerge asc_iff_sortedK rowIDsMerge_eq)
open PV.C17.K (kmerge kmergeLim kmerge_sorted natStrictTotal take_kmerge_take_left take_kmerge_take_right)

theorem nmerge_eq_sortDedup (a b : List Nat) (ha : a.Pairwise (· < ·)) (hb : b.Pairwise (· < ·)) :
    kmerge (α := Nat) id keepB a b = sortDedup (a ++ b) := by
  apply sorted_ext _ _ _ (sorted_sortDedup _)
  · intro x
    exact (mem_nmerge ha hb x).trans (by rw [mem_sortDedup, List.mem_append])
  · exact (asc_iff_sortedK _).mpr
      (kmerge_sorted natStrictTotal keepB_laws.key_comb a b ((asc_iff_sortedK a).mp ha) ((asc_iff_sortedK b).mp hb))

/-- `RowIDs.merge` of ascending duplicate-free lists: the first `limit` of the sorted union. -/
theorem rowIDsMerge_spec (a b : List Nat) (lim : Nat) (ha : a.Pairwise (· < ·)) (hb : b.Pairwise (· < ·)) :
    rowIDsMerge a b lim = (sortDedup (a ++ b)).take lim := by
  rw [rowIDsMerge_eq, kmergeLim, nmerge_eq_sortDedup a b ha hb]

/-- One merge step: the accumulator is the first `lim` of a sorted union, the new list a prefix (at least `lim`
long) of an ascending duplicate-free list `R`. -/
theorem merge_step (X R : List Nat) (hR : R.Pairwise (· < ·)) (lim n : Nat) (hn : n ≥ lim) :
    rowIDsMerge ((sortDedup X).take lim) (R.take n) lim = (sortDedup (X ++ R)).take lim := by
  rw [rowIDsMerge_eq, kmergeLim, take_kmerge_take_left _ _ lim lim (Nat.le_refl _),
    take_kmerge_take_right _ _ lim n hn, nmerge_eq_sortDedup _ _ (sorted_sortDedup X) hR]
  exact congrArg (List.take lim) (sortDedup_congr (fun x => by simp only [List.mem_append, mem_sortDedup]))

theorem merge_step_all (X R : List Nat) (hR : R.Pairwise (· < ·)) (lim : Nat) :
    rowIDsMerge ((sortDedup X).take lim) R lim = (sortDedup (X ++ R)).take lim := by
  have := merge_step X R hR lim (max lim R.length) (Nat.le_max_left _ _)
  rwa [List.take_of_length_le (Nat.le_max_right _ _)] at this

/-- `RowIDs.merge` by recursion on the limit (every step emits one element). -/
def mergeLim : Nat → List Nat → List Nat → List Nat
  | 0, _, _ => []
  | l + 1, a :: as, b :: bs =>
      if a < b then a :: mergeLim l as (b :: bs)
      else if a > b then b :: mergeLim l (a :: as) bs
      else b :: mergeLim l as bs
  | l + 1, a :: as, [] => (a :: as).take (l + 1)
  | l + 1, [], bs => bs.take (l + 1)

theorem mergeLim_eq (l : Nat) (a b : List Nat) : mergeLim l a b = (kmerge (α := Nat) id keepB a b).take l := by
  fun_induction mergeLim l a b with
  | case1 => rfl
  | case2 l a as b bs h ih => rw [kmerge, if_pos (show id a < id b from h), List.take_succ_cons, ih]
  | case3 l a as b bs h1 h2 ih =>
    rw [kmerge, if_neg (show ¬ id a < id b from h1), if_pos (show id b < id a from h2), List.take_succ_cons, ih]
  | case4 l a as b bs h1 h2 ih =>
    rw [kmerge, if_neg (show ¬ id a < id b from h1), if_neg (show ¬ id b < id a from h2), List.take_succ_cons, ih]
    rfl
  | case5 l a as => rw [PV.C17.K.kmerge_nil_right]
  | case6 l bs => rw [PV.C17.K.kmerge_nil_left]

/-- The merge never looks beyond the first `limit` elements of either argument. -/
theorem mergeLim_take (l : Nat) : ∀ (m n : Nat) (a b : List Nat), m ≥ l → n ≥ l →
    mergeLim l (a.take m) (b.take n) = mergeLim l a b := by
  intro m n a b hm hn
  rw [mergeLim_eq, mergeLim_eq, take_kmerge_take_left _ _ l m hm, take_kmerge_take_right _ _ l n hn]

end PV.C16
