/-
MinRow / MaxRow, both directions at once: `lt a b` says that row `a` is preferred to row `b`
(`<` for MinRow, `>` for MaxRow), `le` is its reflexive closure.  `Best le c p` says that the pair `p` is the
preferred row with a non-zero count under the count function `c`, with that count; the pair reducers add up
count functions, and `firstWith` over a list ordered by `lt` finds the preferred row.
-/
import PV.C16.Sorted
import PV.C17.Props0
namespace PV.C16
open List
open PV.C17 (Pair minRowReduce maxRowReduce)
export PV.C17 (Pref pref_min pref_max rowReduce Best)

theorem sum_map_eq_zero {ι : Type} (l : List ι) (f : ι → Nat) : (l.map f).sum = 0 ↔ ∀ x ∈ l, f x = 0 := by
  induction l with
  | nil => simp
  | cons a rest ih => simp [ih]

theorem sum_map_pos {ι : Type} (l : List ι) (f : ι → Nat) : (l.map f).sum > 0 ↔ ∃ x ∈ l, f x > 0 := by
  induction l with
  | nil => simp
  | cons a rest ih =>
    rw [List.map_cons, List.sum_cons, gt_iff_lt, Nat.add_pos_iff_pos_or_pos]
    constructor
    · rintro (h | h)
      · exact ⟨a, List.mem_cons_self, h⟩
      · obtain ⟨x, hx, hfx⟩ := ih.mp h
        exact ⟨x, List.mem_cons_of_mem _ hx, hfx⟩
    · rintro ⟨x, hx, hfx⟩
      rcases List.mem_cons.mp hx with rfl | hx
      · exact .inl hfx
      · exact .inr (ih.mpr ⟨x, hx, hfx⟩)

/-- `Best` of a total over shards, spelled out shard by shard. -/
theorem best_total_iff (le : Nat → Nat → Prop) (cnt : Nat → Nat → Nat) (l : List Nat) (p : Pair) :
    Best le (fun r => (l.map (fun sh => cnt sh r)).sum) p ↔
      ((p = Pair.zero ∧ ∀ sh ∈ l, ∀ r, cnt sh r = 0) ∨
        (p.count > 0 ∧ p.count = (l.map (fun sh => cnt sh p.id)).sum ∧
          ∀ sh ∈ l, ∀ r, cnt sh r > 0 → le p.id r)) := by
  simp only [Best, sum_map_eq_zero, sum_map_pos]
  constructor
  · rintro (⟨h1, h2⟩ | ⟨h1, h2, h3⟩)
    · exact .inl ⟨h1, fun sh hsh r => h2 r sh hsh⟩
    · exact .inr ⟨h1, h2, fun sh hsh r hr => h3 r ⟨sh, hsh, hr⟩⟩
  · rintro (⟨h1, h2⟩ | ⟨h1, h2, h3⟩)
    · exact .inl ⟨h1, fun r sh hsh => h2 sh hsh r⟩
    · exact .inr ⟨h1, h2, fun r h => h.elim (fun sh h' => h3 sh h'.1 r h'.2)⟩

theorem best_foldl {lt le : Nat → Nat → Prop} [DecidableRel lt] (P : Pref lt le) (cnt : Nat → Nat → Nat) (q : Nat → Pair)
    (hq : ∀ sh, Best le (cnt sh) (q sh)) (shards : List Nat) :
    ∀ (done : List Nat) (acc : Pair), Best le (fun r => (done.map (fun sh => cnt sh r)).sum) acc →
      Best le (fun r => ((done ++ shards).map (fun sh => cnt sh r)).sum)
        (shards.foldl (fun acc sh => rowReduce lt acc (q sh)) acc) := by
  induction shards with
  | nil => intro done acc h; rwa [List.append_nil]
  | cons sh rest ih =>
    intro done acc h
    rw [List.foldl_cons, List.append_cons]
    exact ih (done ++ [sh]) _ (h.reduce P (hq sh) (fun r => by simp))

/-- `firstWith` returns the first row of `l` with a non-zero count (within the filter), if there is one. -/
theorem firstWith_spec (s : Store) (f : Option (List Nat)) (l : List Nat) :
    ((firstWith s f l) = (0, 0) ∧ ∀ r ∈ l, rowCount s r f = 0) ∨
    ∃ pre r post, l = pre ++ r :: post ∧ (∀ x ∈ pre, rowCount s x f = 0) ∧ rowCount s r f > 0 ∧
      firstWith s f l = (r, rowCount s r f) := by
  induction l with
  | nil => exact .inl ⟨rfl, fun _ h => nomatch h⟩
  | cons a rest ih =>
    unfold firstWith
    by_cases ha : rowCount s a f > 0
    · rw [if_pos ha]
      exact .inr ⟨[], a, rest, rfl, fun _ h => (nomatch h), ha, rfl⟩
    · rw [if_neg ha]
      have ha0 := Nat.eq_zero_of_not_pos ha
      rcases ih with ⟨h1, h2⟩ | ⟨pre, r, post, h1, h2, h3, h4⟩
      · exact .inl ⟨h1, List.forall_mem_cons.mpr ⟨ha0, h2⟩⟩
      · exact .inr ⟨a :: pre, r, post, congrArg _ h1, List.forall_mem_cons.mpr ⟨ha0, h2⟩, h3, h4⟩

theorem firstWith_best {lt le : Nat → Nat → Prop} (P : Pref lt le) (s : Store) (f : Option (List Nat)) (l : List Nat)
    (hl : l.Pairwise lt) (hall : ∀ r, rowCount s r f > 0 → r ∈ l) :
    (firstWith s f l = (0, 0) ∧ ∀ r, rowCount s r f = 0) ∨
      (∃ m, firstWith s f l = (m, rowCount s m f) ∧ rowCount s m f > 0 ∧ ∀ r, rowCount s r f > 0 → le m r) := by
  rcases firstWith_spec s f l with ⟨h1, h2⟩ | ⟨pre, m, post, rfl, h2, h3, h4⟩
  · exact .inl ⟨h1, fun r => Nat.eq_zero_of_not_pos fun hr => Nat.ne_of_gt hr (h2 r (hall r hr))⟩
  · refine .inr ⟨m, h4, h3, fun r hr => ?_⟩
    rcases List.mem_append.mp (hall r hr) with hp | hm
    · exact absurd (h2 r hp) (Nat.ne_of_gt hr)
    · rcases List.mem_cons.mp hm with rfl | hpost
      · exact P.refl _
      · exact P.le_of_lt _ _ ((List.pairwise_cons.mp (List.pairwise_append.mp hl).2.1).1 r hpost)

theorem mem_storeRows_of_rowCount_pos {s : Store} {r : Nat} {f : Option (List Nat)} (h : rowCount s r f > 0) :
    r ∈ Spec.storeRows s := by
  apply Classical.byContradiction
  intro hr
  cases f <;> simp [rowCount, interCount, row_eq_nil hr] at h

theorem minFold (cnt : Nat → Nat → Nat) (q : Nat → Pair)
    (hq : ∀ sh, (q sh = Pair.zero ∧ ∀ r, cnt sh r = 0) ∨
      ((q sh).count > 0 ∧ (q sh).count = cnt sh (q sh).id ∧ ∀ r, cnt sh r > 0 → (q sh).id ≤ r))
    (shards : List Nat) :
    ∀ (done : List Nat) (acc : Pair),
      ((acc = Pair.zero ∧ ∀ sh ∈ done, ∀ r, cnt sh r = 0) ∨
        (acc.count > 0 ∧ acc.count = (done.map (fun sh => cnt sh acc.id)).sum ∧
          ∀ sh ∈ done, ∀ r, cnt sh r > 0 → acc.id ≤ r)) →
      let res := shards.foldl (fun acc sh => minRowReduce acc (q sh)) acc
      ((res = Pair.zero ∧ ∀ sh ∈ done ++ shards, ∀ r, cnt sh r = 0) ∨
        (res.count > 0 ∧ res.count = ((done ++ shards).map (fun sh => cnt sh res.id)).sum ∧
          ∀ sh ∈ done ++ shards, ∀ r, cnt sh r > 0 → res.id ≤ r)) := by
  intro done acc h
  exact (best_total_iff _ cnt _ _).mp
    (best_foldl pref_min cnt q hq shards done acc ((best_total_iff _ cnt done acc).mpr h))

theorem maxFold (cnt : Nat → Nat → Nat) (q : Nat → Pair)
    (hq : ∀ sh, (q sh = Pair.zero ∧ ∀ r, cnt sh r = 0) ∨
      ((q sh).count > 0 ∧ (q sh).count = cnt sh (q sh).id ∧ ∀ r, cnt sh r > 0 → r ≤ (q sh).id))
    (shards : List Nat) :
    ∀ (done : List Nat) (acc : Pair),
      ((acc = Pair.zero ∧ ∀ sh ∈ done, ∀ r, cnt sh r = 0) ∨
        (acc.count > 0 ∧ acc.count = (done.map (fun sh => cnt sh acc.id)).sum ∧
          ∀ sh ∈ done, ∀ r, cnt sh r > 0 → r ≤ acc.id)) →
      let res := shards.foldl (fun acc sh => maxRowReduce acc (q sh)) acc
      ((res = Pair.zero ∧ ∀ sh ∈ done ++ shards, ∀ r, cnt sh r = 0) ∨
        (res.count > 0 ∧ res.count = ((done ++ shards).map (fun sh => cnt sh res.id)).sum ∧
          ∀ sh ∈ done ++ shards, ∀ r, cnt sh r > 0 → r ≤ res.id)) := by
  intro done acc h
  exact (best_total_iff _ cnt _ _).mp
    (best_foldl pref_max cnt q hq shards done acc ((best_total_iff _ cnt done acc).mpr h))

end PV.C16
