/-
GroupBy over one field: the stream of the one-field iterator is the shard's groups of the specification.
-/
import PV.C16.Iter
import PV.C16.GroupBy
namespace PV.C16
open List
open PV.C17 (GroupCount)

theorem tuples_single (D : List Nat) : Spec.tuples [D] = D.map (fun r => [r]) := by
  simp only [Spec.tuples, List.map_cons, List.map_nil]
  induction D with
  | nil => rfl
  | cons d ds ih => simp only [List.flatMap_cons, List.map_cons]; rw [ih]; rfl

theorem drop_findIdx_sorted (R : List Nat) (hs : R.Pairwise (· < ·)) (b : Nat) :
    R.drop (R.findIdx (fun x => decide (x ≥ b))) = R.filter (fun x => decide (x ≥ b)) := by
  induction R with
  | nil => rfl
  | cons x xs ih =>
    have hp := List.pairwise_cons.mp hs
    rw [List.findIdx_cons, List.filter_cons]
    by_cases hx : x ≥ b
    · -- everything from `x` on is ≥ b
      rw [decide_eq_true hx, cond_true, List.drop_zero, if_pos rfl]
      exact congrArg _ (List.filter_eq_self.mpr
        (fun y hy => decide_eq_true (Nat.le_trans hx (Nat.le_of_lt (hp.1 y hy))))).symm
    · rw [decide_eq_false hx, cond_false, List.drop_succ_cons, if_neg Bool.false_ne_true]
      exact ih hp.2

theorem colsIn_eq_nil {st : Store} {f : Option (List Nat)} {r : Nat} (h : r ∉ Spec.storeRows st) :
    colsIn st f r = [] := by
  cases f <;> simp [colsIn, row_eq_nil h, inter]

theorem shardGroupCount_single (db : DB) (fld r sh : Nat) (filter : Option (Nat → List Nat)) (st : Store)
    (hf : db.frag ⟨fld, none, sh⟩ = some st) :
    Spec.shardGroupCount db [fld] [r] filter sh = (colsIn st (filter.map (· sh)) r).length := by
  unfold Spec.shardGroupCount
  simp only [List.zip_cons_cons, List.zip_nil_right, List.map_cons, List.map_nil, hf, List.foldl_nil]
  cases filter <;> rfl

theorem shardGroupCount_single_none (db : DB) (fld r sh : Nat) (filter : Option (Nat → List Nat))
    (hf : db.frag ⟨fld, none, sh⟩ = none) : Spec.shardGroupCount db [fld] [r] filter sh = 0 := by
  unfold Spec.shardGroupCount
  simp only [List.zip_cons_cons, List.zip_nil_right, List.map_cons, List.map_nil, hf, List.foldl_nil]
  cases filter <;> simp [inter]

theorem startOK_single (a : GroupByArgs) (ch : ChildArgs) (hch : a.children = [ch]) (r : Nat) :
    Spec.startOK a [r] = (match ch.previous with
      | none => true
      | some p => decide (r ≥ p + 1)) := by
  unfold Spec.startOK Spec.startTuple
  rw [hch]
  cases hp : ch.previous with
  | none => simp only [List.all_cons, hp, Option.isSome_none, Bool.false_and, Bool.false_eq_true, if_false]
  | some p =>
    simp only [List.all_cons, hp, Option.isSome_some, List.all_nil, Bool.and_self, List.length_cons, List.length_nil,
      Nat.zero_add, Nat.lt_add_one, decide_true, if_true, List.map_cons, List.map_nil, Option.getD_some,
      Spec.bumpLast]
    rw [lexGE_cons, Spec.lexGE, Bool.and_true, ← Bool.decide_or]
    exact decide_eq_decide.mpr Nat.le_iff_lt_or_eq.symm

def okAfter (prev : Option Nat) (r : Nat) : Bool :=
  match prev with
  | none => true
  | some p => decide (r ≥ p + 1)

/-- the one-field iterator starts at the first row after `previous` -/
theorem drop_start1 (R : List Nat) (hs : R.Pairwise (· < ·)) (prev : Option Nat) :
    R.drop (start1 R prev) = R.filter (okAfter prev) := by
  cases prev with
  | none => exact (List.filter_eq_self.mpr (fun _ _ => rfl)).symm
  | some p => exact drop_findIdx_sorted R hs (p + 1)

/-- the stream of the one-field iterator over the fragment's rows `R`, as a filterMap over any
ascending superset `D` of `R` -/
theorem single_glue (st : Store) (f : Option (List Nat)) (R D : List Nat)
    (hRs : R.Pairwise (· < ·)) (hDs : D.Pairwise (· < ·)) (hsub : ∀ r ∈ R, r ∈ D)
    (hoff : ∀ r, r ∉ R → colsIn st f r = []) (prev : Option Nat) :
    (stream1 st f R (start1 R prev)).map (fun p => (⟨p.1, p.2⟩ : GroupCount)) =
      D.filterMap (fun r => if (colsIn st f r).length > 0 ∧ okAfter prev r = true then
        some (⟨[r], (colsIn st f r).length⟩ : GroupCount) else none) := by
  have hDR : D.filter (fun r => decide (r ∈ R)) = R := by
    apply sorted_ext _ _ (hDs.filter _) hRs
    intro x
    rw [List.mem_filter, decide_eq_true_eq]
    exact ⟨fun h => h.2, fun h => ⟨hsub x h, h⟩⟩
  rw [stream1, drop_start1 R hRs prev, List.filterMap_filter, List.map_filterMap]
  conv => lhs; rw [← hDR]
  rw [List.filterMap_filter]
  apply filterMap_congr_mem
  intro r _
  by_cases hr : r ∈ R
  · -- a row of the fragment: emitted iff it has a bit in the filter and comes after `previous`
    rw [decide_eq_true hr, if_pos rfl, emit1]
    cases okAfter prev r <;> by_cases hz : (colsIn st f r).length = 0 <;> simp [hz, Nat.pos_iff_ne_zero]
  · rw [decide_eq_false hr, if_neg Bool.false_ne_true, hoff r hr]
    rfl

end PV.C16
