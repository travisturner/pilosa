/-
Paging over a strictly ascending list.

`pageAfter lt L prev l` is what one request returns: the first `l` elements of `L` that come after
`prev`.  `pagePrev` repeats the request with `previous` = last element of the page before, until a
page is empty, and concatenates.  `pageOffset` does the same with offset = k*l.  On an ascending list the
two are the same loop: after the first `off` elements the request with `previous` = their last returns
`(L.drop off).take l`.
-/
namespace PV.C16.Paging
open List

variable {α : Type}

def pageAfter (lt : α → α → Bool) (L : List α) (prev : Option α) (l : Nat) : List α :=
  (L.filter (fun x => match prev with
    | none => true
    | some p => lt p x)).take l

def pagePrev (lt : α → α → Bool) (L : List α) (l : Nat) : Nat → Option α → List α → List α
  | 0, _, acc => acc
  | fuel + 1, prev, acc =>
    match (pageAfter lt L prev l).getLast? with
    | none => acc
    | some last => pagePrev lt L l fuel (some last) (acc ++ pageAfter lt L prev l)

def pageOffset (L : List α) (l : Nat) : Nat → Nat → List α → List α
  | 0, _, acc => acc
  | fuel + 1, off, acc =>
    let page := (L.drop off).take l
    if page.isEmpty then acc else pageOffset L l fuel (off + l) (acc ++ page)

/-- After `done`, with `prev` its last element, a request returns the first `l` of `todo`. -/
theorem pageAfter_split (lt : α → α → Bool)
    (htrans : ∀ a b c, lt a b = true → lt b c = true → lt a c = true)
    (hirr : ∀ a, lt a a = false)
    (done todo : List α) (hs : (done ++ todo).Pairwise (fun a b => lt a b = true)) (l : Nat) :
    pageAfter lt (done ++ todo) done.getLast? l = todo.take l := by
  unfold pageAfter
  refine congrArg (List.take l) ?_
  cases hd : done.getLast? with
  | none =>
    rw [List.getLast?_eq_none_iff.mp hd, List.nil_append]
    exact List.filter_eq_self.mpr (fun _ _ => rfl)
  | some p =>
    obtain ⟨pre, rfl⟩ := List.getLast?_eq_some_iff.mp hd
    have hsd := List.pairwise_append.mp hs
    -- nothing of `done` comes after its last element, all of `todo` does
    have h1 : (pre ++ [p]).filter (fun x => lt p x) = [] := by
      apply List.filter_eq_nil_iff.mpr
      intro x hx hlt
      rcases List.mem_append.mp hx with hx' | hx'
      · have := htrans x p x ((List.pairwise_append.mp hsd.1).2.2 x hx' p (List.mem_singleton.mpr rfl)) hlt
        rw [hirr x] at this; cases this
      · rw [List.mem_singleton.mp hx', hirr p] at hlt; cases hlt
    have h2 : todo.filter (fun x => lt p x) = todo :=
      List.filter_eq_self.mpr (fun x hx => hsd.2.2 p (List.mem_append_right _ (List.mem_singleton.mpr rfl)) x hx)
    rw [List.filter_append, h1, h2]; rfl

theorem pageOffset_inv (L : List α) (l : Nat) (hl : l > 0) :
    ∀ (fuel off : Nat), fuel > L.length - off →
      pageOffset L l fuel off (L.take off) = L := by
  intro fuel
  induction fuel with
  | zero => intro off hf; exact absurd hf (Nat.not_lt_zero _)
  | succ fuel ih =>
    intro off hf
    rw [pageOffset]
    by_cases hoff : L.length ≤ off
    · -- nothing left: the page is empty
      rw [List.drop_eq_nil_iff.mpr hoff, List.take_nil, if_pos List.isEmpty_nil]
      exact List.take_of_length_le hoff
    · have hne : ((L.drop off).take l).isEmpty = false := by
        rw [List.isEmpty_eq_false_iff, ne_eq, List.take_eq_nil_iff, List.drop_eq_nil_iff]
        exact fun h => h.elim (Nat.ne_of_gt hl) hoff
      rw [hne, if_neg Bool.false_ne_true, ← List.take_add]
      exact ih (off + l) (Nat.lt_of_lt_of_le
        (Nat.sub_lt_sub_left (Nat.lt_of_not_le hoff) (Nat.lt_add_of_pos_right hl)) (Nat.le_of_lt_succ hf))

/-- Paging with `offset` = 0, l, 2l, … and `limit` = l to exhaustion reproduces the list. -/
theorem pageOffset_all (L : List α) (l : Nat) (hl : l > 0) :
    pageOffset L l (L.length + 1) 0 [] = L :=
  pageOffset_inv L l hl (L.length + 1) 0 (Nat.lt_succ_of_le (Nat.sub_le _ _))

/-- Paging by `previous` over an ascending list is paging by offset. -/
theorem pagePrev_eq_pageOffset (lt : α → α → Bool)
    (htrans : ∀ a b c, lt a b = true → lt b c = true → lt a c = true)
    (hirr : ∀ a, lt a a = false) (L : List α) (hs : L.Pairwise (fun a b => lt a b = true)) (l : Nat) :
    ∀ (fuel off : Nat), pagePrev lt L l fuel (L.take off).getLast? (L.take off) = pageOffset L l fuel off (L.take off) := by
  intro fuel
  induction fuel with
  | zero => intro off; rfl
  | succ fuel ih =>
    intro off
    have hpage : pageAfter lt L (L.take off).getLast? l = (L.drop off).take l := by
      have := pageAfter_split lt htrans hirr (L.take off) (L.drop off) (by rwa [List.take_append_drop]) l
      rwa [List.take_append_drop] at this
    rw [pagePrev, pageOffset, hpage]
    cases hlast : ((L.drop off).take l).getLast? with
    | none => rw [List.getLast?_eq_none_iff.mp hlast]; rfl
    | some last =>
      have hne : ((L.drop off).take l).isEmpty = false := by
        cases h : (L.drop off).take l with
        | nil => rw [h] at hlast; cases hlast
        | cons _ _ => rfl
      have hl' : (L.take off ++ (L.drop off).take l).getLast? = some last := by
        rw [List.getLast?_append, hlast]; rfl
      simp only [hne, Bool.false_eq_true, if_false]
      rw [← List.take_add] at hl' ⊢
      rw [← hl']
      exact ih (off + l)

/-- Paging with `previous` and `limit` to exhaustion reproduces the list. -/
theorem pagePrev_all (lt : α → α → Bool)
    (htrans : ∀ a b c, lt a b = true → lt b c = true → lt a c = true)
    (hirr : ∀ a, lt a a = false) (L : List α) (hs : L.Pairwise (fun a b => lt a b = true))
    (l : Nat) (hl : l > 0) :
    pagePrev lt L l (L.length + 1) none [] = L :=
  (pagePrev_eq_pageOffset lt htrans hirr L hs l (L.length + 1) 0).trans (pageOffset_all L l hl)

end PV.C16.Paging
