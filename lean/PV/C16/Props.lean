/-
Property (properties.jsonl C16): Rows returns the distinct row ids, ascending, that have at least
one bit (in the given column and time range), honouring previous and limit; GroupBy returns every
row combination with a non-zero count, ascending, exact counts, and pages via limit, offset or
previous concatenate to the unpaged result; MinRow and MaxRow return the smallest and largest row
that has at least one bit (within the filter).
-/
import PV.C16.Paging
import PV.C16.RowsExec
import PV.C16.WithRows
import PV.C16.MinMax
import PV.C16.GroupBy
import PV.C16.OneField
namespace PV.C16
open List

/-- `fragment.rows(start, [filterColumn(col)], [filterWithLimit(limit)])` — the chain built by
executeRowsShard — returns exactly the rows ≥ start that have a bit (at the column, if given),
ascending and duplicate-free, cut after `limit` rows.  Full strength: any store, any start, any
column, any limit; the stateful limit filter and the container-wise evaluation included.  (`hcol` is not
needed: a bit at the column is in the store, whose columns are inside the shard — `fragRows_col_lim`.) -/
theorem C16_rows (s : Store) (hwf : s.WF) (start : Nat) (col limit : Option Nat)
    (hcol : ∀ c, col = some c → c < shardWidth) :
    fragRows s start (colFilter col ++ limFilter limit) = Spec.fragRows s start col limit :=
  fragRows_col_lim hwf start col limit

/-- `fragment.rows(0, filterWithRows(ids))` (the chain GroupBy builds for a child with limit or
column): exactly the rows of the fragment that are in `ids`, ascending — the stateful search
position and the early `done` included. -/
theorem C16_rows_withRows (s : Store) (hwf : s.WF) (ids : List Nat) (hs : ids.Pairwise (· < ·)) :
    fragRows s 0 [Filter.rows ids 0] = (Spec.storeRows s).filter ids.contains := by
  rw [fragRows, rowsLoop_rows ids hs _ (contsFrom_sorted s 0) 0 none (fun _ _ x hx => nomatch hx)]
  apply sorted_ext _ _ (walkP_conts_sorted s 0 _) ((sorted_sortDedup _).filter _)
  intro x
  simp only [mem_walkP_conts hwf, List.mem_filter, mem_sortDedup, List.mem_map, Nat.zero_le, true_and]
  constructor
  · rintro ⟨q, hq, rfl, hp⟩
    exact ⟨⟨q, hq, rfl⟩, rowOfC_contOf hwf hq ▸ hp⟩
  · rintro ⟨⟨q, hq, rfl⟩, hp⟩
    exact ⟨q, hq, rfl, (rowOfC_contOf hwf hq).symm ▸ hp⟩

/-- Rows() through the executor — every view of the time range, every shard, `previous`, `column`,
`limit`, the per-view limit filters and all the `RowIDs.merge` calls — returns the first
`limit` (the Go code uses MaxInt when no limit is given) of the rows after `previous` that have a
bit in the column / time range, ascending and duplicate-free. -/
theorem C16_rows_exec (db : DB) (hwf : db.WF) (a : RowsArgs) (shards : List Nat) :
    rows db a shards =
      (Spec.rows db { a with limit := none } shards).take (a.limit.getD noLimit) := by
  rw [rows_eq_take db hwf a shards]
  refine congrArg (List.take _) ?_
  -- both sides are ascending and duplicate-free: compare members
  apply sorted_ext _ _ (sorted_sortDedup _) (spec_rows_asc db a shards)
  intro x
  rw [mem_page_start, mem_allRows, mem_sortDedup, List.mem_flatMap]
  simp only [mem_shardRows db hwf]
  constructor
  · rintro ⟨sh, hsh, s, ⟨v, hv, hs⟩, hge, hb⟩
    exact ⟨⟨(⟨a.field, v, sh⟩, s), hs, rfl, hsh, (view_equiv db a v sh s hs).mp hv, hb⟩, hge⟩
  · rintro ⟨⟨⟨⟨f, v, sh⟩, s⟩, hs, rfl, hsh, hv, hb⟩, hge⟩
    exact ⟨sh, hsh, s, ⟨v, (view_equiv db _ v sh s hs).mpr hv, hs⟩, hge, hb⟩

/-- With an explicit limit the executor's Rows is exactly the specification. -/
theorem C16_rows_exec_limit (db : DB) (hwf : db.WF) (a : RowsArgs) (shards : List Nat) (l : Nat)
    (hl : a.limit = some l) : rows db a shards = Spec.rows db a shards := by
  rw [C16_rows_exec db hwf a shards, hl]
  simp only [Option.getD_some, Spec.rows, Spec.page, hl]

theorem rowCount_of_no_bits (s : Store) (r : Nat) (f : Option (List Nat)) (h : ∀ p ∈ s, p.1 ≠ r) :
    rowCount s r f = 0 :=
  Nat.eq_zero_of_not_pos fun hp =>
    let ⟨p, hm, e⟩ := (mem_storeRows s r).mp (mem_storeRows_of_rowCount_pos hp)
    h p hm e

theorem foldl_congr_mem {α β : Type} (f g : β → α → β) (l : List α) (b : β)
    (h : ∀ acc x, x ∈ l → f acc x = g acc x) : l.foldl f b = l.foldl g b := by
  induction l generalizing b with
  | nil => rfl
  | cons x rest ih =>
    rw [List.foldl_cons, List.foldl_cons, h b x List.mem_cons_self]
    exact ih _ fun acc y hy => h acc y (List.mem_cons_of_mem _ hy)

theorem sum_zero_of_all_zero (l : List Nat) (h : ∀ x ∈ l, x = 0) : l.sum = 0 :=
  l.map_id ▸ (sum_map_eq_zero l id).mpr h

/-- MinRow / MaxRow on a fragment (`fragment.minRow` / `maxRow`, any filter row or none): if some
row has a bit inside the filter, the result is the smallest / largest such row together with its
number of bits inside the filter; otherwise (0, 0).  Full strength: no high-water mark. -/
theorem C16_minmax (s : Store) (hwf : s.WF) (filter : Option (List Nat)) :
    (((minRow s filter) = (0, 0) ∧ ∀ r, rowCount s r filter = 0) ∨
      (∃ m, minRow s filter = (m, rowCount s m filter) ∧ rowCount s m filter > 0 ∧
        ∀ r, rowCount s r filter > 0 → m ≤ r)) ∧
    (((maxRow s filter) = (0, 0) ∧ ∀ r, rowCount s r filter = 0) ∨
      (∃ m, maxRow s filter = (m, rowCount s m filter) ∧ rowCount s m filter > 0 ∧
        ∀ r, rowCount s r filter > 0 → r ≤ m)) := by
  have hall : ∀ r, rowCount s r filter > 0 → r ∈ Spec.storeRows s := fun _ => mem_storeRows_of_rowCount_pos
  unfold minRow maxRow
  rw [fragRows_all s hwf]
  exact ⟨firstWith_best pref_min s filter _ (sorted_sortDedup _) hall,
    firstWith_best pref_max s filter _ (List.pairwise_reverse.mpr (sorted_sortDedup _))
      (fun r h => List.mem_reverse.mpr (hall r h))⟩

def natLt (a b : Nat) : Bool := decide (a < b)

/-- One Rows request with `previous` and `limit` is a page of the unpaged answer. -/
theorem rows_is_page (db : DB) (a : RowsArgs) (shards : List Nat) (prev : Option Nat) (l : Nat) :
    Spec.rows db { a with previous := prev, limit := some l } shards =
      Paging.pageAfter natLt (Spec.rows db { a with previous := none, limit := none } shards) prev l := by
  simp only [Spec.rows, Spec.page, Paging.pageAfter]
  refine congrArg (List.take l) ?_
  rw [List.filter_filter]
  apply List.filter_congr
  intro r _
  cases prev <;> simp [natLt]

theorem spec_rows_sorted (db : DB) (a : RowsArgs) (shards : List Nat) :
    (Spec.rows db { a with previous := none, limit := none } shards).Pairwise (fun x y => natLt x y = true) := by
  simp only [Spec.rows, Spec.page, Spec.allRows]
  apply List.Pairwise.filter
  apply (sorted_sortDedup _).imp
  intro x y h
  simp [natLt, h]

/-- C16 paging for Rows: requesting pages with `limit = l` and `previous` = last row of the page
before (each such request is `rows_is_page`), until a page comes back empty, and concatenating
them gives exactly the unpaged Rows answer (any field, column, time range, shards). -/
theorem C16_paging (db : DB) (a : RowsArgs) (shards : List Nat) (l : Nat) (hl : l > 0) :
    let full := Spec.rows db { a with previous := none, limit := none } shards
    Paging.pagePrev natLt full l (full.length + 1) none [] = full := by
  intro full
  apply Paging.pagePrev_all natLt _ _ full (spec_rows_sorted db a shards) l hl
  · intro x y z h1 h2
    simp only [natLt, decide_eq_true_eq] at *
    omega
  · intro x; simp [natLt]

/-- The same for the model of the code: every page request the executor answers is the corresponding
page of the unpaged specification, so the loop of `C16_paging` run against the code yields the
unpaged answer. -/
theorem C16_paging_exec (db : DB) (hwf : db.WF) (a : RowsArgs) (shards : List Nat) (prev : Option Nat) (l : Nat) :
    rows db { a with previous := prev, limit := some l } shards =
      Paging.pageAfter natLt (Spec.rows db { a with previous := none, limit := none } shards) prev l := by
  rw [C16_rows_exec_limit db hwf { a with previous := prev, limit := some l } shards l rfl]
  exact rows_is_page db a shards prev l

/-- The slicing at the end of executeGroupBy: with the offset/limit repair, offset `o` and limit `l`
select `(merged.drop o).take l`. -/
theorem groupBy_slice (merged : List PV.C17.GroupCount) (o l : Nat) :
    (let res := if o < merged.length then merged.drop o else []
     if l < res.length then res.take l else res) = (merged.drop o).take l := by
  simp only [drop_or_nil, take_or_self]

/-- The limit+offset fetch and the slicing at the end of executeGroupBy return the groups `offset … offset+limit-1` of
the full ordered list.  Of the full statement `groupBy db a shards = Spec.groupBy db a shards` this file proves
everything above the per-shard iterator (`C16_groupby_of_shards`), the one-field case (`C16_groupby_one_field`) and the
two-field successor step (`nextAtIdx_succ_two`); NOT proved: the iterator for two or more fields, children with
limit / column (design/C16.md, "GroupBy: proved and open"). -/
theorem C16_groupby_partial (all : List PV.C17.GroupCount) (o l : Nat) :
    (let merged := all.take (l + o)      -- what the shards and the merge keep: fetchLimit = l + o
     let res := if o < merged.length then merged.drop o else []
     if l < res.length then res.take l else res) = (all.drop o).take l :=
  (groupBy_slice (all.take (l + o)) o l).trans (drop_take_fetch all o l)

theorem C16_groupby_partial_aux (all : List PV.C17.GroupCount) (o l : Nat) :
    (if l < (if o < (all.take (l + o)).length then (all.take (l + o)).drop o else []).length then
      (if o < (all.take (l + o)).length then (all.take (l + o)).drop o else []).take l
     else (if o < (all.take (l + o)).length then (all.take (l + o)).drop o else [])) = (all.drop o).take l :=
  C16_groupby_partial all o l

section GroupByExec
open PV.C17 (GroupCount mergeGroupCounts GLen gmerge)

/-- GroupBy, everything above the per-shard iterator (children without `limit` / `column`, i.e.
the paging use: `previous`, `limit`, `offset`, `filter`). IF every shard's iterator returns the
first `limit+offset` of that shard's combinations with a non-zero count (hypothesis `hshard` —
this is the statement about `newGroupByIterator` / `nextAtIdx` / `Next`, proved for one field only:
`groupByShard_single_spec`),
THEN `executeGroupBy` — `mergeGroupCounts` over the shards in arrival order with the fetch limit,
then offset and limit — returns exactly the specification: every combination with a non-zero total
count at or after the start, ascending, exact totals, sliced by offset and limit. -/
theorem C16_groupby_of_shards (db : DB) (a : GroupByArgs) (shards : List Nat)
    (hplain : ∀ ch ∈ a.children, ch.limit = none ∧ ch.column = none)
    (hsmall : (Spec.allGroups db a shards).length ≤ noLimit)
    (hlim : ∀ l, a.limit = some l → l + a.offset.getD 0 < noLimit)
    (hshard : ∀ sh ∈ shards, groupByShard db a (a.children.map (fun _ => [])) sh =
      (Spec.shardGroups db a shards sh).take (fetchLimit a)) :
    groupBy db a shards = Spec.groupBy db a shards := by
  have hmerged := merge_shards_take db a shards (groupDoms_sorted db a shards hplain) (fetchLimit a) _ hshard
  unfold groupBy
  simp only
  -- children without limit / column need no Rows call ahead of the shards
  have hcr : a.children.map (fun ch =>
      if ch.limit.isSome ∨ ch.column.isSome then
        some (rows db { field := ch.field, previous := ch.previous, limit := ch.limit, column := ch.column } shards)
      else none) = a.children.map (fun _ => (none : Option (List Nat))) := by
    apply List.map_congr_left
    intro ch hch
    have := hplain ch hch
    simp [this.1, this.2]
  rw [hcr]
  have hany : ((a.children.map (fun _ => (none : Option (List Nat)))).any (fun r => r == some [])) = false := by
    simp
  simp only [hany, Bool.false_eq_true, if_false, List.map_map]
  rw [show (a.children.map ((fun x => x.getD []) ∘ fun _ => (none : Option (List Nat)))) =
    a.children.map (fun _ => ([] : List Nat)) from rfl]
  rw [hmerged]
  unfold Spec.groupBy
  simp only
  -- the slicing: its guards change nothing, and what was fetched is enough
  cases hl : a.limit with
  | none =>
    rw [show fetchLimit a = noLimit by simp [fetchLimit, hl], List.take_of_length_le hsmall]
    cases a.offset with
    | none => rfl
    | some o => exact drop_or_nil _ o
  | some l =>
    rw [show fetchLimit a = l + a.offset.getD 0 by simp [fetchLimit, hl, hlim l hl]]
    cases a.offset with
    | none => exact (take_or_self _ l).trans (drop_take_fetch _ 0 l)
    | some o => exact C16_groupby_partial_aux _ o l

/-- `executeGroupByShard` for a GroupBy with ONE child (no child limit / column), through the real
iterator model (`newGroupByIterator` with `previous`, `nextAtIdx`, `Next`, the result loop and its
fuel): the rows of the shard's fragment after `previous`, ascending, that have a bit inside the
filter, each with its number of bits inside the filter, the first `limit+offset` of them. -/
theorem C16_groupby_shard_single (db : DB) (a : GroupByArgs) (ch : ChildArgs) (hch : a.children = [ch])
    (sh : Nat) (st : Store) (hf : db.frag ⟨ch.field, none, sh⟩ = some st) :
    groupByShard db a [[]] sh =
      ((stream1 st (a.filter.map (· sh)) (fragRows st 0 []) (start1 (fragRows st 0 []) ch.previous)).take
        (fetchLimit a)).map (fun p => (⟨p.1, p.2⟩ : GroupCount)) := by
  unfold groupByShard
  simp only [hch, List.map_cons, List.map_nil, hf, List.any_cons, Option.isNone_some, List.any_nil,
    Bool.or_self, Bool.false_eq_true, if_false, List.zip_cons_cons, List.zip_nil_right, Option.getD_some,
    List.length_cons, List.length_nil, List.foldl_cons, List.foldl_nil]
  have hgood := gbiInit_single st (a.filter.map (· sh)) ch
  simp only at hgood
  apply gbiCollect_single st (a.filter.map (· sh)) (fragRows st 0 []) _ (by omega) (fetchLimit a) _ 0 _ _ hgood
  have := stream1_length_le st (a.filter.map (· sh)) (fragRows st 0 []) (start1 (fragRows st 0 []) ch.previous)
  show min (fetchLimit a + 1) (_ + 1) ≥ min (fetchLimit a) _ + 1
  rw [Nat.add_min_add_right]
  exact Nat.succ_le_succ (Nat.le_min.mpr ⟨Nat.min_le_left _ _, Nat.le_trans (Nat.min_le_right _ _) (by omega)⟩)

theorem colsIn_nil_of_no_bits (st : Store) (f : Option (List Nat)) (r : Nat) (h : ∀ p ∈ st, p.1 ≠ r) :
    colsIn st f r = [] :=
  colsIn_eq_nil fun hr => let ⟨p, hm, e⟩ := (mem_storeRows st r).mp hr; h p hm e

/-- One field: what the shard's iterator returns (`C16_groupby_shard_single`) is the first
limit+offset of the shard's groups of the specification. -/
theorem groupByShard_single_spec (db : DB) (hwf : db.WF) (a : GroupByArgs) (ch : ChildArgs)
    (hch : a.children = [ch]) (hplain : ch.limit = none ∧ ch.column = none)
    (shards : List Nat) (sh : Nat) (hsh : sh ∈ shards) :
    groupByShard db a (a.children.map (fun _ => [])) sh =
      (Spec.shardGroups db a shards sh).take (fetchLimit a) := by
  have hpl : ∀ c ∈ a.children, c.limit = none ∧ c.column = none := by
    intro c hc; rw [hch] at hc; simp at hc; rw [hc]; exact hplain
  have hdoms : Spec.groupDoms db a shards = [Spec.fieldRows db ch.field shards] := by
    rw [groupDoms_plain db a shards hpl, hch]; rfl
  have hfields : a.children.map (·.field) = [ch.field] := by rw [hch]; rfl
  have hcr : a.children.map (fun _ => ([] : List Nat)) = [[]] := by rw [hch]; rfl
  rw [hcr]
  unfold Spec.shardGroups
  rw [hdoms, hfields, tuples_single, List.filterMap_map]
  cases hf : db.frag ⟨ch.field, none, sh⟩ with
  | none =>
    -- no fragment on this shard: the code returns nothing, and every count of the specification is 0
    have hl : groupByShard db a [[]] sh = [] := by
      unfold groupByShard; simp [hch, hf]
    rw [hl, List.filterMap_eq_nil_iff.mpr, List.take_nil]
    intro r _
    rw [Function.comp, shardGroupCount_single_none db ch.field r sh a.filter hf]
    rfl
  | some st =>
    have hmem := (db.frag_iff hwf _ st).mp hf
    have hsub : ∀ r ∈ Spec.storeRows st, r ∈ Spec.fieldRows db ch.field shards := by
      intro r hr
      obtain ⟨p, hp, hpr⟩ := List.mem_map.mp ((mem_sortDedup _ _).mp hr)
      refine (mem_sortDedup _ _).mpr (List.mem_flatMap.mpr ⟨_, List.mem_filter.mpr ⟨hmem, ?_⟩, List.mem_map.mpr ⟨p, hp, hpr⟩⟩)
      simp [hsh]
    rw [C16_groupby_shard_single db a ch hch sh st hf, fragRows_all st (hwf.2 _ hmem), List.map_take,
      single_glue st (a.filter.map (· sh)) (Spec.storeRows st) (Spec.fieldRows db ch.field shards)
        (sorted_sortDedup _) (sorted_sortDedup _) hsub (fun r hr => colsIn_eq_nil hr) ch.previous]
    refine congrArg (List.take _) ?_
    apply filterMap_congr_mem
    intro r _
    simp only [Function.comp, Spec.groupOf, shardGroupCount_single db ch.field r sh a.filter st hf,
      startOK_single a ch hch r, Bool.and_eq_true, decide_eq_true_eq]
    cases ch.previous <;> rfl

/-- **GroupBy over one field, end to end** (children without limit / column; `previous`, `limit`,
`offset`, `filter` arbitrary): the model of the code — `newGroupByIterator`, `nextAtIdx`, `Next` and
the result loop with their fuel on every shard, `mergeGroupCounts` over the shards with the fetch
limit, offset and limit slicing — returns exactly the specification: every row with a non-zero
total count (inside the filter) after `previous`, ascending, exact totals, sliced. -/
theorem C16_groupby_one_field (db : DB) (hwf : db.WF) (a : GroupByArgs) (ch : ChildArgs)
    (hch : a.children = [ch]) (hplain : ch.limit = none ∧ ch.column = none) (shards : List Nat)
    (hsmall : (Spec.allGroups db a shards).length ≤ noLimit)
    (hlim : ∀ l, a.limit = some l → l + a.offset.getD 0 < noLimit) :
    groupBy db a shards = Spec.groupBy db a shards := by
  apply C16_groupby_of_shards db a shards _ hsmall hlim
  · intro sh hsh
    exact groupByShard_single_spec db hwf a ch hch hplain shards sh hsh
  · intro c hc; rw [hch] at hc; simp at hc; rw [hc]; exact hplain

/-- `nextAtIdx` at the last of two fields is the odometer successor with pruning: the next row of
the second field if there is one; otherwise the second field wraps to its first row and the first
field moves to its next row that has a bit inside the filter (rows without one are pruned: every
combination with them has count 0); `done` when the first field has no such row left. The fuel of
the model (anything ≥ |A| - i + 1) suffices. -/
theorem nextAtIdx_succ_two (sa sb : Store) (f : Option (List Nat)) (A B : List Nat)
    (hB : ∀ b ∈ B, sb.row b ≠ []) (fuel i j : Nat) (hi : i < A.length) (hj : j < B.length)
    (hf : fuel ≥ A.length - i + 1) (g' : GBI) (hg : g' = nextAtIdx fuel (st2 sa sb f A B i j) 1) :
    (j + 1 < B.length → g' = st2 sa sb f A B i (j + 1)) ∧
    (j + 1 ≥ B.length →
      (g'.done = true ∧ ∀ k, i < k → k < A.length → colsIn sa f (A.getD k 0) = []) ∨
      (∃ i', i < i' ∧ i' < A.length ∧ colsIn sa f (A.getD i' 0) ≠ [] ∧
        (∀ k, i < k → k < i' → colsIn sa f (A.getD k 0) = []) ∧ g' = st2 sa sb f A B i' 0)) := by
  subst hg
  cases fuel with
  | zero => exact absurd hf (Nat.not_succ_le_zero _)
  | succ fuel =>
    have hBne : B ≠ [] := by intro e; rw [e] at hj; simp at hj
    have hrow : ∀ k, k < B.length → (sb.row (B.getD k 0)).isEmpty = false := by
      intro k hk
      have hm : B.getD k 0 ∈ B := by
        rw [List.getD_eq_getElem?_getD, List.getElem?_eq_getElem hk]; exact List.getElem_mem _
      cases h : (sb.row (B.getD k 0)).isEmpty with
      | false => rfl
      | true => exact absurd (List.isEmpty_iff.mp h) (hB _ hm)
    constructor
    · intro hlt
      unfold nextAtIdx
      have hnot : ¬ (j + 1 ≥ B.length) := Nat.not_le.mpr hlt
      have hr := hrow (j + 1) hlt
      simp only [st2, s2, List.getElem?_cons_succ, List.getElem?_cons_zero, RowIter.next, hnot, if_false,
        Bool.false_eq_true, false_and, setAt_pair1, List.length_cons, List.length_nil, Nat.zero_add,
        Nat.reduceAdd, Nat.add_one_sub_one, if_true, Nat.succ_ne_zero, hr, Bool.not_false]
    · intro hge
      have h0 := nextAtIdx_two_level0 sa sb f A { ids := B, cur := 1, wrap := true }
        (sb.row (B.getD j 0), B.getD j 0) fuel i hi (Nat.le_of_succ_le_succ hf)
      unfold nextAtIdx
      have hemp : B.isEmpty = false := by cases B <;> simp at hBne ⊢
      have hr := hrow 0 (Nat.lt_of_le_of_lt (Nat.zero_le j) hj)
      simp only [st2, s2, List.getElem?_cons_succ, List.getElem?_cons_zero, RowIter.next, hge, if_true,
        Bool.not_true, hemp, Bool.false_eq_true, if_false, setAt_pair1, true_and,
        Nat.succ_ne_zero, ne_eq, not_false_eq_true, Nat.add_one_sub_one, or_self, and_true]
      rcases h0 with ⟨hd, hall⟩ | ⟨i', h1, h2, h3, h4, h5⟩
      · left
        simp only [s2] at hd
        simp only [hd, if_true]
        exact ⟨trivial, hall⟩
      · right
        refine ⟨i', h1, h2, h3, h4, ?_⟩
        simp only [s2] at h5
        rw [h5]
        simp only [Bool.false_eq_true, if_false, List.length_cons, List.length_nil, Nat.zero_add, Nat.reduceAdd,
          Nat.add_one_sub_one, if_true, setAt_pair1, hr, Bool.not_false]

/-- C16 paging for GroupBy by `previous` (on the specification; `C16_groupby_of_shards` carries it to
the code once the per-shard iterator statement is available). Children without limit / column, no
`previous`, no offset. The first page is the first `l` groups; the request whose children carry
the components of group `g` as `previous` returns the first `l` groups after `g`; and requesting
pages with `previous` = last group of the page before until a page comes back empty, then
concatenating, gives the whole GroupBy answer. -/
theorem C16_paging_groupby (db : DB) (a : GroupByArgs) (shards : List Nat)
    (hplain : ∀ ch ∈ a.children, ch.limit = none ∧ ch.column = none)
    (hprev : ∀ ch ∈ a.children, ch.previous = none) (hk : a.children ≠ []) (hoff : a.offset = none)
    (l : Nat) (hl : l > 0) :
    let full := Spec.allGroups db a shards
    Spec.groupBy db { a with limit := some l } shards = Paging.pageAfter gLt full none l ∧
    (∀ g : GroupCount, g.group.length = a.children.length →
      Spec.groupBy db { a with children := withPrevious a.children g.group, limit := some l } shards =
        Paging.pageAfter gLt full (some g) l) ∧
    Paging.pagePrev gLt full l (full.length + 1) none [] = full := by
  intro full
  refine ⟨?_, ?_, ?_⟩
  · simp only [Spec.groupBy, hoff, Option.getD_none, List.drop_zero, Paging.pageAfter]
    rw [List.filter_eq_self.mpr (fun _ _ => rfl)]
    rfl
  · intro g hg
    simp only [Spec.groupBy, hoff, Option.getD_none, List.drop_zero, Paging.pageAfter]
    exact congrArg (List.take l) (allGroups_withPrevious db a shards hplain hprev hk g.group hg (some l))
  · apply Paging.pagePrev_all gLt _ _ full (allGroups_sorted db a shards (groupDoms_sorted db a shards hplain)) l hl
    · intro x y z h1 h2
      simp only [gLt, decide_eq_true_eq] at *
      exact List.lt_trans h1 h2
    · intro x; simp [gLt, List.lt_irrefl]

end GroupByExec

/-- C16 paging for GroupBy by offset: the pages `offset = 0, l, 2l, …` with `limit = l`, requested
until a page comes back empty, concatenate to the whole ordered list of groups. -/
theorem C16_paging_offset (groups : List PV.C17.GroupCount) (l : Nat) (hl : l > 0) :
    Paging.pageOffset groups l (groups.length + 1) 0 [] = groups :=
  Paging.pageOffset_all groups l hl

section MinMaxExec
open PV.C17 (Pair minRowReduce maxRowReduce)

/-- bits of `row` (inside the filter) in the standard fragment of `field` on shard `sh` -/
def shardCount (db : DB) (field : Nat) (filter : Option (Nat → List Nat)) (sh r : Nat) : Nat :=
  match db.frag ⟨field, none, sh⟩ with
  | none => 0
  | some s => rowCount s r (filter.map (· sh))

/-- what one shard hands to the MinRow reduce -/
def shardMin (db : DB) (field : Nat) (filter : Option (Nat → List Nat)) (sh : Nat) : Pair :=
  match db.frag ⟨field, none, sh⟩ with
  | none => Pair.zero
  | some s => pairOf (minRow s (filter.map (· sh)))

def shardMax (db : DB) (field : Nat) (filter : Option (Nat → List Nat)) (sh : Nat) : Pair :=
  match db.frag ⟨field, none, sh⟩ with
  | none => Pair.zero
  | some s => pairOf (maxRow s (filter.map (· sh)))

/-- `pick` is `minRow` or `maxRow`, `hpick` its half of `C16_minmax`. -/
theorem shard_best (le : Nat → Nat → Prop) (pick : Store → Option (List Nat) → Nat × Nat)
    (hpick : ∀ s f, Store.WF s → (pick s f = (0, 0) ∧ ∀ r, rowCount s r f = 0) ∨
      (∃ m, pick s f = (m, rowCount s m f) ∧ rowCount s m f > 0 ∧ ∀ r, rowCount s r f > 0 → le m r))
    (db : DB) (hwf : db.WF) (field : Nat) (filter : Option (Nat → List Nat)) (sh : Nat) :
    Best le (shardCount db field filter sh)
      (match db.frag ⟨field, none, sh⟩ with
        | none => Pair.zero
        | some s => pairOf (pick s (filter.map (· sh)))) := by
  unfold shardCount
  cases hf : db.frag ⟨field, none, sh⟩ with
  | none => exact .inl ⟨rfl, fun _ => rfl⟩
  | some s =>
    rcases hpick s (filter.map (· sh)) (hwf.2 _ ((db.frag_iff hwf _ s).mp hf)) with ⟨h1, h2⟩ | ⟨m, h1, h2, h3⟩
    · left; simp only; rw [h1]; exact ⟨rfl, h2⟩
    · right; simp only; rw [h1]; exact ⟨h2, rfl, h3⟩

theorem shardMin_spec (db : DB) (hwf : db.WF) (field : Nat) (filter : Option (Nat → List Nat)) (sh : Nat) :
    (shardMin db field filter sh = Pair.zero ∧ ∀ r, shardCount db field filter sh r = 0) ∨
    ((shardMin db field filter sh).count > 0 ∧
      (shardMin db field filter sh).count = shardCount db field filter sh (shardMin db field filter sh).id ∧
      ∀ r, shardCount db field filter sh r > 0 → (shardMin db field filter sh).id ≤ r) :=
  shard_best (· ≤ ·) minRow (fun s f h => (C16_minmax s h f).1) db hwf field filter sh

theorem shardMax_spec (db : DB) (hwf : db.WF) (field : Nat) (filter : Option (Nat → List Nat)) (sh : Nat) :
    (shardMax db field filter sh = Pair.zero ∧ ∀ r, shardCount db field filter sh r = 0) ∨
    ((shardMax db field filter sh).count > 0 ∧
      (shardMax db field filter sh).count = shardCount db field filter sh (shardMax db field filter sh).id ∧
      ∀ r, shardCount db field filter sh r > 0 → r ≤ (shardMax db field filter sh).id) :=
  shard_best (· ≥ ·) maxRow (fun s f h => (C16_minmax s h f).2) db hwf field filter sh

theorem minRowQ_eq (db : DB) (field : Nat) (filter : Option (Nat → List Nat)) (shards : List Nat) :
    minRowQ db field filter shards =
      shards.foldl (fun acc sh => minRowReduce acc (shardMin db field filter sh)) Pair.zero := by
  unfold minRowQ
  congr 1
  funext acc sh
  unfold shardMin
  cases db.frag ⟨field, none, sh⟩ <;> rfl

theorem maxRowQ_eq (db : DB) (field : Nat) (filter : Option (Nat → List Nat)) (shards : List Nat) :
    maxRowQ db field filter shards =
      shards.foldl (fun acc sh => maxRowReduce acc (shardMax db field filter sh)) Pair.zero := by
  unfold maxRowQ
  congr 1
  funext acc sh
  unfold shardMax
  cases db.frag ⟨field, none, sh⟩ <;> rfl

/-- MinRow / MaxRow through the executor (per-shard `fragment.minRow/maxRow` on the shard's part of
the filter row, reduced over the shards in arrival order): nothing if no shard has a bit inside the
filter; otherwise the smallest / largest row that has one on some shard, with the total number of
its bits inside the filter over all shards. -/
theorem C16_minmax_exec (db : DB) (hwf : db.WF) (field : Nat) (filter : Option (Nat → List Nat))
    (shards : List Nat) :
    let cnt := shardCount db field filter
    let mn := minRowQ db field filter shards
    let mx := maxRowQ db field filter shards
    ((mn = Pair.zero ∧ ∀ sh ∈ shards, ∀ r, cnt sh r = 0) ∨
      (mn.count > 0 ∧ mn.count = (shards.map (fun sh => cnt sh mn.id)).sum ∧
        ∀ sh ∈ shards, ∀ r, cnt sh r > 0 → mn.id ≤ r)) ∧
    ((mx = Pair.zero ∧ ∀ sh ∈ shards, ∀ r, cnt sh r = 0) ∨
      (mx.count > 0 ∧ mx.count = (shards.map (fun sh => cnt sh mx.id)).sum ∧
        ∀ sh ∈ shards, ∀ r, cnt sh r > 0 → r ≤ mx.id)) := by
  intro cnt mn mx
  have hmn : mn = shards.foldl (fun acc sh => minRowReduce acc (shardMin db field filter sh)) Pair.zero :=
    minRowQ_eq db field filter shards
  have hmx : mx = shards.foldl (fun acc sh => maxRowReduce acc (shardMax db field filter sh)) Pair.zero :=
    maxRowQ_eq db field filter shards
  -- the folds start from nothing: no shard done, the zero pair
  exact ⟨hmn ▸ minFold cnt _ (shardMin_spec db hwf field filter) shards [] Pair.zero (.inl ⟨rfl, fun _ h => nomatch h⟩),
    hmx ▸ maxFold cnt _ (shardMax_spec db hwf field filter) shards [] Pair.zero (.inl ⟨rfl, fun _ h => nomatch h⟩)⟩

end MinMaxExec

/-- A store with rows in several containers satisfies the hypotheses of C16_rows / C16_minmax. -/
example :
    let s : Store := [(1, 0), (1, 65536), (3, 70000), (9, 5), (3, 2)]
    s.WF ∧ fragRows s 1 (colFilter (some 70000) ++ limFilter (some 2)) = [3] ∧
    fragRows s 0 (colFilter none ++ limFilter (some 2)) = [1, 3] ∧
    minRow s (some [5, 70000]) = (3, 1) ∧ maxRow s none = (9, 1) := by
  refine ⟨?_, by decide, by decide, by decide, by decide⟩
  show ∀ p ∈ [(1, 0), (1, 65536), (3, 70000), (9, 5), (3, 2)], p.2 < shardWidth
  decide

/-- A database with a time field over two days and two shards satisfies `DB.WF`; Rows with a limit
takes the smallest rows although they live in the later view. -/
example :
    let db : DB := { timeFields := [3], frags :=
      [(⟨3, none, 0⟩, [(5, 1), (6, 1), (1, 1), (2, 1)]), (⟨3, some 0, 0⟩, [(5, 1), (6, 1)]),
       (⟨3, some 1, 0⟩, [(1, 1), (2, 1)]), (⟨3, some 1, 1⟩, [(4, 0)])] }
    rows db { field := 3, limit := some 2, fromDay := some 0, toDay := some 3 } [0, 1] = [1, 2] ∧
    rows db { field := 3, previous := some 2, fromDay := some 0 } [0, 1] = [4, 5, 6] := by decide

namespace Legacy

/-- `fragment.maxRow` before the repair: without a filter it answered (maxRowID, 1), with a filter it
walked down from maxRowID; maxRowID is a high-water mark raised only by setBit. -/
def maxRow (s : Store) (maxRowID : Nat) (filter : Option (List Nat)) : Nat × Nat :=
  if s.isEmpty then (0, 0)
  else match filter with
    | none => (maxRowID, 1)
    | some _ => firstWith s filter ((List.range (maxRowID + 1)).reverse)

/-- executeGroupBy before the repair: the merge kept `limit` groups, then the offset was applied. -/
def groupBySlice (all : List PV.C17.GroupCount) (o l : Nat) : List PV.C17.GroupCount :=
  let merged := all.take l
  let res := if o < merged.length then merged.drop o else merged
  if l < res.length then res.take l else res

end Legacy

/-- Old behaviour (DESIGN section 8 #11): set then clear a bit in row 9 (maxRowID stays 9):
maxRow(nil) answered (9, 1) while the only row with a bit is 1; and after an import (maxRowID
still 0) MaxRow with a filter found nothing. The repaired function answers (1, 1) and (7, 1). -/
theorem C16_maxRow_highwater_witness :
    Legacy.maxRow [(1, 0)] 9 none = (9, 1) ∧ PV.C16.maxRow [(1, 0)] none = (1, 1) ∧
    Legacy.maxRow [(3, 1), (7, 1)] 0 (some [1]) = (0, 0) ∧ PV.C16.maxRow [(3, 1), (7, 1)] (some [1]) = (7, 1) := by
  decide

/-- Old behaviour: GroupBy(limit=2, offset=1) over six groups returned one group, offset=2 returned
the first page again; the repaired slicing returns groups 1-2 and 2-3. -/
theorem C16_groupBy_offset_witness :
    let g (i : Nat) : PV.C17.GroupCount := ⟨[i], 1⟩
    let all := [g 0, g 1, g 2, g 3, g 4, g 5]
    Legacy.groupBySlice all 1 2 = [g 1] ∧ Legacy.groupBySlice all 2 2 = [g 0, g 1] ∧
    (all.drop 1).take 2 = [g 1, g 2] ∧ (all.drop 2).take 2 = [g 2, g 3] := by
  decide

end PV.C16
