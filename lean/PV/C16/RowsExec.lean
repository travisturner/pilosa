/-
executeRowsShard / executeRows as folds of RowIDs.merge over the views of a shard and over the shards; which views
and which fragments Rows() ranges over.
-/
import PV.C16.Merge
import PV.C16.Walk
namespace PV.C16
open List
open PV.C17 (rowIDsMerge)

def DB.WF (db : DB) : Prop := (db.frags.map (·.1)).Nodup ∧ ∀ p ∈ db.frags, Store.WF p.2

theorem find_iff_mem (l : List (FragId × Store)) (hnd : (l.map (·.1)).Nodup) (id : FragId) (s : Store) :
    (l.find? (fun p => p.1 == id)).map (·.2) = some s ↔ (id, s) ∈ l := by
  induction l with
  | nil => simp
  | cons p rest ih =>
    rw [List.map_cons, List.nodup_cons] at hnd
    rw [List.find?_cons, List.mem_cons]
    by_cases hp : p.1 = id
    · -- the first fragment has this id, and no other one has
      have hno : (id, s) ∉ rest := fun h => hnd.1 (hp ▸ List.mem_map_of_mem (f := (·.1)) h)
      rw [beq_iff_eq.mpr hp, Option.map_some, Option.some.injEq, or_iff_left hno]
      exact ⟨fun h => by rw [← h, ← hp], fun h => by rw [← h]⟩
    · rw [beq_eq_false_iff_ne.mpr hp, ih hnd.2, or_iff_right (fun h => hp (by rw [← h]))]

theorem DB.frag_iff (db : DB) (hwf : db.WF) (id : FragId) (s : Store) :
    db.frag id = some s ↔ (id, s) ∈ db.frags :=
  find_iff_mem db.frags hwf.1 id s

theorem listMin?_spec (l : List Nat) : (listMin? l = none ∧ l = []) ∨ (∃ m, listMin? l = some m ∧ ∀ x ∈ l, m ≤ x) := by
  induction l with
  | nil => exact .inl ⟨rfl, rfl⟩
  | cons y ys ih =>
    right
    rcases ih with ⟨h, rfl⟩ | ⟨m, h, hm⟩ <;> rw [listMin?, h]
    · exact ⟨y, rfl, fun x hx => Nat.le_of_eq (List.mem_singleton.mp hx).symm⟩
    · refine ⟨_, rfl, fun x hx => ?_⟩
      -- the smaller of `y` and the least of the rest is below both
      have hy : (if y < m then y else m) ≤ y := by
        by_cases h' : y < m
        · rw [if_pos h']; exact Nat.le_refl _
        · rw [if_neg h']; exact Nat.le_of_not_lt h'
      have hm' : (if y < m then y else m) ≤ m := by
        by_cases h' : y < m
        · rw [if_pos h']; exact Nat.le_of_lt h'
        · rw [if_neg h']; exact Nat.le_refl _
      rcases List.mem_cons.mp hx with rfl | hx
      · exact hy
      · exact Nat.le_trans hm' (hm x hx)

theorem listMax?_spec (l : List Nat) : (listMax? l = none ∧ l = []) ∨ (∃ m, listMax? l = some m ∧ ∀ x ∈ l, x ≤ m) := by
  induction l with
  | nil => exact .inl ⟨rfl, rfl⟩
  | cons y ys ih =>
    right
    rcases ih with ⟨h, rfl⟩ | ⟨m, h, hm⟩ <;> rw [listMax?, h]
    · exact ⟨y, rfl, fun x hx => Nat.le_of_eq (List.mem_singleton.mp hx)⟩
    · refine ⟨_, rfl, fun x hx => ?_⟩
      have hy : y ≤ (if y > m then y else m) := by
        by_cases h' : y > m
        · rw [if_pos h']; exact Nat.le_refl _
        · rw [if_neg h']; exact Nat.le_of_not_lt h'
      have hm' : m ≤ (if y > m then y else m) := by
        by_cases h' : y > m
        · rw [if_pos h']; exact Nat.le_of_lt h'
        · rw [if_neg h']; exact Nat.le_refl _
      rcases List.mem_cons.mp hx with rfl | hx
      · exact hy
      · exact Nat.le_trans (hm x hx) hm'

/-- Clamping the range to the existing days makes no difference for an existing day. -/
theorem clampLo {mn d : Nat} (h : mn ≤ d) (f : Nat) : d ≥ (if f < mn then mn else f) ↔ f ≤ d := by
  by_cases hf : f < mn
  · rw [if_pos hf]; exact iff_of_true h (Nat.le_trans (Nat.le_of_lt hf) h)
  · rw [if_neg hf]

theorem clampHi {mx d : Nat} (h : d ≤ mx) (t : Nat) : d < (if t > mx + 1 then mx + 1 else t) ↔ d < t := by
  by_cases ht : t > mx + 1
  · rw [if_pos ht]; exact iff_of_true (Nat.lt_succ_of_le h) (Nat.lt_trans (Nat.lt_succ_of_le h) ht)
  · rw [if_neg ht]

/-- Is a view one that Rows() ranges over? (standard view without a time range, the day views of the range otherwise:
the condition written out inside `Spec.allRows`) -/
def viewOK (db : DB) (field : Nat) (fromDay toDay : Option Nat) (v : Option Nat) : Bool :=
  if db.timeFields.contains field ∧ (fromDay.isSome ∨ toDay.isSome) then
    (match v with | some d => Spec.inRange fromDay toDay d | none => false)
  else v.isNone

/-- executeRowsShard clamps the range to the existing days: for a view that exists that makes no difference. -/
theorem view_equiv (db : DB) (a : RowsArgs) (v : Option Nat) (sh : Nat) (s : Store)
    (hmem : (⟨a.field, v, sh⟩, s) ∈ db.frags) :
    v ∈ rowsViews db a ↔ viewOK db a.field a.fromDay a.toDay v = true := by
  unfold rowsViews viewOK
  by_cases ht : db.timeFields.contains a.field ∧ (a.fromDay.isSome ∨ a.toDay.isSome)
  · rw [if_pos ht, if_pos ht]
    cases v with
    | none =>
      refine ⟨fun h => ?_, fun h => nomatch h⟩
      split at h <;> simp at h
    | some d =>
      -- the day lies between the smallest and the largest existing day
      have hd : d ∈ db.days a.field :=
        (mem_sortDedup _ _).mpr (List.mem_filterMap.mpr ⟨(⟨a.field, some d, sh⟩, s), hmem, by simp⟩)
      rcases listMin?_spec (db.days a.field) with ⟨_, h⟩ | ⟨mn, hmn, h1⟩
      · rw [h] at hd; cases hd
      rcases listMax?_spec (db.days a.field) with ⟨_, h⟩ | ⟨mx, hmx, h2⟩
      · rw [h] at hd; cases hd
      have h1 := h1 d hd
      have h2 := h2 d hd
      simp only [hmn, hmx, List.mem_map, List.mem_filter, List.mem_range, decide_eq_true_eq, Option.some.injEq,
        exists_eq_right]
      rw [Spec.inRange.eq_def, Bool.and_eq_true]
      refine and_comm.trans (and_congr ?_ ?_)
      · cases a.fromDay with
        | none => exact iff_of_true h1 rfl
        | some f => exact (clampLo h1 f).trans decide_eq_true_iff.symm
      · cases a.toDay with
        | none => exact iff_of_true (Nat.lt_succ_of_le h2) rfl
        | some t => exact (clampHi h2 t).trans decide_eq_true_iff.symm
  · rw [if_neg ht, if_neg ht]
    cases v <;> simp

def viewStores (db : DB) (field sh : Nat) (views : List (Option Nat)) : List Store :=
  views.filterMap (fun v => db.frag ⟨field, v, sh⟩)

theorem mem_viewStores (db : DB) (hwf : db.WF) (field sh : Nat) (views : List (Option Nat)) (s : Store) :
    s ∈ viewStores db field sh views ↔ ∃ v ∈ views, (⟨field, v, sh⟩, s) ∈ db.frags := by
  simp only [viewStores, List.mem_filterMap, db.frag_iff hwf]

def rowsStart (a : RowsArgs) : Nat :=
  match a.previous with
  | some p => p + 1
  | none => 0

theorem mem_page_start (all : List Nat) (a : RowsArgs) (x : Nat) :
    x ∈ Spec.page all a.previous none ↔ x ∈ all ∧ rowsStart a ≤ x := by
  rw [Spec.page, rowsStart, List.mem_filter]
  cases a.previous with
  | none => exact and_congr_right (fun _ => iff_of_true rfl (Nat.zero_le x))
  | some p => exact and_congr_right (fun _ => decide_eq_true_iff)

theorem spec_rows_asc (db : DB) (a : RowsArgs) (shards : List Nat) :
    (Spec.page (Spec.allRows db a.field a.column a.fromDay a.toDay shards) a.previous none).Pairwise (· < ·) :=
  (sorted_sortDedup _).filter _

/-- Every view contributes the first `limit` of its rows; the merges keep the first `limit` of their sorted union. -/
theorem rowsShardLoop_spec (db : DB) (a : RowsArgs) (sh start : Nat) (c : Option Nat)
    (hwf : ∀ v s, db.frag ⟨a.field, v, sh⟩ = some s → s.WF) (views : List (Option Nat)) (X : List Nat) :
    rowsShardLoop db a sh start (colFilter c) (a.limit.getD noLimit) views ((sortDedup X).take (a.limit.getD noLimit)) =
      (sortDedup (X ++ (viewStores db a.field sh views).flatMap (fun s => Spec.fragRows s start c none))).take
        (a.limit.getD noLimit) := by
  induction views generalizing X with
  | nil => simp [rowsShardLoop, viewStores]
  | cons v vs ih =>
    rw [rowsShardLoop, viewStores, List.filterMap_cons]
    cases hf : db.frag ⟨a.field, v, sh⟩ with
    | none => exact ih X
    | some s =>
      have hsorted := spec_fragRows_sorted s start c
      have hfr := fun limit => fragRows_col_lim (hwf v s hf) start c limit
      rw [List.flatMap_cons, ← List.append_assoc]
      cases hl : a.limit with
      | none =>
        simp only [hl, Option.getD_none] at ih ⊢
        have h := hfr none
        rw [limFilter, List.append_nil] at h
        rw [h, merge_step_all X _ hsorted]
        exact ih _
      | some l =>
        -- the view hands in the first `l` of its rows
        simp only [hl, Option.getD_some] at ih ⊢
        have h : fragRows s start (colFilter c ++ [Filter.limit l]) = (Spec.fragRows s start c none).take l :=
          hfr (some l)
        rw [h, merge_step X _ hsorted l l (Nat.le_refl _)]
        exact ih _

def shardCol (a : RowsArgs) : Option Nat := a.column.map (· % shardWidth)

def rowsShards (a : RowsArgs) (shards : List Nat) : List Nat :=
  match a.column with
  | some col => [col / shardWidth]
  | none => shards

/-- What one shard contributes to Rows (before `limit`). -/
def shardRows (db : DB) (a : RowsArgs) (sh : Nat) : List Nat :=
  (viewStores db a.field sh (rowsViews db a)).flatMap (fun s => Spec.fragRows s (rowsStart a) (shardCol a) none)

theorem rowsShard_spec (db : DB) (hwf : db.WF) (a : RowsArgs) (shards : List Nat) (sh : Nat)
    (hsh : sh ∈ rowsShards a shards) :
    rowsShard db a sh = (sortDedup (shardRows db a sh)).take (a.limit.getD noLimit) := by
  have hw : ∀ v s, db.frag ⟨a.field, v, sh⟩ = some s → s.WF :=
    fun v s h => hwf.2 _ ((db.frag_iff hwf _ s).mp h)
  have := rowsShardLoop_spec db a sh (rowsStart a) (shardCol a) hw (rowsViews db a) []
  rw [List.nil_append, show sortDedup [] = [] from rfl, List.take_nil] at this
  rw [shardRows, ← this, rowsShard]
  unfold rowsShards at hsh
  cases hc : a.column with
  | none => simp only [shardCol, hc]; rfl
  | some col =>
    rw [hc, List.mem_singleton] at hsh
    simp only [shardCol, hc, hsh, ne_eq, not_true_eq_false, if_false]; rfl

theorem rows_fold_spec (db : DB) (hwf : db.WF) (a : RowsArgs) (shards shs : List Nat)
    (hsh : ∀ sh ∈ shs, sh ∈ rowsShards a shards) (X : List Nat) :
    shs.foldl (fun acc sh => rowIDsMerge acc (rowsShard db a sh) (a.limit.getD noLimit))
        ((sortDedup X).take (a.limit.getD noLimit)) =
      (sortDedup (X ++ shs.flatMap (shardRows db a))).take (a.limit.getD noLimit) := by
  induction shs generalizing X with
  | nil => simp
  | cons sh rest ih =>
    have e : sortDedup (X ++ sortDedup (shardRows db a sh)) = sortDedup (X ++ shardRows db a sh) :=
      sortDedup_congr (fun x => by simp only [List.mem_append, mem_sortDedup])
    rw [List.foldl_cons, rowsShard_spec db hwf a shards sh (hsh sh List.mem_cons_self),
      merge_step X _ (sorted_sortDedup _) _ _ (Nat.le_refl _), e, List.flatMap_cons, ← List.append_assoc]
    exact ih (fun sh' h => hsh sh' (List.mem_cons_of_mem _ h)) _

/-- executeRows: the first `limit` of the sorted union of what the shards contribute. -/
theorem rows_eq_take (db : DB) (hwf : db.WF) (a : RowsArgs) (shards : List Nat) :
    rows db a shards =
      (sortDedup ((rowsShards a shards).flatMap (shardRows db a))).take (a.limit.getD noLimit) := by
  have := rows_fold_spec db hwf a shards (rowsShards a shards) (fun _ h => h) []
  rw [show sortDedup [] = [] from rfl, List.take_nil, List.nil_append] at this
  exact this

theorem mem_shardRows (db : DB) (hwf : db.WF) (a : RowsArgs) (sh x : Nat) :
    x ∈ shardRows db a sh ↔ ∃ s, (∃ v ∈ rowsViews db a, (⟨a.field, v, sh⟩, s) ∈ db.frags) ∧
      x ≥ rowsStart a ∧ ∃ b ∈ s, (∀ c, shardCol a = some c → b.2 = c) ∧ b.1 = x := by
  simp only [shardRows, List.mem_flatMap, mem_viewStores db hwf, mem_spec_fragRows]

theorem mem_allRows (db : DB) (a : RowsArgs) (shards : List Nat) (x : Nat) :
    x ∈ Spec.allRows db a.field a.column a.fromDay a.toDay shards ↔
      ∃ p ∈ db.frags, p.1.field = a.field ∧ p.1.shard ∈ rowsShards a shards ∧
        viewOK db a.field a.fromDay a.toDay p.1.view = true ∧
        ∃ b ∈ p.2, (∀ c, shardCol a = some c → b.2 = c) ∧ b.1 = x := by
  simp only [Spec.allRows, viewOK, mem_sortDedup, List.mem_flatMap, List.mem_filter, List.mem_map, Bool.and_eq_true,
    Bool.or_eq_true, beq_iff_eq, rowsShards, shardCol]
  -- with the column known both sides say the same, up to bracketing
  cases a.column with
  | none =>
    simp only [List.contains_iff_mem, and_true, Option.map_none, reduceCtorEq, false_implies, implies_true, true_and,
      and_assoc]
    exact Iff.rfl
  | some col =>
    simp only [List.mem_singleton, Option.map_some, Option.some.injEq, beq_iff_eq, forall_eq', and_assoc]
    exact Iff.rfl

end PV.C16
