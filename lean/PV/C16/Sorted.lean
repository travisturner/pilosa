import PV.C16.Model
import PV.C16.Spec
import PV.Common.Asc
namespace PV.C16
open List

theorem insertAsc_eq_ins : @insertAsc = @Common.Asc.ins := by
  funext x l; induction l <;> simp [insertAsc, Common.Asc.ins, *]

theorem mem_insertAsc (x y : Nat) (l : List Nat) : y ∈ insertAsc x l ↔ y = x ∨ y ∈ l :=
  insertAsc_eq_ins ▸ Common.Asc.mem_ins

theorem sorted_insertAsc (x : Nat) (l : List Nat) (h : l.Pairwise (· < ·)) : (insertAsc x l).Pairwise (· < ·) :=
  insertAsc_eq_ins ▸ Common.Asc.asc_ins h

theorem mem_sortDedup (y : Nat) (l : List Nat) : y ∈ sortDedup l ↔ y ∈ l := by
  rw [sortDedup, insertAsc_eq_ins]; exact Common.Asc.mem_foldr_ins

theorem sorted_sortDedup (l : List Nat) : (sortDedup l).Pairwise (· < ·) := by
  rw [sortDedup, insertAsc_eq_ins]; exact Common.Asc.asc_foldr_ins l

theorem sorted_ext (l₁ l₂ : List Nat) (h1 : l₁.Pairwise (· < ·)) (h2 : l₂.Pairwise (· < ·))
    (h : ∀ x, x ∈ l₁ ↔ x ∈ l₂) : l₁ = l₂ :=
  Common.Asc.ext h1 h2 h

theorem sortDedup_congr {l₁ l₂ : List Nat} (h : ∀ x, x ∈ l₁ ↔ x ∈ l₂) : sortDedup l₁ = sortDedup l₂ :=
  sorted_ext _ _ (sorted_sortDedup _) (sorted_sortDedup _) (fun x => by rw [mem_sortDedup, mem_sortDedup, h x])

theorem mem_storeRows (s : Store) (r : Nat) : r ∈ Spec.storeRows s ↔ ∃ p ∈ s, p.1 = r := by
  rw [Spec.storeRows, mem_sortDedup, List.mem_map]

theorem row_eq_nil {s : Store} {r : Nat} (h : r ∉ Spec.storeRows s) : s.row r = [] := by
  rw [Store.row, List.map_eq_nil_iff, List.filter_eq_nil_iff]
  exact fun p hp hpr => h ((mem_storeRows s r).mpr ⟨p, hp, beq_iff_eq.mp hpr⟩)

end PV.C16
