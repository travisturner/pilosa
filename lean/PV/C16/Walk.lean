/-
The container loop of fragment.rows with the filter chain [filterColumn]? ++ [filterWithLimit]? is a plain walk over
the containers cut at the limit; a walk over key-ordered containers yields exactly the rows that have a passing
container, ascending; over the containers of a store that is the specification.
-/
import PV.C16.Sorted
namespace PV.C16
open List

abbrev Cont := Nat × List (Nat × Nat)

def rowOfC (kc : Cont) : Nat := kc.1 / contsPerRow

def colFilter : Option Nat → List Filter
  | none => []
  | some c => [Filter.column c]

def limFilter : Option Nat → List Filter
  | none => []
  | some l => [Filter.limit l]

/-- Does the container let its row through filterColumn? -/
def passC (col : Option Nat) (kc : Cont) : Bool :=
  match col with
  | none => true
  | some c => decide (rowOfC kc * contsPerRow + c / contWidth = kc.1) && kc.2.contains (rowOfC kc, c)

/-- The loop without a limit: a row is emitted at its first container that passes. -/
def walk (col : Option Nat) : List Cont → Option Nat → List Nat
  | [], _ => []
  | kc :: rest, last =>
    if last = some (rowOfC kc) then walk col rest last
    else if passC col kc then rowOfC kc :: walk col rest (some (rowOfC kc))
    else walk col rest last

/-- The same loop for any test on containers (`filterWithRows` tests the row, not the bits). -/
def walkP (pass : Cont → Bool) : List Cont → Option Nat → List Nat
  | [], _ => []
  | kc :: rest, last =>
    if last = some (rowOfC kc) then walkP pass rest last
    else if pass kc then rowOfC kc :: walkP pass rest (some (rowOfC kc))
    else walkP pass rest last

theorem walkP_eq_walk (col : Option Nat) (cs : List Cont) (last : Option Nat) :
    walkP (passC col) cs last = walk col cs last := by
  induction cs generalizing last with
  | nil => rfl
  | cons kc rest ih => simp only [walkP, walk, ih]

theorem callAll_cons (f : Filter) (fs : List Filter) (row key : Nat) (c : List (Nat × Nat)) :
    callAll (f :: fs) row key c =
      if (f.call row key c).1 then
        ((callAll fs row key c).1, (f.call row key c).2.1 || (callAll fs row key c).2.1,
          (f.call row key c).2.2 :: (callAll fs row key c).2.2)
      else (false, (f.call row key c).2.1, (f.call row key c).2.2 :: fs) := by
  simp only [callAll]
  cases (f.call row key c).1 <;> rfl

theorem call_column (x : Nat) (kc : Cont) :
    (Filter.column x).call (rowOfC kc) kc.1 kc.2 = (passC (some x) kc, false, Filter.column x) := rfl

theorem callAll_col (col : Option Nat) (kc : Cont) :
    callAll (colFilter col) (rowOfC kc) kc.1 kc.2 = (passC col kc, false, colFilter col) := by
  cases col with
  | none => rfl
  | some x =>
    rw [colFilter, callAll_cons, call_column]
    cases passC (some x) kc <;> rfl

theorem callAll_col_lim (col : Option Nat) (l : Nat) (kc : Cont) :
    callAll (colFilter col ++ [Filter.limit l]) (rowOfC kc) kc.1 kc.2 =
      match passC col kc, l with
      | false, _ => (false, false, colFilter col ++ [Filter.limit l])
      | true, 0 => (false, true, colFilter col ++ [Filter.limit 0])
      | true, l + 1 => (true, false, colFilter col ++ [Filter.limit l]) := by
  cases col with
  | none => cases l <;> rfl
  | some x =>
    rw [colFilter, List.singleton_append, callAll_cons, call_column]
    cases passC (some x) kc <;> cases l <;> rfl

theorem rowsLoop_skip (kc : Cont) (rest : List Cont) (fs : List Filter) :
    rowsLoop (kc :: rest) fs (some (rowOfC kc)) = rowsLoop rest fs (some (rowOfC kc)) := by
  obtain ⟨k, c⟩ := kc
  rw [rowsLoop]; exact if_pos rfl

theorem rowsLoop_step (fs fs' : List Filter) (kc : Cont) (rest : List Cont) (last : Option Nat) (inc d : Bool)
    (hlast : last ≠ some (rowOfC kc)) :
    callAll fs (rowOfC kc) kc.1 kc.2 = (inc, d, fs') →
    rowsLoop (kc :: rest) fs last =
      match inc, d with
      | true, true => [rowOfC kc]
      | true, false => rowOfC kc :: rowsLoop rest fs' (some (rowOfC kc))
      | false, true => []
      | false, false => rowsLoop rest fs' last := by
  intro h
  obtain ⟨k, c⟩ := kc
  rw [rowsLoop, if_neg (show ¬ last = some (k / contsPerRow) from hlast),
    show callAll fs (k / contsPerRow) k c = (inc, d, fs') from h]
  cases inc <;> cases d <;> rfl

theorem rowsLoop_col (col : Option Nat) (cs : List Cont) (last : Option Nat) :
    rowsLoop cs (colFilter col) last = walk col cs last := by
  induction cs generalizing last with
  | nil => rfl
  | cons kc rest ih =>
    rw [walk]
    by_cases hlast : last = some (rowOfC kc)
    · rw [if_pos hlast, hlast, rowsLoop_skip, ih]
    · rw [if_neg hlast, rowsLoop_step _ _ kc rest last _ _ hlast (callAll_col col kc)]
      cases passC col kc with
      | true => rw [if_pos rfl]; exact congrArg _ (ih _)
      | false => rw [if_neg Bool.false_ne_true]; exact ih _

theorem rowsLoop_col_lim (col : Option Nat) (cs : List Cont) (l : Nat) (last : Option Nat) :
    rowsLoop cs (colFilter col ++ [Filter.limit l]) last = (walk col cs last).take l := by
  induction cs generalizing last l with
  | nil => rw [walk, List.take_nil]; rfl
  | cons kc rest ih =>
    rw [walk]
    by_cases hlast : last = some (rowOfC kc)
    · rw [if_pos hlast, hlast, rowsLoop_skip, ih]
    · rw [if_neg hlast]
      cases hp : passC col kc with
      | false =>
        rw [rowsLoop_step _ _ kc rest last _ _ hlast ((callAll_col_lim col l kc).trans (by rw [hp])),
          if_neg Bool.false_ne_true]
        exact ih _ _
      | true =>
        rw [if_pos rfl]
        cases l with
        | zero => exact rowsLoop_step _ _ kc rest last _ _ hlast ((callAll_col_lim col 0 kc).trans (by rw [hp]))
        | succ l =>
          rw [rowsLoop_step _ _ kc rest last _ _ hlast ((callAll_col_lim col (l + 1) kc).trans (by rw [hp])),
            List.take_succ_cons]
          exact congrArg _ (ih _ _)

def lastLE : Option Nat → Nat → Prop
  | none, _ => True
  | some l, x => l ≤ x

def lastLT : Option Nat → Nat → Prop
  | none, _ => True
  | some l, x => l < x

theorem lastLT_of_ne {last : Option Nat} {x : Nat} (h : lastLE last x) (hne : last ≠ some x) : lastLT last x := by
  cases last with
  | none => trivial
  | some l => exact Nat.lt_of_le_of_ne h (fun e => hne (congrArg some e))

theorem lastLT_trans {last : Option Nat} {r x : Nat} (h : lastLT last r) (hx : r < x) : lastLT last x := by
  cases last with
  | none => trivial
  | some l => exact Nat.lt_trans h hx

theorem walkP_sound (pass : Cont → Bool) (cs : List Cont) (last : Option Nat)
    (hs : (cs.map rowOfC).Pairwise (· ≤ ·)) (hl : ∀ kc ∈ cs, lastLE last (rowOfC kc)) :
    (walkP pass cs last).Pairwise (· < ·) ∧
    ∀ x ∈ walkP pass cs last, lastLT last x ∧ ∃ kc ∈ cs, rowOfC kc = x ∧ pass kc = true := by
  induction cs generalizing last with
  | nil => exact ⟨List.Pairwise.nil, fun x hx => nomatch hx⟩
  | cons kc rest ih =>
    rw [List.map_cons, List.pairwise_cons] at hs
    -- the container is skipped: the walk goes on with the same `last`
    have skip : (walkP pass rest last).Pairwise (· < ·) ∧
        ∀ x ∈ walkP pass rest last, lastLT last x ∧ ∃ kc' ∈ kc :: rest, rowOfC kc' = x ∧ pass kc' = true := by
      obtain ⟨h1, h2⟩ := ih last hs.2 (fun kc' hk => hl kc' (List.mem_cons_of_mem _ hk))
      refine ⟨h1, fun x hx => ?_⟩
      obtain ⟨h3, kc', hk', h4⟩ := h2 x hx
      exact ⟨h3, kc', List.mem_cons_of_mem _ hk', h4⟩
    simp only [walkP]
    by_cases hlast : last = some (rowOfC kc)
    · rw [if_pos hlast]; exact skip
    · rw [if_neg hlast]
      by_cases hp : pass kc = true
      · rw [if_pos hp]
        -- the row is emitted; everything after it is larger
        obtain ⟨h1, h2⟩ := ih (some (rowOfC kc)) hs.2 (fun kc' hk => hs.1 _ (List.mem_map_of_mem hk))
        have hstrict : lastLT last (rowOfC kc) := lastLT_of_ne (hl kc List.mem_cons_self) hlast
        refine ⟨List.pairwise_cons.mpr ⟨fun x hx => (h2 x hx).1, h1⟩, fun x hx => ?_⟩
        rcases List.mem_cons.mp hx with rfl | hx'
        · exact ⟨hstrict, kc, List.mem_cons_self, rfl, hp⟩
        · obtain ⟨h3, kc', hk', h4⟩ := h2 x hx'
          exact ⟨lastLT_trans hstrict h3, kc', List.mem_cons_of_mem _ hk', h4⟩
      · rw [if_neg hp]; exact skip

theorem walkP_complete (pass : Cont → Bool) (cs : List Cont) (last : Option Nat) :
    ∀ kc ∈ cs, pass kc = true → rowOfC kc ∈ walkP pass cs last ∨ last = some (rowOfC kc) := by
  induction cs generalizing last with
  | nil => intro kc hk; cases hk
  | cons kc0 rest ih =>
    intro kc hk hp
    simp only [walkP]
    by_cases hlast : last = some (rowOfC kc0)
    · rw [if_pos hlast]
      rcases List.mem_cons.mp hk with rfl | hk'
      · exact .inr hlast
      · exact ih last kc hk' hp
    · rw [if_neg hlast]
      rcases List.mem_cons.mp hk with rfl | hk'
      · rw [if_pos hp]; exact .inl List.mem_cons_self
      · split
        · left
          rcases ih (some (rowOfC kc0)) kc hk' hp with h | h
          · exact List.mem_cons_of_mem _ h
          · rw [Option.some.inj h]; exact List.mem_cons_self
        · exact ih last kc hk' hp

theorem mem_walkP_none (pass : Cont → Bool) (cs : List Cont) (hs : (cs.map rowOfC).Pairwise (· ≤ ·)) (x : Nat) :
    x ∈ walkP pass cs none ↔ ∃ kc ∈ cs, rowOfC kc = x ∧ pass kc = true := by
  constructor
  · intro hx
    exact ((walkP_sound pass cs none hs (fun _ _ => trivial)).2 x hx).2
  · rintro ⟨kc, hk, rfl, hp⟩
    exact (walkP_complete pass cs none kc hk hp).resolve_right (fun h => nomatch h)

theorem walk_sound (col : Option Nat) (cs : List Cont) (last : Option Nat)
    (hs : (cs.map rowOfC).Pairwise (· ≤ ·)) (hl : ∀ kc ∈ cs, lastLE last (rowOfC kc)) :
    (walk col cs last).Pairwise (· < ·) ∧
    ∀ x ∈ walk col cs last, lastLT last x ∧ ∃ kc ∈ cs, rowOfC kc = x ∧ passC col kc = true := by
  rw [← walkP_eq_walk]
  exact walkP_sound (passC col) cs last hs hl

theorem walk_complete (col : Option Nat) (cs : List Cont) (last : Option Nat) :
    ∀ kc ∈ cs, passC col kc = true → rowOfC kc ∈ walk col cs last ∨ last = some (rowOfC kc) := by
  rw [← walkP_eq_walk]
  exact walkP_complete (passC col) cs last

/-- Columns of a fragment are columns inside the shard. -/
def Store.WF (s : Store) : Prop := ∀ p ∈ s, p.2 < shardWidth

/-- The containers `fragment.rows(start, …)` walks. -/
abbrev contsFrom (s : Store) (start : Nat) : List Cont := (conts s).filter (fun kc => kc.1 ≥ start * contsPerRow)

def contOf (s : Store) (q : Nat × Nat) : Cont := (keyOf q, s.filter (fun p => keyOf p == keyOf q))

theorem keyOf_div (p : Nat × Nat) (h : p.2 < shardWidth) : keyOf p / contsPerRow = p.1 := by
  have h16 : p.2 / contWidth < contsPerRow := Nat.div_lt_of_lt_mul h
  rw [keyOf, Nat.mul_comm, Nat.mul_add_div (by decide), Nat.div_eq_of_lt h16, Nat.add_zero]

theorem rowOfC_contOf {s : Store} (hwf : s.WF) {q : Nat × Nat} (hq : q ∈ s) : rowOfC (contOf s q) = q.1 :=
  keyOf_div q (hwf q hq)

theorem mem_contOf (s : Store) (q p : Nat × Nat) : p ∈ (contOf s q).2 ↔ p ∈ s ∧ keyOf p = keyOf q := by
  simp [contOf]

theorem mem_contsFrom {s : Store} (hwf : s.WF) (start : Nat) (kc : Cont) :
    kc ∈ contsFrom s start ↔ ∃ q ∈ s, start ≤ q.1 ∧ kc = contOf s q := by
  simp only [contsFrom, conts, List.mem_filter, List.mem_map, mem_sortDedup, decide_eq_true_eq]
  constructor
  · rintro ⟨⟨k, ⟨q, hq, rfl⟩, rfl⟩, hge⟩
    refine ⟨q, hq, ?_, rfl⟩
    rw [← keyOf_div q (hwf q hq)]
    exact (Nat.le_div_iff_mul_le (by decide)).mpr hge
  · rintro ⟨q, hq, hge, rfl⟩
    refine ⟨⟨keyOf q, ⟨q, hq, rfl⟩, rfl⟩, ?_⟩
    rw [← keyOf_div q (hwf q hq)] at hge
    exact (Nat.le_div_iff_mul_le (by decide)).mp hge

theorem contsFrom_sorted (s : Store) (start : Nat) : ((contsFrom s start).map rowOfC).Pairwise (· ≤ ·) := by
  have hk : ((conts s).map (·.1)).Pairwise (· < ·) := by
    simp only [conts, List.map_map, Function.comp_def, List.map_id']
    exact sorted_sortDedup _
  apply List.pairwise_map.mpr
  apply ((List.pairwise_map.mp hk).filter _).imp
  intro a b hab
  exact Nat.div_le_div_right (Nat.le_of_lt hab)

theorem mem_walkP_conts {s : Store} (hwf : s.WF) (start : Nat) (pass : Cont → Bool) (x : Nat) :
    x ∈ walkP pass (contsFrom s start) none ↔ ∃ q ∈ s, q.1 = x ∧ start ≤ x ∧ pass (contOf s q) = true := by
  rw [mem_walkP_none pass _ (contsFrom_sorted s start)]
  constructor
  · rintro ⟨kc, hkc, rfl, hp⟩
    obtain ⟨q, hq, hge, rfl⟩ := (mem_contsFrom hwf start kc).mp hkc
    rw [rowOfC_contOf hwf hq]
    exact ⟨q, hq, rfl, hge, hp⟩
  · rintro ⟨q, hq, rfl, hge, hp⟩
    exact ⟨contOf s q, (mem_contsFrom hwf start _).mpr ⟨q, hq, hge, rfl⟩, rowOfC_contOf hwf hq, hp⟩

theorem walkP_conts_sorted (s : Store) (start : Nat) (pass : Cont → Bool) :
    (walkP pass (contsFrom s start) none).Pairwise (· < ·) :=
  (walkP_sound pass _ none (contsFrom_sorted s start) (fun _ _ => trivial)).1

theorem mem_spec_fragRows (s : Store) (start : Nat) (col : Option Nat) (x : Nat) :
    x ∈ Spec.fragRows s start col none ↔ x ≥ start ∧ ∃ b ∈ s, (∀ c, col = some c → b.2 = c) ∧ b.1 = x := by
  rw [Spec.fragRows, List.mem_filter, mem_storeRows, Bool.and_eq_true, decide_eq_true_eq]
  cases col with
  | none =>
    constructor
    · rintro ⟨⟨b, hb, hx⟩, h, _⟩
      exact ⟨h, b, hb, (fun c hc => nomatch hc), hx⟩
    · rintro ⟨h, b, hb, _, hx⟩
      exact ⟨⟨b, hb, hx⟩, h, rfl⟩
  | some c =>
    constructor
    · rintro ⟨_, h, hc⟩
      exact ⟨h, (x, c), List.contains_iff_mem.mp hc, (fun c' hc' => by cases hc'; rfl), rfl⟩
    · rintro ⟨h, b, hb, hc, rfl⟩
      refine ⟨⟨b, hb, rfl⟩, h, List.contains_iff_mem.mpr ?_⟩
      rw [← hc c rfl]; exact hb

theorem spec_fragRows_sorted (s : Store) (start : Nat) (col : Option Nat) :
    (Spec.fragRows s start col none).Pairwise (· < ·) :=
  (sorted_sortDedup _).filter _

theorem passC_contOf {s : Store} (hwf : s.WF) {q : Nat × Nat} (hq : q ∈ s) (c : Nat) :
    passC (some c) (contOf s q) = true ↔ (q.1, c) ∈ s ∧ keyOf (q.1, c) = keyOf q := by
  simp only [passC, rowOfC_contOf hwf hq, Bool.and_eq_true, decide_eq_true_eq, List.contains_iff_mem, mem_contOf]
  constructor
  · rintro ⟨_, h⟩; exact h
  · rintro ⟨h1, h2⟩; exact ⟨h2, h1, h2⟩

theorem walk_conts {s : Store} (hwf : s.WF) (start : Nat) (col : Option Nat) :
    walk col (contsFrom s start) none = Spec.fragRows s start col none := by
  rw [← walkP_eq_walk]
  apply sorted_ext _ _ (walkP_conts_sorted s start _) (spec_fragRows_sorted s start col)
  intro x
  rw [mem_walkP_conts hwf, mem_spec_fragRows]
  cases col with
  | none =>
    constructor
    · rintro ⟨q, hq, hx, hge, _⟩
      exact ⟨hge, q, hq, (fun c h => nomatch h), hx⟩
    · rintro ⟨hge, q, hq, _, hx⟩
      exact ⟨q, hq, hx, hge, rfl⟩
  | some c =>
    constructor
    · rintro ⟨q, hq, rfl, hge, hp⟩
      exact ⟨hge, (q.1, c), ((passC_contOf hwf hq c).mp hp).1, (fun c' h => by cases h; rfl), rfl⟩
    · rintro ⟨hge, b, hb, hc, rfl⟩
      -- the bit at the column lies in a container that passes
      have hbc : (b.1, c) = b := by rw [← hc c rfl]
      exact ⟨b, hb, rfl, hge, (passC_contOf hwf hb c).mpr (by rw [hbc]; exact ⟨hb, rfl⟩)⟩

theorem fragRows_col_lim {s : Store} (hwf : s.WF) (start : Nat) (col limit : Option Nat) :
    fragRows s start (colFilter col ++ limFilter limit) = Spec.fragRows s start col limit := by
  cases limit with
  | none => rw [limFilter, List.append_nil, fragRows, rowsLoop_col, walk_conts hwf]
  | some l => rw [limFilter, fragRows, rowsLoop_col_lim, walk_conts hwf]; rfl

theorem fragRows_all (s : Store) (hwf : s.WF) : fragRows s 0 [] = Spec.storeRows s := by
  have := fragRows_col_lim hwf 0 none none
  rw [show colFilter none ++ limFilter none = [] from rfl] at this
  rw [this]
  exact List.filter_eq_self.mpr (fun _ _ => rfl)

end PV.C16
