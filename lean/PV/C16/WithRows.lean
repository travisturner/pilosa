/-
fragment.rows with filterWithRows (stateful search position, early `done`) is a walk that lets exactly the listed
rows through.
-/
import PV.C16.Walk
namespace PV.C16
open List

theorem walkP_nil (pass : Cont → Bool) (cs : List Cont) (last : Option Nat)
    (h : ∀ kc ∈ cs, pass kc = false ∨ last = some (rowOfC kc)) : walkP pass cs last = [] := by
  induction cs with
  | nil => rfl
  | cons kc rest ih =>
    have hr := ih (fun kc' hk => h kc' (List.mem_cons_of_mem _ hk))
    simp only [walkP]
    rcases h kc List.mem_cons_self with hp | hl
    · rw [hp, if_neg Bool.false_ne_true, ite_self, hr]
    · rw [if_pos hl, hr]

/-- where filterWithRows' search position ends up when it is asked about row `r` -/
def advance (ids : List Nat) (loc r : Nat) : Nat := loc + (ids.drop loc).findIdx (fun x => decide (x ≥ r))

theorem call_rows (ids : List Nat) (loc row key : Nat) (c : List (Nat × Nat)) :
    (Filter.rows ids loc).call row key c =
      if loc ≥ ids.length then (false, true, Filter.rows ids loc)
      else if advance ids loc row ≥ ids.length then (false, true, Filter.rows ids (advance ids loc row))
      else if ids.getD (advance ids loc row) 0 = row then
        (true, decide (advance ids loc row = ids.length - 1), Filter.rows ids (advance ids loc row))
      else (false, false, Filter.rows ids (advance ids loc row)) := by
  rfl

theorem take_advance (ids : List Nat) (loc r : Nat) :
    ∀ x ∈ ids.take (advance ids loc r), x ∈ ids.take loc ∨ x < r := by
  intro x hx
  rw [advance, List.take_add] at hx
  refine (List.mem_append.mp hx).imp_right (fun h => ?_)
  -- x is before the first element ≥ r of ids.drop loc
  obtain ⟨i, hi, rfl⟩ := List.getElem_of_mem h
  rw [List.length_take] at hi
  simpa using List.not_of_lt_findIdx (Nat.lt_of_lt_of_le hi (Nat.min_le_left _ _))

theorem getElem_advance (ids : List Nat) (loc r : Nat) (h : advance ids loc r < ids.length) :
    ids[advance ids loc r] ≥ r := by
  have hlt : (ids.drop loc).findIdx (fun x => decide (x ≥ r)) < (ids.drop loc).length := by
    rw [List.length_drop]; exact Nat.lt_sub_iff_add_lt'.mpr h
  have := List.findIdx_getElem (w := hlt)
  simp only [List.getElem_drop, decide_eq_true_eq] at this
  exact this

theorem not_contains_of_advance (ids : List Nat) (hs : ids.Pairwise (· < ·)) (loc r : Nat)
    (hinv : ∀ x ∈ ids.take loc, x < r) (hlt : advance ids loc r < ids.length)
    (hne : ids.getD (advance ids loc r) 0 ≠ r) : ids.contains r = false := by
  have hge := getElem_advance ids loc r hlt
  rw [List.getD_eq_getElem?_getD, List.getElem?_eq_getElem hlt, Option.getD_some] at hne
  apply Bool.eq_false_iff.mpr
  intro hc
  obtain ⟨j, hj, hjr⟩ := List.getElem_of_mem (List.contains_iff_mem.mp hc)
  -- r = ids[j]: before the new position everything is below r, at it and after it everything is above
  rcases Nat.lt_trichotomy j (advance ids loc r) with h | h | h
  · have hm : ids[j] ∈ ids.take (advance ids loc r) :=
      List.mem_take_iff_getElem.mpr ⟨j, Nat.lt_min.mpr ⟨h, hj⟩, rfl⟩
    have hlt' : ids[j] < r := (take_advance ids loc r _ hm).elim (hinv _) id
    exact absurd hjr (Nat.ne_of_lt hlt')
  · subst h; exact hne hjr
  · have := List.pairwise_iff_getElem.mp hs _ _ hlt hj h
    exact absurd (Nat.lt_of_le_of_lt hge (Nat.lt_of_lt_of_eq this hjr)) (Nat.lt_irrefl _)

/-- One call of filterWithRows under the invariant: everything before the search position is below the row asked about. -/
theorem call_rows_spec (ids : List Nat) (hs : ids.Pairwise (· < ·)) (loc row key : Nat) (c : List (Nat × Nat))
    (hinv : ∀ x ∈ ids.take loc, x < row) :
    ∃ d loc', (Filter.rows ids loc).call row key c = (ids.contains row, d, Filter.rows ids loc') ∧
      (∀ x ∈ ids.take loc', x < row) ∧ (d = true → ∀ x ∈ ids, x ≤ row) := by
  have hinv' : ∀ x ∈ ids.take (advance ids loc row), x < row :=
    fun x hx => (take_advance ids loc row x hx).elim (hinv x) id
  have hnot : (∀ x ∈ ids, x < row) → ids.contains row = false := fun hall =>
    Bool.eq_false_iff.mpr (fun hc => Nat.lt_irrefl _ (hall _ (List.contains_iff_mem.mp hc)))
  rw [call_rows]
  by_cases h1 : loc ≥ ids.length
  · have hall : ∀ x ∈ ids, x < row := fun x hx => hinv x (by rwa [List.take_of_length_le h1])
    exact ⟨true, loc, by rw [if_pos h1, hnot hall], hinv, fun _ x hx => Nat.le_of_lt (hall x hx)⟩
  · by_cases h2 : advance ids loc row ≥ ids.length
    · have hall : ∀ x ∈ ids, x < row := fun x hx => hinv' x (by rwa [List.take_of_length_le h2])
      exact ⟨true, _, by rw [if_neg h1, if_pos h2, hnot hall], hinv', fun _ x hx => Nat.le_of_lt (hall x hx)⟩
    · have hlt : advance ids loc row < ids.length := Nat.lt_of_not_ge h2
      by_cases h3 : ids.getD (advance ids loc row) 0 = row
      · have h3' : ids[advance ids loc row] = row := by
          rwa [List.getD_eq_getElem?_getD, List.getElem?_eq_getElem hlt, Option.getD_some] at h3
        have hmem : ids.contains row = true := List.contains_iff_mem.mpr (h3' ▸ List.getElem_mem hlt)
        refine ⟨_, _, by rw [if_neg h1, if_neg h2, if_pos h3, hmem], hinv', fun hd x hx => ?_⟩
        -- the row found is the last one listed
        obtain ⟨j, hj, rfl⟩ := List.getElem_of_mem hx
        have hlast : advance ids loc row = ids.length - 1 := of_decide_eq_true hd
        rcases Nat.lt_or_ge j (advance ids loc row) with h | h
        · exact Nat.le_of_lt (Nat.lt_of_lt_of_eq (List.pairwise_iff_getElem.mp hs _ _ hj hlt h) h3')
        · have : j = advance ids loc row := Nat.le_antisymm (hlast ▸ Nat.le_sub_one_of_lt hj) h
          subst this; exact Nat.le_of_eq h3'
      · exact ⟨false, _, by rw [if_neg h1, if_neg h2, if_neg h3, not_contains_of_advance ids hs loc row hinv hlt h3],
          hinv', fun h => nomatch h⟩

theorem callAll_single (f : Filter) (row key : Nat) (c : List (Nat × Nat)) :
    callAll [f] row key c = ((f.call row key c).1, (f.call row key c).2.1, [(f.call row key c).2.2]) := by
  rw [callAll_cons]
  cases (f.call row key c).1 <;> simp [callAll]

/-- fragment.rows with filterWithRows(ids): the walk that lets exactly the rows in `ids` through. -/
theorem rowsLoop_rows (ids : List Nat) (hs : ids.Pairwise (· < ·)) (cs : List Cont)
    (hcs : (cs.map rowOfC).Pairwise (· ≤ ·)) (loc : Nat) (last : Option Nat)
    (hinv : ∀ kc ∈ cs, ∀ x ∈ ids.take loc, x < rowOfC kc) :
    rowsLoop cs [Filter.rows ids loc] last = walkP (fun kc => ids.contains (rowOfC kc)) cs last := by
  induction cs generalizing loc last with
  | nil => rfl
  | cons kc rest ih =>
    obtain ⟨k, c⟩ := kc
    rw [List.map_cons, List.pairwise_cons] at hcs
    have hhead : ∀ kc' ∈ rest, k / contsPerRow ≤ rowOfC kc' := fun kc' hk => hcs.1 _ (List.mem_map_of_mem hk)
    have hinvr : ∀ kc' ∈ rest, ∀ x ∈ ids.take loc, x < rowOfC kc' :=
      fun kc' hk => hinv kc' (List.mem_cons_of_mem _ hk)
    by_cases hlast : last = some (rowOfC (k, c))
    · rw [walkP, if_pos hlast, hlast, rowsLoop_skip]
      exact ih hcs.2 loc _ hinvr
    · obtain ⟨d, loc', hcall, hA, hB⟩ :=
        call_rows_spec ids hs loc (k / contsPerRow) k c (hinv (k, c) List.mem_cons_self)
      have hall : callAll [Filter.rows ids loc] (rowOfC (k, c)) (k, c).1 (k, c).2 =
          (ids.contains (k / contsPerRow), d, [Filter.rows ids loc']) :=
        (callAll_single _ _ _ _).trans
          (by rw [show (Filter.rows ids loc).call (rowOfC (k, c)) (k, c).1 (k, c).2 = _ from hcall])
      rw [rowsLoop_step _ _ (k, c) rest last _ d hlast hall, walkP, if_neg hlast]
      show _ = if ids.contains (k / contsPerRow) = true then _ else _
      cases d with
      | false =>
        -- the walk goes on from the new search position
        have hrest := fun last' => ih hcs.2 loc' last'
          (fun kc' hk x hx => Nat.lt_of_lt_of_le (hA x hx) (hhead kc' hk))
        cases hc : ids.contains (k / contsPerRow) with
        | true => rw [if_pos rfl]; exact congrArg _ (hrest _)
        | false => rw [if_neg Bool.false_ne_true]; exact hrest _
      | true =>
        -- nothing larger is listed: the rest of the walk is empty
        have hnil : ∀ kc' ∈ rest, ids.contains (rowOfC kc') = true → rowOfC kc' = k / contsPerRow := fun kc' hk hc =>
          Nat.le_antisymm (hB rfl _ (List.contains_iff_mem.mp hc)) (hhead kc' hk)
        cases hc : ids.contains (k / contsPerRow) with
        | true =>
          rw [if_pos rfl, walkP_nil _ rest (some (rowOfC (k, c)))]
          intro kc' hk
          cases hc' : ids.contains (rowOfC kc') with
          | false => exact .inl rfl
          | true => exact .inr (congrArg some (hnil kc' hk hc').symm)
        | false =>
          rw [if_neg Bool.false_ne_true, walkP_nil _ rest last]
          intro kc' hk
          refine .inl (Bool.eq_false_iff.mpr (fun hc' => ?_))
          rw [hnil kc' hk hc', hc] at hc'
          exact Bool.false_ne_true hc'

end PV.C16
