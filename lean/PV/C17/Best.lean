/-
What the four scalar reducers compute.  `lt a b` says that `a` is preferred to `b` (`<` for Min and MinRow, `>` for Max
and MaxRow), `le` is its reflexive closure.  A count function `c` says how many times each row id (each value) is
reported; `Best le c p` says that the pair `p` is the preferred row with a non-zero count under `c`, with that count,
`BestV le c v` the same of a value with its count.  The reducers add count functions (`Best.reduce`, `BestV.reduce`) and
a count function has one best pair (`Best.unique`, `BestV.unique`): that is why they are commutative and associative
(Props0) and return what the specification says (ScalarSpec).
-/
import PV.C17.Model
namespace PV.C17

/-- What the proofs need of the preference order. -/
structure Pref {κ : Type} (lt le : κ → κ → Prop) : Prop where
  total : ∀ a b, a ≠ b → ¬ lt a b → lt b a
  le_of_lt_le : ∀ a b r, lt a b → le b r → le a r
  not_le_of_lt : ∀ a b, lt a b → ¬ le b a
  refl : ∀ a, le a a
  le_of_lt : ∀ a b, lt a b → le a b

theorem pref_min : Pref (κ := Nat) (· < ·) (· ≤ ·) where
  total := fun _ _ h1 h2 => Nat.lt_of_le_of_ne (Nat.le_of_not_lt h2) (Ne.symm h1)
  le_of_lt_le := fun _ _ _ h1 h2 => Nat.le_trans (Nat.le_of_lt h1) h2
  not_le_of_lt := fun _ _ h => Nat.not_le.mpr h
  refl := Nat.le_refl
  le_of_lt := fun _ _ => Nat.le_of_lt

theorem pref_max : Pref (κ := Nat) (· > ·) (· ≥ ·) where
  total := fun _ _ h1 h2 => Nat.lt_of_le_of_ne (Nat.le_of_not_lt h2) h1
  le_of_lt_le := fun _ _ _ h1 h2 => Nat.le_trans h2 (Nat.le_of_lt h1)
  not_le_of_lt := fun _ _ h => Nat.not_le.mpr h
  refl := Nat.le_refl
  le_of_lt := fun _ _ => Nat.le_of_lt

theorem pref_min_int : Pref (κ := Int) (· < ·) (· ≤ ·) where
  total := fun _ _ h1 h2 => (Int.lt_or_gt_of_ne h1).resolve_left h2
  le_of_lt_le := fun _ _ _ h1 h2 => Int.le_trans (Int.le_of_lt h1) h2
  not_le_of_lt := fun _ _ h => Int.not_le.mpr h
  refl := Int.le_refl
  le_of_lt := fun _ _ => Int.le_of_lt

theorem pref_max_int : Pref (κ := Int) (· > ·) (· ≥ ·) where
  total := fun _ _ h1 h2 => (Int.lt_or_gt_of_ne h1).resolve_right h2
  le_of_lt_le := fun _ _ _ h1 h2 => Int.le_trans h2 (Int.le_of_lt h1)
  not_le_of_lt := fun _ _ h => Int.not_le.mpr h
  refl := Int.le_refl
  le_of_lt := fun _ _ => Int.le_of_lt

/-! ### MinRow / MaxRow -/

/-- `minRowReduce = rowReduce (· < ·)` and `maxRowReduce = rowReduce (· > ·)` hold by `rfl`. -/
def rowReduce (lt : Nat → Nat → Prop) [DecidableRel lt] (prev v : Pair) : Pair :=
  if prev.count > 0 ∧ v.count > 0 then
    (if prev.id = v.id then ⟨v.id, v.count + prev.count⟩ else if lt prev.id v.id then prev else v)
  else if prev.count > 0 then prev else v

/-- `p` is the preferred row with a non-zero count under the count function `c`, with that count. -/
def Best (le : Nat → Nat → Prop) (c : Nat → Nat) (p : Pair) : Prop :=
  (p = Pair.zero ∧ ∀ r, c r = 0) ∨ (p.count > 0 ∧ p.count = c p.id ∧ ∀ r, c r > 0 → le p.id r)

theorem Best.reduce {lt le : Nat → Nat → Prop} [DecidableRel lt] (P : Pref lt le) {c c₁ c₂ : Nat → Nat} {p q : Pair}
    (hp : Best le c₁ p) (hq : Best le c₂ q) (hsum : ∀ r, c r = c₁ r + c₂ r) : Best le c (rowReduce lt p q) := by
  unfold rowReduce
  rcases hp with ⟨rfl, hz⟩ | ⟨hc, hs, hm⟩
  · rw [if_neg (fun h => Nat.lt_irrefl 0 h.1), if_neg (show ¬ Pair.zero.count > 0 from Nat.lt_irrefl 0)]
    rcases hq with ⟨rfl, hqz⟩ | ⟨hqc, hqs, hqm⟩
    · exact .inl ⟨rfl, fun r => by rw [hsum, hz, hqz]⟩
    · exact .inr ⟨hqc, by rw [hsum, hz, Nat.zero_add, hqs], fun r hr => hqm r (by rwa [hsum, hz, Nat.zero_add] at hr)⟩
  · rcases hq with ⟨rfl, hqz⟩ | ⟨hqc, hqs, hqm⟩
    · rw [if_neg (fun h => Nat.lt_irrefl 0 h.2), if_pos hc]
      exact .inr ⟨hc, by rw [hsum, hqz, Nat.add_zero, hs], fun r hr => hm r (by rwa [hsum, hqz, Nat.add_zero] at hr)⟩
    · rw [if_pos ⟨hc, hqc⟩]
      right
      have hor : ∀ r, c r > 0 → c₁ r > 0 ∨ c₂ r > 0 := fun r hr =>
        Nat.add_pos_iff_pos_or_pos.mp (by rwa [hsum] at hr)
      by_cases heq : p.id = q.id
      · rw [if_pos heq]
        refine ⟨Nat.add_pos_left hqc _, by rw [hsum, ← heq, ← hs, heq, ← hqs, Nat.add_comm], fun r hr => ?_⟩
        exact (hor r hr).elim (fun h => heq ▸ hm r h) (hqm r)
      · rw [if_neg heq]
        by_cases hlt : lt p.id q.id
        · rw [if_pos hlt]
          have hz0 : c₂ p.id = 0 := Nat.eq_zero_of_not_pos (fun h => P.not_le_of_lt _ _ hlt (hqm _ h))
          refine ⟨hc, by rw [hsum, hz0, Nat.add_zero, hs], fun r hr => ?_⟩
          exact (hor r hr).elim (hm r) (fun h => P.le_of_lt_le _ _ _ hlt (hqm r h))
        · rw [if_neg hlt]
          have hgt := P.total _ _ heq hlt
          have hz0 : c₁ q.id = 0 := Nat.eq_zero_of_not_pos (fun h => P.not_le_of_lt _ _ hgt (hm _ h))
          refine ⟨hqc, by rw [hsum, hz0, Nat.zero_add, hqs], fun r hr => ?_⟩
          exact (hor r hr).elim (fun h => P.le_of_lt_le _ _ _ hgt (hm r h)) (hqm r)

/-- Two preferred rows of one count function are each at least as good as the other. -/
theorem Best.unique {lt le : Nat → Nat → Prop} (P : Pref lt le) {c : Nat → Nat} {p q : Pair}
    (hp : Best le c p) (hq : Best le c q) : p = q := by
  rcases hp with ⟨rfl, hz⟩ | ⟨hc, hs, hm⟩ <;> rcases hq with ⟨rfl, hqz⟩ | ⟨hqc, hqs, hqm⟩
  · rfl
  · rw [hqs, hz] at hqc; exact absurd hqc (Nat.lt_irrefl 0)
  · rw [hs, hqz] at hc; exact absurd hc (Nat.lt_irrefl 0)
  · have hid : p.id = q.id := Classical.byContradiction fun hne =>
      (Classical.em (lt p.id q.id)).elim (fun h => P.not_le_of_lt _ _ h (hqm _ (hs ▸ hc)))
        (fun h => P.not_le_of_lt _ _ (P.total _ _ hne h) (hm _ (hqs ▸ hqc)))
    cases p; cases q
    simp only at hid hs hqs
    subst hid
    rw [hs, hqs]

/-! ### Min / Max -/

/-- `ValCount.smaller = vcReduce (· < ·)` and `ValCount.larger = vcReduce (· > ·)` hold by `rfl`. -/
def vcReduce (lt : Int → Int → Prop) [DecidableRel lt] (vc other : ValCount) : ValCount :=
  if vc.count = 0 ∨ (lt other.val vc.val ∧ other.count > 0) then other
  else if other.count > 0 ∧ other.val = vc.val then ⟨vc.val, vc.count + other.count⟩
  else ⟨vc.val, vc.count⟩

/-- `v` is the preferred value with a non-zero count under the count function `c` (nowhere negative), with that count. -/
def BestV (le : Int → Int → Prop) (c : Int → Int) (v : ValCount) : Prop :=
  (∀ r, 0 ≤ c r) ∧
    ((v = ValCount.zero ∧ ∀ r, c r = 0) ∨ (v.count > 0 ∧ v.count = c v.val ∧ ∀ r, c r > 0 → le v.val r))

theorem BestV.reduce {lt le : Int → Int → Prop} [DecidableRel lt] (P : Pref lt le) {c c₁ c₂ : Int → Int} {p q : ValCount}
    (hp : BestV le c₁ p) (hq : BestV le c₂ q) (hsum : ∀ r, c r = c₁ r + c₂ r) : BestV le c (vcReduce lt p q) := by
  obtain ⟨n1, hp⟩ := hp
  obtain ⟨n2, hq⟩ := hq
  refine ⟨fun r => hsum r ▸ Int.add_nonneg (n1 r) (n2 r), ?_⟩
  unfold vcReduce
  rcases hp with ⟨rfl, hz⟩ | ⟨hc, hs, hm⟩
  · -- nothing so far: the result is `q`
    rw [if_pos (.inl rfl)]
    rcases hq with ⟨rfl, hqz⟩ | ⟨hqc, hqs, hqm⟩
    · exact .inl ⟨rfl, fun r => by rw [hsum, hz, hqz]; rfl⟩
    · exact .inr ⟨hqc, by rw [hsum, hz, Int.zero_add, hqs], fun r hr => hqm r (by rwa [hsum, hz, Int.zero_add] at hr)⟩
  · have hc0 : ¬ p.count = 0 := Int.ne_of_gt hc
    rcases hq with ⟨rfl, hqz⟩ | ⟨hqc, hqs, hqm⟩
    · rw [if_neg (fun h => h.elim hc0 (fun h' => Int.lt_irrefl 0 h'.2)), if_neg (fun h => Int.lt_irrefl 0 h.1)]
      exact .inr ⟨hc, by rw [hsum, hqz, Int.add_zero]; exact hs, fun r hr => hm r (by rwa [hsum, hqz, Int.add_zero] at hr)⟩
    · right
      -- a value counted by either function is no better than the better of the two
      have hor : ∀ r, c r > 0 → c₁ r > 0 ∨ c₂ r > 0 := fun r hr => by
        have h1 := n1 r
        have h2 := n2 r
        rw [hsum] at hr
        omega
      have zero_of : ∀ {x : Int}, 0 ≤ x → ¬ x > 0 → x = 0 := fun h0 h => by omega
      by_cases hlt : lt q.val p.val
      · rw [if_pos (.inr ⟨hlt, hqc⟩)]
        have hz0 : c₁ q.val = 0 := zero_of (n1 _) (fun h => P.not_le_of_lt _ _ hlt (hm _ h))
        exact ⟨hqc, by rw [hsum, hz0, Int.zero_add, hqs], fun r hr =>
          (hor r hr).elim (fun h => P.le_of_lt_le _ _ _ hlt (hm r h)) (hqm r)⟩
      · rw [if_neg (fun h => h.elim hc0 (fun h' => hlt h'.1))]
        by_cases heq : q.val = p.val
        · rw [if_pos ⟨hqc, heq⟩]
          have hcount : p.count + q.count = c p.val := by rw [hsum, hs, hqs, heq]
          exact ⟨Int.add_pos hc hqc, hcount, fun r hr =>
            (hor r hr).elim (hm r) (fun h => heq ▸ hqm r h)⟩
        · rw [if_neg (fun h => heq h.2)]
          have hgt := P.total _ _ heq hlt
          have hz0 : c₂ p.val = 0 := zero_of (n2 _) (fun h => P.not_le_of_lt _ _ hgt (hqm _ h))
          exact ⟨hc, by rw [hsum, hz0, Int.add_zero]; exact hs, fun r hr =>
            (hor r hr).elim (hm r) (fun h => P.le_of_lt_le _ _ _ hgt (hqm r h))⟩

theorem BestV.unique {lt le : Int → Int → Prop} (P : Pref lt le) {c : Int → Int} {p q : ValCount}
    (hp : BestV le c p) (hq : BestV le c q) : p = q := by
  rcases hp.2 with ⟨rfl, hz⟩ | ⟨hc, hs, hm⟩ <;> rcases hq.2 with ⟨rfl, hqz⟩ | ⟨hqc, hqs, hqm⟩
  · rfl
  · rw [hqs, hz] at hqc; exact absurd hqc (Int.lt_irrefl 0)
  · rw [hs, hqz] at hc; exact absurd hc (Int.lt_irrefl 0)
  · have hid : p.val = q.val := Classical.byContradiction fun hne =>
      (Classical.em (lt p.val q.val)).elim (fun h => P.not_le_of_lt _ _ h (hqm _ (hs ▸ hc)))
        (fun h => P.not_le_of_lt _ _ (P.total _ _ hne h) (hm _ (hqs ▸ hqc)))
    cases p; cases q
    simp only at hid hs hqs
    subst hid
    rw [hs, hqs]

end PV.C17
