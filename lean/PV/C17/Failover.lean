/-
The failover transition system of executor.mapReduce (Model.lean: mrStep).
Invariant: the shards answered so far together with the shards of the requests in flight are, as a
multiset, exactly the shards of the query; `shardN` counts the answered ones; `acc` (Go: `result`) is the
reduce of the answered ones.
-/
import PV.C17.Props0
namespace PV.C17
open List

def reqShards (l : List Req) : List Nat := l.flatMap (·.shards)

theorem reqShards_cons (r : Req) (l : List Req) : reqShards (r :: l) = r.shards ++ reqShards l := by
  simp [reqShards]

theorem reqShards_append (a b : List Req) : reqShards (a ++ b) = reqShards a ++ reqShards b := by
  simp [reqShards]

theorem addShard_perm (m : List Req) (n s : Nat) :
    (reqShards (addShard m n s)).Perm (reqShards m ++ [s]) := by
  induction m with
  | nil => simp [addShard, reqShards]
  | cons r rest ih =>
    simp only [addShard]
    split
    · simp only [reqShards_cons, append_assoc]
      exact Perm.append_left _ perm_append_comm
    · simp only [reqShards_cons, append_assoc]
      exact Perm.append_left _ ih

theorem shardsByNode_perm (nodes : List Nat) (owners : Nat → List Nat) (shards : List Nat) :
    ∀ (m reqs : List Req), shardsByNode nodes owners shards m = some reqs →
      (reqShards reqs).Perm (reqShards m ++ shards) := by
  induction shards with
  | nil => intro m reqs h; simp [shardsByNode] at h; subst h; simp
  | cons s rest ih =>
    intro m reqs h
    simp only [shardsByNode] at h
    split at h
    · cases h
    · rename_i n _
      have := ih _ _ h
      refine this.trans ?_
      have h2 := (addShard_perm m n s).append_right rest
      refine h2.trans ?_
      simp

theorem shardsByNode_none_iff (nodes : List Nat) (owners : Nat → List Nat) (shards : List Nat) :
    ∀ (m : List Req), shardsByNode nodes owners shards m = none ↔
      ∃ s ∈ shards, ∀ n ∈ owners s, n ∉ nodes := by
  induction shards with
  | nil => intro m; simp [shardsByNode]
  | cons s rest ih =>
    intro m
    simp only [shardsByNode]
    split
    · rename_i hnone
      simp only [true_iff]
      refine ⟨s, by simp, ?_⟩
      intro n hn hmem
      have := find?_eq_none.mp hnone n hn
      simp [hmem] at this
    · rename_i n hsome
      rw [ih]
      have hfound := find?_some hsome
      have hmem : n ∈ owners s := mem_of_find?_eq_some hsome
      constructor
      · rintro ⟨s', hs', h⟩; exact ⟨s', by simp [hs'], h⟩
      · rintro ⟨s', hs', h⟩
        rcases mem_cons.mp hs' with rfl | hs'
        · exfalso
          have := h n hmem
          simp at hfound
          exact this hfound
        · exact ⟨s', hs', h⟩

theorem perm_getD_eraseIdx {α : Type} [Inhabited α] (l : List α) (i : Nat) (h : i < l.length) :
    l.Perm (l.getD i default :: l.eraseIdx i) := by
  induction l generalizing i with
  | nil => simp at h
  | cons r rest ih =>
    cases i with
    | zero => exact Perm.refl _
    | succ i =>
      rw [getD_cons_succ, eraseIdx_cons_succ]
      exact ((ih i (Nat.lt_of_succ_lt_succ h)).cons r).trans (Perm.swap _ _ _)

/-- The loop invariant of `mapReduce`. -/
def MRInv {α : Type} (f : α → α → α) (e : α) (val : Nat → α) (shards : List Nat) (s : MRState α) : Prop :=
  ∃ answered : List Nat, (answered ++ reqShards s.pending).Perm shards ∧
    s.shardN = answered.length ∧ s.shardN < shards.length ∧
    s.acc = reduceAll f e (answered.map val)

/-- What one response event does to a state satisfying the invariant. -/
def StepPost {α : Type} (f : α → α → α) (e : α) (val : Nat → α) (owners : Nat → List Nat)
    (shards : List Nat) (s : MRState α) (ev : Nat × Bool) : MROut α → Prop
  | .running s' => MRInv f e val shards s'
  | .done a => a = reduceAll f e (shards.map val)
  | .unavailable => ev.2 = false ∧ ∃ req ∈ s.pending, ∃ sh ∈ req.shards,
      ∀ n ∈ owners sh, n ∉ s.nodes.filter (fun n => n ≠ req.node)
  | .hang => False

theorem mrStep_nil {α : Type} (f : α → α → α) (e : α) (val : Nat → α) (owners : Nat → List Nat)
    (total : Nat) (s : MRState α) (ev : Nat × Bool) (h : s.pending = []) :
    mrStep f e val owners total s ev = .hang := by
  simp [mrStep, h]

theorem mrStep_eq {α : Type} (f : α → α → α) (e : α) (val : Nat → α) (owners : Nat → List Nat)
    (total : Nat) (s : MRState α) (ev : Nat × Bool) (hne : s.pending ≠ []) :
    ∃ req pend, s.pending.Perm (req :: pend) ∧ mrStep f e val owners total s ev =
      if ev.2 then
        if s.shardN + req.shards.length ≥ total then .done (f s.acc (nodeResult f e val req.shards))
        else .running ⟨s.nodes, pend, f s.acc (nodeResult f e val req.shards),
          s.shardN + req.shards.length⟩
      else match shardsByNode (s.nodes.filter (fun n => n ≠ req.node)) owners req.shards [] with
        | none => .unavailable
        | some reqs => .running ⟨s.nodes.filter (fun n => n ≠ req.node), pend ++ reqs, s.acc, s.shardN⟩ := by
  refine ⟨_, _, perm_getD_eraseIdx s.pending (ev.1 % s.pending.length)
    (Nat.mod_lt _ (length_pos_iff.mpr hne)), ?_⟩
  unfold mrStep
  rw [if_neg (by simpa using hne)]
  rfl

theorem mrStep_post {α : Type} {D : α → Prop} {f : α → α → α} {e : α} (L : Laws D f e)
    (val : Nat → α) (hval : ∀ s, D (val s)) (owners : Nat → List Nat) (shards : List Nat)
    (s : MRState α) (ev : Nat × Bool) (hinv : MRInv f e val shards s) :
    StepPost f e val owners shards s ev (mrStep f e val owners shards.length s ev) := by
  obtain ⟨answered, hperm, hN, hlt, hacc⟩ := hinv
  have hne : s.pending ≠ [] := by
    intro h0
    have := hperm.length_eq
    rw [h0, reqShards, flatMap_nil, append_nil] at this
    omega
  obtain ⟨req, pend, hp, heq⟩ := mrStep_eq f e val owners shards.length s ev hne
  rw [heq]
  have hD : ∀ l : List Nat, ∀ x ∈ l.map val, D x := fun l x hx => by
    obtain ⟨y, _, rfl⟩ := mem_map.mp hx; exact hval y
  -- the answered shards with those of `req`, and the shards still in flight
  have hperm2 : ((answered ++ req.shards) ++ reqShards pend).Perm shards := by
    rw [append_assoc, ← reqShards_cons]
    exact (Perm.append_left _ (hp.flatMap_right _).symm).trans hperm
  cases hev : ev.2 with
  | true =>
    have hacc' : f s.acc (nodeResult f e val req.shards)
        = reduceAll f e ((answered ++ req.shards).map val) := by
      rw [map_append, reduceAll_append L _ _ (hD _) (hD _), hacc]; rfl
    rw [if_pos rfl, hacc']
    split
    · -- cut-off reached: nothing is in flight any more
      rename_i hge
      have hl2 := hperm2.length_eq
      simp only [length_append] at hl2
      have hnil : reqShards pend = [] := length_eq_zero_iff.mp (by omega)
      rw [hnil, append_nil] at hperm2
      exact C17_fold_perm L (hperm2.map val) (hD _)
    · rename_i hge
      exact ⟨answered ++ req.shards, hperm2, by simp [hN], Nat.lt_of_not_ge hge, rfl⟩
  | false =>
    rw [if_neg (by simp)]
    split
    · rename_i hnone
      obtain ⟨sh, hsh, hno⟩ := (shardsByNode_none_iff _ owners req.shards []).mp hnone
      exact ⟨hev, req, hp.mem_iff.mpr mem_cons_self, sh, hsh, hno⟩
    · rename_i reqs hsome
      have hreg := shardsByNode_perm _ owners req.shards [] reqs hsome
      refine ⟨answered, ?_, hN, hlt, hacc⟩
      rw [reqShards_append]
      refine Perm.trans ?_ hperm2
      rw [append_assoc]
      exact Perm.append_left _ ((Perm.append_left _ hreg).trans perm_append_comm)

/-- What a whole run can end in (as `StepPost`, but `unavailable` carries no reason). -/
def RunPost {α : Type} (f : α → α → α) (e : α) (val : Nat → α) (shards : List Nat) : MROut α → Prop
  | .running s' => MRInv f e val shards s'
  | .done a => a = reduceAll f e (shards.map val)
  | .unavailable => True
  | .hang => False

theorem runPost_of_stepPost {α : Type} {f : α → α → α} {e : α} {val : Nat → α} {owners : Nat → List Nat}
    {shards : List Nat} {s : MRState α} {ev : Nat × Bool} {o : MROut α}
    (h : StepPost f e val owners shards s ev o) : RunPost f e val shards o := by
  cases o with
  | unavailable => trivial
  | _ => exact h

theorem mrRun_post {α : Type} {D : α → Prop} {f : α → α → α} {e : α} (L : Laws D f e)
    (val : Nat → α) (hval : ∀ s, D (val s)) (owners : Nat → List Nat) (shards : List Nat)
    (evs : List (Nat × Bool)) (o : MROut α) (ho : RunPost f e val shards o) :
    RunPost f e val shards (mrRun f e val owners shards.length o evs) := by
  induction evs generalizing o with
  | nil => cases o <;> exact ho
  | cons ev evs ih =>
    cases o with
    | running s => exact ih _ (runPost_of_stepPost (mrStep_post L val hval owners shards s ev ho))
    | done a => exact ho
    | unavailable => trivial
    | hang => exact ho

theorem mrStart_post {α : Type} (f : α → α → α) (e : α) (val : Nat → α) (nodes : List Nat)
    (owners : Nat → List Nat) (shards : List Nat) (hne : shards ≠ []) :
    RunPost f e val shards (mrStart e nodes owners shards) := by
  unfold mrStart
  split
  · trivial
  · rename_i reqs hsome
    have hp := shardsByNode_perm nodes owners shards [] reqs hsome
    simp only [reqShards, flatMap_nil, nil_append] at hp
    refine ⟨[], by simpa [reqShards] using hp, rfl, length_pos_iff.mpr hne, rfl⟩

theorem mapReduceFailover_post {α : Type} {D : α → Prop} {f : α → α → α} {e : α} (L : Laws D f e)
    (val : Nat → α) (hval : ∀ s, D (val s)) (nodes : List Nat) (owners : Nat → List Nat)
    (shards : List Nat) (hne : shards ≠ []) (evs : List (Nat × Bool)) {o : MROut α}
    (h : mapReduceFailover f e val nodes owners shards evs = o) : RunPost f e val shards o :=
  h ▸ mrRun_post L val hval owners shards evs _ (mrStart_post f e val nodes owners shards hne)

/-- Weight of a shard in flight; the `+ 1` makes an error answer from a node already filtered out (which removes
no node) decrease the measure. -/
def reqW (nodes : List Nat) (r : Req) : Nat :=
  if nodes.contains r.node then 2 * nodes.length else 2 * nodes.length + 1

def reqTerm (nodes : List Nat) (r : Req) : Nat := r.shards.length * reqW nodes r + 1

def mrMeasure (nodes : List Nat) (pending : List Req) : Nat := (pending.map (reqTerm nodes)).sum

theorem mrMeasure_cons (nodes : List Nat) (r : Req) (l : List Req) :
    mrMeasure nodes (r :: l) = reqTerm nodes r + mrMeasure nodes l := by
  simp [mrMeasure]

theorem mrMeasure_append (nodes : List Nat) (a b : List Req) :
    mrMeasure nodes (a ++ b) = mrMeasure nodes a + mrMeasure nodes b := by
  simp [mrMeasure]

theorem mrMeasure_perm (nodes : List Nat) {a b : List Req} (h : a.Perm b) :
    mrMeasure nodes a = mrMeasure nodes b :=
  (h.map _).sum_nat

theorem length_filter_ne_lt (nodes : List Nat) (x : Nat) (h : x ∈ nodes) :
    (nodes.filter (fun n => n ≠ x)).length < nodes.length := by
  have hp := (filter_append_perm (fun n => decide (n ≠ x)) nodes).length_eq
  have : 0 < (nodes.filter (fun n => !decide (n ≠ x))).length :=
    length_pos_of_mem (mem_filter.mpr ⟨h, by simp⟩)
  rw [length_append] at hp
  omega

theorem reqW_filter_le (nodes : List Nat) (x : Nat) (q : Req) :
    reqW (nodes.filter (fun n => n ≠ x)) q ≤ reqW nodes q := by
  have hle := length_filter_le (fun n => decide (n ≠ x)) nodes
  unfold reqW
  split
  · split <;> omega
  · rename_i h1
    split
    · rename_i h2
      have hq : q.node ∈ nodes := contains_iff_mem.mp h2
      have hx : q.node = x := Classical.byContradiction fun hne =>
        h1 (contains_iff_mem.mpr (mem_filter.mpr ⟨hq, decide_eq_true hne⟩))
      have := length_filter_ne_lt nodes x (hx ▸ hq)
      omega
    · omega

theorem reqW_filter_self (nodes : List Nat) (r : Req) :
    2 * (nodes.filter (fun n => n ≠ r.node)).length + 1 ≤ reqW nodes r := by
  unfold reqW
  split
  · rename_i h
    have := length_filter_ne_lt nodes r.node (contains_iff_mem.mp h)
    omega
  · have := length_filter_le (fun n => decide (n ≠ r.node)) nodes
    omega

theorem mrMeasure_filter_le (nodes : List Nat) (x : Nat) (l : List Req) :
    mrMeasure (nodes.filter (fun n => n ≠ x)) l ≤ mrMeasure nodes l := by
  induction l with
  | nil => exact Nat.le_refl _
  | cons q qs ih =>
    have := Nat.mul_le_mul_left q.shards.length (reqW_filter_le nodes x q)
    rw [mrMeasure_cons, mrMeasure_cons, reqTerm, reqTerm]
    omega

theorem addShard_nodes {P : Nat → Prop} (m : List Req) (n s : Nat) (hm : ∀ q ∈ m, P q.node) (hn : P n) :
    ∀ q ∈ addShard m n s, P q.node := by
  induction m with
  | nil => exact forall_mem_cons.mpr ⟨hn, hm⟩
  | cons r rest ih =>
    obtain ⟨hr, hrest⟩ := forall_mem_cons.mp hm
    rw [addShard]
    split
    · exact forall_mem_cons.mpr ⟨hn, hrest⟩
    · exact forall_mem_cons.mpr ⟨hr, ih hrest⟩

theorem addShard_length (m : List Req) (n s : Nat) : (addShard m n s).length ≤ m.length + 1 := by
  induction m with
  | nil => simp [addShard]
  | cons r rest ih =>
    simp only [addShard]
    split <;> simp only [length_cons] <;> omega

theorem shardsByNode_length_live (nodes : List Nat) (owners : Nat → List Nat) (shards : List Nat) :
    ∀ (m reqs : List Req), (∀ q ∈ m, nodes.contains q.node = true) →
      shardsByNode nodes owners shards m = some reqs →
      reqs.length ≤ m.length + shards.length ∧ ∀ q ∈ reqs, nodes.contains q.node = true := by
  induction shards with
  | nil =>
    intro m reqs hm h
    cases h
    exact ⟨Nat.le_refl _, hm⟩
  | cons s rest ih =>
    intro m reqs hm h
    rw [shardsByNode] at h
    split at h
    · cases h
    · rename_i n hsome
      have ⟨h1, h2⟩ := ih _ _
        (addShard_nodes (P := fun x => nodes.contains x = true) m n s hm (find?_some hsome)) h
      have hl := addShard_length m n s
      exact ⟨by simp only [length_cons]; omega, h2⟩

theorem mrMeasure_live (nodes : List Nat) (reqs : List Req)
    (hlive : ∀ q ∈ reqs, nodes.contains q.node = true) :
    mrMeasure nodes reqs = (reqShards reqs).length * (2 * nodes.length) + reqs.length := by
  induction reqs with
  | nil => simp [mrMeasure, reqShards]
  | cons q qs ih =>
    obtain ⟨hq, hqs⟩ := forall_mem_cons.mp hlive
    rw [mrMeasure_cons, ih hqs, reqShards_cons, length_append, reqTerm, reqW, if_pos hq, length_cons,
      Nat.add_mul]
    omega

theorem mrMeasure_start_le (nodes : List Nat) (owners : Nat → List Nat) (shards : List Nat)
    (reqs : List Req) (h : shardsByNode nodes owners shards [] = some reqs) :
    mrMeasure nodes reqs ≤ shards.length * (2 * nodes.length + 1) := by
  have ⟨hlen, hlive⟩ := shardsByNode_length_live nodes owners shards [] reqs (fun _ hq => nomatch hq) h
  have hp := (shardsByNode_perm nodes owners shards [] reqs h).length_eq
  rw [mrMeasure_live nodes reqs hlive, hp, Nat.mul_add, Nat.mul_one]
  simpa [reqShards] using hlen

theorem mrStep_measure {α : Type} (f : α → α → α) (e : α) (val : Nat → α) (owners : Nat → List Nat)
    (total : Nat) (s : MRState α) (ev : Nat × Bool) (s' : MRState α)
    (h : mrStep f e val owners total s ev = .running s') :
    mrMeasure s'.nodes s'.pending < mrMeasure s.nodes s.pending := by
  by_cases hne : s.pending = []
  · rw [mrStep_nil f e val owners total s ev hne] at h; cases h
  obtain ⟨req, pend, hp, heq⟩ := mrStep_eq f e val owners total s ev hne
  rw [heq] at h
  rw [mrMeasure_perm s.nodes hp, mrMeasure_cons, reqTerm]
  cases hev : ev.2 with
  | true =>
    rw [hev, if_pos rfl] at h
    split at h
    · cases h
    · cases h; show mrMeasure s.nodes pend < _; omega
  | false =>
    -- regrouped onto the nodes left: the others got no heavier, the new requests are lighter than `req`
    rw [hev, if_neg (by simp)] at h
    split at h
    · cases h
    · rename_i reqs hsome
      cases h
      have h1 := mrMeasure_filter_le s.nodes req.node pend
      have h2 := mrMeasure_start_le _ owners req.shards reqs hsome
      have h3 := Nat.mul_le_mul_left req.shards.length (reqW_filter_self s.nodes req)
      show mrMeasure (s.nodes.filter (fun n => n ≠ req.node)) (pend ++ reqs) < _
      rw [mrMeasure_append]
      omega

theorem mrRun_terminates {α : Type} (f : α → α → α) (e : α) (val : Nat → α) (owners : Nat → List Nat)
    (total : Nat) (evs : List (Nat × Bool)) :
    ∀ (s : MRState α), mrMeasure s.nodes s.pending < evs.length →
      ∀ s', mrRun f e val owners total (.running s) evs ≠ .running s' := by
  induction evs with
  | nil => intro s h; simp at h
  | cons ev evs ih =>
    intro s h s'
    simp only [mrRun]
    cases hstep : mrStep f e val owners total s ev with
    | running s1 =>
      have := mrStep_measure f e val owners total s ev s1 hstep
      simp only [length_cons] at h
      exact ih s1 (by omega) s'
    | done a => cases evs <;> simp [mrRun]
    | unavailable => cases evs <;> simp [mrRun]
    | hang => cases evs <;> simp [mrRun]

theorem mapReduceFailover_ends {α : Type} (f : α → α → α) (e : α) (val : Nat → α) (nodes : List Nat)
    (owners : Nat → List Nat) (shards : List Nat) (evs : List (Nat × Bool))
    (hlen : evs.length > shards.length * (2 * nodes.length + 1)) (s' : MRState α) :
    mapReduceFailover f e val nodes owners shards evs ≠ .running s' := by
  unfold mapReduceFailover mrStart
  split
  · cases evs <;> simp [mrRun]
  · rename_i reqs hsome
    have hb := mrMeasure_start_le nodes owners shards reqs hsome
    exact mrRun_terminates f e val owners shards.length evs ⟨nodes, reqs, e, 0⟩
      (Nat.lt_of_le_of_lt hb hlen) s'

end PV.C17
