/-
Sorted insertion with combination on an equal key is the merge with a singleton, for every instance at once.
-/
import PV.C17.MergeInstances
namespace PV.C17
open List K

namespace K
variable {α κ : Type} [LT κ] [DecidableLT κ] [DecidableEq κ] {key : α → κ} {comb : α → α → α}

/-- Any sorted insertion that combines on an equal key is the merge with a singleton. -/
theorem insert_eq_kmerge (ord : StrictTotal κ) (F : α → List α → List α) (h0 : ∀ x, F x [] = [x])
    (hlt : ∀ x y ys, key x < key y → F x (y :: ys) = x :: y :: ys)
    (heq : ∀ x y ys, key x = key y → F x (y :: ys) = comb y x :: ys)
    (hgt : ∀ x y ys, key y < key x → F x (y :: ys) = y :: F x ys) (x : α) (l : List α) :
    F x l = kmerge key comb l [x] := by
  induction l with
  | nil => rw [h0, kmerge_nil_left]
  | cons y ys ih =>
    rw [kmerge]
    rcases ord.tri (key x) (key y) with h | h | h
    · rw [hlt x y ys h, if_neg (fun h' => ord.irrefl _ (ord.trans _ _ _ h h')), if_pos h, kmerge_nil_right]
    · rw [heq x y ys h, if_neg (h ▸ ord.irrefl _), if_neg (h ▸ ord.irrefl _), kmerge_nil_right]
    · rw [hgt x y ys h, if_pos h, ih]
end K

theorem insertAsc_eq' (x : Nat) (l : List Nat) : Spec.insertAsc x l = nmerge l [x] :=
  insert_eq_kmerge natStrictTotal Spec.insertAsc (fun _ => rfl)
    (fun x y ys (h : x < y) => by rw [Spec.insertAsc, if_pos h])
    (fun x y ys (h : x = y) => by rw [Spec.insertAsc, if_neg (h ▸ Nat.lt_irrefl _), if_pos h, keepB, h])
    (fun x y ys (h : y < x) => by rw [Spec.insertAsc, if_neg (Nat.lt_asymm h), if_neg (Nat.ne_of_gt h)]) x l

theorem insertCol_eq' (x : Nat) (l : List Nat) : insertCol x l = nmerge l [x] :=
  insert_eq_kmerge natStrictTotal insertCol (fun _ => rfl)
    (fun x y ys (h : x < y) => by rw [insertCol, if_pos h])
    (fun x y ys (h : x = y) => by rw [insertCol, if_neg (h ▸ Nat.lt_irrefl _), if_pos h, keepB, h])
    (fun x y ys (h : y < x) => by rw [insertCol, if_neg (Nat.lt_asymm h), if_neg (Nat.ne_of_gt h)]) x l

theorem insertGC_eq' (x : GroupCount) (l : List GroupCount) : Spec.insertGC x l = gmerge l [x] :=
  insert_eq_kmerge listNatStrictTotal Spec.insertGC (fun _ => rfl)
    (fun x y ys h => by rw [Spec.insertGC, if_pos h])
    (fun x y ys h => by rw [Spec.insertGC, if_neg (h ▸ List.lt_irrefl _), if_pos h]; rfl)
    (fun x y ys h => by
      rw [Spec.insertGC, if_neg (fun h' => List.lt_irrefl _ (List.lt_trans h h')),
        if_neg (fun e => List.lt_irrefl _ (e ▸ h))]) x l

theorem mapAdd_eq' (m : List (Nat × Nat)) (k v : Nat) : mapAdd m k v = ins m (k, v) :=
  insert_eq_kmerge (key := Prod.fst) (comb := addKV) natStrictTotal (fun e m => mapAdd m e.1 e.2) (fun _ => rfl)
    (fun x y ys (h : x.1 < y.1) => by simp only [mapAdd, if_pos h])
    (fun x y ys (h : x.1 = y.1) => by
      simp only [mapAdd, addKV, h, Nat.lt_irrefl, if_false, if_true])
    (fun x y ys (h : y.1 < x.1) => by simp only [mapAdd, if_neg (Nat.lt_asymm h), if_neg (Nat.ne_of_gt h)]) (k, v) m
end PV.C17
