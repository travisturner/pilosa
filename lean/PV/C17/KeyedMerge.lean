/-
A generic *keyed merge* of two key-ascending lists and its theory.
Every list-valued reducer of the executor is an instance (see MergeInstances.lean):

  RowIDs.merge            elements = row ids,      key = id,            equal keys: keep one
  Row.Merge               elements = segments,     key = shard,         equal keys: rowSegment.Merge
  rowSegment.Merge        elements = columns,      key = id
  mergeGroupCounts        elements = GroupCount,   key = group row ids, equal keys: add counts
  Pairs.Add (as a map)    elements = (id, count),  key = id,            equal keys: add counts

A key-ascending list is a canonical representation of a finite map key -> element (`look`), the
merge is the pointwise combination (`look_kmerge`), two ascending lists with the same `look` are
equal (`ext`), hence the merge inherits commutativity / associativity from the combination
(`kmerge_laws`), and truncation to the first `lim` entries commutes with merging
(`take_kmerge_congr`).
-/
import PV.C17.Props0
namespace PV.C17.K
open List
-- both instance arguments are part of every statement of the section, needed or not
set_option linter.unusedSectionVars false

structure StrictTotal (κ : Type) [LT κ] : Prop where
  irrefl : ∀ a : κ, ¬ a < a
  trans : ∀ a b c : κ, a < b → b < c → a < c
  tri : ∀ a b : κ, a < b ∨ a = b ∨ b < a

theorem StrictTotal.eq_of_not_lt {κ : Type} [LT κ] (ord : StrictTotal κ) {a b : κ} (h1 : ¬ a < b)
    (h2 : ¬ b < a) : a = b :=
  ((ord.tri a b).resolve_left h1).resolve_right h2

theorem natStrictTotal : StrictTotal Nat where
  irrefl := fun a => Nat.lt_irrefl a
  trans := fun _ _ _ => Nat.lt_trans
  tri := fun a b => by omega

section
variable {α κ : Type} [LT κ] [DecidableLT κ] [DecidableEq κ]

/-- Merge of two key-ascending lists; elements with equal keys are combined. -/
def kmerge (key : α → κ) (comb : α → α → α) : List α → List α → List α
  | [], b => b
  | a, [] => a
  | x :: as, y :: bs =>
    if key x < key y then x :: kmerge key comb as (y :: bs)
    else if key y < key x then y :: kmerge key comb (x :: as) bs
    else comb x y :: kmerge key comb as bs
termination_by a b => a.length + b.length

def SortedK (key : α → κ) (l : List α) : Prop := (l.map key).Pairwise (· < ·)

/-- The element stored under key `k`. -/
def look (key : α → κ) (k : κ) : List α → Option α
  | [] => none
  | x :: xs => if key x = k then some x else look key k xs

/-- Pointwise combination of two optional elements. -/
def oc (comb : α → α → α) : Option α → Option α → Option α
  | some x, some y => some (comb x y)
  | some x, none => some x
  | none, y => y

/-- What the combination of two elements with the same key must satisfy (on valid elements). -/
structure CombLaws (key : α → κ) (comb : α → α → α) (DV : α → Prop) : Prop where
  key_comb : ∀ x y, key x = key y → key (comb x y) = key x
  closed : ∀ x y, DV x → DV y → key x = key y → DV (comb x y)
  comm : ∀ x y, DV x → DV y → key x = key y → comb x y = comb y x
  assoc : ∀ x y z, DV x → DV y → DV z → key x = key y → key y = key z →
    comb (comb x y) z = comb x (comb y z)

variable {key : α → κ} {comb : α → α → α}

@[simp] theorem kmerge_nil_left (b : List α) : kmerge key comb [] b = b := by
  rw [kmerge]

@[simp] theorem kmerge_nil_right (a : List α) : kmerge key comb a [] = a := by
  cases a <;> rw [kmerge]
  intro h; cases h

theorem sortedK_cons {x : α} {l : List α} :
    SortedK key (x :: l) ↔ (∀ z ∈ l, key x < key z) ∧ SortedK key l := by
  unfold SortedK
  simp only [map_cons, pairwise_cons, mem_map, forall_exists_index, and_imp]
  constructor
  · rintro ⟨h1, h2⟩; exact ⟨fun z hz => h1 _ z hz rfl, h2⟩
  · rintro ⟨h1, h2⟩; exact ⟨fun k z hz hk => hk ▸ h1 z hz, h2⟩

theorem lt_of_lt_head (ord : StrictTotal κ) {k : κ} {y : α} {bs : List α} (hs : SortedK key (y :: bs))
    (h : k < key y) : ∀ z ∈ y :: bs, k < key z :=
  forall_mem_cons.mpr ⟨h, fun z hz => ord.trans _ _ _ h ((sortedK_cons.mp hs).1 z hz)⟩

theorem sortedK_nil : SortedK key ([] : List α) := by simp [SortedK]

theorem sortedK_take {l : List α} (n : Nat) (h : SortedK key l) : SortedK key (l.take n) := by
  unfold SortedK at *
  rw [map_take]
  exact h.sublist (take_sublist _ _)

theorem forall_mem_kmerge (ord : StrictTotal κ) {P : α → Prop} (a b : List α) (ha : ∀ x ∈ a, P x)
    (hb : ∀ y ∈ b, P y) (hc : ∀ x ∈ a, ∀ y ∈ b, key x = key y → P (comb x y)) :
    ∀ z ∈ kmerge key comb a b, P z := by
  fun_induction kmerge key comb a b with
  | case1 b => exact hb
  | case2 a _ => exact ha
  | case3 x as y bs hlt ih =>
    obtain ⟨hx, has⟩ := forall_mem_cons.mp ha
    exact forall_mem_cons.mpr ⟨hx, ih has hb (fun x' hx' => hc x' (mem_cons_of_mem _ hx'))⟩
  | case4 x as y bs h1 h2 ih =>
    obtain ⟨hy, hbs⟩ := forall_mem_cons.mp hb
    exact forall_mem_cons.mpr ⟨hy, ih ha hbs (fun x' hx' y' hy' => hc x' hx' y' (mem_cons_of_mem _ hy'))⟩
  | case5 x as y bs h1 h2 ih =>
    obtain ⟨hx, has⟩ := forall_mem_cons.mp ha
    obtain ⟨hy, hbs⟩ := forall_mem_cons.mp hb
    exact forall_mem_cons.mpr ⟨hc x mem_cons_self y mem_cons_self (ord.eq_of_not_lt h1 h2),
      ih has hbs (fun x' hx' y' hy' => hc x' (mem_cons_of_mem _ hx') y' (mem_cons_of_mem _ hy'))⟩

theorem lt_kmerge (ord : StrictTotal κ) (hk : ∀ x y, key x = key y → key (comb x y) = key x) {k : κ}
    {a b : List α} (ha : ∀ x ∈ a, k < key x) (hb : ∀ y ∈ b, k < key y) :
    ∀ z ∈ kmerge key comb a b, k < key z :=
  forall_mem_kmerge ord a b ha hb (fun x hx y _ e => hk x y e ▸ ha x hx)

theorem kmerge_sorted (ord : StrictTotal κ) (hk : ∀ x y, key x = key y → key (comb x y) = key x)
    (a b : List α) : SortedK key a → SortedK key b → SortedK key (kmerge key comb a b) := by
  fun_induction kmerge key comb a b with
  | case1 b => intro _ h; exact h
  | case2 a _ => intro h _; exact h
  | case3 x as y bs hlt ih =>
    intro ha hb
    have ha' := sortedK_cons.mp ha
    exact sortedK_cons.mpr ⟨lt_kmerge ord hk ha'.1 (lt_of_lt_head ord hb hlt), ih ha'.2 hb⟩
  | case4 x as y bs h1 h2 ih =>
    intro ha hb
    have hb' := sortedK_cons.mp hb
    exact sortedK_cons.mpr ⟨lt_kmerge ord hk (lt_of_lt_head ord ha h2) hb'.1, ih ha hb'.2⟩
  | case5 x as y bs h1 h2 ih =>
    intro ha hb
    have hxy : key x = key y := ord.eq_of_not_lt h1 h2
    have ha' := sortedK_cons.mp ha
    have hb' := sortedK_cons.mp hb
    rw [sortedK_cons, hk x y hxy]
    exact ⟨lt_kmerge ord hk ha'.1 (hxy ▸ hb'.1), ih ha'.2 hb'.2⟩

theorem length_kmerge_le (a b : List α) : (kmerge key comb a b).length ≤ a.length + b.length := by
  fun_induction kmerge key comb a b with
  | case1 b => simp
  | case2 a _ => simp
  | case3 x as y bs hlt ih => simp only [length_cons] at *; omega
  | case4 x as y bs h1 h2 ih => simp only [length_cons] at *; omega
  | case5 x as y bs h1 h2 ih => simp only [length_cons] at *; omega

theorem look_cons (k : κ) (x : α) (xs : List α) :
    look key k (x :: xs) = if key x = k then some x else look key k xs := rfl

theorem look_none {k : κ} {l : List α} (h : ∀ z ∈ l, key z ≠ k) : look key k l = none := by
  induction l with
  | nil => rfl
  | cons x xs ih =>
    simp only [look]
    rw [if_neg (h x (by simp))]
    exact ih (fun z hz => h z (by simp [hz]))

theorem look_some {k : κ} {l : List α} {v : α} (h : look key k l = some v) : v ∈ l ∧ key v = k := by
  induction l with
  | nil => simp [look] at h
  | cons x xs ih =>
    simp only [look] at h
    split at h
    · rename_i e; cases h; exact ⟨by simp, e⟩
    · have := ih h; exact ⟨by simp [this.1], this.2⟩

theorem look_of_mem (ord : StrictTotal κ) {l : List α} (hs : SortedK key l) {v : α} (hv : v ∈ l) :
    look key (key v) l = some v := by
  induction l with
  | nil => cases hv
  | cons x xs ih =>
    have hs' := sortedK_cons.mp hs
    simp only [look]
    rcases mem_cons.mp hv with rfl | hv
    · simp
    · have := hs'.1 v hv
      have hne : key x ≠ key v := fun e => ord.irrefl _ (e ▸ this)
      rw [if_neg hne]
      exact ih hs'.2 hv

theorem look_eq_none_of_lt (ord : StrictTotal κ) {k : κ} {l : List α} (h : ∀ z ∈ l, k < key z) :
    look key k l = none :=
  look_none (fun z hz e => ord.irrefl _ (e ▸ h z hz))

theorem look_kmerge (ord : StrictTotal κ) (hk : ∀ x y, key x = key y → key (comb x y) = key x)
    (k : κ) (a b : List α) : SortedK key a → SortedK key b →
    look key k (kmerge key comb a b) = oc comb (look key k a) (look key k b) := by
  fun_induction kmerge key comb a b with
  | case1 b => intro _ _; rfl
  | case2 a _ => intro _ _; cases look key k a <;> rfl
  | case3 x as y bs hlt ih =>
    intro ha hb
    rw [look_cons, look_cons, ih (sortedK_cons.mp ha).2 hb]
    split
    · rename_i e
      rw [look_eq_none_of_lt ord (e ▸ lt_of_lt_head ord hb hlt)]; rfl
    · rfl
  | case4 x as y bs h1 h2 ih =>
    intro ha hb
    rw [look_cons, look_cons k y, ih ha (sortedK_cons.mp hb).2]
    split
    · rename_i e
      rw [look_eq_none_of_lt ord (e ▸ lt_of_lt_head ord ha h2)]; rfl
    · rfl
  | case5 x as y bs h1 h2 ih =>
    intro ha hb
    have hxy : key x = key y := ord.eq_of_not_lt h1 h2
    rw [look_cons, look_cons k x, look_cons k y, hk x y hxy, ← hxy,
      ih (sortedK_cons.mp ha).2 (sortedK_cons.mp hb).2]
    split <;> rfl

theorem isSome_look_iff (ord : StrictTotal κ) {l : List α} (hs : SortedK key l) (k : κ) :
    (look key k l).isSome ↔ k ∈ l.map key := by
  constructor
  · intro h
    cases h' : look key k l with
    | none => rw [h'] at h; cases h
    | some s => exact mem_map.mpr ⟨s, look_some h'⟩
  · intro h
    obtain ⟨s, hs', rfl⟩ := mem_map.mp h
    rw [look_of_mem ord hs hs']; rfl

theorem mem_keys_kmerge (ord : StrictTotal κ) (hk : ∀ x y, key x = key y → key (comb x y) = key x)
    {a b : List α} (ha : SortedK key a) (hb : SortedK key b) (k : κ) :
    k ∈ (kmerge key comb a b).map key ↔ k ∈ a.map key ∨ k ∈ b.map key := by
  rw [← isSome_look_iff ord (kmerge_sorted ord hk a b ha hb), ← isSome_look_iff ord ha,
    ← isSome_look_iff ord hb, look_kmerge ord hk k a b ha hb]
  cases look key k a <;> cases look key k b <;> simp [oc]

/-- Two key-ascending lists holding the same element under every key are equal. -/
theorem ext (ord : StrictTotal κ) (a b : List α) (ha : SortedK key a) (hb : SortedK key b)
    (h : ∀ k, look key k a = look key k b) : a = b := by
  induction a generalizing b with
  | nil =>
    cases b with
    | nil => rfl
    | cons y bs => have := h (key y); simp [look] at this
  | cons x as ih =>
    cases b with
    | nil => have := h (key x); simp [look] at this
    | cons y bs =>
      have ha' := sortedK_cons.mp ha
      have hb' := sortedK_cons.mp hb
      -- each head occurs in the other list; were it in the tail, the heads would be below each other
      have hx : x ∈ y :: bs := (look_some (by rw [← h, look_cons, if_pos rfl])).1
      have hy : y ∈ x :: as := (look_some (by rw [h, look_cons, if_pos rfl])).1
      have e : x = y := by
        rcases mem_cons.mp hx with e | hx
        · exact e
        · rcases mem_cons.mp hy with e | hy
          · exact e.symm
          · exact absurd (ord.trans _ _ _ (hb'.1 x hx) (ha'.1 y hy)) (ord.irrefl _)
      subst e
      congr 1
      apply ih bs ha'.2 hb'.2
      intro k
      have hk := h k
      rw [look_cons, look_cons] at hk
      split at hk
      · rename_i e
        rw [look_eq_none_of_lt ord (e ▸ ha'.1), look_eq_none_of_lt ord (e ▸ hb'.1)]
      · exact hk

/-- Domain of the merge: key-ascending lists of valid elements. -/
def DL (key : α → κ) (DV : α → Prop) (l : List α) : Prop := SortedK key l ∧ ∀ x ∈ l, DV x

theorem DL_nil {DV : α → Prop} : DL key DV [] := ⟨sortedK_nil, fun _ h => nomatch h⟩

theorem kmerge_laws (ord : StrictTotal κ) {DV : α → Prop} (C : CombLaws key comb DV) :
    Laws (DL key DV) (kmerge key comb) [] where
  closed := by
    intro a b ⟨sa, va⟩ ⟨sb, vb⟩
    exact ⟨kmerge_sorted ord C.key_comb a b sa sb,
      forall_mem_kmerge ord a b va vb (fun x hx y hy => C.closed x y (va x hx) (vb y hy))⟩
  dnil := DL_nil
  comm := by
    intro a b ⟨sa, va⟩ ⟨sb, vb⟩
    apply ext ord _ _ (kmerge_sorted ord C.key_comb a b sa sb) (kmerge_sorted ord C.key_comb b a sb sa)
    intro k
    rw [look_kmerge ord C.key_comb k a b sa sb, look_kmerge ord C.key_comb k b a sb sa]
    cases h1 : look key k a <;> cases h2 : look key k b <;> simp only [oc]
    have := look_some h1; have := look_some h2
    rw [C.comm _ _ (va _ ‹_ ∧ _›.1) (vb _ ‹_ ∧ _›.1) (by simp [*])]
  assoc := by
    intro a b c ⟨sa, va⟩ ⟨sb, vb⟩ ⟨sc, vc⟩
    have sab := kmerge_sorted ord C.key_comb a b sa sb
    have sbc := kmerge_sorted ord C.key_comb b c sb sc
    apply ext ord _ _ (kmerge_sorted ord C.key_comb _ c sab sc) (kmerge_sorted ord C.key_comb a _ sa sbc)
    intro k
    rw [look_kmerge ord C.key_comb k _ c sab sc, look_kmerge ord C.key_comb k a b sa sb,
      look_kmerge ord C.key_comb k a _ sa sbc, look_kmerge ord C.key_comb k b c sb sc]
    cases h1 : look key k a <;> cases h2 : look key k b <;> cases h3 : look key k c <;>
      simp only [oc]
    have e1 := look_some h1; have e2 := look_some h2; have e3 := look_some h3
    rw [C.assoc _ _ _ (va _ e1.1) (vb _ e2.1) (vc _ e3.1) (e1.2.trans e2.2.symm) (e2.2.trans e3.2.symm)]
  idl := by intro a _; simp

/-- The form the induction needs (a step consumes an entry of one operand or of both); use `take_kmerge_congr`. -/
theorem take_kmerge_take (a b : List α) : ∀ (n i j : Nat),
    (kmerge key comb (a.take (n + i)) (b.take (n + j))).take n = (kmerge key comb a b).take n := by
  fun_induction kmerge key comb a b with
  | case1 b =>
    intro n i j
    rw [take_nil, kmerge_nil_left, take_take, Nat.min_eq_left (Nat.le_add_right n j)]
  | case2 a _ =>
    intro n i j
    rw [take_nil, kmerge_nil_right, take_take, Nat.min_eq_left (Nat.le_add_right n i)]
  | case3 x as y bs hlt ih =>
    intro n i j
    cases n with
    | zero => rfl
    | succ n =>
      have := ih n i (j + 1)
      rw [show n + (j + 1) = n + j + 1 from rfl, take_succ_cons] at this
      rw [Nat.add_right_comm n 1 i, Nat.add_right_comm n 1 j, take_succ_cons, take_succ_cons, kmerge,
        if_pos hlt, take_succ_cons, take_succ_cons, this]
  | case4 x as y bs h1 h2 ih =>
    intro n i j
    cases n with
    | zero => rfl
    | succ n =>
      have := ih n (i + 1) j
      rw [show n + (i + 1) = n + i + 1 from rfl, take_succ_cons] at this
      rw [Nat.add_right_comm n 1 i, Nat.add_right_comm n 1 j, take_succ_cons, take_succ_cons, kmerge,
        if_neg h1, if_pos h2, take_succ_cons, take_succ_cons, this]
  | case5 x as y bs h1 h2 ih =>
    intro n i j
    cases n with
    | zero => rfl
    | succ n =>
      rw [Nat.add_right_comm n 1 i, Nat.add_right_comm n 1 j, take_succ_cons, take_succ_cons, kmerge,
        if_neg h1, if_neg h2, take_succ_cons, take_succ_cons, ih n i j]

theorem take_kmerge_congr (n : Nat) {a a' b b' : List α} (ha : a.take n = a'.take n)
    (hb : b.take n = b'.take n) :
    (kmerge key comb a b).take n = (kmerge key comb a' b').take n := by
  have h := take_kmerge_take (key := key) (comb := comb) a b n 0 0
  have h' := take_kmerge_take (key := key) (comb := comb) a' b' n 0 0
  rw [Nat.add_zero] at h h'
  rw [← h, ha, hb, h']

theorem take_kmerge_take_left (a b : List α) : ∀ (n m : Nat), n ≤ m →
    (kmerge key comb (a.take m) b).take n = (kmerge key comb a b).take n :=
  fun n m h => take_kmerge_congr n (by rw [take_take, Nat.min_eq_left h]) rfl

theorem take_kmerge_take_right (a b : List α) : ∀ (n m : Nat), n ≤ m →
    (kmerge key comb a (b.take m)).take n = (kmerge key comb a b).take n :=
  fun n m h => take_kmerge_congr n rfl (by rw [take_take, Nat.min_eq_left h])

/-- Merge-with-limit: what `RowIDs.merge` / `mergeGroupCounts` compute. -/
def kmergeLim (key : α → κ) (comb : α → α → α) (lim : Nat) (a b : List α) : List α :=
  (kmerge key comb a b).take lim

/-- `P`: the elements on which the loop's comparison is that of the keys. -/
theorem fuelMerge_eq {P : α → Prop} (F : Nat → List α → List α → Nat → List α)
    (h0 : ∀ fuel a b, F (fuel + 1) a b 0 = [])
    (hl : ∀ fuel b lim, F (fuel + 1) [] b (lim + 1) = b.take (lim + 1))
    (hr : ∀ fuel x as lim, F (fuel + 1) (x :: as) [] (lim + 1) = (x :: as).take (lim + 1))
    (hc : ∀ fuel x as y bs lim, P x → P y → F (fuel + 1) (x :: as) (y :: bs) (lim + 1) =
      if key x < key y then x :: F fuel as (y :: bs) lim
      else if key y < key x then y :: F fuel (x :: as) bs lim
      else comb x y :: F fuel as bs lim) :
    ∀ fuel a b lim, (∀ x ∈ a, P x) → (∀ y ∈ b, P y) → a.length + b.length < fuel →
      F fuel a b lim = (kmerge key comb a b).take lim := by
  intro fuel
  induction fuel with
  | zero => intro a b lim _ _ h; exact absurd h (Nat.not_lt_zero _)
  | succ fuel ih =>
    intro a b lim ha hb h
    cases lim with
    | zero => exact h0 fuel a b
    | succ lim =>
      cases a with
      | nil => rw [kmerge_nil_left]; exact hl fuel b lim
      | cons x as =>
        cases b with
        | nil => rw [kmerge_nil_right]; exact hr fuel x as lim
        | cons y bs =>
          obtain ⟨hx, has⟩ := forall_mem_cons.mp ha
          obtain ⟨hy, hbs⟩ := forall_mem_cons.mp hb
          have h' : as.length + bs.length + 1 < fuel := by simp only [length_cons] at h; omega
          rw [hc fuel x as y bs lim hx hy, kmerge]
          split
          · rw [take_succ_cons, ih as (y :: bs) lim has hb h']
          · split
            · rw [take_succ_cons, ih (x :: as) bs lim ha hbs (by rw [length_cons, Nat.add_right_comm]; exact h')]
            · rw [take_succ_cons, ih as bs lim has hbs (Nat.lt_of_succ_lt h')]

/-- `u i`: a shard's truncated list, `v i`: its full list. -/
theorem foldl_kmergeLim (lim : Nat) {ι : Type} (l : List ι) (u v : ι → List α)
    (h : ∀ i ∈ l, (u i).take lim = (v i).take lim) (A A' : List α)
    (hA : A.take lim = A'.take lim) :
    ((l.map u).foldl (kmergeLim key comb lim) A).take lim
      = ((l.map v).foldl (kmerge key comb) A').take lim := by
  induction l generalizing A A' with
  | nil => simpa
  | cons i l ih =>
    simp only [map_cons, foldl_cons]
    apply ih (fun j hj => h j (by simp [hj]))
    rw [kmergeLim, take_take, Nat.min_self]
    exact take_kmerge_congr lim hA (h i (by simp))

theorem length_foldl_kmergeLim (lim : Nat) (l : List (List α)) (A : List α) (hA : A.length ≤ lim) :
    (l.foldl (kmergeLim key comb lim) A).length ≤ lim := by
  induction l generalizing A with
  | nil => simpa
  | cons x xs ih =>
    simp only [foldl_cons]
    apply ih
    simp [kmergeLim, length_take]; omega

/-- Map-reduce with the limited merge over (possibly truncated) shard results `u i` equals the
first `lim` entries of the unlimited map-reduce over the full shard results `v i`. -/
theorem mapReduce_kmergeLim (lim : Nat) {ι : Type} (groups : List (List ι)) (u v : ι → List α)
    (h : ∀ g ∈ groups, ∀ i ∈ g, (u i).take lim = (v i).take lim) :
    mapReduce (kmergeLim key comb lim) [] (groups.map (·.map u))
      = (mapReduce (kmerge key comb) [] (groups.map (·.map v))).take lim := by
  unfold mapReduce reduceAll
  have hlen := length_foldl_kmergeLim (key := key) (comb := comb) lim
    ((groups.map (·.map u)).map (fun g => g.foldl (kmergeLim key comb lim) [])) [] (by simp)
  rw [← take_of_length_le hlen]
  simp only [map_map]
  have hg : ∀ g ∈ groups, ((g.map u).foldl (kmergeLim key comb lim) []).take lim
      = ((g.map v).foldl (kmerge key comb) []).take lim :=
    fun g hg => foldl_kmergeLim lim g u v (h g hg) [] [] rfl
  simpa [Function.comp_def] using foldl_kmergeLim lim groups _ _ hg [] [] rfl

/-! ### Inserting elements one by one = merging with singletons -/

theorem DL_singleton {DV : α → Prop} {x : α} (h : DV x) : DL key DV [x] :=
  ⟨by simp [SortedK], by simpa⟩

theorem DL_singletons {DV : α → Prop} {l : List α} (hl : ∀ e ∈ l, DV e) :
    ∀ y ∈ l.map (fun x => [x]), DL key DV y := by
  intro y hy
  obtain ⟨x, hx, rfl⟩ := mem_map.mp hy
  exact DL_singleton (hl x hx)

theorem DL_foldl_insert (ord : StrictTotal κ) {DV : α → Prop} (C : CombLaws key comb DV)
    (A l : List α) (hA : DL key DV A) (hl : ∀ e ∈ l, DV e) :
    DL key DV (l.foldl (fun acc e => kmerge key comb acc [e]) A) := by
  rw [← foldl_map (f := fun x => [x]) (g := kmerge key comb)]
  exact foldl_closed (kmerge_laws ord C) _ A hA (DL_singletons hl)

theorem foldl_insert_acc (ord : StrictTotal κ) {DV : α → Prop} (C : CombLaws key comb DV)
    (A l : List α) (hA : DL key DV A) (hl : ∀ e ∈ l, DV e) :
    l.foldl (fun acc e => kmerge key comb acc [e]) A
      = kmerge key comb A (l.foldl (fun acc e => kmerge key comb acc [e]) []) := by
  rw [← foldl_map (f := fun x => [x]) (g := kmerge key comb), ← foldl_map (f := fun x => [x]) (g := kmerge key comb),
    foldl_acc (kmerge_laws ord C) _ A hA (DL_singletons hl)]

theorem kmerge_singleton_cons (x : α) (l : List α) (h : SortedK key (x :: l)) :
    kmerge key comb [x] l = x :: l := by
  cases l with
  | nil => simp
  | cons y ys =>
    have := (sortedK_cons.mp h).1 y (by simp)
    rw [kmerge, if_pos this]; simp

theorem foldl_insert_sorted (ord : StrictTotal κ) {DV : α → Prop} (C : CombLaws key comb DV)
    (l : List α) (hl : DL key DV l) : l.foldl (fun acc e => kmerge key comb acc [e]) [] = l := by
  induction l with
  | nil => rfl
  | cons x xs ih =>
    obtain ⟨hx, hxs⟩ := forall_mem_cons.mp hl.2
    rw [foldl_cons, kmerge_nil_left,
      foldl_insert_acc ord C [x] xs (DL_singleton hx) hxs,
      ih ⟨(sortedK_cons.mp hl.1).2, hxs⟩, kmerge_singleton_cons x xs hl.1]

theorem foldl_insert_eq_kmerge (ord : StrictTotal κ) {DV : α → Prop} (C : CombLaws key comb DV)
    (A l : List α) (hA : DL key DV A) (hl : DL key DV l) :
    l.foldl (fun acc e => kmerge key comb acc [e]) A = kmerge key comb A l := by
  rw [foldl_insert_acc ord C A l hA hl.2, foldl_insert_sorted ord C l hl]

theorem foldl_insert_flatten (ord : StrictTotal κ) {DV : α → Prop} (C : CombLaws key comb DV)
    (L : List (List α)) (hL : ∀ l ∈ L, DL key DV l) :
    L.flatten.foldl (fun acc e => kmerge key comb acc [e]) [] = reduceAll (kmerge key comb) [] L := by
  have hnil : DL key DV ([] : List α) := (kmerge_laws ord C).dnil
  unfold reduceAll
  suffices H : ∀ A, DL key DV A →
      L.flatten.foldl (fun acc e => kmerge key comb acc [e]) A = L.foldl (kmerge key comb) A from H [] hnil
  induction L with
  | nil => intro A _; rfl
  | cons l L ih =>
    intro A hA
    have hl := hL l (by simp)
    rw [flatten_cons, foldl_append, foldl_cons, foldl_insert_eq_kmerge ord C A l hA hl]
    exact ih (fun l' h' => hL l' (by simp [h'])) _ ((kmerge_laws ord C).closed A l hA hl)

theorem foldl_insert_perm (ord : StrictTotal κ) {DV : α → Prop} (C : CombLaws key comb DV)
    {l l' : List α} (p : l.Perm l') (hl : ∀ e ∈ l, DV e) (A : List α) (hA : DL key DV A) :
    l.foldl (fun acc e => kmerge key comb acc [e]) A = l'.foldl (fun acc e => kmerge key comb acc [e]) A := by
  rw [foldl_insert_acc ord C A l hA hl, foldl_insert_acc ord C A l' hA (fun e he => hl e (p.mem_iff.mpr he)),
    ← foldl_map (f := fun x => [x]) (g := kmerge key comb), ← foldl_map (f := fun x => [x]) (g := kmerge key comb)]
  exact congrArg _ (C17_fold_perm (kmerge_laws ord C) (p.map (fun x => [x])) (DL_singletons hl))

theorem mapReduce_kmergeLim_flatten (ord : StrictTotal κ) {DV : α → Prop} (C : CombLaws key comb DV)
    (lim : Nat) (groups : List (List (List α))) (t : List α → List α)
    (ht : ∀ l, (t l).take lim = l.take lim) (hd : ∀ g ∈ groups, ∀ l ∈ g, DL key DV l) :
    mapReduce (kmergeLim key comb lim) [] (groups.map (·.map t))
      = (groups.flatten.flatten.foldl (fun acc e => kmerge key comb acc [e]) []).take lim := by
  rw [mapReduce_kmergeLim lim groups t id (fun _ _ l _ => ht l),
    foldl_insert_flatten ord C _ (forall_mem_flatten.mpr hd), ← C17_group (kmerge_laws ord C) groups hd]
  simp

end

end PV.C17.K
