/-
The list-valued reducers of the model are instances of the generic keyed
merge of KeyedMerge.lean.
-/
import PV.C17.KeyedMerge
namespace PV.C17
open List K

/-! ### Ascending duplicate-free lists of naturals (row ids, columns) -/

/-- `RowIDs.merge` keeps `bv` on equal ids. -/
def keepB (_ b : Nat) : Nat := b

abbrev nmerge := kmerge (α := Nat) id keepB

theorem keepB_laws : CombLaws (α := Nat) id keepB (fun _ => True) where
  key_comb := by intro x y h; simp only [id] at h; simp [keepB, h]
  closed := fun _ _ _ _ _ => trivial
  comm := by intro x y _ _ h; simp only [id] at h; simp [keepB, h]
  assoc := by intro x y z _ _ _ _ _; rfl

def Asc (l : List Nat) : Prop := l.Pairwise (· < ·)

theorem asc_iff_sortedK (l : List Nat) : Asc l ↔ SortedK (α := Nat) id l := by
  simp [Asc, SortedK]

theorem asc_DL (l : List Nat) : Asc l ↔ DL (α := Nat) id (fun _ => True) l := by
  simp [DL, asc_iff_sortedK]

theorem nmerge_laws : Laws Asc nmerge [] := by
  have := kmerge_laws natStrictTotal keepB_laws
  have e : Asc = DL (α := Nat) id (fun _ => True) := funext (fun l => propext (asc_DL l))
  rw [e]; exact this

theorem rowIDsMergeAux_eq (a b : List Nat) (fuel lim : Nat) (h : a.length + b.length < fuel) :
    rowIDsMergeAux fuel a b lim = (nmerge a b).take lim :=
  fuelMerge_eq (P := fun _ => True) rowIDsMergeAux (fun _ a b => by cases a <;> cases b <;> rfl)
    (fun _ b _ => by cases b <;> rfl) (fun _ _ _ _ => rfl) (fun _ _ _ _ _ _ _ _ => rfl)
    fuel a b lim (fun _ _ => trivial) (fun _ _ => trivial) h

theorem rowIDsMerge_eq (lim : Nat) (a b : List Nat) :
    rowIDsMerge a b lim = kmergeLim (α := Nat) id keepB lim a b := by
  unfold rowIDsMerge kmergeLim
  exact rowIDsMergeAux_eq a b _ lim (Nat.lt_succ_self _)

/-- Ascending insertion is the merge with a singleton. -/
theorem insertAsc_eq (x : Nat) (l : List Nat) : Spec.insertAsc x l = nmerge l [x] := by
  unfold nmerge
  induction l with
  | nil => simp [Spec.insertAsc]
  | cons y ys ih =>
    rw [kmerge]
    simp only [Spec.insertAsc, id]
    by_cases h1 : x < y
    · have : ¬ y < x := by omega
      simp [h1, this]
    · by_cases h2 : x = y
      · subst h2; simp [keepB]
      · have : y < x := by omega
        simp [h1, h2, this, ih]

theorem insertCol_eq (x : Nat) (l : List Nat) : insertCol x l = nmerge l [x] := by
  rw [← insertAsc_eq]
  induction l with
  | nil => rfl
  | cons y ys ih => simp only [insertCol, Spec.insertAsc, ih]

theorem mem_insertCol (x y : Nat) (l : List Nat) : y ∈ insertCol x l ↔ y = x ∨ y ∈ l := by
  induction l with
  | nil => simp [insertCol]
  | cons z zs ih =>
    simp only [insertCol]
    split
    · exact mem_cons
    · split
      · rename_i h; subst h; simp
      · rw [mem_cons, ih, mem_cons]; exact or_left_comm

theorem mem_nmerge {a b : List Nat} (ha : Asc a) (hb : Asc b) (c : Nat) :
    c ∈ nmerge a b ↔ c ∈ a ∨ c ∈ b := by
  simpa using mem_keys_kmerge (key := id) (comb := keepB) natStrictTotal keepB_laws.key_comb
    ((asc_iff_sortedK a).mp ha) ((asc_iff_sortedK b).mp hb) c

theorem spec_rowIDs_eq (lim : Nat) (l : List (List Nat)) :
    Spec.rowIDs lim l = (l.flatten.foldl (fun acc e => nmerge acc [e]) []).take lim := by
  unfold Spec.rowIDs
  rw [show (fun (acc : List Nat) x => Spec.insertAsc x acc) = fun acc e => nmerge acc [e] from
    funext fun acc => funext fun x => insertAsc_eq x acc]

/-! ### Row.Merge -/

def SegValid (s : Seg) : Prop := Asc s.cols

/-- Well-formed row: segments strictly ascending by shard, each segment's columns strictly
ascending. -/
def RowWF (r : List Seg) : Prop := DL Seg.shard SegValid r

theorem segMerge_eq (s o : Seg) (hs : SegValid s) (ho : SegValid o) :
    segMerge s o = ⟨s.shard, nmerge s.cols o.cols⟩ := by
  unfold segMerge
  congr 1
  have h1 : (fun acc v => insertCol v acc) = (fun (acc : List Nat) v => nmerge acc [v]) := by
    funext acc v; exact insertCol_eq v acc
  rw [h1]
  exact foldl_insert_eq_kmerge natStrictTotal keepB_laws s.cols o.cols ((asc_DL _).mp hs) ((asc_DL _).mp ho)

theorem segMerge_laws : CombLaws Seg.shard segMerge SegValid where
  key_comb := fun _ _ _ => rfl
  closed := by
    intro x y hx hy _
    rw [segMerge_eq x y hx hy]
    exact nmerge_laws.closed _ _ hx hy
  comm := by
    intro x y hx hy h
    rw [segMerge_eq x y hx hy, segMerge_eq y x hy hx, nmerge_laws.comm _ _ hx hy, h]
  assoc := by
    intro x y z hx hy hz _ _
    have hxy : SegValid (segMerge x y) := by
      rw [segMerge_eq x y hx hy]; exact nmerge_laws.closed _ _ hx hy
    have hyz : SegValid (segMerge y z) := by
      rw [segMerge_eq y z hy hz]; exact nmerge_laws.closed _ _ hy hz
    rw [segMerge_eq _ z hxy hz, segMerge_eq x _ hx hyz, segMerge_eq x y hx hy, segMerge_eq y z hy hz]
    simp only
    rw [nmerge_laws.assoc _ _ _ hx hy hz]

abbrev smerge := kmerge Seg.shard segMerge

/-- Not an instance of `fuelMerge_eq`: no limit, and fuel is spent also when one row is exhausted. -/
theorem rowMergeLoop_eq : ∀ (fuel : Nat) (a b : List Seg), a.length + b.length < fuel →
    rowMergeLoop fuel a b = smerge a b := by
  unfold smerge
  intro fuel
  induction fuel with
  | zero => intro a b h; exact absurd h (Nat.not_lt_zero _)
  | succ fuel ih =>
    intro a b h
    cases a with
    | nil =>
      cases b with
      | nil => rw [kmerge_nil_left]; rfl
      | cons y bs =>
        have := ih [] bs (Nat.lt_of_succ_lt_succ h)
        rw [kmerge_nil_left] at this ⊢
        simp only [rowMergeLoop, mergeSegNext, this]
    | cons x as =>
      cases b with
      | nil =>
        have := ih as [] (Nat.lt_of_succ_lt_succ h)
        rw [kmerge_nil_right] at this ⊢
        simp only [rowMergeLoop, mergeSegNext, this]
      | cons y bs =>
        have h' : as.length + bs.length + 1 < fuel := by simp only [length_cons] at h; omega
        rw [kmerge]
        by_cases h1 : x.shard < y.shard
        · simp only [rowMergeLoop, mergeSegNext, if_pos h1]
          rw [ih as (y :: bs) h']
        · by_cases h2 : y.shard < x.shard
          · simp only [rowMergeLoop, mergeSegNext, if_neg h1, gt_iff_lt, if_pos h2]
            rw [ih (x :: as) bs (by rw [length_cons, Nat.add_right_comm]; exact h')]
          · simp only [rowMergeLoop, mergeSegNext, if_neg h1, gt_iff_lt, if_neg h2]
            rw [ih as bs (Nat.lt_of_succ_lt h')]

theorem rowMerge_eq : rowMerge = smerge := by
  funext a b
  exact rowMergeLoop_eq _ a b (Nat.lt_succ_self _)

theorem rowMerge_laws : Laws RowWF rowMerge [] := by
  rw [rowMerge_eq]
  exact kmerge_laws natStrictTotal segMerge_laws

theorem mem_rowBits_iff {r : List Seg} (hr : RowWF r) (sh c : Nat) :
    (sh, c) ∈ rowBits r ↔ ∃ s, look Seg.shard sh r = some s ∧ c ∈ s.cols := by
  unfold rowBits
  simp only [mem_flatMap, mem_map, Prod.mk.injEq]
  constructor
  · rintro ⟨s, hs, c', hc', rfl, rfl⟩
    exact ⟨s, look_of_mem natStrictTotal hr.1 hs, hc'⟩
  · rintro ⟨s, hs, hc⟩
    have := look_some hs
    exact ⟨s, this.1, c, hc, this.2, rfl⟩

theorem mem_rowBits_rowMerge {a b : List Seg} (ha : RowWF a) (hb : RowWF b) (sh c : Nat) :
    (sh, c) ∈ rowBits (rowMerge a b) ↔ (sh, c) ∈ rowBits a ∨ (sh, c) ∈ rowBits b := by
  have hab := rowMerge_laws.closed a b ha hb
  rw [mem_rowBits_iff hab, mem_rowBits_iff ha, mem_rowBits_iff hb, rowMerge_eq]
  unfold smerge
  rw [look_kmerge natStrictTotal segMerge_laws.key_comb sh a b ha.1 hb.1]
  cases h1 : look Seg.shard sh a with
  | none => simp [oc]
  | some x =>
    cases h2 : look Seg.shard sh b with
    | none => simp [oc]
    | some y =>
      have hx := ha.2 x (look_some h1).1
      have hy := hb.2 y (look_some h2).1
      simp only [oc, Option.some.injEq, exists_eq_left']
      rw [segMerge_eq x y hx hy]
      exact mem_nmerge hx hy c

theorem mem_shards_rowMerge {a b : List Seg} (ha : RowWF a) (hb : RowWF b) (sh : Nat) :
    sh ∈ (rowMerge a b).map Seg.shard ↔ sh ∈ a.map Seg.shard ∨ sh ∈ b.map Seg.shard := by
  rw [rowMerge_eq]
  exact mem_keys_kmerge natStrictTotal segMerge_laws.key_comb ha.1 hb.1 sh

theorem reduceAll_rowMerge (l : List (List Seg)) (hl : ∀ r ∈ l, RowWF r) :
    RowWF (reduceAll rowMerge [] l) ∧
    (∀ sh c, (sh, c) ∈ rowBits (reduceAll rowMerge [] l) ↔ ∃ r ∈ l, (sh, c) ∈ rowBits r) ∧
    (∀ sh, sh ∈ (reduceAll rowMerge [] l).map Seg.shard ↔ ∃ r ∈ l, sh ∈ r.map Seg.shard) := by
  refine reduceAll_induction rowMerge_laws
    (P := fun l m => RowWF m ∧ (∀ sh c, (sh, c) ∈ rowBits m ↔ ∃ r ∈ l, (sh, c) ∈ rowBits r) ∧
      ∀ sh, sh ∈ m.map Seg.shard ↔ ∃ r ∈ l, sh ∈ r.map Seg.shard)
    ⟨rowMerge_laws.dnil, fun _ _ => ⟨nofun, nofun⟩, fun _ => ⟨nofun, nofun⟩⟩ ?_ l hl
  intro x xs m hx hm ⟨_, hb, hs⟩
  refine ⟨rowMerge_laws.closed _ _ hx hm, fun sh c => ?_, fun sh => ?_⟩
  · simp only [mem_rowBits_rowMerge hx hm, hb, mem_cons, exists_eq_or_imp]
  · simp only [mem_shards_rowMerge hx hm, hs, mem_cons, exists_eq_or_imp]

/-- Both are duplicate-free, hence permutations of each other, and a sorted list has one arrangement. -/
theorem asc_ext (a b : List Nat) (ha : Asc a) (hb : Asc b) (h : ∀ c, c ∈ a ↔ c ∈ b) : a = b :=
  List.Perm.eq_of_pairwise (fun _ _ _ _ hab hba => absurd hab (Nat.lt_asymm hba)) ha hb
    ((List.perm_ext_iff_of_nodup (ha.imp Nat.ne_of_lt) (hb.imp Nat.ne_of_lt)).mpr h)

theorem rowWF_ext (r₁ r₂ : List Seg) (h₁ : RowWF r₁) (h₂ : RowWF r₂)
    (hs : ∀ sh, sh ∈ r₁.map Seg.shard ↔ sh ∈ r₂.map Seg.shard)
    (hb : ∀ sh c, (sh, c) ∈ rowBits r₁ ↔ (sh, c) ∈ rowBits r₂) : r₁ = r₂ := by
  apply ext natStrictTotal r₁ r₂ h₁.1 h₂.1
  intro sh
  have half : ∀ (a b : List Seg), RowWF a → RowWF b →
      (∀ sh, sh ∈ a.map Seg.shard → sh ∈ b.map Seg.shard) →
      (∀ sh c, (sh, c) ∈ rowBits a ↔ (sh, c) ∈ rowBits b) →
      ∀ s, look Seg.shard sh a = some s → look Seg.shard sh b = some s := by
    intro a b ha hb' hsub hbits s hl
    have hsa := look_some hl
    have : sh ∈ b.map Seg.shard := hsub sh (mem_map.mpr ⟨s, hsa.1, hsa.2⟩)
    rcases mem_map.mp this with ⟨t, ht, hts⟩
    have hlt : look Seg.shard sh b = some t := hts ▸ look_of_mem natStrictTotal hb'.1 ht
    rw [hlt]
    congr 1
    obtain ⟨ssh, scols⟩ := s
    obtain ⟨tsh, tcols⟩ := t
    simp only at hts hsa
    have e1 : ssh = sh := hsa.2
    subst e1; subst hts
    congr 1
    apply asc_ext _ _ (hb'.2 _ ht) (ha.2 _ hsa.1)
    intro c
    have b1 := mem_rowBits_iff ha tsh c
    have b2 := mem_rowBits_iff hb' tsh c
    rw [hl] at b1; rw [hlt] at b2
    simp only [Option.some.injEq, exists_eq_left'] at b1 b2
    rw [← b1, ← b2, hbits]
  cases h1 : look Seg.shard sh r₁ with
  | some s => exact (half r₁ r₂ h₁ h₂ (fun sh h => (hs sh).mp h) hb s h1).symm
  | none =>
    cases h2 : look Seg.shard sh r₂ with
    | none => rfl
    | some t =>
      have := half r₂ r₁ h₂ h₁ (fun sh h => (hs sh).mpr h) (fun sh c => (hb sh c).symm) t h2
      rw [h1] at this; cases this

/-! ### mergeGroupCounts -/

theorem listNatStrictTotal : StrictTotal (List Nat) where
  irrefl := fun a => List.lt_irrefl a
  trans := fun _ _ _ => List.lt_trans
  tri := fun a b => by
    by_cases h : a < b
    · exact Or.inl h
    · by_cases h2 : b < a
      · exact Or.inr (Or.inr h2)
      · exact Or.inr (Or.inl (List.le_antisymm (List.not_lt.mp h2) (List.not_lt.mp h)))

/-- `GroupCount.Compare` is the lexicographic comparison on groups of equal length. -/
theorem groupCompare_spec (g o : List Nat) (h : g.length = o.length) :
    (groupCompare g o = -1 ↔ g < o) ∧ (groupCompare g o = 0 ↔ g = o) := by
  induction g generalizing o with
  | nil =>
    cases o with
    | nil => simp [groupCompare]
    | cons _ _ => simp at h
  | cons a as ih =>
    cases o with
    | nil => simp at h
    | cons b bs =>
      simp only [length_cons, Nat.add_right_cancel_iff] at h
      have := ih bs h
      simp only [groupCompare, cons_lt_cons_iff, cons.injEq]
      by_cases h1 : a < b
      · have : a ≠ b := by omega
        simp [h1, this]
      · by_cases h2 : a > b
        · have : a ≠ b := by omega
          simp [h1, h2, this]
        · have e : a = b := by omega
          subst e
          simp [this]

def addGC (a b : GroupCount) : GroupCount := ⟨a.group, a.count + b.count⟩

abbrev gmerge := kmerge GroupCount.group addGC

theorem addGC_laws : CombLaws GroupCount.group addGC (fun _ => True) where
  key_comb := fun _ _ _ => rfl
  closed := fun _ _ _ _ _ => trivial
  comm := by intro x y _ _ h; simp [addGC, h, Nat.add_comm]
  assoc := by intro x y z _ _ _ _ _; simp [addGC, Nat.add_assoc]

/-- Shard results for one GroupBy query: every group has one row id per child `Rows` call. -/
def GLen (n : Nat) (l : List GroupCount) : Prop := ∀ x ∈ l, x.group.length = n

def GAsc (l : List GroupCount) : Prop := SortedK GroupCount.group l

theorem mergeGroupCountsAux_eq (n : Nat) (a b : List GroupCount) (fuel lim : Nat) (ha : GLen n a)
    (hb : GLen n b) (h : a.length + b.length < fuel) :
    mergeGroupCountsAux fuel a b lim = (gmerge a b).take lim :=
  fuelMerge_eq (key := GroupCount.group) (comb := addGC) (P := fun x => x.group.length = n)
    mergeGroupCountsAux (fun _ a b => by cases a <;> cases b <;> rfl) (fun _ b _ => by cases b <;> rfl)
    (fun _ _ _ _ => rfl)
    (fun fuel x as y bs lim hx hy => by
      -- on groups of equal length `GroupCount.Compare` is the comparison of the keys
      have hsp := groupCompare_spec x.group y.group (hx.trans hy.symm)
      rw [mergeGroupCountsAux]
      by_cases h1 : x.group < y.group
      · rw [if_pos h1, if_pos (hsp.1.mpr h1)]
      · have c1 : ¬ groupCompare x.group y.group = -1 := fun e => h1 (hsp.1.mp e)
        by_cases h2 : y.group < x.group
        · have c2 : ¬ groupCompare x.group y.group = 0 := fun e =>
            listNatStrictTotal.irrefl _ (hsp.2.mp e ▸ h2)
          simp only [if_neg h1, if_pos h2, if_neg c1, if_neg c2]
        · simp only [if_neg h1, if_neg h2, if_neg c1,
            if_pos (hsp.2.mpr (listNatStrictTotal.eq_of_not_lt h1 h2))]
          rfl)
    fuel a b lim ha hb h

theorem mergeGroupCounts_eq (n lim : Nat) (a b : List GroupCount) (ha : GLen n a) (hb : GLen n b) :
    mergeGroupCounts a b lim = kmergeLim GroupCount.group addGC lim a b := by
  unfold mergeGroupCounts kmergeLim
  simp only
  rw [mergeGroupCountsAux_eq n a b _ _ ha hb (Nat.lt_succ_self _)]
  have hl := length_kmerge_le (key := GroupCount.group) (comb := addGC) a b
  split
  · rw [take_of_length_le hl, take_of_length_le (by omega)]
  · rfl

theorem GLen_kmergeLim (n lim : Nat) (a b : List GroupCount) (ha : GLen n a) (hb : GLen n b) :
    GLen n (kmergeLim GroupCount.group addGC lim a b) :=
  fun z hz => forall_mem_kmerge (comb := addGC) listNatStrictTotal a b ha hb (fun x hx _ _ _ => ha x hx) z
    (mem_of_mem_take hz)

theorem insertGC_eq (x : GroupCount) (l : List GroupCount) : Spec.insertGC x l = gmerge l [x] := by
  unfold gmerge
  induction l with
  | nil => simp [Spec.insertGC]
  | cons y ys ih =>
    rw [kmerge]
    simp only [Spec.insertGC]
    by_cases h1 : x.group < y.group
    · have : ¬ y.group < x.group := fun h => listNatStrictTotal.irrefl _ (listNatStrictTotal.trans _ _ _ h h1)
      simp [h1, this]
    · by_cases h2 : x.group = y.group
      · have : ¬ y.group < x.group := by rw [h2]; exact listNatStrictTotal.irrefl _
        rw [if_neg h1, if_pos h2, if_neg this, if_neg h1]
        simp [addGC]
      · have : y.group < x.group := by
          rcases listNatStrictTotal.tri x.group y.group with h | h | h
          · exact absurd h h1
          · exact absurd h h2
          · exact h
        simp [h1, h2, this, ih]

theorem spec_groupCounts_eq (lim : Nat) (l : List (List GroupCount)) :
    Spec.groupCounts lim l = (l.flatten.foldl (fun acc e => gmerge acc [e]) []).take lim := by
  unfold Spec.groupCounts
  rw [show (fun (acc : List GroupCount) x => Spec.insertGC x acc) = fun acc e => gmerge acc [e] from
    funext fun acc => funext fun x => insertGC_eq x acc]

theorem mapReduce_mergeGroupCounts (n lim : Nat) (groups : List (List (List GroupCount)))
    (h : ∀ g ∈ groups, ∀ x ∈ g, GLen n x) :
    mapReduce (fun a b => mergeGroupCounts a b lim) [] groups
      = mapReduce (kmergeLim GroupCount.group addGC lim) [] groups :=
  mapReduce_congr (GLen n) _ _ [] (fun _ hx => nomatch hx) (GLen_kmergeLim n lim)
    (mergeGroupCounts_eq n lim) groups h

/-! ### Pairs.Add as a map -/

def addKV (a b : Nat × Nat) : Nat × Nat := (a.1, a.2 + b.2)

abbrev pmerge := kmerge (α := Nat × Nat) Prod.fst addKV

theorem addKV_laws : CombLaws (α := Nat × Nat) Prod.fst addKV (fun _ => True) where
  key_comb := fun _ _ _ => rfl
  closed := fun _ _ _ _ _ => trivial
  comm := by intro x y _ _ h; simp [addKV, h, Nat.add_comm]
  assoc := by intro x y z _ _ _ _ _; simp [addKV, Nat.add_assoc]

def toKV (p : Pair) : Nat × Nat := (p.id, p.count)
def toPair (kv : Nat × Nat) : Pair := ⟨kv.1, kv.2⟩

theorem toKV_toPair (kv : Nat × Nat) : toKV (toPair kv) = kv := rfl
theorem toPair_toKV (p : Pair) : toPair (toKV p) = p := rfl

def ins (acc : List (Nat × Nat)) (e : Nat × Nat) : List (Nat × Nat) := pmerge acc [e]

def MapOK (m : List (Nat × Nat)) : Prop := DL (α := Nat × Nat) Prod.fst (fun _ => True) m

theorem mapOK_nil : MapOK [] := (kmerge_laws natStrictTotal addKV_laws).dnil

theorem mapAdd_eq (m : List (Nat × Nat)) (k v : Nat) : mapAdd m k v = ins m (k, v) := by
  unfold ins pmerge
  induction m with
  | nil => simp [mapAdd]
  | cons y ys ih =>
    obtain ⟨k', v'⟩ := y
    rw [kmerge]
    simp only [mapAdd]
    by_cases h1 : k < k'
    · have : ¬ k' < k := by omega
      simp [h1, this]
    · by_cases h2 : k = k'
      · subst h2; simp [addKV]
      · have : k' < k := by omega
        simp [h1, h2, this, ih]

theorem foldl_mapAdd (l : List Pair) (m : List (Nat × Nat)) :
    l.foldl (fun m x => mapAdd m x.id x.count) m = (l.map toKV).foldl ins m := by
  rw [foldl_map]
  exact congrArg (fun f => l.foldl f m) (funext fun m => funext fun x => mapAdd_eq m x.id x.count)

theorem mapSet_last (acc : List (Nat × Nat)) (k v : Nat) (h : ∀ e ∈ acc, e.1 < k) :
    mapSet acc k v = acc ++ [(k, v)] := by
  induction acc with
  | nil => rfl
  | cons y ys ih =>
    obtain ⟨k', v'⟩ := y
    have h1 : k' < k := h (k', v') (by simp)
    have : ¬ k < k' := by omega
    have : ¬ k = k' := by omega
    simp only [mapSet, *, if_false, cons_append]
    rw [ih (fun e he => h e (by simp [he]))]

theorem foldl_mapSet_sorted (m acc : List (Nat × Nat))
    (h : SortedK (α := Nat × Nat) Prod.fst (acc ++ m)) :
    (m.map toPair).foldl (fun m x => mapSet m x.id x.count) acc = acc ++ m := by
  induction m generalizing acc with
  | nil => simp
  | cons e m ih =>
    simp only [map_cons, foldl_cons]
    have hlt : ∀ e' ∈ acc, e'.1 < e.1 := by
      unfold SortedK at h
      rw [map_append, pairwise_append] at h
      intro e' he'
      exact h.2.2 e'.1 (mem_map.mpr ⟨e', he', rfl⟩) e.1 (by simp)
    have : mapSet acc (toPair e).id (toPair e).count = acc ++ [e] := by
      show mapSet acc e.1 e.2 = acc ++ [e]
      rw [mapSet_last acc _ _ hlt]
    rw [this, ih (acc ++ [e]) (by simpa using h)]
    simp

theorem pairsAdd_eq (m : List (Nat × Nat)) (hm : MapOK m) (other : List Pair) :
    pairsAdd (m.map toPair) other = ((other.map toKV).foldl ins m).map toPair := by
  unfold pairsAdd
  simp only
  rw [foldl_mapSet_sorted m [] (by simpa using hm.1), nil_append, foldl_mapAdd]
  rfl

theorem mapOK_foldl_ins (m l : List (Nat × Nat)) (hm : MapOK m) : MapOK (l.foldl ins m) :=
  DL_foldl_insert natStrictTotal addKV_laws m l hm (fun _ _ => trivial)

theorem foldl_pairsAdd_eq (g : List (List Pair)) (m : List (Nat × Nat)) (hm : MapOK m) :
    g.foldl pairsAdd (m.map toPair) = ((g.flatten.map toKV).foldl ins m).map toPair := by
  induction g generalizing m with
  | nil => rfl
  | cons x xs ih =>
    simp only [foldl_cons, flatten_cons, map_append, foldl_append]
    rw [pairsAdd_eq m hm x]
    exact ih _ (mapOK_foldl_ins m _ hm)

theorem mapReduce_pairsAdd (groups : List (List (List Pair))) :
    mapReduce pairsAdd [] groups = ((groups.flatten.flatten.map toKV).foldl ins []).map toPair := by
  unfold mapReduce reduceAll
  suffices H : ∀ m, MapOK m →
      (groups.map (fun g => g.foldl pairsAdd [])).foldl pairsAdd (m.map toPair)
        = ((groups.flatten.flatten.map toKV).foldl ins m).map toPair from H [] mapOK_nil
  induction groups with
  | nil => intro m _; rfl
  | cons g gs ih =>
    intro m hm
    simp only [map_cons, foldl_cons, flatten_cons, flatten_append, map_append, foldl_append]
    have hg := foldl_pairsAdd_eq g [] mapOK_nil
    simp only [map_nil] at hg
    rw [hg]
    have hMg := mapOK_foldl_ins [] (g.flatten.map toKV) mapOK_nil
    rw [pairsAdd_eq m hm, map_map]
    have hid : (toKV ∘ toPair) = id := by funext kv; rfl
    rw [hid, map_id]
    -- inserting the node's map entry by entry = merging it in = inserting the node's shard results
    have e1 : ((g.flatten.map toKV).foldl ins []).foldl ins m
        = pmerge m ((g.flatten.map toKV).foldl ins []) :=
      foldl_insert_eq_kmerge natStrictTotal addKV_laws m _ hm hMg
    have e2 : (g.flatten.map toKV).foldl ins m = pmerge m ((g.flatten.map toKV).foldl ins []) :=
      foldl_insert_acc natStrictTotal addKV_laws m _ hm (fun _ _ => trivial)
    rw [e1, ← e2]
    exact ih _ (mapOK_foldl_ins m _ hm)

theorem spec_pairs_eq (l : List (List Pair)) :
    Spec.pairs l = ((l.flatten.map toKV).foldl ins []).map toPair := by
  unfold Spec.pairs
  rw [foldl_mapAdd]
  rfl

theorem mapReduce_pairsAdd_spec (groups : List (List (List Pair))) :
    mapReduce pairsAdd [] groups = Spec.pairs groups.flatten := by
  rw [mapReduce_pairsAdd, spec_pairs_eq]

def kvTotal (k : Nat) (l : List (Nat × Nat)) : Nat := ((l.filter (fun e => e.1 = k)).map (·.2)).sum

def storedCount (o : Option (Nat × Nat)) : Nat := o.elim 0 (·.2)

theorem look_ins (m : List (Nat × Nat)) (hm : MapOK m) (e : Nat × Nat) (k : Nat) :
    look (α := Nat × Nat) Prod.fst k (ins m e)
      = oc addKV (look (α := Nat × Nat) Prod.fst k m) (if e.1 = k then some e else none) := by
  unfold ins pmerge
  rw [look_kmerge natStrictTotal addKV_laws.key_comb k m [e] hm.1 (by simp [SortedK])]
  simp [look]

theorem kvTotal_cons (k : Nat) (e : Nat × Nat) (l : List (Nat × Nat)) :
    kvTotal k (e :: l) = (if e.1 = k then e.2 else 0) + kvTotal k l := by
  unfold kvTotal
  by_cases hk : e.1 = k <;> simp [hk]

theorem storedCount_look_foldl_ins (l m : List (Nat × Nat)) (hm : MapOK m) (k : Nat) :
    storedCount (look (α := Nat × Nat) Prod.fst k (l.foldl ins m))
      = storedCount (look (α := Nat × Nat) Prod.fst k m) + kvTotal k l := by
  induction l generalizing m with
  | nil => rfl
  | cons e l ih =>
    rw [foldl_cons, ih (ins m e) (mapOK_foldl_ins m [e] hm), look_ins m hm e k, kvTotal_cons, ← Nat.add_assoc]
    congr 1
    split
    · cases look (α := Nat × Nat) Prod.fst k m <;> simp [oc, storedCount, addKV]
    · cases look (α := Nat × Nat) Prod.fst k m <;> rfl

theorem mem_keys_foldl_ins (l m : List (Nat × Nat)) (hm : MapOK m) (k : Nat) :
    k ∈ (l.foldl ins m).map Prod.fst ↔ k ∈ m.map Prod.fst ∨ k ∈ l.map Prod.fst := by
  induction l generalizing m with
  | nil => simp
  | cons e l ih =>
    rw [foldl_cons, ih (ins m e) (mapOK_foldl_ins m [e] hm), ins,
      mem_keys_kmerge natStrictTotal addKV_laws.key_comb hm.1 (DL_singleton (DV := fun _ => True) trivial).1,
      map_cons, map_nil, mem_singleton, map_cons, mem_cons, or_assoc]

theorem kvTotal_map_toKV (k : Nat) (flat : List Pair) :
    kvTotal k (flat.map toKV) = Spec.pairTotal k flat := by
  unfold kvTotal Spec.pairTotal
  induction flat with
  | nil => rfl
  | cons x xs ih =>
    simp only [map_cons, filter_cons, toKV]
    split <;> simp_all

theorem spec_pairs_sum (l : List (List Pair)) :
    ((Spec.pairs l).map (·.id)).Pairwise (· < ·) ∧
    (∀ k, k ∈ (Spec.pairs l).map (·.id) ↔ ∃ p ∈ l.flatten, p.id = k) ∧
    (∀ p ∈ Spec.pairs l, p.count = Spec.pairTotal p.id l.flatten) := by
  rw [spec_pairs_eq]
  generalize l.flatten = flat
  have hM := mapOK_foldl_ins [] (flat.map toKV) mapOK_nil
  have hV := fun k => storedCount_look_foldl_ins (flat.map toKV) [] mapOK_nil k
  have hK := fun k => mem_keys_foldl_ins (flat.map toKV) [] mapOK_nil k
  generalize (flat.map toKV).foldl ins [] = M at hM hV hK
  refine ⟨?_, ?_, ?_⟩
  · have := hM.1
    unfold SortedK at this
    simpa [map_map, Function.comp_def, toPair] using this
  · intro k
    rw [show (M.map toPair).map (·.id) = M.map Prod.fst by rw [map_map]; rfl, hK k, map_map]
    simp [toKV]
  · intro p hp
    rcases mem_map.mp hp with ⟨e, he, rfl⟩
    have h1 := hV e.1
    rw [look_of_mem natStrictTotal hM.1 he, kvTotal_map_toKV] at h1
    simpa [storedCount, look, toPair] using h1

end PV.C17
