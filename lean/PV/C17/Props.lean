/-
C17 property theorems.

Property C17: "the result is the same whichever node coordinates, however shards are grouped onto
nodes, and in whatever order shard results arrive …; the count returned with a Min or Max value
that several shards share is the total across those shards."

Model: `mapReduce f nil groups` (Model.lean) = every node folds its shard results from nil in
arrival order, the coordinator folds the node results from nil in arrival order.
-/
import PV.C17.ScalarSpec
import PV.C17.MergeInstances
import PV.C17.Failover
import PV.C17.TopN
namespace PV.C17
open List K

/-- Generic statement of the property for a reducer satisfying `Laws` on the domain of shard
results: two executions over the same multiset of per-shard results (any grouping onto nodes,
any arrival orders) return the same value. -/
theorem C17_order_and_placement_free {α : Type} {D : α → Prop} {f : α → α → α} {e : α}
    (L : Laws D f e) (g₁ g₂ : List (List α)) (p : g₁.flatten.Perm g₂.flatten)
    (h : ∀ g ∈ g₁, ∀ x ∈ g, D x) : mapReduce f e g₁ = mapReduce f e g₂ :=
  C17_placement_order_free L g₁ g₂ p h

theorem C17_sum (g₁ g₂ : List (List ValCount)) (p : g₁.flatten.Perm g₂.flatten) :
    mapReduce ValCount.add .zero g₁ = mapReduce ValCount.add .zero g₂ :=
  C17_placement_order_free C17_add_laws g₁ g₂ p (fun _ _ _ _ => trivial)

theorem C17_min (g₁ g₂ : List (List ValCount)) (p : g₁.flatten.Perm g₂.flatten)
    (h : ∀ g ∈ g₁, ∀ x ∈ g, VCValid x) :
    mapReduce ValCount.smaller .zero g₁ = mapReduce ValCount.smaller .zero g₂ :=
  C17_placement_order_free C17_smaller_laws g₁ g₂ p h

theorem C17_max (g₁ g₂ : List (List ValCount)) (p : g₁.flatten.Perm g₂.flatten)
    (h : ∀ g ∈ g₁, ∀ x ∈ g, VCValid x) :
    mapReduce ValCount.larger .zero g₁ = mapReduce ValCount.larger .zero g₂ :=
  C17_placement_order_free C17_larger_laws g₁ g₂ p h

theorem C17_minRow (g₁ g₂ : List (List Pair)) (p : g₁.flatten.Perm g₂.flatten)
    (h : ∀ g ∈ g₁, ∀ x ∈ g, PairValid x) :
    mapReduce minRowReduce .zero g₁ = mapReduce minRowReduce .zero g₂ :=
  C17_placement_order_free C17_minRow_laws g₁ g₂ p h

theorem C17_maxRow (g₁ g₂ : List (List Pair)) (p : g₁.flatten.Perm g₂.flatten)
    (h : ∀ g ∈ g₁, ∀ x ∈ g, PairValid x) :
    mapReduce maxRowReduce .zero g₁ = mapReduce maxRowReduce .zero g₂ :=
  C17_placement_order_free C17_maxRow_laws g₁ g₂ p h

theorem C17_count (g₁ g₂ : List (List Nat)) (p : g₁.flatten.Perm g₂.flatten) :
    mapReduce (· + ·) 0 g₁ = mapReduce (· + ·) 0 g₂ :=
  C17_placement_order_free C17_count_laws g₁ g₂ p (fun _ _ _ _ => trivial)

/-- "The count returned with a Min value that several shards share is the total across those
shards": whatever the grouping and arrival order, Min returns the smallest value held by any
shard with at least one value, together with the SUM of the counts of the shards holding it. -/
theorem C17_min_total (groups : List (List ValCount)) (h : ∀ g ∈ groups, ∀ x ∈ g, VCValid x) :
    mapReduce ValCount.smaller .zero groups = Spec.min groups.flatten :=
  mapReduce_vcReduce pref_min_int Spec.minVal
    (fun l hl => map_eq_nil_iff.mp (min?_eq_none_iff.mp (Spec.minVal_eq_min? l ▸ hl)))
    (fun l m hl => min?_eq_some_iff.mp (Spec.minVal_eq_min? l ▸ hl)) groups h

theorem C17_max_total (groups : List (List ValCount)) (h : ∀ g ∈ groups, ∀ x ∈ g, VCValid x) :
    mapReduce ValCount.larger .zero groups = Spec.max groups.flatten :=
  mapReduce_vcReduce pref_max_int Spec.maxVal
    (fun l hl => map_eq_nil_iff.mp (max?_eq_none_iff.mp (Spec.maxVal_eq_max? l ▸ hl)))
    (fun l m hl => max?_eq_some_iff.mp (Spec.maxVal_eq_max? l ▸ hl)) groups h

/-! Non-vacuity: concrete shard results satisfy the hypotheses, with a shared extreme. -/
example : (∀ g ∈ [[(⟨5, 2⟩ : ValCount), ⟨7, 1⟩], [⟨5, 3⟩, ⟨0, 0⟩]], ∀ x ∈ g, VCValid x) ∧
    mapReduce ValCount.smaller .zero [[(⟨5, 2⟩ : ValCount), ⟨7, 1⟩], [⟨5, 3⟩, ⟨0, 0⟩]] = ⟨5, 5⟩ := by
  decide

/-- Regression witness for the defect repaired by "fix: Min/Max reduce sums the counts …":
the pre-fix reducer (ties keep the receiver) is not commutative, so the result depended on the
arrival order. -/
def smallerPreFix (vc other : ValCount) : ValCount :=
  if vc.count = 0 ∨ (other.val < vc.val ∧ other.count > 0) then other else ⟨vc.val, vc.count⟩

theorem C17_prefix_smaller_order_dependent_witness :
    smallerPreFix ⟨5, 2⟩ ⟨5, 3⟩ ≠ smallerPreFix ⟨5, 3⟩ ⟨5, 2⟩ := by decide

/-- MinRow: whatever the grouping and the arrival order, the result is the smallest row id some
shard reports with a positive count, with the TOTAL count over the shards reporting that row. -/
theorem C17_minRow_total (groups : List (List Pair)) (h : ∀ g ∈ groups, ∀ x ∈ g, PairValid x) :
    mapReduce minRowReduce .zero groups = Spec.minRow groups.flatten :=
  mapReduce_rowReduce pref_min List.min? (fun _ => min?_eq_none_iff.mp) (fun _ _ => min?_eq_some_iff.mp) groups h

theorem C17_maxRow_total (groups : List (List Pair)) (h : ∀ g ∈ groups, ∀ x ∈ g, PairValid x) :
    mapReduce maxRowReduce .zero groups = Spec.maxRow groups.flatten :=
  mapReduce_rowReduce pref_max List.max? (fun _ => max?_eq_none_iff.mp) (fun _ _ => max?_eq_some_iff.mp) groups h

example : (∀ g ∈ [[(⟨3, 2⟩ : Pair), ⟨5, 1⟩], [⟨3, 5⟩, ⟨0, 0⟩]], ∀ x ∈ g, PairValid x) ∧
    mapReduce minRowReduce .zero [[(⟨3, 2⟩ : Pair), ⟨5, 1⟩], [⟨3, 5⟩, ⟨0, 0⟩]] = ⟨3, 7⟩ := by
  refine ⟨?_, by decide⟩
  simp [PairValid]

/-! ## Row.Merge — the reducer of every bitmap call (Row, Union, Intersect, Range, …)

`RowWF r` (MergeInstances) unfolds to: `(r.map Seg.shard).Pairwise (· < ·)` (segments strictly ascending
by shard) and `∀ s ∈ r, s.cols.Pairwise (· < ·)` (columns strictly ascending): `C17_rowWF_iff`.
Per-shard rows produced by a fragment are one segment of ascending columns. -/

theorem C17_rowWF_iff (r : List Seg) :
    RowWF r ↔ (r.map Seg.shard).Pairwise (· < ·) ∧ ∀ s ∈ r, s.cols.Pairwise (· < ·) := Iff.rfl

/-- `Row.Merge` (as coded, with `mergeSegmentIterator.next` returning `(s1, nil)` for a lone
segment of the other row) is commutative, associative and has the empty row as identity on
well-formed rows. -/
theorem C17_rowMerge_laws : Laws RowWF rowMerge [] := rowMerge_laws

/-- Any two executions (groupings onto nodes, arrival orders) over the same multiset of
per-shard rows return the same `Row` value. -/
theorem C17_row (g₁ g₂ : List (List (List Seg))) (p : g₁.flatten.Perm g₂.flatten)
    (h : ∀ g ∈ g₁, ∀ r ∈ g, RowWF r) :
    mapReduce rowMerge [] g₁ = mapReduce rowMerge [] g₂ :=
  C17_placement_order_free rowMerge_laws g₁ g₂ p h

/-- The merged row is well formed, its bits are exactly the union of the bits of all per-shard
rows and its segments are exactly the shards some per-shard row has a segment for. -/
theorem C17_row_union (groups : List (List (List Seg))) (h : ∀ g ∈ groups, ∀ r ∈ g, RowWF r) :
    RowWF (mapReduce rowMerge [] groups) ∧
    (∀ sh c, (sh, c) ∈ rowBits (mapReduce rowMerge [] groups)
        ↔ ∃ g ∈ groups, ∃ r ∈ g, (sh, c) ∈ rowBits r) ∧
    (∀ sh, sh ∈ (mapReduce rowMerge [] groups).map Seg.shard
        ↔ ∃ g ∈ groups, ∃ r ∈ g, sh ∈ r.map Seg.shard) := by
  rw [C17_group rowMerge_laws groups h]
  have hex : ∀ (P : List Seg → Prop), (∃ g ∈ groups, ∃ r ∈ g, P r) ↔ ∃ r ∈ groups.flatten, P r := by
    intro P
    constructor
    · rintro ⟨g, hg, r, hr, hp⟩; exact ⟨r, mem_flatten.mpr ⟨g, hg, hr⟩, hp⟩
    · rintro ⟨r, hr, hp⟩; rcases mem_flatten.mp hr with ⟨g, hg, hrg⟩; exact ⟨g, hg, r, hrg, hp⟩
  simp only [hex]
  exact reduceAll_rowMerge _ (forall_mem_flatten.mpr h)

/-- Strictly sorted rows with the same segments' shards and the same bits are equal (so the
result is determined by the union alone). -/
theorem C17_row_ext (r₁ r₂ : List Seg) (h₁ : RowWF r₁) (h₂ : RowWF r₂)
    (hs : ∀ sh, sh ∈ r₁.map Seg.shard ↔ sh ∈ r₂.map Seg.shard)
    (hb : ∀ sh c, (sh, c) ∈ rowBits r₁ ↔ (sh, c) ∈ rowBits r₂) : r₁ = r₂ :=
  rowWF_ext r₁ r₂ h₁ h₂ hs hb

/-- Remote transport: a remote node's row travels as its column list, so segments without bits
are dropped on the way (`T`; any map that keeps rows well formed and keeps their bits). The bits
of the coordinator's result are still exactly the union of the bits of all per-shard rows,
whichever node results went through the transport. -/
theorem C17_row_bits_transport (T : List Seg → List Seg)
    (hT : ∀ r, RowWF r → RowWF (T r) ∧ ∀ sh c, (sh, c) ∈ rowBits (T r) ↔ (sh, c) ∈ rowBits r)
    (remote : List (List Seg) → Bool)
    (groups : List (List (List Seg))) (h : ∀ g ∈ groups, ∀ r ∈ g, RowWF r) :
    ∀ sh c, (sh, c) ∈ rowBits (reduceAll rowMerge []
        (groups.map (fun g => if remote g then T (reduceAll rowMerge [] g) else reduceAll rowMerge [] g)))
      ↔ ∃ g ∈ groups, ∃ r ∈ g, (sh, c) ∈ rowBits r := by
  intro sh c
  let node := fun (g : List (List Seg)) =>
    if remote g then T (reduceAll rowMerge [] g) else reduceAll rowMerge [] g
  -- what a node returns is well formed and has the bits of the node's shard rows
  have hnode : ∀ g ∈ groups, RowWF (node g) ∧
      ((sh, c) ∈ rowBits (node g) ↔ ∃ r ∈ g, (sh, c) ∈ rowBits r) := by
    intro g hg
    have o := reduceAll_rowMerge g (h g hg)
    simp only [node]
    split
    · have t := hT _ o.1
      exact ⟨t.1, by rw [t.2 sh c]; exact o.2.1 sh c⟩
    · exact ⟨o.1, o.2.1 sh c⟩
  rw [(reduceAll_rowMerge (groups.map node) (by
    intro r hr; rcases mem_map.mp hr with ⟨g, hg, rfl⟩; exact (hnode g hg).1)).2.1 sh c]
  constructor
  · rintro ⟨r, hr, hb⟩
    rcases mem_map.mp hr with ⟨g, hg, rfl⟩
    rcases (hnode g hg).2.mp hb with ⟨r', hr', hb'⟩
    exact ⟨g, hg, r', hr', hb'⟩
  · rintro ⟨g, hg, r, hr, hb⟩
    exact ⟨node g, mem_map.mpr ⟨g, hg, rfl⟩, (hnode g hg).2.mpr ⟨r, hr, hb⟩⟩

/-- Dropping the segments without bits is such a transport map. -/
theorem C17_dropEmpty_transport (r : List Seg) (hr : RowWF r) :
    RowWF (r.filter (fun s => !s.cols.isEmpty)) ∧
    ∀ sh c, (sh, c) ∈ rowBits (r.filter (fun s => !s.cols.isEmpty)) ↔ (sh, c) ∈ rowBits r := by
  constructor
  · refine ⟨?_, fun s hs => hr.2 s (mem_filter.mp hs).1⟩
    have := hr.1
    unfold SortedK at *
    exact this.sublist ((filter_sublist).map _)
  · intro sh c
    unfold rowBits
    simp only [mem_flatMap, mem_map, mem_filter, Prod.mk.injEq]
    constructor
    · rintro ⟨s, ⟨hs, _⟩, x⟩; exact ⟨s, hs, x⟩
    · rintro ⟨s, hs, c', hc', e⟩
      refine ⟨s, ⟨hs, ?_⟩, c', hc', e⟩
      cases hcs : s.cols with
      | nil => rw [hcs] at hc'; cases hc'
      | cons _ _ => rfl

example : RowWF [⟨0, [1, 5]⟩, ⟨2, []⟩, ⟨3, [7]⟩] ∧
    mapReduce rowMerge [] [[[⟨3, [7]⟩], [⟨0, [5]⟩, ⟨3, [2, 9]⟩]], [[⟨0, [1, 5]⟩]]]
      = [⟨0, [1, 5]⟩, ⟨3, [2, 7, 9]⟩] := by
  refine ⟨?_, by decide⟩
  rw [C17_rowWF_iff]; decide

/-! ## Rows: RowIDs.merge with limit -/

/-- Rows: whatever the grouping and the arrival order, the result is the `lim` smallest distinct
row ids reported by any shard. -/
theorem C17_rowids (lim : Nat) (groups : List (List (List Nat)))
    (h : ∀ g ∈ groups, ∀ x ∈ g, x.Pairwise (· < ·)) :
    mapReduce (fun a b => rowIDsMerge a b lim) [] groups = Spec.rowIDs lim groups.flatten := by
  rw [show (fun a b => rowIDsMerge a b lim) = kmergeLim (α := Nat) id keepB lim from
    funext fun a => funext (rowIDsMerge_eq lim a), spec_rowIDs_eq]
  simpa using mapReduce_kmergeLim_flatten natStrictTotal keepB_laws lim groups id (fun _ => rfl)
    (fun g hg l hl => (asc_DL l).mp (h g hg l hl))

theorem C17_rowids_order_free (lim : Nat) (g₁ g₂ : List (List (List Nat)))
    (p : g₁.flatten.Perm g₂.flatten) (h : ∀ g ∈ g₁, ∀ x ∈ g, x.Pairwise (· < ·)) :
    mapReduce (fun a b => rowIDsMerge a b lim) [] g₁
      = mapReduce (fun a b => rowIDsMerge a b lim) [] g₂ := by
  rw [C17_rowids lim g₁ h, C17_rowids lim g₂ (forall_mem_of_flatten_perm p h), spec_rowIDs_eq,
    spec_rowIDs_eq, foldl_insert_perm natStrictTotal keepB_laws p.flatten (fun _ _ => trivial) []
      DL_nil]

example : (∀ g ∈ [[[1, 4, 6], [2, 4]], [[0, 6, 9]]], ∀ x ∈ g, x.Pairwise (· < ·)) ∧
    mapReduce (fun a b => rowIDsMerge a b 4) [] [[[1, 4, 6], [2, 4]], [[0, 6, 9]]] = [0, 1, 2, 4] := by
  decide

/-! ## GroupBy: mergeGroupCounts with limit

`GAsc x`: the shard result is strictly ascending by group (lexicographic order of the row ids);
`GLen n x`: every group has `n` row ids (one per child `Rows` call of the query). -/

theorem C17_GAsc_iff (x : List GroupCount) : GAsc x ↔ (x.map GroupCount.group).Pairwise (· < ·) := Iff.rfl

/-- GroupBy: whatever the grouping and the arrival order, the result is the first `lim` groups of
the per-group totals over all shard results. -/
theorem C17_groupcounts (n lim : Nat) (groups : List (List (List GroupCount)))
    (h : ∀ g ∈ groups, ∀ x ∈ g, GAsc x ∧ GLen n x) :
    mapReduce (fun a b => mergeGroupCounts a b lim) [] groups
      = Spec.groupCounts lim groups.flatten := by
  rw [mapReduce_mergeGroupCounts n lim groups (fun g hg x hx => (h g hg x hx).2), spec_groupCounts_eq]
  simpa using mapReduce_kmergeLim_flatten listNatStrictTotal addGC_laws lim groups id (fun _ => rfl)
    (fun g hg l hl => ⟨(h g hg l hl).1, fun _ _ => trivial⟩)

/-- GroupBy with per-shard truncation: when every shard returns the first `lim` groups of its
full ascending list, the result is still the first `lim` groups of the totals over the FULL
shard lists — the counts of the groups returned are exact. -/
theorem C17_groupcounts_prefix (n lim : Nat) (full : List (List (List GroupCount)))
    (h : ∀ g ∈ full, ∀ x ∈ g, GAsc x ∧ GLen n x) :
    mapReduce (fun a b => mergeGroupCounts a b lim) [] (full.map (·.map (·.take lim)))
      = Spec.groupCounts lim full.flatten := by
  rw [mapReduce_mergeGroupCounts n lim _ (by
      intro g hg x hx z hz
      rcases mem_map.mp hg with ⟨g', hg', rfl⟩
      rcases mem_map.mp hx with ⟨x', hx', rfl⟩
      exact (h g' hg' x' hx').2 z (mem_of_mem_take hz)),
    spec_groupCounts_eq]
  exact mapReduce_kmergeLim_flatten listNatStrictTotal addGC_laws lim full (·.take lim)
    (fun l => by rw [take_take, Nat.min_self]) (fun g hg l hl => ⟨(h g hg l hl).1, fun _ _ => trivial⟩)

theorem C17_groupcounts_order_free (n lim : Nat) (g₁ g₂ : List (List (List GroupCount)))
    (p : g₁.flatten.Perm g₂.flatten) (h : ∀ g ∈ g₁, ∀ x ∈ g, GAsc x ∧ GLen n x) :
    mapReduce (fun a b => mergeGroupCounts a b lim) [] g₁
      = mapReduce (fun a b => mergeGroupCounts a b lim) [] g₂ := by
  rw [C17_groupcounts n lim g₁ h, C17_groupcounts n lim g₂ (forall_mem_of_flatten_perm p h),
    spec_groupCounts_eq, spec_groupCounts_eq,
    foldl_insert_perm listNatStrictTotal addGC_laws p.flatten (fun _ _ => trivial) []
      DL_nil]

example : (∀ g ∈ [[[(⟨[0, 1], 2⟩ : GroupCount), ⟨[1, 0], 1⟩]], [[⟨[0, 1], 3⟩, ⟨[0, 2], 1⟩]]],
      ∀ x ∈ g, GAsc x ∧ GLen 2 x) ∧
    mapReduce (fun a b => mergeGroupCounts a b 2) []
      [[[(⟨[0, 1], 2⟩ : GroupCount), ⟨[1, 0], 1⟩]], [[⟨[0, 1], 3⟩, ⟨[0, 2], 1⟩]]]
      = [⟨[0, 1], 5⟩, ⟨[0, 2], 1⟩] := by
  refine ⟨?_, by decide⟩
  simp only [C17_GAsc_iff, GLen]
  decide

/-! ## TopN: Pairs.Add (result as a map; the order of the Go slice is map-iteration order) -/

/-- TopN merge: whatever the grouping and the arrival order, the merged map is the map of total
counts per id over all shard results. -/
theorem C17_pairs (groups : List (List (List Pair))) :
    mapReduce pairsAdd [] groups = Spec.pairs groups.flatten :=
  mapReduce_pairsAdd_spec groups

theorem C17_spec_pairs_perm {l₁ l₂ : List (List Pair)} (p : l₁.Perm l₂) : Spec.pairs l₁ = Spec.pairs l₂ := by
  rw [spec_pairs_eq, spec_pairs_eq]
  exact congrArg _ (foldl_insert_perm natStrictTotal addKV_laws (p.flatten.map toKV)
    (fun _ _ => trivial) [] DL_nil)

theorem C17_pairs_order_free (g₁ g₂ : List (List (List Pair))) (p : g₁.flatten.Perm g₂.flatten) :
    mapReduce pairsAdd [] g₁ = mapReduce pairsAdd [] g₂ := by
  rw [C17_pairs, C17_pairs, C17_spec_pairs_perm p]

/-- The merged map holds exactly the ids some shard result lists, each once (ids strictly
ascending in the model), and sends every id to the SUM of the counts over all shard results. -/
theorem C17_pairs_sum (groups : List (List (List Pair))) :
    ((mapReduce pairsAdd [] groups).map (·.id)).Pairwise (· < ·) ∧
    (∀ k, k ∈ (mapReduce pairsAdd [] groups).map (·.id) ↔ ∃ p ∈ groups.flatten.flatten, p.id = k) ∧
    (∀ p ∈ mapReduce pairsAdd [] groups, p.count = Spec.pairTotal p.id groups.flatten.flatten) := by
  rw [C17_pairs]
  exact spec_pairs_sum groups.flatten

example : mapReduce pairsAdd [] [[[⟨1, 2⟩, ⟨3, 1⟩], [⟨3, 4⟩]], [[⟨0, 1⟩, ⟨1, 1⟩]]]
    = [⟨0, 1⟩, ⟨1, 3⟩, ⟨3, 5⟩] := by decide

/-! ## Failover: `executor.mapReduce` as a transition system over response events

`mapReduceFailover f e val nodes owners shards evs` (Model.lean): the first `mapper` call groups the
shards by their first owner among `nodes` (`shardsByNode`); every event lets ANY request in flight
answer, with its result or with an error; an error removes the node from `nodes` and regroups exactly
the failed request's shards onto the remaining nodes (`errShardUnavailable` = the query fails);
`shardN` accounting and the `shardN >= len(shards)` cut-off as coded.  `val s` is shard `s`'s
result, `D` the reducer's domain. -/

/-- Exactly once: in every reachable loop state the shards answered so far together with the shards
of the requests in flight are — as a multiset — exactly the shards of the query, `shardN` counts
the answered ones (and the loop has not reached the cut-off), and `result` is the reduce of the
answered shards' results: no shard result is reduced twice, none is lost. -/
theorem C17_failover_exactly_once {α : Type} {D : α → Prop} {f : α → α → α} {e : α} (L : Laws D f e)
    (val : Nat → α) (hval : ∀ s, D (val s)) (nodes : List Nat) (owners : Nat → List Nat)
    (shards : List Nat) (hne : shards ≠ []) (evs : List (Nat × Bool)) (s : MRState α)
    (h : mapReduceFailover f e val nodes owners shards evs = .running s) :
    ∃ answered : List Nat, (answered ++ s.pending.flatMap (·.shards)).Perm shards ∧
      s.shardN = answered.length ∧ s.shardN < shards.length ∧
      s.acc = reduceAll f e (answered.map val) :=
  mapReduceFailover_post L val hval nodes owners shards hne evs h

/-- For every failure pattern and completion order after which the query still succeeds, the
result is the reduce over ALL shards, each exactly once — the order-free value. -/
theorem C17_failover_result {α : Type} {D : α → Prop} {f : α → α → α} {e : α} (L : Laws D f e)
    (val : Nat → α) (hval : ∀ s, D (val s)) (nodes : List Nat) (owners : Nat → List Nat)
    (shards : List Nat) (hne : shards ≠ []) (evs : List (Nat × Bool)) (a : α)
    (h : mapReduceFailover f e val nodes owners shards evs = .done a) :
    a = reduceAll f e (shards.map val) :=
  mapReduceFailover_post L val hval nodes owners shards hne evs h

/-- … hence it equals the result of any failure-free execution (any grouping of the shards onto
nodes, any arrival orders). -/
theorem C17_failover_eq_no_failure {α : Type} {D : α → Prop} {f : α → α → α} {e : α} (L : Laws D f e)
    (val : Nat → α) (hval : ∀ s, D (val s)) (nodes : List Nat) (owners : Nat → List Nat)
    (shards : List Nat) (hne : shards ≠ []) (evs : List (Nat × Bool)) (a : α)
    (h : mapReduceFailover f e val nodes owners shards evs = .done a)
    (groups : List (List α)) (hg : groups.flatten.Perm (shards.map val)) :
    a = mapReduce f e groups := by
  rw [C17_failover_result L val hval nodes owners shards hne evs a h]
  have hD : ∀ x ∈ groups.flatten, D x := by
    intro x hx
    rcases mem_map.mp (hg.mem_iff.mp hx) with ⟨y, _, rfl⟩
    exact hval y
  rw [C17_group L groups (fun g hg' x hx => hD x (mem_flatten.mpr ⟨g, hg', hx⟩))]
  exact (C17_fold_perm L hg hD).symm

/-- The loop never waits with nothing in flight. -/
theorem C17_failover_never_hangs {α : Type} {D : α → Prop} {f : α → α → α} {e : α} (L : Laws D f e)
    (val : Nat → α) (hval : ∀ s, D (val s)) (nodes : List Nat) (owners : Nat → List Nat)
    (shards : List Nat) (hne : shards ≠ []) (evs : List (Nat × Bool)) :
    mapReduceFailover f e val nodes owners shards evs ≠ .hang :=
  fun h => mapReduceFailover_post L val hval nodes owners shards hne evs h

/-- Termination: after more than `|shards| · (2·|nodes| + 1)` response events — whatever their
completion order and whichever of them are errors — the loop has ended: either with the
order-free result over all shards or because some shard had no remaining owner. (Measure: every
shard in flight weighs twice the number of nodes left, one more when its node has already been
filtered out, plus one per request; every event decreases it.) So `C17_failover_result` needs no
hypothesis that the run ends. -/
theorem C17_failover_terminates {α : Type} {D : α → Prop} {f : α → α → α} {e : α} (L : Laws D f e)
    (val : Nat → α) (hval : ∀ s, D (val s)) (nodes : List Nat) (owners : Nat → List Nat)
    (shards : List Nat) (hne : shards ≠ []) (evs : List (Nat × Bool))
    (hlen : evs.length > shards.length * (2 * nodes.length + 1)) :
    mapReduceFailover f e val nodes owners shards evs = .done (reduceAll f e (shards.map val)) ∨
    mapReduceFailover f e val nodes owners shards evs = .unavailable := by
  cases hout : mapReduceFailover f e val nodes owners shards evs with
  | done a => exact Or.inl (by rw [C17_failover_result L val hval nodes owners shards hne evs a hout])
  | unavailable => exact Or.inr rfl
  | hang => exact absurd hout (C17_failover_never_hangs L val hval nodes owners shards hne evs)
  | running s' => exact absurd hout (mapReduceFailover_ends f e val nodes owners shards evs hlen s')

/-- The query fails only when some shard has no remaining owner: a response event turns a loop
state into `unavailable` only if it is an error response and some shard of the failed request has
no owner among the remaining nodes. -/
theorem C17_failover_fails_only_without_owner {α : Type} {D : α → Prop} {f : α → α → α} {e : α}
    (L : Laws D f e) (val : Nat → α) (hval : ∀ s, D (val s)) (owners : Nat → List Nat)
    (shards : List Nat) (s : MRState α) (ev : Nat × Bool)
    (hinv : MRInv f e val shards s)
    (h : mrStep f e val owners shards.length s ev = .unavailable) :
    ev.2 = false ∧ ∃ req ∈ s.pending, ∃ sh ∈ req.shards,
      ∀ n ∈ owners sh, n ∉ s.nodes.filter (fun n => n ≠ req.node) := by
  have := mrStep_post L val hval owners shards s ev hinv
  rw [h] at this
  exact this

/-- The first `mapper` call fails iff some shard has no owner among the cluster's nodes. -/
theorem C17_failover_start_unavailable_iff {α : Type} (e : α) (nodes : List Nat)
    (owners : Nat → List Nat) (shards : List Nat) :
    mrStart e nodes owners shards = .unavailable ↔ ∃ s ∈ shards, ∀ n ∈ owners s, n ∉ nodes := by
  unfold mrStart
  rw [← shardsByNode_none_iff nodes owners shards []]
  split <;> simp_all

/-- Regrouping succeeds whenever every failed shard still has an owner. -/
theorem C17_failover_regroup_available (nodes : List Nat) (owners : Nat → List Nat) (shards : List Nat)
    (h : ∀ s ∈ shards, ∃ n ∈ owners s, n ∈ nodes) :
    (shardsByNode nodes owners shards []).isSome := by
  cases hs : shardsByNode nodes owners shards [] with
  | some _ => rfl
  | none =>
    rcases (shardsByNode_none_iff nodes owners shards []).mp hs with ⟨s, hs', hno⟩
    rcases h s hs' with ⟨n, hn, hmem⟩
    exact absurd hmem (hno n hn)

/-- Non-vacuity: 3 nodes, 2 replicas, node 1 answers with an error; its shard is regrouped onto
node 2 and the Count is that of all three shards. -/
example : mapReduceFailover (· + ·) 0 (fun s => 10 ^ s) [0, 1, 2] (fun s => [s % 3, (s + 1) % 3])
    [0, 1, 2] [(0, true), (0, false), (0, true), (0, true)] = .done 111 := by decide

/-- The seeded change "re-map ALL shards of the query after a failure instead of the failed
request's shards" (`e.mapper(ctx, ch, nodes, index, shards, …)`), as a step function. -/
def mrStepRemapAll {α : Type} (f : α → α → α) (e : α) (val : Nat → α) (owners : Nat → List Nat)
    (allShards : List Nat) (s : MRState α) (ev : Nat × Bool) : MROut α :=
  if s.pending.isEmpty then .hang else
  let i := ev.1 % s.pending.length
  let req := s.pending.getD i default
  let pend := s.pending.eraseIdx i
  if ev.2 then
    let acc := f s.acc (nodeResult f e val req.shards)
    let n := s.shardN + req.shards.length
    if n ≥ allShards.length then .done acc else .running ⟨s.nodes, pend, acc, n⟩
  else
    let nodes := s.nodes.filter (fun n => n ≠ req.node)
    match shardsByNode nodes owners allShards [] with
    | none => .unavailable
    | some reqs => .running ⟨nodes, pend ++ reqs, s.acc, s.shardN⟩

def mrRunRemapAll {α : Type} (f : α → α → α) (e : α) (val : Nat → α) (owners : Nat → List Nat)
    (allShards : List Nat) : MROut α → List (Nat × Bool) → MROut α
  | .running s, ev :: evs =>
    mrRunRemapAll f e val owners allShards (mrStepRemapAll f e val owners allShards s ev) evs
  | o, _ => o

/-- Witness that the property is sensitive to that change: on the scenario of the example above
shard 0 is counted twice and shard 1 is dropped by the cut-off. -/
theorem C17_failover_remap_all_witness :
    mrRunRemapAll (· + ·) 0 (fun s => 10 ^ s) (fun s => [s % 3, (s + 1) % 3]) [0, 1, 2]
      (mrStart 0 [0, 1, 2] (fun s => [s % 3, (s + 1) % 3]) [0, 1, 2])
      [(0, true), (0, false), (0, true), (0, true)] = .done 102 := by decide

/-! ## TopN(n): the two-pass protocol of `executeTopN` (Model.lean `executeTopNModel`)

Pass 1 map-reduces the per-shard top lists (`Pairs.Add`; a remote node returns ALL it merged, sorted),
the keys of the merged list are the candidates, pass 2 fetches the exact counts of every candidate on
every shard, the result is sorted and trimmed to `n`. `remote` says which node results were sorted
on the way (the coordinator's own partial result is not). -/

/-- Selection guarantee of the code: whatever the grouping of shards onto nodes, the coordinator and
the arrival orders, the answer is `Spec.topN n` of the list of shards — the best `n` (by exact
total) of the ids that are among the best `n` of at least one SHARD. -/
theorem C17_topn_eq_spec (n : Nat) (remote : List (List Pair) → Bool) (groups : List (List (List Pair))) :
    executeTopNModel n remote groups = Spec.topN n groups.flatten := by
  simp only [executeTopNModel, Spec.topN, topNShards_eq]

/-- … hence it does not depend on which node coordinates, on the grouping or on arrival orders. -/
theorem C17_topn_order_free (n : Nat) (r₁ r₂ : List (List Pair) → Bool)
    (g₁ g₂ : List (List (List Pair))) (p : g₁.flatten.Perm g₂.flatten) :
    executeTopNModel n r₁ g₁ = executeTopNModel n r₂ g₂ := by
  rw [C17_topn_eq_spec, C17_topn_eq_spec]
  unfold Spec.topN
  have h1 : Spec.pairs (g₁.flatten.map (topShard n)) = Spec.pairs (g₂.flatten.map (topShard n)) :=
    C17_spec_pairs_perm (p.map _)
  rw [h1]
  have h2 : ∀ ids, Spec.pairs (g₁.flatten.map (topShardIds ids)) = Spec.pairs (g₂.flatten.map (topShardIds ids)) :=
    fun ids => C17_spec_pairs_perm (p.map _)
  simp only [h2]

/-- Pass 2 makes every reported count exact: each reported pair carries the TOTAL count of its id
over all shards; and every reported id is a candidate (among the best `n` of some shard). -/
theorem C17_topn_counts_exact (n : Nat) (remote : List (List Pair) → Bool)
    (groups : List (List (List Pair))) :
    ∀ p ∈ executeTopNModel n remote groups,
      p.count = Spec.pairTotal p.id groups.flatten.flatten ∧
      ∃ shard ∈ groups.flatten, ∃ q ∈ topShard n shard, q.id = p.id := by
  intro p hp
  rw [C17_topn_eq_spec] at hp
  generalize groups.flatten = shards at hp
  unfold Spec.topN at hp
  simp only at hp
  split at hp
  · rename_i he
    have : sortPairs (Spec.pairs (shards.map (topShard n))) = [] := by
      cases h : sortPairs (Spec.pairs (shards.map (topShard n))) with
      | nil => rfl
      | cons _ _ => rw [h] at he; cases he
    rw [this] at hp; cases hp
  · generalize hids : sortedKeys (sortPairs (Spec.pairs (shards.map (topShard n)))) = ids at hp
    have hp2 : p ∈ Spec.pairs (shards.map (topShardIds ids)) :=
      (sortPairs_perm _).mem_iff.mp (mem_trimN hp)
    obtain ⟨_, hkeys, hcnt⟩ := spec_pairs_sum (shards.map (topShardIds ids))
    have hc := hcnt p hp2
    rcases (hkeys p.id).mp (mem_map.mpr ⟨p, hp2, rfl⟩) with ⟨q, hq, hqid⟩
    have hfl : (shards.map (topShardIds ids)).flatten
        = shards.flatten.filter (fun p => p.count > 0 && ids.contains p.id) :=
      flatten_map_filter _ shards
    rw [hfl] at hq hc
    have hin : ids.contains p.id = true := by
      have := (mem_filter.mp hq).2
      simp only [Bool.and_eq_true] at this
      rw [← hqid]; exact this.2
    refine ⟨by rw [hc, pairTotal_topShardIds p.id ids hin], ?_⟩
    -- p.id is a key of the pass-1 merge, i.e. listed by some shard's top list
    have hmem : p.id ∈ (sortPairs (Spec.pairs (shards.map (topShard n)))).map (·.id) := by
      rw [← hids] at hin
      exact mem_sortedKeys.mp (by simpa using hin)
    rcases mem_map.mp hmem with ⟨c, hcmem, hcid⟩
    have hc1 : c ∈ Spec.pairs (shards.map (topShard n)) := (sortPairs_perm _).mem_iff.mp hcmem
    rcases ((spec_pairs_sum (shards.map (topShard n))).2.1 c.id).mp (mem_map.mpr ⟨c, hc1, rfl⟩) with ⟨q', hq', hq'id⟩
    rcases mem_flatten.mp hq' with ⟨l, hl, hq'l⟩
    rcases mem_map.mp hl with ⟨shard, hshard, rfl⟩
    exact ⟨shard, hshard, q', hq'l, by rw [hq'id, hcid]⟩

/-- Pass 1 is a heuristic (C12's business, not a dependence on placement): an id that is second in
every shard is no candidate for n = 1 although its total is the largest. -/
theorem C17_topn_pass1_heuristic_witness :
    Spec.topN 1 [[⟨2, 3⟩, ⟨1, 2⟩], [⟨3, 3⟩, ⟨1, 2⟩], [⟨4, 3⟩, ⟨1, 2⟩]] = [⟨2, 3⟩] ∧
    Spec.topNExact 1 [[⟨2, 3⟩, ⟨1, 2⟩], [⟨3, 3⟩, ⟨1, 2⟩], [⟨4, 3⟩, ⟨1, 2⟩]] = [⟨1, 6⟩] := by decide

/-- The seeded change "a remote node trims what it merged in pass 1 to its best n" as a model
(node 0 coordinates, the other groups are remote nodes). -/
def topNShardsRemoteTrim (n : Nat) (perShard : List Pair → List Pair) (trim : Bool)
    (groups : List (List (List Pair))) : List Pair :=
  sortPairs (reduceAll pairsAdd [] (groups.mapIdx (fun i g =>
    let r := reduceAll pairsAdd [] (g.map perShard)
    if i > 0 then (if trim then trimN n (sortPairs r) else sortPairs r) else r)))

def executeTopNRemoteTrim (n : Nat) (groups : List (List (List Pair))) : List Pair :=
  let pairs := topNShardsRemoteTrim n (topShard n) true groups
  if pairs.isEmpty then pairs
  else trimN n (topNShardsRemoteTrim n (topShardIds (sortedKeys pairs)) false groups)

/-- With that change the answer depends on the grouping of the same three shards onto two nodes,
which `C17_topn_order_free` excludes for the code as it is. -/
theorem C17_topn_remote_trim_witness :
    executeTopNRemoteTrim 2 [[[⟨6, 5⟩, ⟨7, 4⟩, ⟨5, 3⟩]], [[⟨5, 4⟩, ⟨1, 2⟩, ⟨6, 1⟩], [⟨7, 6⟩, ⟨1, 5⟩, ⟨5, 1⟩]]]
      = [⟨7, 10⟩, ⟨1, 7⟩] ∧
    executeTopNRemoteTrim 2 [[[⟨6, 5⟩, ⟨7, 4⟩, ⟨5, 3⟩], [⟨5, 4⟩, ⟨1, 2⟩, ⟨6, 1⟩]], [[⟨7, 6⟩, ⟨1, 5⟩, ⟨5, 1⟩]]]
      = [⟨7, 10⟩, ⟨5, 8⟩] := by decide

example : executeTopNModel 2 (fun _ => true)
    [[[⟨6, 5⟩, ⟨7, 4⟩, ⟨5, 3⟩]], [[⟨5, 4⟩, ⟨1, 2⟩, ⟨6, 1⟩], [⟨7, 6⟩, ⟨1, 5⟩, ⟨5, 1⟩]]] = [⟨7, 10⟩, ⟨5, 8⟩] := by
  decide

/-! ## bool reducer (ClearRow / Store return value) -/

theorem C17_bool_laws : Laws (fun _ : Option Bool => True) boolReduce none where
  closed := fun _ _ _ _ => trivial
  dnil := trivial
  comm := by intro a b _ _; rcases a with _ | _ | _ <;> rcases b with _ | _ | _ <;> rfl
  assoc := by
    intro a b c _ _ _
    rcases a with _ | _ | _ <;> rcases b with _ | _ | _ <;> rcases c with _ | _ | _ <;> rfl
  idl := by intro a _; rcases a with _ | _ | _ <;> rfl

theorem C17_bool (g₁ g₂ : List (List (Option Bool))) (p : g₁.flatten.Perm g₂.flatten) :
    mapReduce boolReduce none g₁ = mapReduce boolReduce none g₂ :=
  C17_placement_order_free C17_bool_laws g₁ g₂ p (fun _ _ _ _ => trivial)

/-- The bool result is true iff some shard reported true (nil without any result). -/
theorem C17_bool_spec (groups : List (List (Option Bool))) :
    mapReduce boolReduce none groups = Spec.boolOr groups.flatten :=
  mapReduce_eq_spec C17_bool_laws rfl (fun x xs _ => spec_boolOr_cons x xs) groups
    (fun _ _ _ _ => trivial)

end PV.C17
