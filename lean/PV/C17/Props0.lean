/-
A reducer with `Laws` gives a map-reduce result that depends neither on the grouping of shards onto nodes
nor on arrival orders; Sum, Min, Max, MinRow, MaxRow and Count are such reducers.  Min, Max, MinRow and MaxRow are lawful
because they compute the best value / row of a sum of count functions (`Laws.of_denotation`, Best.lean).
-/
import PV.C17.Spec
import PV.C17.Best
namespace PV.C17
open List

/-! ### Lawful reducers and folds -/

/-- `dnil`: the reducer's `nil` is in the domain; `idl`: it is a left identity (right: `Laws.idr`). -/
structure Laws {α : Type} (D : α → Prop) (f : α → α → α) (e : α) : Prop where
  closed : ∀ a b, D a → D b → D (f a b)
  dnil : D e
  comm : ∀ a b, D a → D b → f a b = f b a
  assoc : ∀ a b c, D a → D b → D c → f (f a b) c = f a (f b c)
  idl : ∀ a, D a → f e a = a

theorem Laws.idr {α : Type} {D : α → Prop} {f : α → α → α} {e : α} (L : Laws D f e)
    (a : α) (ha : D a) : f a e = a := by
  rw [L.comm a e ha L.dnil]; exact L.idl a ha

/-- A reducer is lawful when it computes, on canonical representatives, an operation that is commutative and associative on
what they stand for.  `R c a` reads "`a` is the result for content `c`": it relates every value of the domain (and nothing
else) to some content, a content to at most one value, and `f`, `e` to `op`, `z`; the laws are asked of `op` on related
contents only. -/
theorem Laws.of_denotation {α C : Type} {D : α → Prop} {f : α → α → α} {e : α}
    (R : C → α → Prop) (op : C → C → C) (z : C)
    (dom : ∀ a, D a ↔ ∃ c, R c a)
    (uniq : ∀ c a b, R c a → R c b → a = b)
    (hom : ∀ c₁ c₂ a b, R c₁ a → R c₂ b → R (op c₁ c₂) (f a b))
    (unit : R z e)
    (op_comm : ∀ c₁ c₂ a b, R c₁ a → R c₂ b → op c₁ c₂ = op c₂ c₁)
    (op_assoc : ∀ c₁ c₂ c₃ a b c, R c₁ a → R c₂ b → R c₃ c → op (op c₁ c₂) c₃ = op c₁ (op c₂ c₃))
    (z_op : ∀ c a, R c a → op z c = c) : Laws D f e where
  closed := fun a b ha hb =>
    let ⟨_, ra⟩ := (dom a).mp ha
    let ⟨_, rb⟩ := (dom b).mp hb
    (dom _).mpr ⟨_, hom _ _ a b ra rb⟩
  dnil := (dom e).mpr ⟨z, unit⟩
  comm := fun a b ha hb =>
    let ⟨_, ra⟩ := (dom a).mp ha
    let ⟨_, rb⟩ := (dom b).mp hb
    uniq _ _ _ (hom _ _ a b ra rb) (op_comm _ _ a b ra rb ▸ hom _ _ b a rb ra)
  assoc := fun a b c ha hb hc =>
    let ⟨_, ra⟩ := (dom a).mp ha
    let ⟨_, rb⟩ := (dom b).mp hb
    let ⟨_, rc⟩ := (dom c).mp hc
    uniq _ _ _ (hom _ _ _ c (hom _ _ a b ra rb) rc)
      (op_assoc _ _ _ a b c ra rb rc ▸ hom _ _ a _ ra (hom _ _ b c rb rc))
  idl := fun a ha =>
    let ⟨_, ra⟩ := (dom a).mp ha
    uniq _ _ _ (z_op _ a ra ▸ hom _ _ e a unit ra) ra

theorem foldl_closed {α : Type} {D : α → Prop} {f : α → α → α} {e : α} (L : Laws D f e)
    (l : List α) (a : α) (ha : D a) (hl : ∀ x ∈ l, D x) : D (l.foldl f a) := by
  induction l generalizing a with
  | nil => exact ha
  | cons x xs ih =>
    obtain ⟨hx, hxs⟩ := forall_mem_cons.mp hl
    exact ih _ (L.closed _ _ ha hx) hxs

theorem foldl_acc {α : Type} {D : α → Prop} {f : α → α → α} {e : α} (L : Laws D f e)
    (l : List α) (a : α) (ha : D a) (hl : ∀ x ∈ l, D x) :
    l.foldl f a = f a (l.foldl f e) := by
  induction l generalizing a with
  | nil => exact (L.idr a ha).symm
  | cons x xs ih =>
    obtain ⟨hx, hxs⟩ := forall_mem_cons.mp hl
    rw [foldl_cons, foldl_cons, ih (f a x) (L.closed _ _ ha hx) hxs,
      ih (f e x) (L.closed _ _ L.dnil hx) hxs, L.idl x hx,
      L.assoc a x _ ha hx (foldl_closed L xs e L.dnil hxs)]

theorem reduceAll_cons {α : Type} {D : α → Prop} {f : α → α → α} {e : α} (L : Laws D f e)
    (x : α) (xs : List α) (hx : D x) (hxs : ∀ y ∈ xs, D y) :
    reduceAll f e (x :: xs) = f x (reduceAll f e xs) := by
  unfold reduceAll
  rw [foldl_cons, L.idl x hx]
  exact foldl_acc L xs x hx hxs

theorem reduceAll_append {α : Type} {D : α → Prop} {f : α → α → α} {e : α} (L : Laws D f e)
    (a b : List α) (ha : ∀ x ∈ a, D x) (hb : ∀ x ∈ b, D x) :
    reduceAll f e (a ++ b) = f (reduceAll f e a) (reduceAll f e b) := by
  unfold reduceAll
  rw [foldl_append]
  exact foldl_acc L b _ (foldl_closed L a e L.dnil ha) hb

theorem reduceAll_induction {α : Type} {D : α → Prop} {f : α → α → α} {e : α} (L : Laws D f e)
    {P : List α → α → Prop} (h0 : P [] e)
    (hc : ∀ x xs r, D x → D r → P xs r → P (x :: xs) (f x r))
    (l : List α) (hl : ∀ x ∈ l, D x) : P l (reduceAll f e l) := by
  induction l with
  | nil => exact h0
  | cons x xs ih =>
    obtain ⟨hx, hxs⟩ := forall_mem_cons.mp hl
    rw [reduceAll_cons L x xs hx hxs]
    exact hc x xs _ hx (foldl_closed L xs e L.dnil hxs) (ih hxs)

/-- A fold of the reducer over shard results stands for the `op`-fold of their contents. -/
theorem reduceAll_denotes {α C ι : Type} {f : α → α → α} {e : α} (R : C → α → Prop) (op : C → C → C) (z : C)
    (hom : ∀ c₁ c₂ a b, R c₁ a → R c₂ b → R (op c₁ c₂) (f a b)) (unit : R z e)
    (c : ι → C) (q : ι → α) (l : List ι) (hq : ∀ i ∈ l, R (c i) (q i)) :
    R ((l.map c).foldl op z) (reduceAll f e (l.map q)) := by
  unfold reduceAll
  suffices H : ∀ c₀ a, R c₀ a → R ((l.map c).foldl op c₀) ((l.map q).foldl f a) from H z e unit
  induction l with
  | nil => exact fun _ _ h => h
  | cons i l ih =>
    exact fun c₀ a h => ih (fun j hj => hq j (mem_cons_of_mem _ hj)) _ _ (hom _ _ _ _ h (hq i mem_cons_self))

/-- Arrival order does not matter. -/
theorem C17_fold_perm {α : Type} {D : α → Prop} {f : α → α → α} {e : α} (L : Laws D f e)
    {l₁ l₂ : List α} (p : l₁.Perm l₂) (h : ∀ x ∈ l₁, D x) :
    reduceAll f e l₁ = reduceAll f e l₂ := by
  unfold reduceAll
  suffices H : ∀ a, D a → l₁.foldl f a = l₂.foldl f a from H e L.dnil
  induction p with
  | nil => intro a _; rfl
  | cons x _ ih =>
    intro a ha
    obtain ⟨hx, hxs⟩ := forall_mem_cons.mp h
    exact ih hxs _ (L.closed _ _ ha hx)
  | swap x y l =>
    intro a ha
    have hy : D y := h y (by simp)
    have hx : D x := h x (by simp)
    simp only [foldl_cons]
    rw [L.assoc a y x ha hy hx, L.comm y x hy hx, ← L.assoc a x y ha hx hy]
  | trans p₁ _ ih₁ ih₂ =>
    intro a ha
    rw [ih₁ h a ha, ih₂ (fun y hy => h y (p₁.mem_iff.mpr hy)) a ha]

/-- Grouping shards onto nodes does not matter. -/
theorem C17_group {α : Type} {D : α → Prop} {f : α → α → α} {e : α} (L : Laws D f e)
    (groups : List (List α)) (h : ∀ g ∈ groups, ∀ x ∈ g, D x) :
    mapReduce f e groups = reduceAll f e groups.flatten := by
  unfold mapReduce
  induction groups with
  | nil => rfl
  | cons g gs ih =>
    obtain ⟨hg, hgs⟩ := forall_mem_cons.mp h
    rw [map_cons, flatten_cons, reduceAll_append L g _ hg (forall_mem_flatten.mpr hgs), ← ih hgs]
    exact reduceAll_cons L _ _ (foldl_closed L g e L.dnil hg)
      (fun r hr => by
        obtain ⟨g', hg', rfl⟩ := mem_map.mp hr
        exact foldl_closed L g' e L.dnil (hgs g' hg'))

theorem forall_mem_of_flatten_perm {α : Type} {P : α → Prop} {g₁ g₂ : List (List α)}
    (p : g₁.flatten.Perm g₂.flatten) (h : ∀ g ∈ g₁, ∀ x ∈ g, P x) : ∀ g ∈ g₂, ∀ x ∈ g, P x :=
  forall_mem_flatten.mp (fun x hx => forall_mem_flatten.mpr h x (p.mem_iff.mpr hx))

/-- The property for one reducer: any two executions (groupings + arrival orders) over the same
multiset of per-shard results agree. -/
theorem C17_placement_order_free {α : Type} {D : α → Prop} {f : α → α → α} {e : α}
    (L : Laws D f e) (g₁ g₂ : List (List α)) (p : g₁.flatten.Perm g₂.flatten)
    (h : ∀ g ∈ g₁, ∀ x ∈ g, D x) : mapReduce f e g₁ = mapReduce f e g₂ := by
  rw [C17_group L g₁ h, C17_group L g₂ (forall_mem_of_flatten_perm p h)]
  exact C17_fold_perm L p (forall_mem_flatten.mpr h)

theorem mapReduce_eq_spec {α : Type} {D : α → Prop} {f : α → α → α} {e : α} (L : Laws D f e)
    {spec : List α → α} (h0 : spec [] = e) (hc : ∀ x xs, D x → spec (x :: xs) = f x (spec xs))
    (groups : List (List α)) (h : ∀ g ∈ groups, ∀ x ∈ g, D x) :
    mapReduce f e groups = spec groups.flatten := by
  rw [C17_group L groups h]
  exact reduceAll_induction L (P := fun l r => r = spec l) h0.symm
    (fun x xs r hx _ hr => by rw [hr, hc x xs hx]) _ (forall_mem_flatten.mpr h)

theorem mapReduce_congr {α : Type} (P : α → Prop) (f g : α → α → α) (e : α) (he : P e)
    (hclosed : ∀ a b, P a → P b → P (g a b)) (heq : ∀ a b, P a → P b → f a b = g a b)
    (groups : List (List α)) (h : ∀ gr ∈ groups, ∀ x ∈ gr, P x) :
    mapReduce f e groups = mapReduce g e groups := by
  have fold : ∀ (l : List α) (a : α), P a → (∀ x ∈ l, P x) →
      l.foldl f a = l.foldl g a ∧ P (l.foldl g a) := by
    intro l
    induction l with
    | nil => intro a ha _; exact ⟨rfl, ha⟩
    | cons x xs ih =>
      intro a ha hl
      simp only [foldl_cons]
      have hx := hl x (by simp)
      rw [heq a x ha hx]
      exact ih _ (hclosed a x ha hx) (fun y hy => hl y (by simp [hy]))
  unfold mapReduce reduceAll
  have h1 : groups.map (fun l => l.foldl f e) = groups.map (fun l => l.foldl g e) := by
    apply map_congr_left
    intro l hl
    exact (fold l e he (h l hl)).1
  rw [h1]
  apply (fold _ e he _).1
  intro x hx
  rcases mem_map.mp hx with ⟨l, hl, rfl⟩
  exact (fold l e he (h l hl)).2

/-! ### The scalar reducers -/

theorem C17_add_laws : Laws (fun _ => True) ValCount.add ValCount.zero where
  closed := fun _ _ _ _ => trivial
  dnil := trivial
  comm := by intro a b _ _; simp [ValCount.add, Int.add_comm]
  assoc := by intro a b c _ _ _; simp [ValCount.add, Int.add_assoc]
  idl := by intro a _; cases a; simp [ValCount.add, ValCount.zero]

/-! ### Min / Max.  Domain: what a shard can return (`count ≥ 0`, and the zero value when empty). -/

def VCValid (v : ValCount) : Prop := v.count ≥ 0 ∧ (v.count = 0 → v.val = 0)

instance (v : ValCount) : Decidable (VCValid v) := by unfold VCValid; exact inferInstance

theorem vcValid_cases {a : ValCount} (h : VCValid a) : a = .zero ∨ 0 < a.count := by
  obtain ⟨v, c⟩ := a
  simp only [VCValid, ValCount.zero, ValCount.mk.injEq] at *
  omega

theorem zero_smaller (b : ValCount) : ValCount.zero.smaller b = b := by
  simp [ValCount.smaller, ValCount.zero]

theorem smaller_zero {a : ValCount} (ha : 0 < a.count) : a.smaller .zero = a := by
  simp [ValCount.smaller, ValCount.zero, Int.ne_of_gt ha]

theorem smaller_of_pos {a b : ValCount} (ha : 0 < a.count) (hb : 0 < b.count) :
    a.smaller b =
      if b.val < a.val then b else if b.val = a.val then ⟨a.val, a.count + b.count⟩ else a := by
  simp only [ValCount.smaller, Int.ne_of_gt ha, hb, false_or, and_true, true_and]

/-- A valid shard result is the preferred value of the count function that counts it alone. -/
theorem BestV.single {le : Int → Int → Prop} (refl : ∀ a, le a a) {p : ValCount} (h : VCValid p) :
    BestV le (fun r => if r = p.val then p.count else 0) p := by
  have hnn : ∀ r, 0 ≤ (if r = p.val then p.count else 0) := fun r => by
    split
    · exact h.1
    · exact Int.le_refl 0
  refine ⟨hnn, ?_⟩
  rcases vcValid_cases h with rfl | hpos
  · exact .inl ⟨rfl, fun r => ite_self _⟩
  · refine .inr ⟨hpos, (if_pos rfl).symm, fun r hr => ?_⟩
    by_cases e : r = p.val
    · exact e ▸ refl _
    · have hr' : (if r = p.val then p.count else 0) > 0 := hr
      rw [if_neg e] at hr'
      exact absurd hr' (Int.lt_irrefl 0)

theorem BestV.valid {le : Int → Int → Prop} {c : Int → Int} {p : ValCount} (h : BestV le c p) : VCValid p := by
  rcases h.2 with ⟨rfl, _⟩ | ⟨hc, _⟩
  · exact ⟨Int.le_refl 0, fun _ => rfl⟩
  · exact ⟨Int.le_of_lt hc, fun h0 => absurd hc (h0 ▸ Int.lt_irrefl 0)⟩

theorem vcReduce_laws {lt le : Int → Int → Prop} [DecidableRel lt] (P : Pref lt le) :
    Laws VCValid (vcReduce lt) ValCount.zero :=
  Laws.of_denotation (BestV le) (fun c₁ c₂ r => c₁ r + c₂ r) (fun _ => 0)
    (fun _ => ⟨fun h => ⟨_, BestV.single P.refl h⟩, fun ⟨_, h⟩ => h.valid⟩)
    (fun _ _ _ => BestV.unique P)
    (fun _ _ _ _ hp hq => hp.reduce P hq (fun _ => rfl))
    ⟨fun _ => Int.le_refl 0, .inl ⟨rfl, fun _ => rfl⟩⟩
    (fun _ _ _ _ _ _ => funext fun _ => Int.add_comm _ _)
    (fun _ _ _ _ _ _ _ _ _ => funext fun _ => Int.add_assoc _ _ _)
    (fun _ _ _ => funext fun _ => Int.zero_add _)

theorem C17_smaller_laws : Laws VCValid ValCount.smaller ValCount.zero := vcReduce_laws pref_min_int

theorem C17_larger_laws : Laws VCValid ValCount.larger ValCount.zero := vcReduce_laws pref_max_int

/-! ### MinRow / MaxRow pair reducers.  Domain: `count = 0 → id = 0` (the zero Pair). -/

def PairValid (p : Pair) : Prop := p.count = 0 → p.id = 0

/-- A valid pair is the preferred row of the count function that counts it alone. -/
theorem Best.single {le : Nat → Nat → Prop} (refl : ∀ a, le a a) {p : Pair} (h : PairValid p) :
    Best le (fun r => if r = p.id then p.count else 0) p := by
  by_cases hc : p.count = 0
  · have hid : p.id = 0 := h hc
    refine .inl ⟨?_, fun r => by simp only [hc, ite_self]⟩
    cases p
    simp only at hc hid
    rw [hc, hid]
    rfl
  · refine .inr ⟨Nat.pos_of_ne_zero hc, (if_pos rfl).symm, fun r hr => ?_⟩
    by_cases e : r = p.id
    · exact e ▸ refl _
    · have hr' : (if r = p.id then p.count else 0) > 0 := hr
      rw [if_neg e] at hr'
      exact absurd hr' (Nat.lt_irrefl 0)

theorem Best.valid {le : Nat → Nat → Prop} {c : Nat → Nat} {p : Pair} (h : Best le c p) : PairValid p := by
  rcases h with ⟨rfl, _⟩ | ⟨hc, _⟩
  · exact fun _ => rfl
  · exact fun h0 => absurd hc (h0 ▸ Nat.lt_irrefl 0)

/-- Both pair reducers are lawful for one reason: they add up count functions. -/
theorem rowReduce_laws {lt le : Nat → Nat → Prop} [DecidableRel lt] (P : Pref lt le) :
    Laws PairValid (rowReduce lt) Pair.zero :=
  Laws.of_denotation (Best le) (fun c₁ c₂ r => c₁ r + c₂ r) (fun _ => 0)
    (fun _ => ⟨fun h => ⟨_, Best.single P.refl h⟩, fun ⟨_, h⟩ => h.valid⟩)
    (fun _ _ _ => Best.unique P)
    (fun _ _ _ _ hp hq => hp.reduce P hq (fun _ => rfl))
    (.inl ⟨rfl, fun _ => rfl⟩)
    (fun _ _ _ _ _ _ => funext fun _ => Nat.add_comm _ _)
    (fun _ _ _ _ _ _ _ _ _ => funext fun _ => Nat.add_assoc _ _ _)
    (fun _ _ _ => funext fun _ => Nat.zero_add _)

theorem C17_minRow_laws : Laws PairValid minRowReduce Pair.zero := rowReduce_laws pref_min

theorem C17_maxRow_laws : Laws PairValid maxRowReduce Pair.zero := rowReduce_laws pref_max

theorem C17_count_laws : Laws (fun _ : Nat => True) (· + ·) 0 where
  closed := fun _ _ _ _ => trivial
  dnil := trivial
  comm := fun a b _ _ => Nat.add_comm a b
  assoc := fun a b c _ _ _ => Nat.add_assoc a b c
  idl := fun a _ => Nat.zero_add a

end PV.C17
