/-
C17: what the order-free specifications of the scalar reducers mean and that map-reduce returns them.  `Spec.min` / `Spec.max` are the
best value of the counts over the live shards (`specVal_best`), `Spec.minRow` / `Spec.maxRow` the best row of the totals
(`specRow_best`); the reduce of the shard results is the best of the same counts (`Best.reduce`, `BestV.reduce`), and there is one
best (`mapReduce_vcReduce`, `mapReduce_rowReduce`).  `Spec.boolOr` satisfies the reducer's recursion.
-/
import PV.C17.Props0
namespace PV.C17
open List

theorem foldl_add_int (l : List Int) (a : Int) : l.foldl (· + ·) a = a + l.foldl (· + ·) 0 := by
  induction l generalizing a with
  | nil => simp
  | cons x xs ih => simp only [foldl_cons]; rw [ih (a + x), ih (0 + x)]; omega

namespace Spec

theorem minVal_eq_min? (l : List ValCount) : minVal l = (l.map (·.val)).min? := by
  induction l with
  | nil => rfl
  | cons x xs ih =>
    rw [minVal, ih, map_cons, min?_cons]
    cases (xs.map (·.val)).min? with
    | none => rfl
    | some m => simp only [Option.elim, Int.min_def]; split <;> split <;> first | rfl | (congr 1; omega)

theorem maxVal_eq_max? (l : List ValCount) : maxVal l = (l.map (·.val)).max? := by
  induction l with
  | nil => rfl
  | cons x xs ih =>
    rw [maxVal, ih, map_cons, max?_cons]
    cases (xs.map (·.val)).max? with
    | none => rfl
    | some m => simp only [Option.elim, Int.max_def]; split <;> split <;> first | rfl | (congr 1; omega)

theorem countOf_cons (m : Int) (x : ValCount) (l : List ValCount) :
    countOf m (x :: l) = (if x.val = m then x.count else 0) + countOf m l := by
  unfold countOf
  by_cases h : x.val = m
  · simp only [filter_cons, h, decide_true, if_true, map_cons, foldl_cons, Int.zero_add]
    exact foldl_add_int _ x.count
  · simp [h]

theorem countOf_eq_zero (m : Int) (l : List ValCount) (h : ∀ y ∈ l, y.val ≠ m) : countOf m l = 0 := by
  induction l with
  | nil => rfl
  | cons x xs ih =>
    obtain ⟨hx, hxs⟩ := forall_mem_cons.mp h
    rw [countOf_cons, ih hxs, if_neg hx]; rfl

theorem countOf_pos (m : Int) (l : List ValCount) (hm : ∃ y ∈ l, y.val = m) (h : ∀ y ∈ l, y.count > 0) :
    countOf m l > 0 := by
  induction l with
  | nil => obtain ⟨y, hy, _⟩ := hm; cases hy
  | cons x xs ih =>
    obtain ⟨hx, hxs⟩ := forall_mem_cons.mp h
    rw [countOf_cons]
    by_cases e : x.val = m
    · have : countOf m xs ≥ 0 := by
        by_cases hm' : ∃ y ∈ xs, y.val = m
        · exact Int.le_of_lt (ih hm' hxs)
        · rw [countOf_eq_zero m xs (fun y hy e => hm' ⟨y, hy, e⟩)]; omega
      rw [if_pos e]; omega
    · obtain ⟨y, hy, hym⟩ := hm
      rcases mem_cons.mp hy with rfl | hy
      · exact absurd hym e
      · have := ih ⟨y, hy, hym⟩ hxs
        rw [if_neg e]; omega

end Spec

/-! ### Min / Max -/

/-- `Spec.min = specVal Spec.minVal` and `Spec.max = specVal Spec.maxVal` hold by `rfl`. -/
def specVal (sel : List ValCount → Option Int) (l : List ValCount) : ValCount :=
  match sel (Spec.live l) with
  | none => ValCount.zero
  | some m => ⟨m, Spec.countOf m (Spec.live l)⟩

theorem live_pos (l : List ValCount) : ∀ y ∈ Spec.live l, y.count > 0 := fun y hy => by
  simpa using (mem_filter.mp hy).2

theorem countOf_live_pos_iff (r : Int) (l : List ValCount) :
    Spec.countOf r (Spec.live l) > 0 ↔ r ∈ (Spec.live l).map (·.val) := by
  constructor
  · intro h
    apply Classical.byContradiction
    intro hr
    rw [Spec.countOf_eq_zero r _ (fun y hy e => hr (mem_map.mpr ⟨y, hy, e⟩))] at h
    exact absurd h (Int.lt_irrefl 0)
  · intro h
    obtain ⟨y, hy, e⟩ := mem_map.mp h
    exact Spec.countOf_pos r _ ⟨y, hy, e⟩ (live_pos l)

theorem specVal_best {le : Int → Int → Prop} (sel : List ValCount → Option Int)
    (hnone : ∀ l, sel l = none → l = [])
    (hsome : ∀ l m, sel l = some m → m ∈ l.map (·.val) ∧ ∀ a ∈ l.map (·.val), le m a)
    (l : List ValCount) : BestV le (fun r => Spec.countOf r (Spec.live l)) (specVal sel l) := by
  have hnn : ∀ r, 0 ≤ Spec.countOf r (Spec.live l) := fun r => by
    by_cases h : r ∈ (Spec.live l).map (·.val)
    · exact Int.le_of_lt ((countOf_live_pos_iff r l).mpr h)
    · exact Int.le_of_eq (Spec.countOf_eq_zero r _ (fun y hy e => h (mem_map.mpr ⟨y, hy, e⟩))).symm
  refine ⟨hnn, ?_⟩
  unfold specVal
  cases h : sel (Spec.live l) with
  | none =>
    refine .inl ⟨rfl, fun r => ?_⟩
    rw [hnone _ h]
    rfl
  | some m =>
    obtain ⟨hm, hle⟩ := hsome _ m h
    exact .inr ⟨(countOf_live_pos_iff m l).mpr hm, rfl, fun r hr => hle r ((countOf_live_pos_iff r l).mp hr)⟩

theorem countOf_live_cons (r : Int) (x : ValCount) (xs : List ValCount) (hx : VCValid x) :
    Spec.countOf r (Spec.live (x :: xs)) = (if r = x.val then x.count else 0) + Spec.countOf r (Spec.live xs) := by
  have hlive : Spec.live (x :: xs) = if x.count > 0 then x :: Spec.live xs else Spec.live xs := by
    simp only [Spec.live, filter_cons, decide_eq_true_eq]
  rw [hlive]
  by_cases hc : x.count > 0
  · rw [if_pos hc, Spec.countOf_cons]
    by_cases e : r = x.val
    · rw [if_pos e, if_pos e.symm]
    · rw [if_neg e, if_neg (fun e' => e e'.symm)]
  · -- a shard without values counts nothing
    rw [if_neg hc, Int.le_antisymm (Int.not_lt.mp hc) hx.1, ite_self, Int.zero_add]

/-- For either direction: map-reduce with the reducer returns what the specification says. -/
theorem mapReduce_vcReduce {lt le : Int → Int → Prop} [DecidableRel lt] (P : Pref lt le)
    (sel : List ValCount → Option Int) (hnone : ∀ l, sel l = none → l = [])
    (hsome : ∀ l m, sel l = some m → m ∈ l.map (·.val) ∧ ∀ a ∈ l.map (·.val), le m a)
    (groups : List (List ValCount)) (h : ∀ g ∈ groups, ∀ x ∈ g, VCValid x) :
    mapReduce (vcReduce lt) .zero groups = specVal sel groups.flatten := by
  rw [C17_group (vcReduce_laws P) groups h]
  refine BestV.unique P ?_ (specVal_best sel hnone hsome groups.flatten)
  exact reduceAll_induction (vcReduce_laws P) (P := fun l v => BestV le (fun r => Spec.countOf r (Spec.live l)) v)
    ⟨fun _ => Int.le_refl 0, .inl ⟨rfl, fun _ => rfl⟩⟩
    (fun x xs _ hx _ hv => (BestV.single P.refl hx).reduce P hv (fun r => countOf_live_cons r x xs hx))
    _ (forall_mem_flatten.mpr h)

/-! ### MinRow / MaxRow -/

/-- `Spec.minRow = specRow List.min?` and `Spec.maxRow = specRow List.max?` hold by `rfl`. -/
def specRow (sel : List Nat → Option Nat) (l : List Pair) : Pair :=
  let live := l.filter (fun p => p.count > 0)
  match sel (live.map (·.id)) with
  | none => Pair.zero
  | some m => ⟨m, ((live.filter (fun p => p.id = m)).map (·.count)).foldl (· + ·) 0⟩

theorem pairTotal_cons (r : Nat) (x : Pair) (xs : List Pair) :
    Spec.pairTotal r (x :: xs) = (if r = x.id then x.count else 0) + Spec.pairTotal r xs := by
  unfold Spec.pairTotal
  rw [filter_cons]
  by_cases e : r = x.id
  · rw [if_pos e, if_pos (decide_eq_true e.symm), map_cons, sum_cons]
  · rw [if_neg e, if_neg (fun h => e (of_decide_eq_true h).symm), Nat.zero_add]

/-- Shards that report a row with count 0 add nothing to its total. -/
theorem pairTotal_live (r : Nat) (l : List Pair) :
    (((l.filter (fun p => p.count > 0)).filter (fun p => p.id = r)).map (·.count)).foldl (· + ·) 0
      = Spec.pairTotal r l := by
  rw [← sum_eq_foldl_nat]
  induction l with
  | nil => rfl
  | cons x xs ih =>
    rw [pairTotal_cons, ← ih, filter_cons]
    by_cases hc : x.count > 0
    · rw [if_pos (decide_eq_true hc), filter_cons]
      by_cases e : r = x.id
      · rw [if_pos e, if_pos (decide_eq_true e.symm), map_cons, sum_cons]
      · rw [if_neg e, if_neg (fun h => e (of_decide_eq_true h).symm), Nat.zero_add]
    · rw [if_neg (fun h => hc (of_decide_eq_true h)), Nat.eq_zero_of_not_pos hc, ite_self, Nat.zero_add]

theorem pairTotal_pos (r : Nat) (l : List Pair) :
    Spec.pairTotal r l > 0 ↔ r ∈ (l.filter (fun p => p.count > 0)).map (·.id) := by
  induction l with
  | nil => exact ⟨fun h => absurd h (Nat.lt_irrefl 0), fun h => nomatch h⟩
  | cons x xs ih =>
    rw [pairTotal_cons, filter_cons]
    by_cases hc : x.count > 0
    · rw [if_pos (decide_eq_true hc), map_cons, mem_cons, ← ih]
      by_cases e : r = x.id
      · rw [if_pos e]
        exact ⟨fun _ => .inl e, fun _ => Nat.add_pos_left hc _⟩
      · rw [if_neg e, Nat.zero_add]
        exact ⟨.inr, fun h => h.resolve_left e⟩
    · rw [if_neg (fun h => hc (of_decide_eq_true h)), ← ih, Nat.eq_zero_of_not_pos hc, ite_self, Nat.zero_add]

/-- What the specification of MinRow / MaxRow means: the preferred row among those some shard reports with a
positive count, with the total reported for it. -/
theorem specRow_best {le : Nat → Nat → Prop} (sel : List Nat → Option Nat)
    (hnone : ∀ l, sel l = none → l = []) (hsome : ∀ l m, sel l = some m → m ∈ l ∧ ∀ a ∈ l, le m a)
    (l : List Pair) : Best le (fun r => Spec.pairTotal r l) (specRow sel l) := by
  unfold specRow
  simp only
  cases h : sel ((l.filter (fun p => p.count > 0)).map (·.id)) with
  | none =>
    refine .inl ⟨rfl, fun r => Nat.eq_zero_of_not_pos fun hr => ?_⟩
    have := (pairTotal_pos r l).mp hr
    rw [hnone _ h] at this
    cases this
  | some m =>
    obtain ⟨hm, hle⟩ := hsome _ m h
    simp only [pairTotal_live]
    exact .inr ⟨(pairTotal_pos m l).mpr hm, rfl, fun r hr => hle r ((pairTotal_pos r l).mp hr)⟩

/-- For either direction: map-reduce with the pair reducer returns what the specification says. -/
theorem mapReduce_rowReduce {lt le : Nat → Nat → Prop} [DecidableRel lt] (P : Pref lt le)
    (sel : List Nat → Option Nat) (hnone : ∀ l, sel l = none → l = [])
    (hsome : ∀ l m, sel l = some m → m ∈ l ∧ ∀ a ∈ l, le m a)
    (groups : List (List Pair)) (h : ∀ g ∈ groups, ∀ x ∈ g, PairValid x) :
    mapReduce (rowReduce lt) .zero groups = specRow sel groups.flatten := by
  rw [C17_group (rowReduce_laws P) groups h]
  refine Best.unique P ?_ (specRow_best sel hnone hsome groups.flatten)
  exact reduceAll_induction (rowReduce_laws P) (P := fun l p => Best le (fun r => Spec.pairTotal r l) p)
    (.inl ⟨rfl, fun _ => rfl⟩)
    (fun x xs _ hx _ hp => (Best.single P.refl hx).reduce P hp (fun r => pairTotal_cons r x xs))
    _ (forall_mem_flatten.mpr h)

theorem spec_boolOr_cons (x : Option Bool) (l : List (Option Bool)) :
    Spec.boolOr (x :: l) = boolReduce x (Spec.boolOr l) := by
  unfold Spec.boolOr
  cases x with
  | none =>
    simp only [filterMap_cons, id]
    cases h : filterMap id l <;> simp [boolReduce]
  | some b =>
    simp only [filterMap_cons, id]
    cases h : filterMap id l with
    | nil => cases b <;> simp [boolReduce]
    | cons y ys => cases b <;> simp [boolReduce, Bool.or_comm]

end PV.C17
