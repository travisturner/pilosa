/-
The two-pass TopN protocol (Model.lean executeTopNModel).
-/
import PV.C17.MergeInstances
namespace PV.C17
open List K

theorem insertDesc_perm (p : Pair) (l : List Pair) : (insertDesc p l).Perm (p :: l) := by
  induction l with
  | nil => exact Perm.refl _
  | cons q qs ih =>
    simp only [insertDesc]
    split
    · exact Perm.refl _
    · exact ((Perm.cons q ih).trans (Perm.swap p q qs))

theorem sortPairs_perm (l : List Pair) : (sortPairs l).Perm l := by
  unfold sortPairs
  induction l with
  | nil => exact Perm.refl _
  | cons p ps ih =>
    simp only [foldr_cons]
    exact (insertDesc_perm p _).trans (Perm.cons p ih)

theorem pairsAdd_perm_right (m : List (Nat × Nat)) (hm : MapOK m) {o o' : List Pair} (h : o.Perm o') :
    pairsAdd (m.map toPair) o = pairsAdd (m.map toPair) o' := by
  rw [pairsAdd_eq m hm, pairsAdd_eq m hm]
  exact congrArg _ (foldl_insert_perm natStrictTotal addKV_laws (h.map toKV) (fun _ _ => trivial) m hm)

theorem foldl_pairsAdd_congr {ι : Type} (l : List ι) (u v : ι → List Pair)
    (h : ∀ i ∈ l, (u i).Perm (v i)) (m : List (Nat × Nat)) (hm : MapOK m) :
    (l.map u).foldl pairsAdd (m.map toPair) = (l.map v).foldl pairsAdd (m.map toPair) := by
  induction l generalizing m with
  | nil => rfl
  | cons i l ih =>
    simp only [map_cons, foldl_cons]
    rw [pairsAdd_perm_right m hm (h i (by simp)), pairsAdd_eq m hm]
    exact ih (fun j hj => h j (by simp [hj])) _ (mapOK_foldl_ins m _ hm)

/-- `executeTopNShards` = sort of the order-free merge of all per-shard lists, whichever node
results were sorted on the way. -/
theorem topNShards_eq (perShard : List Pair → List Pair) (remote : List (List Pair) → Bool)
    (groups : List (List (List Pair))) :
    topNShards perShard remote groups = sortPairs (Spec.pairs (groups.flatten.map perShard)) := by
  unfold topNShards
  congr 1
  -- a node result enters the coordinator's reduction as an argument of `Pairs.Add`: sorting it changes nothing
  have h := foldl_pairsAdd_congr groups
    (fun g => if remote (g.map perShard) then sortPairs (reduceAll pairsAdd [] (g.map perShard))
      else reduceAll pairsAdd [] (g.map perShard))
    (fun g => reduceAll pairsAdd [] (g.map perShard))
    (by intro g _; split
        · exact sortPairs_perm _
        · exact Perm.refl _) [] mapOK_nil
  have h2 := mapReduce_pairsAdd_spec (groups.map (·.map perShard))
  rw [mapReduce, map_map, ← map_flatten] at h2
  exact h.trans h2

theorem mem_trimN {n : Nat} {l : List Pair} {p : Pair} (h : p ∈ trimN n l) : p ∈ l := by
  unfold trimN at h
  split at h
  · exact mem_of_mem_take h
  · exact h

theorem sum_count_filter_of_zero_outside (A B : Pair → Bool) (h1 : ∀ x, B x = true → A x = true)
    (h2 : ∀ x, A x = true → B x = false → x.count = 0) (l : List Pair) :
    ((l.filter B).map (·.count)).sum = ((l.filter A).map (·.count)).sum := by
  induction l with
  | nil => rfl
  | cons x xs ih =>
    simp only [filter_cons]
    cases hA : A x <;> cases hB : B x
    · simpa using ih
    · have := h1 x hB; rw [hA] at this; cases this
    · have := h2 x hA hB; simp [this, ih]
    · simp [ih]

theorem pairTotal_topShardIds (k : Nat) (ids : List Nat) (hk : ids.contains k = true) (flat : List Pair) :
    Spec.pairTotal k (flat.filter (fun p => p.count > 0 && ids.contains p.id)) = Spec.pairTotal k flat := by
  unfold Spec.pairTotal
  rw [filter_filter]
  apply sum_count_filter_of_zero_outside
  · intro x hx; simp only [Bool.and_eq_true] at hx; exact hx.1
  · intro x hA hB
    have hid : x.id = k := by simpa using hA
    cases hc : decide (x.count > 0) with
    | false => simpa using hc
    | true =>
      exfalso
      have : (decide (x.id = k) && (decide (x.count > 0) && ids.contains x.id)) = true := by
        have hk' : k ∈ ids := by simpa using hk
        rw [hc, hid]; simp [hk']
      rw [this] at hB; cases hB

theorem flatten_map_filter (P : Pair → Bool) (shards : List (List Pair)) :
    (shards.map (fun d => d.filter P)).flatten = shards.flatten.filter P := by
  induction shards with
  | nil => rfl
  | cons d ds ih => simp only [map_cons, flatten_cons, filter_append, ih]

theorem mem_sortedKeys {k : Nat} {l : List Pair} : k ∈ sortedKeys l ↔ k ∈ l.map (·.id) := by
  unfold sortedKeys
  suffices H : ∀ (xs acc : List Nat), k ∈ xs.foldl (fun acc x => insertCol x acc) acc ↔ k ∈ acc ∨ k ∈ xs by
    simpa using H (l.map (·.id)) []
  intro xs
  induction xs with
  | nil => intro acc; simp
  | cons x xs ih =>
    intro acc
    rw [foldl_cons, ih, mem_insertCol, mem_cons, or_comm (a := k = x), or_assoc]

end PV.C17
