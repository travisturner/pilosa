/-
The hour index of a valid civil time is strictly monotone in its fields (leap years counted, months laid
out one after the other), so `Before` is the lexicographic order.
-/
import PV.C18.Model
import PV.C18.Spec
namespace PV.C18
open Spec (yearLen)

theorem isLeap_iff (y : Nat) :
    isLeap y = true ↔ ((y % 4 = 0 ∧ y % 100 ≠ 0) ∨ y % 400 = 0) := by
  simp [isLeap]

/-- `(y + k) / (k + 1)` is the number of multiples of `k + 1` below `y`; there is one more below
`y + 1` exactly when `y` is one. -/
theorem ceilDiv_succ (k y : Nat) :
    (y + 1 + k) / (k + 1) = (y + k) / (k + 1) + if y % (k + 1) = 0 then 1 else 0 := by
  rw [Nat.add_right_comm y 1 k, Nat.succ_div, Nat.add_assoc y k 1]
  simp only [Nat.dvd_iff_mod_eq_zero, Nat.add_mod_right]

/-- The leap rule on the three indicators: a multiple of 100 is one of 4, one of 400 one of 100. -/
theorem isLeap_indicators (y : Nat) :
    (if isLeap y then 1 else 0) + (if y % 100 = 0 then 1 else 0) =
      (if y % 4 = 0 then 1 else 0) + (if y % 400 = 0 then 1 else 0) := by
  have h4 : y % 100 % 4 = y % 4 := Nat.mod_mod_of_dvd y (by decide)
  have h100 : y % 400 % 100 = y % 100 := Nat.mod_mod_of_dvd y (by decide)
  unfold isLeap
  by_cases c100 : y % 100 = 0
  · have c4 : y % 4 = 0 := by rw [← h4, c100]
    simp [c100, c4, Nat.add_comm]
  · have c400 : ¬ y % 400 = 0 := fun h => c100 (by rw [← h100, h])
    by_cases c4 : y % 4 = 0 <;> simp [c400, c100, c4]

theorem centuries_le (y : Nat) : (y + 99) / 100 ≤ (y + 3) / 4 := by omega

theorem leapsBefore_succ (y : Nat) :
    leapsBefore (y + 1) = leapsBefore y + (if isLeap y then 1 else 0) := by
  have h0 := centuries_le y
  have h1 := centuries_le (y + 1)
  have hi := isLeap_indicators y
  unfold leapsBefore
  rw [ceilDiv_succ 3, ceilDiv_succ 99] at h1 ⊢
  rw [ceilDiv_succ 399]
  generalize (if y % 4 = 0 then 1 else 0) = i4 at *
  generalize (if y % 100 = 0 then 1 else 0) = i100 at *
  generalize (if y % 400 = 0 then 1 else 0) = i400 at *
  generalize (if isLeap y = true then 1 else 0) = l at *
  omega

theorem daysIn_bounds (y m : Nat) : 28 ≤ daysIn y m ∧ daysIn y m ≤ 31 := by
  unfold daysIn; (repeat' split) <;> omega

theorem daysIn_12 (y : Nat) : daysIn y 12 = 31 := by simp [daysIn]
theorem daysIn_1 (y : Nat) : daysIn y 1 = 31 := by simp [daysIn]
theorem dim1 (y m : Nat) : m = 1 → daysIn y m = 31 := by intro e; rw [e]; exact daysIn_1 y

theorem daysBefore_1 (y : Nat) : daysBefore y 1 = 0 := by simp [daysBefore]

/-- The table of days before a month against the table of month lengths. -/
theorem daysBefore_succ (y m : Nat) (h1 : 1 ≤ m) (h2 : m ≤ 11) :
    daysBefore y (m + 1) = daysBefore y m + daysIn y m := by
  unfold daysBefore daysIn
  generalize isLeap y = leap
  revert leap h1
  revert m
  decide

theorem daysBefore_12 (y : Nat) : daysBefore y 12 + 31 = yearLen y := by
  cases hl : isLeap y <;> simp [daysBefore, yearLen, hl]

theorem yearLen_bounds (y : Nat) : 365 ≤ yearLen y ∧ yearLen y ≤ 366 := by
  unfold yearLen; split <;> omega

theorem daysBefore_mono (y : Nat) {m m' : Nat} (h1 : 1 ≤ m) (h : m < m') (h2 : m' ≤ 12) :
    daysBefore y m + daysIn y m ≤ daysBefore y m' := by
  induction m' with
  | zero => omega
  | succ n ih =>
    rw [daysBefore_succ y n (by omega) (by omega)]
    by_cases hn : m = n
    · subst hn; omega
    · have := ih (by omega) (by omega)
      omega

theorem daysBefore_in_year (y m d : Nat) (h1 : 1 ≤ m) (h2 : m ≤ 12) (h3 : d ≤ daysIn y m) :
    daysBefore y m + d ≤ yearLen y := by
  have h12 := daysBefore_12 y
  by_cases h : m = 12
  · subst h; rw [daysIn_12] at h3; omega
  · have := daysBefore_mono y h1 (show m < 12 by omega) (Nat.le_refl 12)
    omega

theorem dayIndex_year_succ (y : Nat) : dayIndex (y + 1) 1 1 = dayIndex y 1 1 + yearLen y := by
  unfold dayIndex yearLen
  rw [daysBefore_1, daysBefore_1, leapsBefore_succ]
  split <;> omega

theorem dayIndex_year_mono {y y' : Nat} (h : y < y') :
    dayIndex y 1 1 + yearLen y ≤ dayIndex y' 1 1 := by
  induction y' with
  | zero => omega
  | succ n ih =>
    rw [dayIndex_year_succ]
    by_cases hn : y = n
    · subst hn; omega
    · have := ih (by omega)
      omega

def lexLt (a b : Civil) : Prop :=
  a.y < b.y ∨ (a.y = b.y ∧ (a.m < b.m ∨ (a.m = b.m ∧ (a.d < b.d ∨ (a.d = b.d ∧ a.h < b.h)))))

instance (a b : Civil) : Decidable (lexLt a b) := by unfold lexLt; infer_instance

theorem hourIndex_mono {a b : Civil} (ha : a.valid) (hb : b.valid) (h : lexLt a b) :
    hourIndex a < hourIndex b := by
  obtain ⟨ha1, ha2, ha3, ha4, ha5⟩ := ha
  obtain ⟨hb1, hb2, hb3, hb4, hb5⟩ := hb
  unfold hourIndex
  rcases h with h | ⟨hy, h⟩
  · have h1 := dayIndex_year_mono h
    have h2 := daysBefore_in_year a.y a.m a.d ha1 ha2 ha4
    have h3 : dayIndex a.y a.m a.d + 1 ≤ dayIndex a.y 1 1 + yearLen a.y := by
      unfold dayIndex; rw [daysBefore_1]; omega
    have h4 : dayIndex b.y 1 1 ≤ dayIndex b.y b.m b.d := by
      unfold dayIndex; rw [daysBefore_1]; omega
    omega
  · unfold dayIndex
    rw [hy]
    rcases h with h | ⟨hm, h⟩
    · have := daysBefore_mono b.y ha1 h hb2
      rw [hy] at ha4
      omega
    · rw [hm]
      rcases h with h | ⟨hd, h⟩ <;> omega

theorem lexLt_trichotomy (a b : Civil) : lexLt a b ∨ a = b ∨ lexLt b a := by
  rcases a with ⟨ay, am, ad, ah⟩
  rcases b with ⟨b_y, bm, bd, bh⟩
  simp only [lexLt, Civil.mk.injEq]
  omega

theorem hourIndex_lt_iff {a b : Civil} (ha : a.valid) (hb : b.valid) :
    hourIndex a < hourIndex b ↔ lexLt a b := by
  constructor
  · intro h
    rcases lexLt_trichotomy a b with h1 | h1 | h1
    · exact h1
    · subst h1; omega
    · have := hourIndex_mono hb ha h1; omega
  · exact hourIndex_mono ha hb

/-- `Before` on instants is the lexicographic order on valid civil times. -/
theorem before_iff {a b : Civil} (ha : a.valid) (hb : b.valid) :
    before a b = true ↔ lexLt a b := by
  rw [before, decide_eq_true_eq]; exact hourIndex_lt_iff ha hb

theorem after_iff {a b : Civil} (ha : a.valid) (hb : b.valid) : after a b = true ↔ lexLt b a := by
  rw [after, decide_eq_true_eq]; exact hourIndex_lt_iff hb ha

theorem hourIndex_le_iff {a b : Civil} (ha : a.valid) (hb : b.valid) :
    hourIndex a ≤ hourIndex b ↔ ¬ lexLt b a := by
  rw [← hourIndex_lt_iff hb ha]; omega

theorem hourIndex_inj {a b : Civil} (ha : a.valid) (hb : b.valid) (h : hourIndex a = hourIndex b) :
    a = b := by
  rcases lexLt_trichotomy a b with h1 | h1 | h1
  · have := hourIndex_mono ha hb h1; omega
  · exact h1
  · have := hourIndex_mono hb ha h1; omega

theorem year_le {a b : Civil} (ha : a.valid) (hb : b.valid) (h : hourIndex a ≤ hourIndex b) :
    a.y ≤ b.y := by
  have := (hourIndex_le_iff ha hb).mp h
  simp only [lexLt] at this; omega

end PV.C18
