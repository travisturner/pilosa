/-
What reading a row from a list of views returns, and which bits the time views of a field built by a
history of timestamped sets hold (C18 and C19).
-/
import PV.C18.Field
namespace PV.C18
open Spec (Ev)

theorem mem_insertNat (x y : Nat) (l : List Nat) : x ∈ insertNat y l ↔ x = y ∨ x ∈ l := by
  induction l with
  | nil => simp [insertNat]
  | cons z zs ih =>
    simp only [insertNat]
    split
    · simp
    · split
      · rename_i h; subst h; simp
      · rw [List.mem_cons, List.mem_cons, ih]; exact or_left_comm

theorem mem_sortDedup (x : Nat) (l : List Nat) : x ∈ sortDedup l ↔ x ∈ l := by
  induction l with
  | nil => simp [sortDedup]
  | cons y ys ih =>
    have : sortDedup (y :: ys) = insertNat y (sortDedup ys) := rfl
    rw [this, mem_insertNat, ih]; simp

/-- The specification sorts with its own copy of the same function. -/
theorem spec_sortDedup_eq (l : List Nat) : Spec.sortDedup l = sortDedup l := by
  have h : ∀ x l, Spec.insertNat x l = insertNat x l := by
    intro x l
    induction l with
    | nil => rfl
    | cons y ys ih => simp only [Spec.insertNat, insertNat, ih]
  induction l with
  | nil => rfl
  | cons y ys ih =>
    show Spec.insertNat y (Spec.sortDedup ys) = insertNat y (sortDedup ys)
    rw [ih, h]

/-- The bit `b` is in the view named `n` (the view `f.view? n` finds). -/
def memIn (vs : List FView) (n : VName) (b : Nat × Nat) : Prop :=
  match vs.find? (fun v => v.name == n) with
  | none => False
  | some v => b ∈ v.bits

theorem mem_rowOfViews_iff (f : Field) (r c : Nat) (names : List VName) :
    c ∈ f.rowOfViews r names ↔ ∃ n ∈ names, memIn f.views n (r, c) := by
  simp only [Field.rowOfViews, mem_sortDedup, List.mem_flatMap, memIn, Field.view?]
  apply exists_congr; intro n
  apply and_congr_right; intro _
  cases List.find? (fun v => v.name == n) f.views with
  | none => simp
  | some v =>
    simp only [List.mem_map, List.mem_filter, beq_iff_eq]
    constructor
    · rintro ⟨⟨r', c'⟩, ⟨hb, rfl⟩, rfl⟩; exact hb
    · intro h; exact ⟨(r, c), ⟨h, rfl⟩, rfl⟩

theorem memIn_exists {vs : List FView} {n : VName} {b : Nat × Nat} (h : memIn vs n b) :
    ∃ v ∈ vs, b ∈ v.bits := by
  unfold memIn at h
  cases hv : vs.find? (fun v => v.name == n) with
  | none => simp [hv] at h
  | some v => exact ⟨v, List.mem_of_find?_eq_some hv, by simpa [hv] using h⟩

theorem memIn_nil (n : VName) (b : Nat × Nat) : memIn [] n b ↔ False := by simp [memIn]

theorem memIn_cons (v : FView) (vs : List FView) (n : VName) (b : Nat × Nat) :
    memIn (v :: vs) n b ↔ if v.name = n then b ∈ v.bits else memIn vs n b := by
  by_cases h : v.name = n <;> simp [memIn, h]

theorem memIn_setInViews (vs : List FView) (n n' : VName) (r c : Nat) (b : Nat × Nat) :
    memIn (setInViews vs n r c).1 n' b ↔ memIn vs n' b ∨ (n' = n ∧ b = (r, c)) := by
  induction vs with
  | nil => by_cases h : n = n' <;> simp [setInViews, memIn_cons, memIn_nil, h, eq_comm]
  | cons v vs ih =>
    simp only [setInViews]
    by_cases hv : v.name = n
    · rw [if_pos hv]
      by_cases hc : v.bits.contains (r, c) = true
      · rw [if_pos hc]
        refine ⟨Or.inl, fun h => h.elim id ?_⟩
        rintro ⟨rfl, rfl⟩
        rw [memIn_cons, if_pos hv]; exact List.contains_iff_mem.mp hc
      · rw [if_neg hc, memIn_cons, memIn_cons]
        by_cases hn : v.name = n'
        · simp [hn, hn ▸ hv, or_comm]
        · have hne : n' ≠ n := fun e => hn (hv.trans e.symm)
          simp [hn, hne]
    · rw [if_neg hv, memIn_cons, memIn_cons]
      by_cases hn : v.name = n'
      · have hne : n' ≠ n := fun e => hv (hn.trans e)
        simp [hn, hne]
      · simp only [hn, if_false]; exact ih

/-- The step function is that of `Field.setBit`, written out so that rewriting finds it. -/
theorem memIn_fold (names : List VDigits) (s0 : List FView × Bool) (n' : VName) (b : Nat × Nat)
    (r c : Nat) :
    memIn (names.foldl (fun (acc : List FView × Bool) v =>
        let res := setInViews acc.1 (.tv v) r c
        (res.1, acc.2 || res.2)) s0).1 n' b ↔
      memIn s0.1 n' b ∨ (n' ∈ names.map .tv ∧ b = (r, c)) := by
  induction names generalizing s0 with
  | nil => simp
  | cons v vs ih =>
    simp only [List.foldl_cons, ih, memIn_setInViews, List.map_cons, List.mem_cons, or_and_right, or_assoc]

theorem memIn_setBit (f : Field) (r c : Nat) (t : Option Civil) (v : VDigits) (b : Nat × Nat) :
    memIn (f.setBit r c t).1.views (.tv v) b ↔
      memIn f.views (.tv v) b ∨ (b = (r, c) ∧ ∃ ts, t = some ts ∧ v ∈ viewsByTime ts f.q) := by
  have h0 : memIn (if f.noStd then (f.views, false) else setInViews f.views .std r c).1 (.tv v) b ↔
      memIn f.views (.tv v) b := by
    cases f.noStd <;> simp [memIn_setInViews]
  unfold Field.setBit
  cases t with
  | none => simp [h0]
  | some ts => simp [memIn_fold, h0, and_comm]

theorem setBit_q (f : Field) (r c : Nat) (t : Option Civil) : (f.setBit r c t).1.q = f.q := by
  unfold Field.setBit; cases t <;> rfl

theorem setBit_noStd (f : Field) (r c : Nat) (t : Option Civil) :
    (f.setBit r c t).1.noStd = f.noStd := by
  unfold Field.setBit; cases t <;> rfl

theorem foldSet_q (log : List Ev) (f0 : Field) :
    (log.foldl (fun f ev => (f.setBit ev.row ev.col ev.ts).1) f0).q = f0.q :=
  List.foldlRecOn log _ (motive := fun f => f.q = f0.q) rfl
    fun f h ev _ => (setBit_q f ev.row ev.col ev.ts).trans h

theorem build_q (q : Quantum) (noStd : Bool) (log : List Ev) : (build q noStd log).q = q :=
  foldSet_q log _

theorem memIn_foldSet (log : List Ev) (f0 : Field) (v : VDigits) (b : Nat × Nat) :
    memIn (log.foldl (fun f ev => (f.setBit ev.row ev.col ev.ts).1) f0).views (.tv v) b ↔
      memIn f0.views (.tv v) b ∨ ∃ ev ∈ log, b = (ev.row, ev.col) ∧
        ∃ ts, ev.ts = some ts ∧ v ∈ viewsByTime ts f0.q := by
  induction log generalizing f0 with
  | nil => simp
  | cons ev evs ih =>
    simp only [List.foldl_cons, ih, memIn_setBit, setBit_q, List.mem_cons, exists_eq_or_imp, or_assoc]

theorem memIn_build (q : Quantum) (noStd : Bool) (log : List Ev) (v : VDigits) (r c : Nat) :
    memIn (build q noStd log).views (.tv v) (r, c) ↔
      ∃ ev ∈ log, ev.row = r ∧ ev.col = c ∧ ∃ ts, ev.ts = some ts ∧ v ∈ viewsByTime ts q := by
  unfold build
  rw [memIn_foldSet log _ v (r, c)]
  simp only [memIn_nil, false_or, Prod.mk.injEq, eq_comm, and_assoc]

end PV.C18
