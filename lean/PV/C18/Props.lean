/-
C18 property theorems.

The question the design left open — can the walk-down loop emit an unaligned year view, given
that `nextYearGTE` is true whenever `next.Year() == end.Year()`? — is decided by `C18_cover`: no.
`nextYearGTE(t, end)` is equivalent to "the start of the year after t's is ≤ end" (`nextYearGTE_iff`),
it is false when the walk-up loop leaves early and stays false while the cursor advances
(`TY_mono`), so the year branch only ever fires at a cursor the walk-up loop aligned to January 1st.
-/
import PV.C18.Walk
import PV.C18.FieldLemmas
namespace PV.C18
open Spec (floorU nextU periodHours yearLen alignedTo coverChain coverCount coverOK interval denote Ev)

/-- `timeOfView (viewByTimeUnit t u)` gives back the start of the period, and with `adj` the start
of the next one: every unit, year 0..9999, month, day, hour 0..23. -/
theorem C18_name_roundtrip (t : Civil) (ht : t.valid) (hy : t.y ≤ 9999) (u : U) :
    timeOfView (viewByTimeUnit t u) false = some (floorU u t) ∧
    timeOfView (viewByTimeUnit t u) true = some (nextU u t) := by
  have hv := floorU_valid (u := u) ht
  have hn := nextU_floorU u t
  simp only [timeOfView, parseView_name ht hy u, name_len]
  cases u
  · exact ⟨rfl, congrArg some ((addYear_aligned hv rfl rfl rfl).trans hn)⟩
  · exact ⟨rfl, congrArg some ((addMonth_aligned hv rfl rfl).trans hn)⟩
  · exact ⟨rfl, congrArg some ((addDay_aligned hv rfl).trans hn)⟩
  · exact ⟨rfl, congrArg some (addHour_eq hv)⟩

/-- Every name denotes the period of its unit containing `t`: `[floor, floor + length)` in hours. -/
theorem C18_name_denotes (t : Civil) (ht : t.valid) (hy : t.y ≤ 9999) (u : U) :
    interval (viewByTimeUnit t u) =
      some (hourIndex (floorU u t), hourIndex (floorU u t) + periodHours u (floorU u t)) := by
  unfold interval; rw [denote_name ht hy u]

/-- The periods denoted by the views of `viewsByTimeRange` are consecutive and non-empty from
`start` to `end`, for every valid quantum and every range aligned to its finest unit. -/
theorem C18_cover (q : Quantum) (hq : q ∈ validQuanta) (s e : Civil) (hs : s.valid) (he : e.valid)
    (hy : e.y ≤ 9999) (hse : hourIndex s ≤ hourIndex e)
    (has : alignedTo q s = true) (hae : alignedTo q e = true) :
    coverChain (hourIndex s) (hourIndex e) (viewsByTimeRange s e q) = true :=
  (viewsByTimeRange_chain q hq s e hs he hy hse has hae).cover he hy

/-- The executable oracle of the correspondence check (`Spec.coverOK`) is this predicate. -/
theorem C18_coverOK (q : Quantum) (hq : q ∈ validQuanta) (s e : Civil) (hs : s.valid) (he : e.valid)
    (hy : e.y ≤ 9999) (hse : hourIndex s < hourIndex e)
    (has : alignedTo q s = true) (hae : alignedTo q e = true) :
    coverOK (viewsByTimeRange s e q) s e = true := by
  unfold coverOK
  rw [if_neg (by omega)]
  exact C18_cover q hq s e hs he hy (by omega) has hae

/-- An empty or reversed range reads no view (any quantum, any alignment). -/
theorem C18_empty_range (q : Quantum) (s e : Civil) (h : hourIndex e ≤ hourIndex s) :
    viewsByTimeRange s e q = [] := by
  have hb : before s e = false := by simp [before]; omega
  have hfuel : hourIndex e - hourIndex s = 0 := by omega
  unfold viewsByTimeRange
  simp only [hfuel]
  split <;> simp [walkUp, walkDown]

/-- Disjoint and covering exactly the range: every hour of `[start, end)` is in exactly one of
the periods read, every hour outside in none. -/
theorem C18_cover_exact (q : Quantum) (hq : q ∈ validQuanta) (s e : Civil) (hs : s.valid) (he : e.valid)
    (hy : e.y ≤ 9999) (hse : hourIndex s ≤ hourIndex e)
    (has : alignedTo q s = true) (hae : alignedTo q e = true) (x : Nat) :
    coverCount x (viewsByTimeRange s e q) = if hourIndex s ≤ x ∧ x < hourIndex e then 1 else 0 :=
  coverChain_count (C18_cover q hq s e hs he hy hse has hae) x

/-- Every view `viewsByTimeRange` returns is the view of some time for a unit of the quantum —
a view that `SetBit` writes for that quantum (`viewsByTime`). -/
theorem C18_units (q : Quantum) (s e : Civil) :
    ∀ v ∈ viewsByTimeRange s e q, ∃ u t', u ∈ q ∧ v = viewByTimeUnit t' u := by
  intro v hv
  unfold viewsByTimeRange at hv
  simp only [List.mem_append] at hv
  rcases hv with hv | hv
  · split at hv
    · exact walkUp_units q e _ _ v hv
    · simp at hv
  · exact walkDown_units q e _ _ v hv

/-- A timestamp has one of its quantum views among the views read iff it lies in the range. -/
theorem C18_views_of_timestamp (q : Quantum) (hq : q ∈ validQuanta) (s e : Civil) (hs : s.valid) (he : e.valid)
    (hy : e.y ≤ 9999) (hse : hourIndex s ≤ hourIndex e)
    (has : alignedTo q s = true) (hae : alignedTo q e = true)
    (ts : Civil) (hts : ts.valid) (htsy : ts.y ≤ 9999) :
    (∃ v ∈ viewsByTimeRange s e q, v ∈ viewsByTime ts q) ↔
      (hourIndex s ≤ hourIndex ts ∧ hourIndex ts < hourIndex e) :=
  (viewsByTimeRange_chain q hq s e hs he hy hse has hae).meets he hy hts htsy

/-- **A time-range Row returns exactly the columns set with a timestamp in the range**: for the
field built by any history of timestamped sets, every valid quantum and every range aligned to
its finest unit. -/
theorem C18_query (q : Quantum) (hq : q ∈ validQuanta) (noStd : Bool) (log : List Ev)
    (hlog : ∀ ev ∈ log, ∀ ts, ev.ts = some ts → ts.valid ∧ ts.y ≤ 9999)
    (s e : Civil) (hs : s.valid) (he : e.valid) (hy : e.y ≤ 9999) (hse : hourIndex s ≤ hourIndex e)
    (has : alignedTo q s = true) (hae : alignedTo q e = true) (r c : Nat) :
    c ∈ (build q noStd log).rowRange r s e ↔ c ∈ Spec.rowRange log r s e := by
  have hq0 : (build q noStd log).q ≠ [] := by
    rw [build_q]; intro h; subst h; simp [validQuanta] at hq
  unfold Field.rowRange
  rw [if_neg hq0, build_q, mem_rowOfViews_iff]
  simp only [Spec.rowRange, spec_sortDedup_eq, mem_sortDedup, List.mem_map, List.mem_filter, Bool.and_eq_true,
    beq_iff_eq]
  constructor
  · rintro ⟨n, hn, hm⟩
    obtain ⟨v, hv, rfl⟩ := hn
    obtain ⟨ev, hev, hr, hc, ts, hts, hvt⟩ := (memIn_build q noStd log v r c).mp hm
    obtain ⟨tv, ty⟩ := hlog ev hev ts hts
    have := (C18_views_of_timestamp q hq s e hs he hy hse has hae ts tv ty).mp ⟨v, hv, hvt⟩
    refine ⟨ev, ⟨hev, hr, ?_⟩, hc⟩
    simp [hts, Spec.inRange, this.1, this.2]
  · rintro ⟨ev, ⟨hev, hr, hin⟩, hc⟩
    cases hts : ev.ts with
    | none => simp [hts] at hin
    | some ts =>
      simp only [hts, Spec.inRange, Bool.and_eq_true, decide_eq_true_eq] at hin
      obtain ⟨tv, ty⟩ := hlog ev hev ts hts
      obtain ⟨v, hv, hvt⟩ := (C18_views_of_timestamp q hq s e hs he hy hse has hae ts tv ty).mpr hin
      exact ⟨.tv v, ⟨v, hv, rfl⟩,
        (memIn_build q noStd log v r c).mpr ⟨ev, hev, hr, hc, ts, hts, hvt⟩⟩


/-! ### Non-vacuity -/

/-- A range across a leap day and a year end, quantum YMDH: 17 hour views, 2 day views, 10 month
views, 1 year view, 2 day views, 4 hour views, in that order; the hypotheses of `C18_cover` hold. -/
example :
    let s : Civil := ⟨2000, 2, 27, 7⟩
    let e : Civil := ⟨2002, 1, 3, 4⟩
    s.valid ∧ e.valid ∧ hourIndex s ≤ hourIndex e ∧ alignedTo [.Y, .M, .D, .H] s = true ∧
    (viewsByTimeRange s e [.Y, .M, .D, .H]).length = 17 + 2 + 10 + 1 + 2 + 4 ∧
    coverChain (hourIndex s) (hourIndex e) (viewsByTimeRange s e [.Y, .M, .D, .H]) = true := by
  decide

example : timeOfView (viewByTimeUnit ⟨2001, 12, 31, 23⟩ .H) true = some ⟨2002, 1, 1, 0⟩ := by decide

/-- `C18_query` on a concrete history (quantum MDH, range 2000-12-31T23 .. 2001-02-01T00): columns
1 and 3 are inside (the first and the last hour of the range), 2 and 4 just outside. -/
example :
    let log : List Ev := [⟨1, 1, some ⟨2000, 12, 31, 23⟩, true⟩, ⟨1, 2, some ⟨2000, 12, 31, 22⟩, true⟩,
      ⟨1, 3, some ⟨2001, 1, 31, 23⟩, true⟩, ⟨1, 4, some ⟨2001, 2, 1, 0⟩, true⟩,
      ⟨2, 5, some ⟨2001, 1, 15, 12⟩, true⟩]
    (build [.M, .D, .H] false log).rowRange 1 ⟨2000, 12, 31, 23⟩ ⟨2001, 2, 1, 0⟩ = [1, 3] ∧
    Spec.rowRange log 1 ⟨2000, 12, 31, 23⟩ ⟨2001, 2, 1, 0⟩ = [1, 3] := by decide

end PV.C18
