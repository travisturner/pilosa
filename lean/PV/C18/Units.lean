/-
`Spec.nextU` carries from hour to day to month to year; each level is proved from the next coarser one.
From a cursor aligned to a unit the model's step of that unit lands on `nextU`, and the three checks
compare `end` with thresholds `TD ≤ TM ≤ TY` that are monotone in the cursor.
-/
import PV.C18.Calendar
namespace PV.C18
open Spec (floorU nextU periodHours yearLen)

theorem floorU_idem (u : U) (t : Civil) : floorU u (floorU u t) = floorU u t := by
  cases u <;> rfl

theorem nextU_floorU (u : U) (t : Civil) : nextU u (floorU u t) = nextU u t := by
  cases u <;> rfl

theorem floorU_D_eq {t : Civil} (h0 : t.h = 0) : floorU .D t = t := by
  rcases t with ⟨y, m, d, h⟩; simp only at h0; subst h0; rfl

theorem floorU_M_eq {t : Civil} (hd : t.d = 1) (h0 : t.h = 0) : floorU .M t = t := by
  rcases t with ⟨y, m, d, h⟩; simp only at hd h0; subst hd h0; rfl

theorem floorU_Y_eq {t : Civil} (hm : t.m = 1) (hd : t.d = 1) (h0 : t.h = 0) : floorU .Y t = t := by
  rcases t with ⟨y, m, d, h⟩; simp only at hm hd h0; subst hm hd h0; rfl

theorem floorU_valid {u : U} {t : Civil} (ht : t.valid) : (floorU u t).valid := by
  obtain ⟨h1, h2, h3, h4, h5⟩ := ht
  have b := daysIn_bounds t.y t.m
  have b1 := daysIn_1 t.y
  cases u <;> simp only [floorU, Civil.valid] <;> omega

theorem nextU_H (t : Civil) :
    nextU .H t = if t.h < 23 then { t with h := t.h + 1 } else nextU .D t := rfl

theorem nextU_D (t : Civil) :
    nextU .D t = if t.d < daysIn t.y t.m then ⟨t.y, t.m, t.d + 1, 0⟩ else nextU .M t := rfl

theorem nextU_M (t : Civil) :
    nextU .M t = if t.m = 12 then nextU .Y t else ⟨t.y, t.m + 1, 1, 0⟩ := rfl

theorem nextU_M_aligned (t : Civil) : (nextU .M t).d = 1 ∧ (nextU .M t).h = 0 := by
  rw [nextU_M]; split <;> exact ⟨rfl, rfl⟩

theorem nextU_D_aligned (t : Civil) : (nextU .D t).h = 0 := by
  rw [nextU_D]; split
  · rfl
  · exact (nextU_M_aligned t).2

theorem nextU_valid {t : Civil} (ht : t.valid) (u : U) : (nextU u t).valid := by
  obtain ⟨h1, h2, h3, h4, h5⟩ := ht
  have hY : (nextU .Y t).valid := by
    simp only [nextU, Civil.valid, daysIn_1]; omega
  have hM : (nextU .M t).valid := by
    rw [nextU_M]; split
    · exact hY
    · have := daysIn_bounds t.y (t.m + 1)
      simp only [Civil.valid]; omega
  have hD : (nextU .D t).valid := by
    rw [nextU_D]; split
    · simp only [Civil.valid]; omega
    · exact hM
  cases u
  · exact hY
  · exact hM
  · exact hD
  · rw [nextU_H]; split
    · simp only [Civil.valid]; omega
    · exact hD

theorem hourIndex_nextU {t : Civil} (ht : t.valid) (u : U) :
    hourIndex (nextU u t) = hourIndex (floorU u t) + periodHours u (floorU u t) := by
  obtain ⟨h1, h2, h3, h4, h5⟩ := ht
  have hY : hourIndex (nextU .Y t) = hourIndex (floorU .Y t) + 24 * yearLen t.y := by
    have := dayIndex_year_succ t.y
    simp only [nextU, floorU, hourIndex]; omega
  have hM : hourIndex (nextU .M t) = hourIndex (floorU .M t) + 24 * daysIn t.y t.m := by
    rw [nextU_M]; split
    · rename_i hm
      have := daysBefore_12 t.y
      rw [hY]
      simp only [floorU, hourIndex, dayIndex, daysBefore_1, hm, daysIn_12]; omega
    · have := daysBefore_succ t.y t.m h1 (by omega)
      simp only [floorU, hourIndex, dayIndex]; omega
  have hD : hourIndex (nextU .D t) = hourIndex (floorU .D t) + 24 := by
    rw [nextU_D]; split
    · simp only [floorU, hourIndex, dayIndex]; omega
    · rw [hM]; simp only [floorU, hourIndex, dayIndex]; omega
  cases u
  · exact hY
  · exact hM
  · exact hD
  · rw [nextU_H]; split
    · simp only [floorU, periodHours, hourIndex]; omega
    · rw [hD]; simp only [floorU, periodHours, hourIndex]; omega

theorem periodHours_pos (u : U) (t : Civil) : 0 < periodHours u t := by
  have := yearLen_bounds t.y
  have := daysIn_bounds t.y t.m
  cases u <;> simp only [periodHours] <;> omega

theorem period_contains {t : Civil} (ht : t.valid) (u : U) :
    hourIndex (floorU u t) ≤ hourIndex t ∧ hourIndex t < hourIndex (nextU u t) := by
  rw [hourIndex_nextU ht]
  obtain ⟨h1, h2, h3, h4, h5⟩ := ht
  have := daysBefore_in_year t.y t.m t.d h1 h2 h4
  cases u <;> simp only [floorU, periodHours, hourIndex, dayIndex, daysBefore_1] <;> omega

/-- `time.Date` normalises a month up to 13 and a day up to 32 to a valid date. -/
theorem normDate_valid {y m d h : Nat} (m1 : 1 ≤ m) (m2 : m ≤ 13) (d1 : 1 ≤ d) (d2 : d ≤ 32)
    (hh : h < 24) : (normDate y m d h).valid := by
  have hm : 1 ≤ (if m > 12 then m - 12 else m) ∧ (if m > 12 then m - 12 else m) ≤ 12 := by
    split <;> omega
  simp only [normDate]
  generalize (if m > 12 then y + 1 else y) = y' at *
  generalize (if m > 12 then m - 12 else m) = m' at *
  have b := daysIn_bounds y' m'
  have b1 := daysIn_bounds (y' + 1) 1
  have b2 := daysIn_bounds y' (m' + 1)
  split
  · split <;> simp only [Civil.valid] <;> omega
  · simp only [Civil.valid]; omega

theorem addDay_valid {t : Civil} (ht : t.valid) : (addDay t).valid := by
  have b := daysIn_bounds t.y t.m
  obtain ⟨h1, h2, h3, h4, h5⟩ := ht
  exact normDate_valid h1 (by omega) (by omega) (by omega) h5

theorem addMonthGo_valid {t : Civil} (ht : t.valid) : (addMonthGo t).valid := by
  have b := daysIn_bounds t.y t.m
  obtain ⟨h1, h2, h3, h4, h5⟩ := ht
  exact normDate_valid (by omega) (by omega) h3 (by omega) h5

theorem addMonth_valid {t : Civil} (ht : t.valid) : (addMonth t).valid := by
  unfold addMonth
  split
  · obtain ⟨h1, h2, _, _, h5⟩ := ht
    have b := daysIn_bounds t.y t.m
    exact addMonthGo_valid ⟨h1, h2, Nat.le_refl 1, by show 1 ≤ daysIn t.y t.m; omega, h5⟩
  · exact addMonthGo_valid ht

theorem addYear_valid {t : Civil} (ht : t.valid) : (addYear t).valid := by
  have b := daysIn_bounds t.y t.m
  obtain ⟨h1, h2, h3, h4, h5⟩ := ht
  exact normDate_valid h1 (by omega) h3 (by omega) h5

theorem addDay_eq {t : Civil} (h : t.valid) : addDay t =
    if t.d < daysIn t.y t.m then ⟨t.y, t.m, t.d + 1, t.h⟩
    else if t.m = 12 then ⟨t.y + 1, 1, 1, t.h⟩ else ⟨t.y, t.m + 1, 1, t.h⟩ := by
  obtain ⟨h1, h2, h3, h4, h5⟩ := h
  have hm : ¬ t.m > 12 := by omega
  simp only [addDay, normDate, hm, if_false]
  by_cases hd : t.d < daysIn t.y t.m
  · have : ¬ t.d + 1 > daysIn t.y t.m := by omega
    simp only [this, hd, if_true, if_false]
  · have : t.d + 1 > daysIn t.y t.m := by omega
    have e : t.d + 1 - daysIn t.y t.m = 1 := by omega
    simp only [this, hd, if_true, if_false, e]

theorem addMonthGo_eq {t : Civil} (h : t.valid) : addMonthGo t =
    if t.m = 12 then ⟨t.y + 1, 1, t.d, t.h⟩
    else if t.d > daysIn t.y (t.m + 1) then ⟨t.y, t.m + 2, t.d - daysIn t.y (t.m + 1), t.h⟩
    else ⟨t.y, t.m + 1, t.d, t.h⟩ := by
  rcases t with ⟨y, m, d, hh⟩
  obtain ⟨h1, h2, h3, h4, h5⟩ := h
  simp only at h1 h2 h3 h4 h5
  have b0 := daysIn_bounds y m
  simp only [addMonthGo, normDate]
  by_cases hm : m = 12
  · subst hm
    have e3 : ¬ d > daysIn (y + 1) 1 := by rw [daysIn_1]; omega
    simp [e3]
  · have e1 : ¬ m + 1 > 12 := by omega
    rw [if_neg e1, if_neg e1, if_neg hm]
    by_cases hd : d > daysIn y (m + 1)
    · have e4 : m + 1 ≠ 12 := by
        intro e; rw [e, daysIn_12] at hd; omega
      rw [if_pos hd, if_neg e4, if_pos hd]
    · rw [if_neg hd, if_neg hd]

theorem addYear_eq {t : Civil} (h : t.valid) : addYear t =
    if t.d > daysIn (t.y + 1) t.m then ⟨t.y + 1, t.m + 1, t.d - daysIn (t.y + 1) t.m, t.h⟩
    else ⟨t.y + 1, t.m, t.d, t.h⟩ := by
  obtain ⟨h1, h2, h3, h4, h5⟩ := h
  have b0 := daysIn_bounds t.y t.m
  have hm : ¬ t.m > 12 := by omega
  simp only [addYear, normDate, hm, if_false]
  by_cases hd : t.d > daysIn (t.y + 1) t.m
  · have : t.m ≠ 12 := by intro e; rw [e, daysIn_12] at hd; omega
    simp only [hd, this, if_true, if_false]
  · simp only [hd, if_false]

theorem addHour_eq {t : Civil} (h : t.valid) : addHour t = nextU .H t := by
  unfold addHour
  rw [addDay_eq h, nextU_H, nextU_D, nextU_M]
  by_cases hh : t.h < 23
  · have : t.h + 1 < 24 := by omega
    simp only [this, hh, if_true]
  · have : ¬ t.h + 1 < 24 := by omega
    simp only [this, hh, if_false]
    split
    · rfl
    · split <;> rfl

theorem addHour_valid {t : Civil} (h : t.valid) : (addHour t).valid := by
  rw [addHour_eq h]; exact nextU_valid h .H

theorem hourIndex_addHour {t : Civil} (h : t.valid) : hourIndex (addHour t) = hourIndex t + 1 := by
  rw [addHour_eq h]; exact hourIndex_nextU h .H

theorem addDay_aligned {t : Civil} (ht : t.valid) (h0 : t.h = 0) : addDay t = nextU .D t := by
  rw [addDay_eq ht, nextU_D, nextU_M, h0]; rfl

theorem addMonth_aligned {t : Civil} (ht : t.valid) (hd : t.d = 1) (h0 : t.h = 0) :
    addMonth t = nextU .M t := by
  have b1 := daysIn_bounds t.y (t.m + 1)
  have e : ¬ t.d > 28 := by omega
  have e2 : ¬ t.d > daysIn t.y (t.m + 1) := by omega
  simp only [addMonth, e, if_false]
  rw [addMonthGo_eq ht, if_neg e2, hd, h0]; rfl

theorem addYear_aligned {t : Civil} (ht : t.valid) (hm : t.m = 1) (hd : t.d = 1) (h0 : t.h = 0) :
    addYear t = nextU .Y t := by
  have b1 := daysIn_bounds (t.y + 1) t.m
  have e : ¬ t.d > daysIn (t.y + 1) t.m := by omega
  rw [addYear_eq ht, if_neg e, hm, hd, h0]; rfl

/-! What the model's own steps do to the hour index (the loops go through `nextU` instead): the aligned
case above, since `time.Date` passes the hour through. -/

theorem hourIndex_normDate (y m d h : Nat) :
    hourIndex (normDate y m d h) = hourIndex (normDate y m d 0) + h := by
  simp only [normDate]
  generalize (if m > 12 then y + 1 else y) = y'
  generalize (if m > 12 then m - 12 else m) = m'
  by_cases c1 : d > daysIn y' m'
  · by_cases c2 : m' = 12
    · simp only [if_pos c1, if_pos c2, hourIndex, Nat.add_zero]
    · simp only [if_pos c1, if_neg c2, hourIndex, Nat.add_zero]
  · simp only [if_neg c1, hourIndex, Nat.add_zero]

theorem hourIndex_addDay {t : Civil} (ht : t.valid) : hourIndex (addDay t) = hourIndex t + 24 := by
  have h := hourIndex_nextU ht .D
  rw [← nextU_floorU, ← addDay_aligned (floorU_valid ht) rfl] at h
  rw [addDay, hourIndex_normDate]
  simp only [addDay, floorU, periodHours, hourIndex] at h ⊢; omega

theorem hourIndex_addMonth {t : Civil} (ht : t.valid) (hd : t.d = 1) :
    hourIndex (addMonth t) = hourIndex t + 24 * daysIn t.y t.m := by
  have h := hourIndex_nextU ht .M
  rw [← nextU_floorU, ← addMonth_aligned (floorU_valid ht) rfl rfl] at h
  have e : addMonth (floorU .M t) = normDate t.y (t.m + 1) 1 0 := rfl
  have e0 : ¬ t.d > 28 := by omega
  have e' : addMonth t = normDate t.y (t.m + 1) t.d t.h := by
    simp only [addMonth, e0, if_false]; rfl
  rw [e] at h
  rw [e', hourIndex_normDate]
  simp only [floorU, periodHours, hourIndex, hd] at h ⊢; omega

theorem hourIndex_addYear {t : Civil} (ht : t.valid) (hm : t.m = 1) (hd : t.d = 1) :
    hourIndex (addYear t) = hourIndex t + 24 * yearLen t.y := by
  have h := hourIndex_nextU ht .Y
  rw [← nextU_floorU, ← addYear_aligned (floorU_valid ht) rfl rfl rfl] at h
  rw [addYear, hourIndex_normDate, hm, hd]
  simp only [addYear, floorU, periodHours, hourIndex, hm, hd] at h ⊢; omega

theorem nextU_le_of_aligned (u : U) {t e : Civil} (ht : t.valid) (he : e.valid) (hat : floorU u t = t)
    (hae : floorU u e = e) (hlt : hourIndex t < hourIndex e) :
    hourIndex (nextU u t) ≤ hourIndex e := by
  have hn := hourIndex_nextU ht u
  have hl := (hourIndex_lt_iff ht he).mp hlt
  have hle := hourIndex_le_iff (nextU_valid ht u) he
  obtain ⟨em, em', -⟩ := he
  rw [hat] at hn
  rcases t with ⟨y, m, d, h⟩
  rcases e with ⟨y', m', d', h'⟩
  simp only at em em'
  cases u <;> simp only [floorU, Civil.mk.injEq, true_and] at hat hae
  · obtain ⟨rfl, rfl, rfl⟩ := hat
    obtain ⟨rfl, rfl, rfl⟩ := hae
    have := dayIndex_year_mono (show y < y' by simp only [lexLt] at hl; omega)
    rw [hn]; simp only [periodHours, hourIndex]; omega
  · obtain ⟨rfl, rfl⟩ := hat
    obtain ⟨rfl, rfl⟩ := hae
    rw [hle, nextU_M]
    simp only [lexLt] at hl
    dsimp only
    split <;> simp only [nextU, lexLt] <;> omega
  · obtain rfl := hat
    obtain rfl := hae
    rw [hn]; simp only [periodHours, hourIndex] at hlt ⊢; omega
  · rw [hn]; simp only [periodHours]; omega

theorem floorU_unique {u : U} {c t : Civil} (hc : c.valid) (ht : t.valid) (hfl : floorU u c = c)
    (h1 : hourIndex c ≤ hourIndex t) (h2 : hourIndex t < hourIndex (nextU u c)) :
    floorU u t = c := by
  have hv := floorU_valid (u := u) ht
  obtain ⟨p1, p2⟩ := period_contains ht u
  rw [← nextU_floorU] at p2
  apply hourIndex_inj hv hc
  have a := fun h => nextU_le_of_aligned u hv hc (floorU_idem u t) hfl h
  have b := fun h => nextU_le_of_aligned u hc hv hfl (floorU_idem u t) h
  omega

/-! `TD t`, `TM t`, `TY t`: what `end` must have reached for `nextDayGTE`, `nextMonthGTE`, `nextYearGTE` to
hold.  `TD` and `TY` are `nextU .D t` and `nextU .Y t`; only `TM` is not a `nextU`. -/

def TD (t : Civil) : Civil := nextU .D t

/-- Start of the month of `t.AddDate(0, 1, 0)`: the next month, or for a day the next month does not
have (`AddDate` normalises January 30th + 1 month to March) the month after it. -/
def TM (t : Civil) : Civil :=
  if t.m = 12 then ⟨t.y + 1, 1, 1, 0⟩
  else if t.d > daysIn t.y (t.m + 1) then ⟨t.y, t.m + 2, 1, 0⟩ else ⟨t.y, t.m + 1, 1, 0⟩

def TY (t : Civil) : Civil := ⟨t.y + 1, 1, 1, 0⟩

theorem TY_congr {a b : Civil} (h1 : a.y = b.y) : TY a = TY b := by
  unfold TY; rw [h1]

theorem TY_gt (t : Civil) : lexLt t (TY t) := by
  simp only [TY, lexLt]; omega

/-- With the `==` of the code read as equality of periods, each check is
`floorU u next = floorU u end ∨ next < end`: the period of `next` starts no later than `end`
(if `end` is not after `next` it then lies in that period). -/
theorem floorU_le_iff (u : U) {n e : Civil} (hn : n.valid) (he : e.valid) :
    hourIndex (floorU u n) ≤ hourIndex e ↔ floorU u n = floorU u e ∨ hourIndex n < hourIndex e := by
  obtain ⟨n1, n2⟩ := period_contains hn u
  constructor
  · intro h
    by_cases hlt : hourIndex n < hourIndex e
    · exact Or.inr hlt
    · rw [← nextU_floorU] at n2
      exact Or.inl (floorU_unique (floorU_valid hn) he (floorU_idem u n) h (by omega)).symm
  · rintro (h | h)
    · rw [h]; exact (period_contains he u).1
    · omega

/-- The shape of the three checks: same period as `end`, or `end.After(next)`. -/
theorem check_iff {P : Prop} [Decidable P] {n e : Civil} :
    (if P then true else after e n) = true ↔ P ∨ hourIndex n < hourIndex e := by
  unfold after
  split <;> simp [*]

theorem nextYearGTE_iff {t e : Civil} (ht : t.valid) (he : e.valid) :
    nextYearGTE t e = true ↔ hourIndex (TY t) ≤ hourIndex e := by
  have hf : floorU .Y (addYear t) = TY t := by
    rw [addYear_eq ht]; split <;> rfl
  rw [← hf, floorU_le_iff .Y (addYear_valid ht) he]
  simp only [nextYearGTE, check_iff, floorU, Civil.mk.injEq, and_true]

theorem floorU_addMonthGo {t : Civil} (ht : t.valid) : floorU .M (addMonthGo t) = TM t := by
  rw [addMonthGo_eq ht]; unfold TM
  split
  · rfl
  · split <;> rfl

theorem nextMonthGTE_iff {t e : Civil} (ht : t.valid) (he : e.valid) :
    nextMonthGTE t e = true ↔ hourIndex (TM t) ≤ hourIndex e := by
  rw [← floorU_addMonthGo ht, floorU_le_iff .M (addMonthGo_valid ht) he]
  simp only [nextMonthGTE, check_iff, floorU, Civil.mk.injEq, and_true]

theorem nextDayGTE_iff {t e : Civil} (ht : t.valid) (he : e.valid) :
    nextDayGTE t e = true ↔ hourIndex (TD t) ≤ hourIndex e := by
  have hf : floorU .D (addDay t) = TD t := by
    rw [addDay_eq ht, TD, nextU_D, nextU_M]
    split
    · rfl
    · split <;> rfl
  rw [← hf, floorU_le_iff .D (addDay_valid ht) he]
  simp only [nextDayGTE, check_iff, floorU, Civil.mk.injEq, and_true]

theorem TM_valid {t : Civil} (ht : t.valid) : (TM t).valid := by
  rw [← floorU_addMonthGo ht]; exact floorU_valid (addMonthGo_valid ht)

theorem TM_aligned {t : Civil} (hd : t.d = 1) : TM t = nextU .M t := by
  have b := daysIn_bounds t.y (t.m + 1)
  have e : ¬ t.d > daysIn t.y (t.m + 1) := by omega
  unfold TM; rw [if_neg e]; rfl

theorem lt_TD {t : Civil} (ht : t.valid) : hourIndex t < hourIndex (TD t) :=
  (period_contains ht .D).2

theorem TD_le_TM {t : Civil} (ht : t.valid) : hourIndex (TD t) ≤ hourIndex (TM t) := by
  rw [TD, hourIndex_le_iff (nextU_valid ht .D) (TM_valid ht)]
  obtain ⟨h1, h2, h3, h4, h5⟩ := ht
  unfold TM; rw [nextU_D, nextU_M]
  (repeat' split) <;> simp only [nextU, lexLt] <;> omega

theorem TM_le_TY {t : Civil} (ht : t.valid) : hourIndex (TM t) ≤ hourIndex (TY t) := by
  rw [hourIndex_le_iff (TM_valid ht) (show (TY t).valid from nextU_valid ht .Y)]
  obtain ⟨h1, h2, h3, h4, h5⟩ := ht
  have b := daysIn_bounds t.y t.m
  have d12 : t.m + 1 = 12 → daysIn t.y (t.m + 1) = 31 := fun e => by rw [e, daysIn_12]
  unfold TM TY
  (repeat' split) <;> simp only [lexLt] <;> omega

theorem hourIndex_TD {t : Civil} (ht : t.valid) :
    hourIndex (TD t) = 24 * (hourIndex t / 24) + 24 := by
  have := hourIndex_nextU ht .D
  obtain ⟨h1, h2, h3, h4, h5⟩ := ht
  simp only [TD, floorU, periodHours, hourIndex] at this ⊢; omega

theorem TD_mono {t t' : Civil} (ht : t.valid) (ht' : t'.valid) (h : hourIndex t ≤ hourIndex t') :
    hourIndex (TD t) ≤ hourIndex (TD t') := by
  rw [hourIndex_TD ht, hourIndex_TD ht']; omega

theorem TM_mono {t t' : Civil} (ht : t.valid) (ht' : t'.valid) (h : hourIndex t ≤ hourIndex t') :
    hourIndex (TM t) ≤ hourIndex (TM t') := by
  rw [hourIndex_le_iff (TM_valid ht) (TM_valid ht')]
  have hl := (hourIndex_le_iff ht ht').mp h
  obtain ⟨-, -, -, h4, -⟩ := ht
  obtain ⟨k1, k2, -⟩ := ht'
  have b := (daysIn_bounds t.y t.m).2
  have d12 : t.m + 1 = 12 → daysIn t.y (t.m + 1) = 31 := fun e => by rw [e, daysIn_12]
  have key : t.y = t'.y → t.m = t'.m → daysIn t.y (t.m + 1) = daysIn t'.y (t'.m + 1) :=
    fun a b => by rw [a, b]
  -- By cases on the lexicographic order.  From an earlier month the threshold is at most two months on
  -- (from November only one: December has 31 days, `d12`), and the threshold of a later month is at
  -- least that; within one month the later day overflows whenever the earlier one does (`key`).
  clear h
  revert hl
  unfold TM
  (repeat' split) <;> simp only [lexLt] <;> omega

theorem TY_mono {t t' : Civil} (ht : t.valid) (ht' : t'.valid) (h : hourIndex t ≤ hourIndex t') :
    hourIndex (TY t) ≤ hourIndex (TY t') := by
  have hy := year_le ht ht' h
  by_cases e : t.y = t'.y
  · rw [TY_congr e]; exact Nat.le_refl _
  · have := dayIndex_year_mono (show t.y + 1 < t'.y + 1 by omega)
    simp only [TY, hourIndex]; omega

end PV.C18
