/-
The two loops of viewsByTimeRange.  What they return is a `Chain`: periods of units of the quantum, each
starting at a valid cursor aligned to its unit and ending where the next starts; cover, units and the
timestamps whose views it meets are read off the chain.  The invariant of the walk-down loop (`WD`) holds
when the walk-up loop exits, each branch of the walk-down loop preserves it (the check of a coarser unit,
once false, stays false: the thresholds are monotone), and it makes every emitted view start at the
cursor and end at the new cursor.
-/
import PV.C18.Names
namespace PV.C18
open Spec (floorU nextU periodHours alignedTo coverChain coverCount interval denote)

theorem coverChain_cons {lo b hi : Nat} {v : VDigits} {r : List VDigits}
    (h1 : interval v = some (lo, b)) (h2 : lo < b) (h3 : coverChain b hi r = true) :
    coverChain lo hi (v :: r) = true := by
  simp [coverChain, h1, h2, h3]

theorem coverChain_cons_inv {lo hi : Nat} {v : VDigits} {r : List VDigits}
    (h : coverChain lo hi (v :: r) = true) :
    ∃ b, interval v = some (lo, b) ∧ lo < b ∧ coverChain b hi r = true := by
  simp only [coverChain] at h
  cases hv : interval v with
  | none => simp [hv] at h
  | some ab =>
    simp only [hv, Bool.and_eq_true, beq_iff_eq, decide_eq_true_eq] at h
    obtain ⟨⟨rfl, h2⟩, h3⟩ := h
    exact ⟨ab.2, rfl, h2, h3⟩

theorem coverChain_le {lo hi : Nat} {l : List VDigits} (h : coverChain lo hi l = true) : lo ≤ hi := by
  induction l generalizing lo with
  | nil => simp only [coverChain, beq_iff_eq] at h; omega
  | cons w l ih =>
    obtain ⟨b, _, hlt, hr⟩ := coverChain_cons_inv h
    have := ih hr
    omega

/-- Consecutive non-empty periods from `lo` to `hi`: every hour of `[lo, hi)` lies in exactly one
of them, every other hour in none. -/
theorem coverChain_count {lo hi : Nat} {vs : List VDigits} (h : coverChain lo hi vs = true) (x : Nat) :
    coverCount x vs = if lo ≤ x ∧ x < hi then 1 else 0 := by
  induction vs generalizing lo with
  | nil =>
    simp only [coverChain, beq_iff_eq] at h
    subst h
    simp only [coverCount]
    split <;> omega
  | cons v r ih =>
    obtain ⟨b, hv, hlt, hr⟩ := coverChain_cons_inv h
    have hbh := coverChain_le hr
    simp only [coverCount, hv, ih hr]
    repeat' split
    all_goals omega

theorem coverChain_cons_view {u : U} {t : Civil} (ht : t.valid) (hy : t.y ≤ 9999) (hal : floorU u t = t)
    {hi : Nat} {r : List VDigits} (hr : coverChain (hourIndex (nextU u t)) hi r = true) :
    coverChain (hourIndex t) hi (viewByTimeUnit t u :: r) = true := by
  have hn := hourIndex_nextU ht u
  have hp := periodHours_pos u t
  rw [hal] at hn
  have hv : interval (viewByTimeUnit t u) = some (hourIndex t, hourIndex (nextU u t)) := by
    rw [interval, denote_name ht hy u, hal, hn]
  exact coverChain_cons hv (by omega) hr

theorem alignedTo_iff {q : Quantum} {t : Civil} : alignedTo q t = true ↔
    (q.hasHour = false → t.h = 0) ∧ (q.hasHour = false → q.hasDay = false → t.d = 1) ∧
    (q.hasHour = false → q.hasDay = false → q.hasMonth = false → t.m = 1) := by
  unfold alignedTo
  cases q.hasHour
  · cases q.hasDay
    · cases q.hasMonth <;> simp [and_comm]
    · simp
  · simp

/-- Between two units of a valid quantum none is missing, and some unit is present. -/
theorem validQuanta_contiguous {q : Quantum} (hq : q ∈ validQuanta) :
    (q.hasMonth = true → q.hasDay = false → q.hasHour = false) ∧
    (q.hasYear = true → q.hasMonth = false → q.hasDay = false ∧ q.hasHour = false) ∧
    (q.hasHour = false → q.hasDay = false → q.hasMonth = false → q.hasYear = true) := by
  simp only [validQuanta, List.mem_cons, List.not_mem_nil, or_false] at hq
  rcases hq with rfl | rfl | rfl | rfl | rfl | rfl | rfl | rfl | rfl | rfl <;> decide

/-- Past the hour level of the walk-up loop (or without one) the cursor is at midnight. -/
theorem aligned_day {q : Quantum} {t : Civil} (ha : alignedTo q t = true)
    (hH : q.hasHour = true → t.h = 0) : t.h = 0 := by
  cases h4 : q.hasHour
  · exact (alignedTo_iff.mp ha).1 h4
  · exact hH h4

theorem aligned_month {q : Quantum} {t : Civil} (hq : q ∈ validQuanta) (ha : alignedTo q t = true)
    (hM : q.hasMonth = true) (hH : q.hasHour = true → t.h = 0) (hD : q.hasDay = true → t.d = 1) :
    t.d = 1 ∧ t.h = 0 := by
  refine ⟨?_, aligned_day ha hH⟩
  cases h3 : q.hasDay
  · exact (alignedTo_iff.mp ha).2.1 ((validQuanta_contiguous hq).1 hM h3) h3
  · exact hD h3

theorem aligned_year {q : Quantum} {t : Civil} (hq : q ∈ validQuanta) (ha : alignedTo q t = true)
    (hY : q.hasYear = true) (hH : q.hasHour = true → t.h = 0) (hD : q.hasDay = true → t.d = 1)
    (hM : q.hasMonth = true → t.m = 1) : t.m = 1 ∧ t.d = 1 ∧ t.h = 0 := by
  cases h2 : q.hasMonth
  · obtain ⟨h3, h4⟩ := (validQuanta_contiguous hq).2.1 hY h2
    obtain ⟨a0, a1, a2⟩ := alignedTo_iff.mp ha
    exact ⟨a2 h4 h3 h2, a1 h4 h3, a0 h4⟩
  · exact ⟨hM h2, aligned_month hq ha h2 hH hD⟩

theorem alignedTo_nextU {q : Quantum} (u : U) (t : Civil) (hu : q.contains u = true) :
    alignedTo q (nextU u t) = true := by
  have no {b : Bool} (h : b = true) (h' : b = false) {P : Prop} : P := by rw [h] at h'; cases h'
  have aM := nextU_M_aligned t
  have aD := nextU_D_aligned t
  cases u
  · exact alignedTo_iff.mpr ⟨fun _ => rfl, fun _ _ => rfl, fun _ _ _ => rfl⟩
  · exact alignedTo_iff.mpr ⟨fun _ => aM.2, fun _ _ => aM.1, fun _ _ h => no hu h⟩
  · exact alignedTo_iff.mpr ⟨fun _ => aD, fun _ h => no hu h, fun _ h => no hu h⟩
  · exact alignedTo_iff.mpr ⟨fun h => no hu h, fun h => no hu h, fun h => no hu h⟩

theorem units_cons {q : Quantum} {u : U} {t : Civil} {r : List VDigits} (hu : q.contains u = true)
    (ih : ∀ v ∈ r, ∃ u t', u ∈ q ∧ v = viewByTimeUnit t' u) :
    ∀ v ∈ viewByTimeUnit t u :: r, ∃ u t', u ∈ q ∧ v = viewByTimeUnit t' u := by
  intro v hv
  rcases List.mem_cons.mp hv with rfl | hv
  · exact ⟨u, t, List.contains_iff_mem.mp hu, rfl⟩
  · exact ih v hv

/-- Consecutive periods of units of `q` from `t` to `e`, each starting at a valid time aligned to its unit. -/
inductive Chain (q : Quantum) : Civil → Civil → List VDigits → Prop
  | nil (t : Civil) : Chain q t t []
  | cons {u : U} {t e : Civil} {r : List VDigits} (hu : q.contains u = true) (ht : t.valid)
      (hal : floorU u t = t) (hr : Chain q (nextU u t) e r) : Chain q t e (viewByTimeUnit t u :: r)

namespace Chain
variable {q : Quantum} {t m e : Civil} {vs ws : List VDigits}

theorem append (h1 : Chain q t m vs) (h2 : Chain q m e ws) : Chain q t e (vs ++ ws) := by
  induction h1 with
  | nil => exact h2
  | cons hu ht hal _ ih => exact .cons hu ht hal (ih h2)

theorem le (h : Chain q t e vs) : hourIndex t ≤ hourIndex e := by
  induction h with
  | nil => exact Nat.le_refl _
  | cons _ ht _ _ ih => exact Nat.le_trans (Nat.le_of_lt (period_contains ht _).2) ih

theorem units (h : Chain q t e vs) : ∀ v ∈ vs, ∃ u t', u ∈ q ∧ v = viewByTimeUnit t' u := by
  induction h with
  | nil => intro v hv; cases hv
  | cons hu _ _ _ ih => exact units_cons hu ih

theorem cover (h : Chain q t e vs) (he : e.valid) (hy : e.y ≤ 9999) :
    coverChain (hourIndex t) (hourIndex e) vs = true := by
  induction h with
  | nil => simp [coverChain]
  | cons _ ht hal hr ih =>
    have := Nat.le_trans (Nat.le_of_lt (period_contains ht _).2) hr.le
    exact coverChain_cons_view ht (Nat.le_trans (year_le ht he this) hy) hal (ih he hy)

/-- A timestamp has the view of one of its units in the chain iff it lies between the ends. -/
theorem meets (h : Chain q t e vs) (he : e.valid) (hy : e.y ≤ 9999) {ts : Civil} (hts : ts.valid)
    (htsy : ts.y ≤ 9999) :
    (∃ v ∈ vs, v ∈ viewsByTime ts q) ↔ hourIndex t ≤ hourIndex ts ∧ hourIndex ts < hourIndex e := by
  induction h with
  | nil => simp only [List.not_mem_nil, false_and, exists_false, false_iff]; omega
  | @cons u t e r hu ht hal hr ih =>
    have hn := (period_contains ht u).2
    have hle := hr.le
    have hty := Nat.le_trans (year_le ht he (by omega)) hy
    have here : viewByTimeUnit t u ∈ viewsByTime ts q ↔
        hourIndex t ≤ hourIndex ts ∧ hourIndex ts < hourIndex (nextU u t) := by
      simp only [viewsByTime, List.mem_map]
      constructor
      · rintro ⟨u', _, h⟩
        have := (denote_name hts htsy u').symm.trans ((congrArg denote h).trans (denote_name ht hty u))
        simp only [Option.some.injEq, Prod.mk.injEq] at this
        obtain ⟨rfl, hf⟩ := this
        have := period_contains hts u'
        rwa [← nextU_floorU, hf, hal] at this
      · rintro ⟨h1, h2⟩
        exact ⟨u, List.contains_iff_mem.mp hu, by rw [← name_floor, floorU_unique ht hts hal h1 h2]⟩
    simp only [List.mem_cons, or_and_right, exists_or, exists_eq_left, here, ih he hy]
    omega

theorem nil_of_eq (ht : t.valid) (he : e.valid) (h : hourIndex t = hourIndex e) : Chain q t e [] :=
  hourIndex_inj ht he h ▸ .nil t

end Chain

structure Ctx (q : Quantum) (e : Civil) : Prop where
  endValid : e.valid
  endYear : e.y ≤ 9999
  endAligned : alignedTo q e = true
  quantumValid : q ∈ validQuanta

/-- For each unit U of the quantum: if the check `nextUGTE(t, end)` holds, the cursor `t` is aligned to U. -/
structure WD (q : Quantum) (e t : Civil) : Prop where
  valid : t.valid
  leEnd : hourIndex t ≤ hourIndex e
  aligned : alignedTo q t = true
  yearAligned : q.hasYear = true → hourIndex (TY t) ≤ hourIndex e → t.m = 1 ∧ t.d = 1 ∧ t.h = 0
  monthAligned : q.hasMonth = true → hourIndex (TM t) ≤ hourIndex e → t.d = 1 ∧ t.h = 0
  dayAligned : q.hasDay = true → hourIndex (TD t) ≤ hourIndex e → t.h = 0

/-- Before the end of the cursor's day no check holds. -/
theorem WD_of_lt_TD {q : Quantum} {e t : Civil} (ht : t.valid) (hle : hourIndex t ≤ hourIndex e)
    (ha : alignedTo q t = true) (h : hourIndex e < hourIndex (TD t)) : WD q e t := by
  have h1 := TD_le_TM ht
  have h2 := TM_le_TY ht
  exact { valid := ht, leEnd := hle, aligned := ha,
          yearAligned := fun _ hc => by omega, monthAligned := fun _ hc => by omega, dayAligned := fun _ hc => by omega }

/-- The invariant at a later cursor `n`: each unit's check was false at `t`, and then stays false,
or `n` is aligned to the unit. -/
theorem WD.next {q : Quantum} {e t n : Civil} (w : WD q e t) (hv : n.valid)
    (h1 : hourIndex t ≤ hourIndex n) (h2 : hourIndex n ≤ hourIndex e) (ha : alignedTo q n = true)
    (kY : q.hasYear = true → hourIndex e < hourIndex (TY t) ∨ (n.m = 1 ∧ n.d = 1 ∧ n.h = 0))
    (kM : q.hasMonth = true → hourIndex e < hourIndex (TM t) ∨ (n.d = 1 ∧ n.h = 0))
    (kD : q.hasDay = true → hourIndex e < hourIndex (TD t) ∨ n.h = 0) : WD q e n where
  valid := hv
  leEnd := h2
  aligned := ha
  yearAligned h hc := (kY h).elim (fun k => by have := TY_mono w.valid hv h1; omega) id
  monthAligned h hc := (kM h).elim (fun k => by have := TM_mono w.valid hv h1; omega) id
  dayAligned h hc := (kD h).elim (fun k => by have := TD_mono w.valid hv h1; omega) id

/-- With both ends aligned to the finest unit of a quantum without hours, the check of the
finest unit succeeds while `t < end`: the walk-down loop cannot stop early. -/
theorem finest_fits {q : Quantum} {e t : Civil} (c : Ctx q e) (w : WD q e t)
    (hlt : hourIndex t < hourIndex e) (hH : q.hasHour = false) :
    (q.hasDay = true ∧ hourIndex (TD t) ≤ hourIndex e) ∨
    (q.hasMonth = true ∧ hourIndex (TM t) ≤ hourIndex e) ∨
    (q.hasYear = true ∧ hourIndex (TY t) ≤ hourIndex e) := by
  obtain ⟨a0, a1, a2⟩ := alignedTo_iff.mp w.aligned
  obtain ⟨b0, b1, b2⟩ := alignedTo_iff.mp c.endAligned
  cases h3 : q.hasDay
  · cases h2 : q.hasMonth
    · exact .inr (.inr ⟨(validQuanta_contiguous c.quantumValid).2.2 hH h3 h2,
        nextU_le_of_aligned .Y w.valid c.endValid (floorU_Y_eq (a2 hH h3 h2) (a1 hH h3) (a0 hH))
          (floorU_Y_eq (b2 hH h3 h2) (b1 hH h3) (b0 hH)) hlt⟩)
    · refine .inr (.inl ⟨rfl, ?_⟩)
      rw [TM_aligned (a1 hH h3)]
      exact nextU_le_of_aligned .M w.valid c.endValid (floorU_M_eq (a1 hH h3) (a0 hH)) (floorU_M_eq (b1 hH h3) (b0 hH)) hlt
  · exact .inl ⟨rfl, nextU_le_of_aligned .D w.valid c.endValid (floorU_D_eq (a0 hH)) (floorU_D_eq (b0 hH)) hlt⟩

theorem and_bne_eq_true {b : Bool} {x k : Nat} : (b && x != k) = true ↔ b = true ∧ x ≠ k := by
  rw [Bool.and_eq_true, bne_iff_ne]

theorem and_eq_true_of {b c : Bool} {P : Prop} (h : c = true ↔ P) :
    (b && c) = true ↔ b = true ∧ P := by
  rw [Bool.and_eq_true, h]

theorem and_not_eq_true_of {b c : Bool} {P : Prop} (h : c = true ↔ P) :
    (b && !c) = true ↔ b = true ∧ ¬ P := by
  rw [Bool.and_eq_true, Bool.not_eq_true', ← Bool.not_eq_true, h]

theorem walkDown_chain {q : Quantum} {e : Civil} (c : Ctx q e) :
    ∀ (fuel : Nat) (t : Civil), WD q e t → hourIndex e - hourIndex t ≤ fuel →
      Chain q t e (walkDown q e fuel t) := by
  intro fuel
  induction fuel with
  | zero =>
    intro t w hf
    have := w.leEnd
    exact .nil_of_eq w.valid c.endValid (by omega)
  | succ fuel ih =>
    intro t w hf
    have hle := w.leEnd
    unfold walkDown
    by_cases hb : hourIndex t < hourIndex e
    · have hb' : before t e = true := decide_eq_true hb
      simp only [hb', Bool.not_true, Bool.false_eq_true, if_false]
      by_cases hY : q.hasYear = true ∧ hourIndex (TY t) ≤ hourIndex e
      · rw [if_pos ((and_eq_true_of (nextYearGTE_iff w.valid c.endValid)).mpr hY)]
        obtain ⟨hm, hd, h0⟩ := w.yearAligned hY.1 hY.2
        have hp := (period_contains w.valid .Y).2
        rw [addYear_aligned w.valid hm hd h0]
        exact .cons hY.1 w.valid (floorU_Y_eq hm hd h0) (ih _ (w.next (nextU_valid w.valid .Y) (by omega) hY.2
          (alignedTo_nextU .Y t hY.1)
          (fun _ => .inr ⟨rfl, rfl, rfl⟩) (fun _ => .inr ⟨rfl, rfl⟩) (fun _ => .inr rfl)) (by omega))
      · rw [if_neg (mt (and_eq_true_of (nextYearGTE_iff w.valid c.endValid)).mp hY)]
        have nY : q.hasYear = true → hourIndex e < hourIndex (TY t) := fun h =>
          Nat.lt_of_not_le fun hc => hY ⟨h, hc⟩
        by_cases hM : q.hasMonth = true ∧ hourIndex (TM t) ≤ hourIndex e
        · rw [if_pos ((and_eq_true_of (nextMonthGTE_iff w.valid c.endValid)).mpr hM)]
          obtain ⟨hd, h0⟩ := w.monthAligned hM.1 hM.2
          have hp := (period_contains w.valid .M).2
          have hn := hM.2
          have al := nextU_M_aligned t
          rw [TM_aligned hd] at hn
          rw [addMonth_aligned w.valid hd h0]
          exact .cons hM.1 w.valid (floorU_M_eq hd h0) (ih _ (w.next (nextU_valid w.valid .M) (by omega) hn
            (alignedTo_nextU .M t hM.1)
            (fun h => .inl (nY h)) (fun _ => .inr al) (fun _ => .inr al.2)) (by omega))
        · rw [if_neg (mt (and_eq_true_of (nextMonthGTE_iff w.valid c.endValid)).mp hM)]
          have nM : q.hasMonth = true → hourIndex e < hourIndex (TM t) := fun h =>
            Nat.lt_of_not_le fun hc => hM ⟨h, hc⟩
          by_cases hD : q.hasDay = true ∧ hourIndex (TD t) ≤ hourIndex e
          · rw [if_pos ((and_eq_true_of (nextDayGTE_iff w.valid c.endValid)).mpr hD)]
            have h0 := w.dayAligned hD.1 hD.2
            have hp := (period_contains w.valid .D).2
            have al := nextU_D_aligned t
            rw [addDay_aligned w.valid h0]
            exact .cons hD.1 w.valid (floorU_D_eq h0) (ih _ (w.next (nextU_valid w.valid .D) (by omega) hD.2
              (alignedTo_nextU .D t hD.1)
              (fun h => .inl (nY h)) (fun h => .inl (nM h)) (fun _ => .inr al)) (by omega))
          · rw [if_neg (mt (and_eq_true_of (nextDayGTE_iff w.valid c.endValid)).mp hD)]
            have nD : q.hasDay = true → hourIndex e < hourIndex (TD t) := fun h =>
              Nat.lt_of_not_le fun hc => hD ⟨h, hc⟩
            by_cases hH : q.hasHour = true
            · rw [if_pos hH, addHour_eq w.valid]
              have hp := hourIndex_nextU w.valid .H
              simp only [floorU, periodHours] at hp
              exact .cons hH w.valid rfl (ih _ (w.next (nextU_valid w.valid .H) (by omega) (by omega)
                (alignedTo_nextU .H t hH)
                (fun h => .inl (nY h)) (fun h => .inl (nM h)) (fun h => .inl (nD h))) (by omega))
            · exfalso
              rcases finest_fits c w hb (Bool.not_eq_true _ ▸ hH) with h | h | h
              · exact hD h
              · exact hM h
              · exact hY h
    · have hb' : before t e = false := decide_eq_false hb
      simp only [hb', Bool.not_false, if_true]
      exact .nil_of_eq w.valid c.endValid (by omega)

theorem walkUp_chain {q : Quantum} {e : Civil} (c : Ctx q e) :
    ∀ (fuel : Nat) (t : Civil), t.valid → hourIndex t ≤ hourIndex e → alignedTo q t = true →
      hourIndex e - hourIndex t ≤ fuel →
      Chain q t (walkUp q e fuel t).2 (walkUp q e fuel t).1 ∧ WD q e (walkUp q e fuel t).2 := by
  intro fuel
  induction fuel with
  | zero =>
    intro t ht hle ha hf
    have := lt_TD ht
    exact ⟨.nil t, WD_of_lt_TD (t := t) ht hle ha (by omega)⟩
  | succ fuel ih =>
    intro t ht hle ha hf
    have stop : ∀ w : WD q e t, Chain q t t [] ∧ WD q e t := fun w => ⟨.nil t, w⟩
    unfold walkUp
    by_cases hb : hourIndex t < hourIndex e
    · have hb' : before t e = true := decide_eq_true hb
      simp only [hb', Bool.not_true, Bool.false_eq_true, if_false]
      -- At level U (hour, day, month), V the next coarser unit: `bU` the break test fires (the check of V
      -- fails), stop with the invariant; `eU` the emit test fires (`t` not at the start of a V), emit and
      -- recurse; otherwise `pU`: if `q` has U, the threshold of V is `≤ end` and `t` starts a V.
      -- hour level
      by_cases bH : q.hasHour = true ∧ ¬ hourIndex (TD t) ≤ hourIndex e
      · rw [if_pos ((and_not_eq_true_of (nextDayGTE_iff ht c.endValid)).mpr bH)]
        exact stop (WD_of_lt_TD ht hle ha (by omega))
      · rw [if_neg (mt (and_not_eq_true_of (nextDayGTE_iff ht c.endValid)).mp bH)]
        by_cases eH : q.hasHour = true ∧ t.h ≠ 0
        · rw [if_pos (and_bne_eq_true.mpr eH), addHour_eq ht]
          have hp := hourIndex_nextU ht .H
          simp only [floorU, periodHours] at hp
          obtain ⟨r1, r2⟩ := ih (nextU .H t) (nextU_valid ht .H) (by omega)
            (alignedTo_nextU .H t eH.1) (by omega)
          exact ⟨.cons eH.1 ht rfl r1, r2⟩
        · rw [if_neg (mt and_bne_eq_true.mp eH)]
          have pH : q.hasHour = true → hourIndex (TD t) ≤ hourIndex e ∧ t.h = 0 := fun h =>
            ⟨Decidable.byContradiction fun hc => bH ⟨h, hc⟩,
             Decidable.byContradiction fun hc => eH ⟨h, hc⟩⟩
          have h0 : t.h = 0 := aligned_day ha fun h => (pH h).2
          -- day level
          by_cases bD : q.hasDay = true ∧ ¬ hourIndex (TM t) ≤ hourIndex e
          · rw [if_pos ((and_not_eq_true_of (nextMonthGTE_iff ht c.endValid)).mpr bD)]
            have := TM_le_TY ht
            exact stop { valid := ht, leEnd := hle, aligned := ha, yearAligned := fun _ hc => by omega,
                         monthAligned := fun _ hc => absurd hc bD.2, dayAligned := fun _ _ => h0 }
          · rw [if_neg (mt (and_not_eq_true_of (nextMonthGTE_iff ht c.endValid)).mp bD)]
            by_cases eD : q.hasDay = true ∧ t.d ≠ 1
            · rw [if_pos (and_bne_eq_true.mpr eD)]
              have hp := (period_contains ht .D).2
              have hfit : hourIndex (TD t) ≤ hourIndex e := by
                cases hh : q.hasHour
                · exact nextU_le_of_aligned .D ht c.endValid (floorU_D_eq h0)
                    (floorU_D_eq (aligned_day c.endAligned fun h => by rw [hh] at h; cases h)) hb
                · exact (pH hh).1
              rw [addDay_aligned ht h0]
              obtain ⟨r1, r2⟩ := ih (nextU .D t) (nextU_valid ht .D) hfit
                (alignedTo_nextU .D t eD.1) (by omega)
              exact ⟨.cons eD.1 ht (floorU_D_eq h0) r1, r2⟩
            · rw [if_neg (mt and_bne_eq_true.mp eD)]
              have pD : q.hasDay = true → hourIndex (TM t) ≤ hourIndex e ∧ t.d = 1 := fun h =>
                ⟨Decidable.byContradiction fun hc => bD ⟨h, hc⟩,
                 Decidable.byContradiction fun hc => eD ⟨h, hc⟩⟩
              have aM := fun h => aligned_month c.quantumValid ha h (fun h => (pH h).2) fun h => (pD h).2
              -- month level
              by_cases bM : q.hasMonth = true ∧ ¬ hourIndex (TY t) ≤ hourIndex e
              · rw [if_pos ((and_not_eq_true_of (nextYearGTE_iff ht c.endValid)).mpr bM)]
                exact stop { valid := ht, leEnd := hle, aligned := ha, yearAligned := fun _ hc => absurd hc bM.2,
                             monthAligned := fun h _ => aM h, dayAligned := fun _ _ => h0 }
              · rw [if_neg (mt (and_not_eq_true_of (nextYearGTE_iff ht c.endValid)).mp bM)]
                by_cases eM : q.hasMonth = true ∧ t.m ≠ 1
                · rw [if_pos (and_bne_eq_true.mpr eM)]
                  have hd := (aM eM.1).1
                  have hp := (period_contains ht .M).2
                  have hfit : hourIndex (nextU .M t) ≤ hourIndex e := by
                    cases hh : q.hasDay
                    · have hH := (validQuanta_contiguous c.quantumValid).1 eM.1 hh
                      obtain ⟨e0, ed, _⟩ := alignedTo_iff.mp c.endAligned
                      exact nextU_le_of_aligned .M ht c.endValid (floorU_M_eq hd h0) (floorU_M_eq (ed hH hh) (e0 hH)) hb
                    · rw [← TM_aligned hd]; exact (pD hh).1
                  rw [addMonth_aligned ht hd h0]
                  obtain ⟨r1, r2⟩ := ih (nextU .M t) (nextU_valid ht .M) hfit
                    (alignedTo_nextU .M t eM.1) (by omega)
                  exact ⟨.cons eM.1 ht (floorU_M_eq hd h0) r1, r2⟩
                · rw [if_neg (mt and_bne_eq_true.mp eM)]
                  -- final break: aligned at every level the quantum has
                  have pM : q.hasMonth = true → t.m = 1 := fun h =>
                    Decidable.byContradiction fun hc => eM ⟨h, hc⟩
                  exact stop { valid := ht, leEnd := hle, aligned := ha,
                               yearAligned := fun h _ => aligned_year c.quantumValid ha h (fun h => (pH h).2)
                                 (fun h => (pD h).2) pM,
                               monthAligned := fun h _ => aM h, dayAligned := fun _ _ => h0 }
    · have hb' : before t e = false := decide_eq_false hb
      have := lt_TD ht
      simp only [hb', Bool.not_false, if_true]
      exact stop (WD_of_lt_TD ht hle ha (by omega))

theorem walkDown_units (q : Quantum) (e : Civil) :
    ∀ (fuel : Nat) (t : Civil), ∀ v ∈ walkDown q e fuel t, ∃ u t', u ∈ q ∧ v = viewByTimeUnit t' u := by
  intro fuel
  induction fuel with
  | zero => intro t v hv; cases hv
  | succ fuel ih =>
    intro t
    unfold walkDown
    by_cases h0 : (!before t e) = true
    · rw [if_pos h0]; intro v hv; cases hv
    rw [if_neg h0]
    by_cases h1 : (q.hasYear && nextYearGTE t e) = true
    · rw [if_pos h1]; exact units_cons (Bool.and_eq_true _ _ ▸ h1).1 (ih _)
    rw [if_neg h1]
    by_cases h2 : (q.hasMonth && nextMonthGTE t e) = true
    · rw [if_pos h2]; exact units_cons (Bool.and_eq_true _ _ ▸ h2).1 (ih _)
    rw [if_neg h2]
    by_cases h3 : (q.hasDay && nextDayGTE t e) = true
    · rw [if_pos h3]; exact units_cons (Bool.and_eq_true _ _ ▸ h3).1 (ih _)
    rw [if_neg h3]
    by_cases h4 : q.hasHour = true
    · rw [if_pos h4]; exact units_cons h4 (ih _)
    · rw [if_neg h4]; intro v hv; cases hv

theorem walkUp_units (q : Quantum) (e : Civil) :
    ∀ (fuel : Nat) (t : Civil), ∀ v ∈ (walkUp q e fuel t).1, ∃ u t', u ∈ q ∧ v = viewByTimeUnit t' u := by
  intro fuel
  induction fuel with
  | zero => intro t v hv; cases hv
  | succ fuel ih =>
    intro t
    unfold walkUp
    by_cases h0 : (!before t e) = true
    · rw [if_pos h0]; intro v hv; cases hv
    rw [if_neg h0]
    by_cases b1 : (q.hasHour && !nextDayGTE t e) = true
    · rw [if_pos b1]; intro v hv; cases hv
    rw [if_neg b1]
    by_cases h1 : (q.hasHour && t.h != 0) = true
    · rw [if_pos h1]; exact units_cons (Bool.and_eq_true _ _ ▸ h1).1 (ih _)
    rw [if_neg h1]
    by_cases b2 : (q.hasDay && !nextMonthGTE t e) = true
    · rw [if_pos b2]; intro v hv; cases hv
    rw [if_neg b2]
    by_cases h2 : (q.hasDay && t.d != 1) = true
    · rw [if_pos h2]; exact units_cons (Bool.and_eq_true _ _ ▸ h2).1 (ih _)
    rw [if_neg h2]
    by_cases b3 : (q.hasMonth && !nextYearGTE t e) = true
    · rw [if_pos b3]; intro v hv; cases hv
    rw [if_neg b3]
    by_cases h3 : (q.hasMonth && t.m != 1) = true
    · rw [if_pos h3]; exact units_cons (Bool.and_eq_true _ _ ▸ h3).1 (ih _)
    · rw [if_neg h3]; intro v hv; cases hv

/-- `viewsByTimeRange` returns a chain of aligned periods of units of the quantum from `start` to `end`. -/
theorem viewsByTimeRange_chain (q : Quantum) (hq : q ∈ validQuanta) (s e : Civil) (hs : s.valid) (he : e.valid)
    (hy : e.y ≤ 9999) (hse : hourIndex s ≤ hourIndex e)
    (has : alignedTo q s = true) (hae : alignedTo q e = true) :
    Chain q s e (viewsByTimeRange s e q) := by
  have c : Ctx q e := ⟨he, hy, hae, hq⟩
  unfold viewsByTimeRange
  simp only
  by_cases hf : (q.hasHour || q.hasDay || q.hasMonth) = true
  · rw [if_pos hf]
    obtain ⟨r1, r2⟩ := walkUp_chain c (hourIndex e - hourIndex s) s hs hse has (Nat.le_refl _)
    have := r1.le
    exact r1.append (walkDown_chain c _ _ r2 (by omega))
  · rw [if_neg hf]
    simp only [Bool.or_eq_true, not_or, Bool.not_eq_true] at hf
    obtain ⟨⟨f4, f3⟩, f2⟩ := hf
    -- the quantum is Y: the walk-down loop starts at `s`, aligned to the year
    have n4 : q.hasHour = true → False := fun h => by rw [f4] at h; cases h
    have n3 : q.hasDay = true → False := fun h => by rw [f3] at h; cases h
    have n2 : q.hasMonth = true → False := fun h => by rw [f2] at h; cases h
    exact walkDown_chain c _ _
      { valid := hs, leEnd := hse, aligned := has,
        yearAligned := fun h _ => aligned_year hq has h (fun h => (n4 h).elim) (fun h => (n3 h).elim)
          (fun h => (n2 h).elim),
        monthAligned := fun h _ => (n2 h).elim,
        dayAligned := fun h _ => (n3 h).elim } (Nat.le_refl _)

end PV.C18
