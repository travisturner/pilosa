/-
Every write other than a set of (r, c) keeps "no view holds (r, c)" (`*_other`); the comparator of the
old code is a lexicographic combination of strict total orders.
-/
import PV.C18.FieldLemmas
import PV.C19.Model
import PV.C19.Old
namespace PV.C19
open PV.C18 List

theorem clearBit_views (f : Field) (r c : Nat) :
    (clearBit f r c).1.views = f.views.map (fun v => (clearInView v r c).1) := by
  simp only [clearBit, List.map_map]
  apply List.map_congr_left
  intro v _
  rcases v with ⟨n, bits⟩
  cases n <;> simp [Function.comp, isTimeView, clearInView]

theorem setInViews_other {vs : List FView} {n : VName} {r c r' c' : Nat}
    (hne : (r', c') ≠ (r, c)) (h : ∀ v ∈ vs, (r, c) ∉ v.bits) :
    ∀ v ∈ (setInViews vs n r' c').1, (r, c) ∉ v.bits := by
  induction vs with
  | nil => simpa [setInViews] using hne.symm
  | cons w ws ih =>
    rw [List.forall_mem_cons] at h
    simp only [setInViews]
    split
    · split
      · exact List.forall_mem_cons.mpr h
      · exact List.forall_mem_cons.mpr ⟨by simpa [h.1] using hne.symm, h.2⟩
    · exact List.forall_mem_cons.mpr ⟨h.1, ih h.2⟩

theorem setBit_other {f : Field} {r c r' c' : Nat} {t : Option Civil}
    (hne : (r', c') ≠ (r, c)) (h : ∀ v ∈ f.views, (r, c) ∉ v.bits) :
    ∀ v ∈ (f.setBit r' c' t).1.views, (r, c) ∉ v.bits := by
  have h0 : ∀ v ∈ (if f.noStd then (f.views, false) else setInViews f.views .std r' c').1,
      (r, c) ∉ v.bits := by
    split
    · exact h
    · exact setInViews_other hne h
  unfold Field.setBit
  cases t with
  | none => exact h0
  | some t =>
    exact List.foldlRecOn _ _ (motive := fun s : List FView × Bool => ∀ v ∈ s.1, (r, c) ∉ v.bits) h0
      fun _ hs _ _ => setInViews_other hne hs

theorem clearBit_other {f : Field} {r c r' c' : Nat} (h : ∀ v ∈ f.views, (r, c) ∉ v.bits) :
    ∀ v ∈ (clearBit f r' c').1.views, (r, c) ∉ v.bits := by
  intro v hv
  rw [clearBit_views] at hv
  obtain ⟨w, hw, rfl⟩ := List.mem_map.mp hv
  exact fun hb => h w hw (List.mem_filter.mp hb).1

theorem clearInViews_other {vs : List FView} {n : VName} {r c r' c' : Nat}
    (h : ∀ v ∈ vs, (r, c) ∉ v.bits) : ∀ v ∈ clearInViews vs n r' c', (r, c) ∉ v.bits := by
  induction vs with
  | nil => simp [clearInViews]
  | cons w ws ih =>
    rw [List.forall_mem_cons] at h
    simp only [clearInViews]
    split
    · exact List.forall_mem_cons.mpr ⟨fun hb => h.1 (List.mem_filter.mp hb).1, h.2⟩
    · exact List.forall_mem_cons.mpr ⟨h.1, ih h.2⟩

/-- An import that does not set (r, c) (a clear import never sets anything) leaves it cleared. -/
theorem importBits_other {f g : Field} {r c : Nat} {bits : List (Nat × Nat × Option Civil)} {cl : Bool}
    (hne : cl = true ∨ ∀ b ∈ bits, (b.1, b.2.1) ≠ (r, c))
    (h : ∀ v ∈ f.views, (r, c) ∉ v.bits) (hg : f.importBits bits cl = some g) :
    ∀ v ∈ g.views, (r, c) ∉ v.bits := by
  unfold Field.importBits at hg
  split at hg
  · cases hg
  · simp only [Option.some.injEq] at hg
    subst hg
    refine List.foldlRecOn _ _ (motive := fun vs : List FView => ∀ v ∈ vs, (r, c) ∉ v.bits) h fun vs hvs b hb => ?_
    refine List.foldlRecOn _ _ (motive := fun vs : List FView => ∀ v ∈ vs, (r, c) ∉ v.bits) hvs fun vs hvs n _ => ?_
    cases cl
    · exact setInViews_other (hne.resolve_left (by decide) b hb) hvs
    · exact clearInViews_other hvs

theorem mkView_other {f : Field} {n : VName} {r c : Nat} (h : ∀ v ∈ f.views, (r, c) ∉ v.bits) :
    ∀ v ∈ (f.mkView n).views, (r, c) ∉ v.bits := by
  unfold Field.mkView
  split
  · exact h
  · intro v hv
    rcases List.mem_append.mp hv with hv | hv
    · exact h v hv
    · rw [List.mem_singleton.mp hv]; exact List.not_mem_nil

structure StrictTotal {α : Type} (lt : α → α → Bool) : Prop where
  irrefl : ∀ a, lt a a = false
  trans : ∀ a b c, lt a b = true → lt b c = true → lt a c = true
  total : ∀ a b, a ≠ b → lt a b = true ∨ lt b a = true

/-- Compare by a key first, then by `next`. -/
def lexLess {α β : Type} [DecidableEq α] (lt : α → α → Bool) (k : β → α) (next : β → β → Bool)
    (a b : β) : Bool :=
  if k a = k b then next a b else lt (k a) (k b)

theorem lexLess_iff {α β : Type} [DecidableEq α] {lt : α → α → Bool} (hlt : StrictTotal lt)
    (k : β → α) (next : β → β → Bool) (a b : β) :
    lexLess lt k next a b = true ↔ lt (k a) (k b) = true ∨ (k a = k b ∧ next a b = true) := by
  unfold lexLess
  by_cases h : k a = k b
  · simp [h, hlt.irrefl]
  · simp [h]

theorem lexLess_strictTotal {α β : Type} [DecidableEq α] {lt : α → α → Bool} (hlt : StrictTotal lt)
    (k : β → α) {next : β → β → Bool} (hn : StrictTotal next) : StrictTotal (lexLess lt k next) where
  irrefl a := by simp [lexLess, hn.irrefl]
  trans a b c := by
    simp only [lexLess_iff hlt]
    rintro (h1 | ⟨e1, h1⟩) (h2 | ⟨e2, h2⟩)
    · exact .inl (hlt.trans _ _ _ h1 h2)
    · exact .inl (e2 ▸ h1)
    · exact .inl (e1 ▸ h2)
    · exact .inr ⟨e1.trans e2, hn.trans _ _ _ h1 h2⟩
  total a b hne := by
    simp only [lexLess_iff hlt]
    by_cases h : k a = k b
    · exact (hn.total a b hne).imp (fun h' => .inr ⟨h, h'⟩) (fun h' => .inr ⟨h.symm, h'⟩)
    · exact (hlt.total _ _ h).imp .inl .inl

theorem digitsLt_cons (x y : Nat) (xs ys : VDigits) :
    digitsLt (x :: xs) (y :: ys) = true ↔ x < y ∨ (x = y ∧ digitsLt xs ys = true) := by
  simp only [digitsLt]
  by_cases h1 : x < y
  · simp [h1]
  · by_cases h2 : y < x
    · simp [h1, h2]; omega
    · have : x = y := by omega
      simp [this]

theorem digitsLt_strictTotal : StrictTotal digitsLt where
  irrefl a := by
    induction a with
    | nil => rfl
    | cons x xs ih => simp [digitsLt, ih]
  trans a := by
    induction a with
    | nil => intro b c h1 h2; cases b <;> cases c <;> simp_all [digitsLt]
    | cons x xs ih =>
      intro b c h1 h2
      cases b with
      | nil => simp [digitsLt] at h1
      | cons y ys =>
        cases c with
        | nil => simp [digitsLt] at h2
        | cons z zs =>
          rw [digitsLt_cons] at h1 h2 ⊢
          rcases h1 with h1 | ⟨rfl, h1⟩ <;> rcases h2 with h2 | ⟨rfl, h2⟩
          · exact .inl (by omega)
          · exact .inl h1
          · exact .inl h2
          · exact .inr ⟨rfl, ih _ _ h1 h2⟩
  total a := by
    induction a with
    | nil =>
      intro b h
      cases b with
      | nil => exact absurd rfl h
      | cons y ys => exact .inl rfl
    | cons x xs ih =>
      intro b h
      cases b with
      | nil => exact .inr rfl
      | cons y ys =>
        rw [digitsLt_cons, digitsLt_cons]
        by_cases hxy : x = y
        · subst hxy
          rcases ih ys (fun e => h (by rw [e])) with h' | h'
          · exact .inl (.inr ⟨rfl, h'⟩)
          · exact .inr (.inr ⟨rfl, h'⟩)
        · by_cases hlt : x < y
          · exact .inl (.inl hlt)
          · exact .inr (.inl (by omega))

theorem flip_strictTotal {α : Type} {lt : α → α → Bool} (h : StrictTotal lt) :
    StrictTotal (fun a b => lt b a) where
  irrefl a := h.irrefl a
  trans a b c h1 h2 := h.trans c b a h2 h1
  total a b hne := (h.total b a (fun e => hne e.symm))

/-- First 3, then 5, then 7 digits; the last tie is broken by `strings.Compare(a, b) > 0`, the reversed order. -/
theorem less_eq_lex (a b : VDigits) :
    Old.less a b = lexLess digitsLt (List.take 3) (lexLess digitsLt (List.take 5)
      (lexLess digitsLt (List.take 7) (fun a b => digitsLt b a))) a b := by
  simp only [Old.less, Old.groupCompare, lexLess, beq_iff_eq]

end PV.C19
