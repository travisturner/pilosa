/-
C19 property theorems.

Full-strength statement: after `ClearBit(r, c)` no view of the field holds (r, c) — for every
quantum, every field state (hence every history of timestamped sets, whatever the timestamps and
whatever other columns created sibling views), with or without a standard view — so no time-range
query and no standard-view query returns the column, until it is set again; and nothing else
changes (it is a clear, not a wipe).

The tree before "fix: ClearBit clears the bit in every time view" did not meet this
(`C19_old_skip_witness`: the history of DESIGN section 8 #14 leaves the bit in
standard_2001010113).  `C19_cmp_order` answers the question of the design: the comparator handed
to `sort.Slice` by the old code is a strict total order on view names (so "sorted" was
well defined and the sort was not the defect; the level/skipAbove bookkeeping was).
-/
import PV.C19.Lemmas
namespace PV.C19
open PV.C18 List

/-- `ClearBit(r, c)` removes exactly the bit (r, c) from every view and changes nothing else. -/
theorem C19_clear_exact (f : Field) (r c : Nat) :
    (clearBit f r c).1.views =
      f.views.map (fun v => ⟨v.name, v.bits.filter (fun b => b != (r, c))⟩) := by
  rw [clearBit_views]; rfl

/-- After `ClearBit(r, c)` no view holds (r, c): every quantum, every state, with or without a
standard view. -/
theorem C19_cleared (f : Field) (r c : Nat) :
    ∀ v ∈ (clearBit f r c).1.views, (r, c) ∉ v.bits := by
  intro v hv
  rw [C19_clear_exact] at hv
  obtain ⟨w, _, rfl⟩ := List.mem_map.mp hv
  simp [List.mem_filter]

/-- The quantum and the noStandardView option are untouched. -/
theorem C19_clear_options (f : Field) (r c : Nat) :
    (clearBit f r c).1.q = f.q ∧ (clearBit f r c).1.noStd = f.noStd :=
  ⟨rfl, rfl⟩

/-- `changed` is reported exactly when some view held the bit. -/
theorem C19_changed (f : Field) (r c : Nat) :
    (clearBit f r c).2 = f.views.any (fun v => v.bits.contains (r, c)) := by
  simp only [clearBit, clearInView, isTimeView]
  rw [Bool.eq_iff_iff]
  simp only [Bool.or_eq_true, List.any_eq_true, List.mem_map, Bool.and_eq_true, decide_eq_true_eq]
  constructor
  · rintro (⟨v, hv, _, h⟩ | ⟨w, ⟨v, hv, rfl⟩, h1, h2⟩)
    · exact ⟨v, hv, h⟩
    · refine ⟨v, hv, ?_⟩
      by_cases hs : v.name = .std
      · simp [hs] at h1
      · simpa [hs] using h2
  · rintro ⟨v, hv, h⟩
    cases hn : v.name with
    | std => exact Or.inl ⟨v, hv, hn, h⟩
    | tv ds =>
      refine Or.inr ⟨v, ⟨v, hv, ?_⟩, ?_, ?_⟩
      · simp [hn]
      · simp [hn]
      · simpa using h

/-- No query returns the column after a clear: neither `Row(f=r)` (standard view) nor
`Row(f=r, from=, to=)` for any range (aligned or not, any quantum), nor any other union of views. -/
theorem C19_no_query_returns (f : Field) (r c : Nat) :
    (∀ names, c ∉ (clearBit f r c).1.rowOfViews r names) ∧
    c ∉ (clearBit f r c).1.rowStd r ∧
    (∀ s e, c ∉ (clearBit f r c).1.rowRange r s e) := by
  have key : ∀ names, c ∉ (clearBit f r c).1.rowOfViews r names := by
    intro names h
    obtain ⟨n, _, hn⟩ := (mem_rowOfViews_iff _ r c names).mp h
    obtain ⟨v, hv, hb⟩ := memIn_exists hn
    exact C19_cleared f r c v hv hb
  refine ⟨key, key _, ?_⟩
  intro s e
  unfold Field.rowRange
  split
  · exact List.not_mem_nil
  · exact key _

/-- Whatever history built the field (`SetBit` and `Import` with any timestamps, clear-imports
that only touch the standard view, views created for a peer, any other columns, earlier clears),
after `ClearBit(r, c)` and any further writes that do not set (r, c) again, no view holds (r, c). -/
theorem C19_cleared_until_set_again (f0 : Field) (before after : List Op) (r c : Nat)
    (hafter : ∀ op ∈ after, op.touches r c = false) :
    ∀ v ∈ (after.foldl apply (clearBit (before.foldl apply f0) r c).1).views, (r, c) ∉ v.bits := by
  refine List.foldlRecOn _ _ (motive := fun g : Field => ∀ v ∈ g.views, (r, c) ∉ v.bits) (C19_cleared _ r c)
    fun g h0 op hop => ?_
  have ht := hafter op hop
  cases op with
  | set r' c' t =>
    have hne : (r', c') ≠ (r, c) := by
      intro e; cases e; simp [Op.touches] at ht
    exact setBit_other hne h0
  | clear r' c' => exact clearBit_other h0
  | imp bits cl =>
    simp only [apply]
    cases hg : g.importBits bits cl with
    | none => exact h0
    | some g' =>
      refine importBits_other ?_ h0 hg
      cases cl
      · right
        intro b hb e
        simp only [Op.touches, Bool.not_false, Bool.true_and, List.any_eq_false, Bool.and_eq_true,
          beq_iff_eq, not_and] at ht
        exact ht b hb (congrArg Prod.fst e) (congrArg Prod.snd e)
      · exact .inl rfl
  | mkview n => exact mkView_other h0

/-- The comparator of `allTimeViewsSortedByQuantum` is a strict total order on the time parts of
view names (irreflexive, transitive, any two different names are ordered) — in particular a strict
weak order, for well-formed names and all other digit strings alike. -/
theorem C19_cmp_order : StrictTotal Old.less := by
  have h := lexLess_strictTotal digitsLt_strictTotal (List.take 3)
    (lexLess_strictTotal digitsLt_strictTotal (List.take 5)
      (lexLess_strictTotal digitsLt_strictTotal (List.take 7) (flip_strictTotal digitsLt_strictTotal)))
  have e : Old.less = _ := funext fun a => funext fun b => less_eq_lex a b
  exact e ▸ h

/-- Quantum MDH; column 2 set at 2001-02-01T00, 2001-01-02T00, 2000-02-02T00 and column 1 at
2001-01-01T13 (DESIGN section 8 #14). -/
def witnessField : Field :=
  let f0 : Field := { q := [.M, .D, .H], noStd := false }
  let f1 := (f0.setBit 1 2 (some ⟨2001, 2, 1, 0⟩)).1
  let f2 := (f1.setBit 1 2 (some ⟨2001, 1, 2, 0⟩)).1
  let f3 := (f2.setBit 1 2 (some ⟨2000, 2, 2, 0⟩)).1
  (f3.setBit 1 1 (some ⟨2001, 1, 1, 13⟩)).1

/-- The old `ClearBit(1, 1)` reports "not changed" and leaves the bit in standard_2001010113. -/
theorem C19_old_skip_witness :
    (Old.clearBit witnessField 1 1).1.viewsWithBit 1 1 = [.tv [2, 0, 0, 1, 0, 1, 0, 1, 1, 3]] ∧
    (Old.clearBit witnessField 1 1).2 = false := by decide

/-- The old `ClearBit` did nothing at all on a field without standard view. -/
theorem C19_old_nostd_witness :
    let f : Field := ({ q := [.Y], noStd := true } : Field).setBit 1 1 (some ⟨2001, 1, 1, 0⟩) |>.1
    (Old.clearBit f 1 1).1.viewsWithBit 1 1 = [.tv [2, 0, 0, 1]] := by decide

/-! ### Non-vacuity -/

/-- The fixed code on the witness history: the bit is gone from all four views that held it and
the sibling column keeps its bits. -/
example : (clearBit witnessField 1 1).1.viewsWithBit 1 1 = [] ∧ (clearBit witnessField 1 1).2 = true ∧
    ((clearBit witnessField 1 1).1.viewsWithBit 1 2).length = 10 ∧
    (witnessField.viewsWithBit 1 1).length = 4 := by decide

example : Old.less [2, 0, 0, 1] [2, 0, 0, 1, 0, 1] = true ∧
    Old.less [2, 0, 0, 1, 0, 1, 0, 1, 1, 3] [2, 0, 0, 1, 0, 1, 0, 1] = true := by decide

end PV.C19
