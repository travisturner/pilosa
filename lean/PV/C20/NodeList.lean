import PV.C20.Model
import PV.C20.Spec
import PV.Common.Asc
namespace PV.C20
open List

theorem idLt_iff {a b : Id} : idLt a b = true ↔ a < b := by
  induction a generalizing b with
  | nil => cases b <;> simp [idLt]
  | cons a as ih =>
    cases b with
    | nil => simp [idLt]
    | cons b bs =>
      rw [idLt, List.cons_lt_cons_iff, ← ih]
      by_cases hab : a < b
      · simp [hab]
      · by_cases hba : b < a
        · simp [hab, hba, Nat.ne_of_gt hba]
        · simp [Nat.le_antisymm (Nat.not_lt.mp hba) (Nat.not_lt.mp hab)]

theorem idLt_irrefl (a : Id) : idLt a a = false :=
  Bool.eq_false_iff.mpr fun h => List.lt_irrefl a (idLt_iff.mp h)

theorem idLt_trans {a b c : Id} (h₁ : idLt a b = true) (h₂ : idLt b c = true) : idLt a c = true :=
  idLt_iff.mpr (List.lt_trans (idLt_iff.mp h₁) (idLt_iff.mp h₂))

theorem idLt_asymm {a b : Id} (h : idLt a b = true) : idLt b a = false :=
  Bool.eq_false_iff.mpr fun h' => List.lt_asymm (idLt_iff.mp h) (idLt_iff.mp h')

theorem eq_of_idLt_false {a b : Id} (h₁ : idLt a b = false) (h₂ : idLt b a = false) : a = b :=
  List.le_antisymm (fun h => Bool.eq_false_iff.mp h₂ (idLt_iff.mpr h))
    (fun h => Bool.eq_false_iff.mp h₁ (idLt_iff.mpr h))

theorem idLt_ne {a b : Id} (h : idLt a b = true) : a ≠ b := by
  intro e; subst e; simp [idLt_irrefl] at h

/-- Strictly ascending by id. -/
def Sorted (l : List Id) : Prop := l.Pairwise (fun a b => idLt a b = true)

theorem Sorted.nodup {l : List Id} (h : Sorted l) : l.Nodup :=
  h.imp (fun hab => idLt_ne hab)

theorem sorted_unique {l₁ l₂ : List Id} (h₁ : Sorted l₁) (h₂ : Sorted l₂) (h : ∀ x, x ∈ l₁ ↔ x ∈ l₂) :
    l₁ = l₂ :=
  Common.pairwise_ext (fun _ _ hab hba => by simp [idLt_asymm hab] at hba) h₁ h₂ h

theorem insertSorted_perm (x : Id) (l : List Id) : (insertSorted x l).Perm (x :: l) := by
  induction l with
  | nil => exact .refl _
  | cons y ys ih =>
    rw [insertSorted]
    by_cases h : idLt y x = true
    · rw [if_pos h]
      exact (ih.cons y).trans (.swap x y ys)
    · rw [if_neg h]

theorem sortIds_perm (l : List Id) : (sortIds l).Perm l := by
  induction l with
  | nil => exact .refl _
  | cons x xs ih => exact (insertSorted_perm x _).trans (ih.cons x)

theorem insertSorted_sorted {x : Id} {l : List Id} : Sorted l → x ∉ l → Sorted (insertSorted x l) := by
  induction l with
  | nil => exact fun _ _ => pairwise_cons.mpr ⟨fun _ h => (nomatch h), Pairwise.nil⟩
  | cons z zs ih =>
    intro hs hx
    have ⟨hz, hzs⟩ := pairwise_cons.mp hs
    rw [insertSorted]
    by_cases hzx : idLt z x = true
    · rw [if_pos hzx]
      refine pairwise_cons.mpr ⟨fun w hw => ?_, ih hzs (fun h => hx (mem_cons_of_mem _ h))⟩
      rcases mem_cons.mp ((insertSorted_perm x zs).mem_iff.mp hw) with rfl | hw
      · exact hzx
      · exact hz w hw
    · rw [if_neg hzx]
      -- `x` is neither above nor equal to `z`, so it is below `z` and hence below all of `zs`
      have hxz : idLt x z = true := by
        cases h : idLt x z with
        | true => rfl
        | false => exact absurd (eq_of_idLt_false h (Bool.eq_false_iff.mpr hzx)) (fun e => hx (e ▸ mem_cons_self))
      refine pairwise_cons.mpr ⟨fun w hw => ?_, hs⟩
      rcases mem_cons.mp hw with rfl | hw
      · exact hxz
      · exact idLt_trans hxz (hz w hw)

theorem sortIds_sorted {l : List Id} : l.Nodup → Sorted (sortIds l) := by
  induction l with
  | nil => exact fun _ => Pairwise.nil
  | cons x xs ih =>
    intro h
    have ⟨hx, hxs⟩ := nodup_cons.mp h
    exact insertSorted_sorted (ih hxs) (fun h' => hx ((sortIds_perm xs).mem_iff.mp h'))

theorem addNode_sorted {l : List Id} {id : Id} (h : Sorted l) : Sorted (addNode l id) := by
  unfold addNode
  split
  · exact h
  · rename_i hid
    refine sortIds_sorted (nodup_append.mpr ⟨h.nodup, by simp, fun a ha b hb e => hid ?_⟩)
    rw [← mem_singleton.mp hb, ← e]
    exact ha

theorem mem_addNode {l : List Id} {id x : Id} : x ∈ addNode l id ↔ x = id ∨ x ∈ l := by
  unfold addNode
  split
  · rename_i h
    exact ⟨Or.inr, fun h' => h'.elim (fun e => e ▸ h) (fun h' => h')⟩
  · rw [(sortIds_perm _).mem_iff, mem_append, mem_singleton, or_comm]

theorem length_addNode {l : List Id} {id : Id} (h : id ∉ l) : (addNode l id).length = l.length + 1 := by
  rw [addNode, if_neg h, (sortIds_perm _).length_eq, length_append, length_singleton]

theorem removeNode_eq_erase (l : List Id) (id : Id) : removeNode l id = l.erase id := by
  induction l with
  | nil => rfl
  | cons y ys ih => simp only [removeNode, erase_cons, ih, beq_iff_eq]

theorem removeNode_sorted {l : List Id} {id : Id} (h : Sorted l) : Sorted (removeNode l id) := by
  rw [removeNode_eq_erase]
  exact h.sublist erase_sublist

theorem mem_removeNode {l : List Id} {id x : Id} (h : l.Nodup) : x ∈ removeNode l id ↔ x ∈ l ∧ x ≠ id := by
  rw [removeNode_eq_erase, h.mem_erase_iff, and_comm]

theorem length_removeNode {l : List Id} {id : Id} (h : id ∈ l) : (removeNode l id).length + 1 = l.length := by
  rw [removeNode_eq_erase, length_erase_of_mem h]
  exact Nat.sub_add_cancel (length_pos_of_mem h)

theorem applyEv_sorted {l : List Id} (h : Sorted l) (e : Ev) : Sorted (applyEv l e) := by
  cases e with
  | join id => exact addNode_sorted h
  | leave id => exact removeNode_sorted h

theorem run_sorted (evs : List Ev) : Sorted (run evs) :=
  foldlRecOn evs applyEv Pairwise.nil (fun _ h e _ => applyEv_sorted h e)

theorem foldl_addNode_sorted (ids : List Id) {l : List Id} (h : Sorted l) : Sorted (ids.foldl addNode l) :=
  foldlRecOn ids addNode h (fun _ h _ _ => addNode_sorted h)

theorem mem_foldl_addNode {x : Id} (ids : List Id) {l : List Id} : x ∈ ids.foldl addNode l ↔ x ∈ l ∨ x ∈ ids := by
  induction ids generalizing l with
  | nil => simp
  | cons y ys ih => rw [foldl_cons, ih, mem_addNode, mem_cons, or_comm (a := x = y), or_assoc]

theorem run_joins (ids : List Id) : run (ids.map Ev.join) = ids.foldl addNode [] :=
  foldl_map

theorem mem_run_joins (ids : List Id) (x : Id) : x ∈ run (ids.map Ev.join) ↔ x ∈ ids := by
  rw [run_joins, mem_foldl_addNode]
  simp
def specApply (s : List Id) : Ev → List Id
  | .join id => Spec.join s id
  | .leave id => Spec.leave s id

theorem mem_specJoin {s : List Id} {id x : Id} : x ∈ Spec.join s id ↔ x = id ∨ x ∈ s := by
  unfold Spec.join
  split
  · rename_i h
    exact ⟨Or.inr, fun h' => h'.elim (fun e => e ▸ contains_iff_mem.mp h) (fun h' => h')⟩
  · exact mem_cons

theorem mem_specLeave {s : List Id} {id x : Id} : x ∈ Spec.leave s id ↔ x ∈ s ∧ x ≠ id := by
  simp [Spec.leave]

theorem specApply_nodup {s : List Id} (h : s.Nodup) : ∀ e, (specApply s e).Nodup
  | .join id => by
    simp only [specApply, Spec.join]
    split
    · exact h
    · rename_i hc
      exact nodup_cons.mpr ⟨by simpa using hc, h⟩
  | .leave id => h.sublist filter_sublist

theorem run_spec_mem (evs : List Ev) : ∀ (l s : List Id), Sorted l → (∀ x, x ∈ l ↔ x ∈ s) →
    ∀ x, x ∈ evs.foldl applyEv l ↔ x ∈ evs.foldl specApply s := by
  induction evs with
  | nil => exact fun _ _ _ h => h
  | cons e es ih =>
    intro l s hl h
    refine ih _ _ (applyEv_sorted hl e) (fun x => ?_)
    cases e with
    | join id => simp only [applyEv, specApply, mem_addNode, mem_specJoin, h x]
    | leave id => simp only [applyEv, specApply, mem_removeNode hl.nodup, mem_specLeave, h x]

theorem members_sorted {s : List Id} (h : s.Nodup) : Sorted (Spec.members s) := by
  -- `!idLt b a` is core's `a ≤ b`: merge sort gives `≤` pairwise, and distinct members make it strict
  have hle : ∀ a b : Id, (!idLt b a) = true ↔ a ≤ b := fun a b => by
    rw [Bool.not_eq_true', ← Bool.not_eq_true, idLt_iff, List.not_lt]
  have hp := pairwise_mergeSort (le := fun a b => !idLt b a)
    (fun a b c hab hbc => (hle a c).mpr (List.le_trans ((hle a b).mp hab) ((hle b c).mp hbc)))
    (fun a b => by rw [Bool.or_eq_true, hle, hle]; exact List.le_total a b) s
  refine (hp.and ((mergeSort_perm s _).nodup_iff.mpr h)).imp ?_
  rintro a b ⟨hab, hne⟩
  exact idLt_iff.mpr ((List.le_iff_lt_or_eq.mp ((hle a b).mp hab)).resolve_right hne)

theorem mem_members {s : List Id} {x : Id} : x ∈ Spec.members s ↔ x ∈ s :=
  (mergeSort_perm s _).mem_iff

/-- The node list a cluster value holds after any history is the specification's ring: the
member set in ascending id order. -/
theorem run_eq_members (evs : List Ev) : run evs = Spec.members (evs.foldl specApply []) := by
  refine sorted_unique (run_sorted evs) (members_sorted ?_) (fun x => ?_)
  · exact foldlRecOn evs specApply Pairwise.nil (fun _ h e _ => specApply_nodup h e)
  · rw [mem_members]
    exact run_spec_mem evs [] [] Pairwise.nil (fun _ => Iff.rfl) x
end PV.C20
