import PV.C20.Model
import PV.C20.Spec
namespace PV.C20
open List

/-- Invariant: the loop has not run yet (`b = -1`, `j = 0 < n`) or `b` is the last `j` below `n`. -/
theorem hashLoop_range {next : Nat → BitVec 64 → Nat} (hnext : ∀ b k, b < next b k) {n : Nat} :
    ∀ (fuel : Nat) (b : Int) (j : Nat) (key : BitVec 64), n ≤ j + fuel →
      ((b = -1 ∧ j = 0 ∧ 0 < n) ∨ (0 ≤ b ∧ b < n)) →
      ∃ r : Int, hashLoop next n fuel b j key = some r ∧ 0 ≤ r ∧ r < n := by
  -- when the loop ends (`¬ j < n`) it has run at least once, so `b` is a bucket
  have stop : ∀ (b : Int) (j : Nat), ¬ j < n → ((b = -1 ∧ j = 0 ∧ 0 < n) ∨ (0 ≤ b ∧ b < n)) →
      ∃ r : Int, some b = some r ∧ 0 ≤ r ∧ r < n :=
    fun b j hj hinv => ⟨b, rfl, hinv.resolve_left (fun h => hj (h.2.1 ▸ h.2.2))⟩
  intro fuel
  induction fuel with
  | zero =>
    intro b j key hf hinv
    have hj : ¬ j < n := Nat.not_lt.mpr hf
    rw [hashLoop, if_neg hj]
    exact stop b j hj hinv
  | succ fuel ih =>
    intro b j key hf hinv
    rw [hashLoop]
    split
    · -- `j` grows (`hnext`), so the remaining fuel still suffices
      rename_i hj
      have hf' : n ≤ (j + 1) + fuel := Nat.succ_add_eq_add_succ j fuel ▸ hf
      exact ih _ _ _ (Nat.le_trans hf' (Nat.add_le_add_right (hnext j _) fuel))
        (Or.inr ⟨Int.natCast_nonneg j, Int.ofNat_lt.mpr hj⟩)
    · rename_i hj
      exact stop b j hj hinv

theorem hash_range {next : Nat → BitVec 64 → Nat} (hnext : ∀ b k, b < next b k) (key : BitVec 64)
    {n : Nat} (hn : 0 < n) : ∃ r : Int, hash next key n = some r ∧ 0 ≤ r ∧ r < n :=
  hashLoop_range hnext n (-1) 0 key (Nat.le_add_left n 0) (Or.inl ⟨rfl, rfl, hn⟩)

theorem hash_zero (next : Nat → BitVec 64 → Nat) (key : BitVec 64) : hash next key 0 = some (-1) := rfl

/-- position of the primary owner on the ring (`0` only if the hash diverges, which `hnext` excludes) -/
def primaryIdx (next : Nat → BitVec 64 → Nat) (n p : Nat) : Nat :=
  match hash next (BitVec.ofNat 64 p) n with
  | some r => r.toNat
  | none => 0

theorem primaryIdx_lt {next : Nat → BitVec 64 → Nat} (hnext : ∀ b k, b < next b k) {n : Nat} (hn : 0 < n)
    (p : Nat) : primaryIdx next n p < n := by
  obtain ⟨r, hr, h0, hlt⟩ := hash_range hnext (BitVec.ofNat 64 p) hn
  simp only [primaryIdx, hr]
  exact (Int.toNat_lt h0).mpr hlt

theorem ringAt_ok {nodes : List Id} {h : Int} (hn : 0 < nodes.length) (h0 : 0 ≤ h) (i : Nat) :
    ∃ x, ringAt nodes h i = .ok x ∧ nodes[(h.toNat + i) % nodes.length]? = some x := by
  -- Go's `%` truncates; on a non-negative left operand it is the `Nat` remainder
  obtain ⟨H, rfl⟩ := Int.eq_ofNat_of_zero_le h0
  have hlt : (H + i) % nodes.length < nodes.length := Nat.mod_lt _ hn
  refine ⟨nodes[(H + i) % nodes.length], ?_, getElem?_eq_getElem hlt⟩
  rw [ringAt, if_neg (Nat.ne_of_gt hn)]
  simp only [← Int.natCast_add, ← Int.ofNat_tmod, Int.toNat_natCast]
  rw [if_neg (Int.not_lt.mpr (Int.natCast_nonneg _)), getElem?_eq_getElem hlt]

theorem ringWalk_ok {nodes : List Id} {h : Int} (hn : 0 < nodes.length) (h0 : 0 ≤ h) :
    ∀ (cnt i : Nat), ∃ l, ringWalk nodes h cnt i = .ok l ∧ l.length = cnt ∧
      ∀ k, k < cnt → l[k]? = nodes[(h.toNat + (i + k)) % nodes.length]? := by
  intro cnt
  induction cnt with
  | zero => exact fun i => ⟨[], rfl, rfl, fun k hk => absurd hk (Nat.not_lt_zero k)⟩
  | succ cnt ih =>
    intro i
    obtain ⟨x, hx, hxe⟩ := ringAt_ok hn h0 i
    obtain ⟨xs, hxs, hlen, hget⟩ := ih (i + 1)
    refine ⟨x :: xs, by simp only [ringWalk, hx, hxs], congrArg (· + 1) hlen, fun k hk => ?_⟩
    cases k with
    | zero => exact hxe.symm
    | succ k =>
      rw [getElem?_cons_succ, hget k (Nat.lt_of_succ_lt_succ hk), Nat.add_assoc i 1 k, Nat.add_comm 1 k]

theorem clampReplicas_eq (r n : Nat) : clampReplicas r n = min (max r 1) n := by
  have h : (if r = 0 then 1 else r) = max r 1 := by
    cases r with
    | zero => rfl
    | succ r => exact (Nat.max_eq_left (Nat.succ_pos r)).symm
  rw [clampReplicas, h, Nat.min_def]
  simp only [gt_iff_lt, ← Nat.not_le, ite_not]

theorem rotate_perm (l : List Id) (k : Nat) : (Spec.rotate l k).Perm l :=
  perm_append_comm.trans (.of_eq (take_append_drop k l))

theorem rotate_take_get (nodes : List Id) (H K k : Nat) (hH : H < nodes.length) (hK : K ≤ nodes.length) :
    ((Spec.rotate nodes H).take K)[k]? = if k < K then nodes[(H + k) % nodes.length]? else none := by
  rw [getElem?_take]
  split
  · rename_i hk
    rw [Spec.rotate, getElem?_append, length_drop]
    split
    · rename_i h
      rw [getElem?_drop, Nat.mod_eq_of_lt (Nat.add_lt_of_lt_sub' h)]
    · -- past the end of the list: position `H + k - n < H` of the wrapped-around prefix
      rename_i h
      have h₁ : nodes.length ≤ H + k := Nat.sub_le_iff_le_add'.mp (Nat.not_lt.mp h)
      have h₂ : H + k - nodes.length < H :=
        Nat.sub_lt_left_of_lt_add h₁ (Nat.add_comm H k ▸ Nat.add_lt_add_right (Nat.lt_of_lt_of_le hk hK) H)
      rw [getElem?_take, Nat.sub_sub_right k (Nat.le_of_lt hH), Nat.add_comm k H, if_pos h₂,
        Nat.mod_eq_sub_mod h₁, Nat.mod_eq_of_lt (Nat.lt_trans h₂ hH)]
  · rfl

theorem take_rotate_nodup {nodes : List Id} (h : nodes.Nodup) (H K : Nat) : ((Spec.rotate nodes H).take K).Nodup :=
  ((rotate_perm nodes H).nodup_iff.mpr h).sublist (take_sublist _ _)

theorem mem_take_rotate {nodes : List Id} {H K : Nat} {x : Id} (h : x ∈ (Spec.rotate nodes H).take K) : x ∈ nodes :=
  (rotate_perm nodes H).mem_iff.mp (mem_of_mem_take h)

theorem length_take_rotate (nodes : List Id) (H K : Nat) :
    ((Spec.rotate nodes H).take (min K nodes.length)).length = min K nodes.length := by
  rw [length_take, (rotate_perm _ _).length_eq]
  exact Nat.min_eq_left (Nat.min_le_right _ _)

theorem partitionNodes_eq {next : Nat → BitVec 64 → Nat} (hnext : ∀ b k, b < next b k) (c : Cluster) (p : Nat) :
    partitionNodes next c p = .ok ((Spec.rotate c.nodes (primaryIdx next c.nodes.length p)).take
      (min (max c.replicaN 1) c.nodes.length)) := by
  rw [partitionNodes, primaryIdx, clampReplicas_eq]
  by_cases hn : 0 < c.nodes.length
  · obtain ⟨r, hr, h0, hlt⟩ := hash_range hnext (BitVec.ofNat 64 p) hn
    obtain ⟨l, hl, hlen, hget⟩ := ringWalk_ok hn h0 (min (max c.replicaN 1) c.nodes.length) 0
    simp only [hr, hl]
    congr 1
    apply ext_getElem?
    intro k
    rw [rotate_take_get _ _ _ _ ((Int.toNat_lt h0).mpr hlt) (Nat.min_le_right _ _)]
    split
    · rw [hget k ‹_›, Nat.zero_add]
    · exact getElem?_eq_none (hlen ▸ Nat.le_of_not_lt ‹_›)
  · have h0 : c.nodes = [] := length_eq_zero_iff.mp (Nat.eq_zero_of_not_pos hn)
    simp only [h0, length_nil, hash_zero, Nat.min_zero, ringWalk, Spec.rotate, take_nil, drop_nil, append_nil]

theorem partitionNodes_ok {next : Nat → BitVec 64 → Nat} (hnext : ∀ b k, b < next b k) (c : Cluster) (p : Nat) :
    ∃ l H, partitionNodes next c p = .ok l ∧ l.length = min (max c.replicaN 1) c.nodes.length ∧
      (0 < c.nodes.length → H < c.nodes.length) ∧
      ∀ k, k < l.length → l[k]? = c.nodes[(H + k) % c.nodes.length]? := by
  have hlen := length_take_rotate c.nodes (primaryIdx next c.nodes.length p) (max c.replicaN 1)
  refine ⟨_, primaryIdx next c.nodes.length p, partitionNodes_eq hnext c p, hlen,
    fun hn => primaryIdx_lt hnext hn p, fun k hk => ?_⟩
  rw [hlen] at hk
  have hn : 0 < c.nodes.length := Nat.lt_of_le_of_lt (Nat.zero_le k) (Nat.lt_of_lt_of_le hk (Nat.min_le_right _ _))
  rw [rotate_take_get _ _ _ _ (primaryIdx_lt hnext hn p) (Nat.min_le_right _ _), if_pos hk]

theorem shardNodes_total {next : Nat → BitVec 64 → Nat} (hnext : ∀ b k, b < next b k) (c : Cluster)
    (index : List Nat) (shard : Nat) : shardNodes next c index shard = .ok (ownersOf next c index shard) := by
  rw [ownersOf, shardNodes, partitionNodes_eq hnext]

theorem ownersOf_eq {next : Nat → BitVec 64 → Nat} (hnext : ∀ b k, b < next b k) (c : Cluster)
    (index : List Nat) (s : Nat) :
    ownersOf next c index s = (Spec.rotate c.nodes (primaryIdx next c.nodes.length (partition c.partitionN index s))).take
      (min (max c.replicaN 1) c.nodes.length) := by
  rw [ownersOf, shardNodes, partitionNodes_eq hnext]

theorem ownersOf_nodup {next : Nat → BitVec 64 → Nat} (hnext : ∀ b k, b < next b k) {c : Cluster}
    (hnd : c.nodes.Nodup) (index : List Nat) (s : Nat) : (ownersOf next c index s).Nodup := by
  rw [ownersOf_eq hnext]
  exact take_rotate_nodup hnd _ _

/-- the owners for replica count 1 (C21 `srcCluster`) are among the owners for any replica count -/
theorem owners_replica1_subset {next : Nat → BitVec 64 → Nat} (hnext : ∀ b k, b < next b k) (c : Cluster)
    (index : List Nat) (s : Nat) :
    ∀ x ∈ ownersOf next { c with replicaN := 1 } index s, x ∈ ownersOf next c index s := by
  rw [ownersOf_eq hnext, ownersOf_eq hnext]
  exact take_subset_take_left _
    (Nat.le_min.mpr ⟨Nat.le_trans (Nat.min_le_left _ _) (Nat.le_max_right _ 1), Nat.min_le_right _ _⟩)

theorem owners_replica1_nil_iff {next : Nat → BitVec 64 → Nat} (hnext : ∀ b k, b < next b k) (c : Cluster)
    (index : List Nat) (s : Nat) :
    ownersOf next { c with replicaN := 1 } index s = [] ↔ ownersOf next c index s = [] := by
  -- the clamped replica count is at least 1, so either list is empty only on an empty ring
  have h : ∀ r : Nat, min (max r 1) c.nodes.length = 0 ↔ c.nodes.length = 0 := fun r =>
    Nat.min_eq_zero_iff.trans (or_iff_right (Nat.ne_of_gt (Nat.le_max_right r 1)))
  rw [ownersOf_eq hnext, ownersOf_eq hnext, take_eq_nil_iff, take_eq_nil_iff]
  exact or_congr_left ((h 1).trans (h c.replicaN).symm)
/-- `partitionNodes` on the ring computes the specification's owner list. -/
theorem partitionNodes_eq_spec {next : Nat → BitVec 64 → Nat} (hnext : ∀ b k, b < next b k)
    (s : List Id) (r pn p : Nat) :
    ∃ l, partitionNodes next { nodes := Spec.members s, replicaN := r, partitionN := pn } p = .ok l ∧
      Spec.owners next s r p = some l := by
  refine ⟨_, partitionNodes_eq hnext _ p, ?_⟩
  simp only [Spec.owners]
  split
  · rename_i hn
    simp [length_eq_zero_iff.mp hn, Spec.rotate]
  · rename_i hn
    obtain ⟨h, hh, h0, hlt⟩ := hash_range hnext (BitVec.ofNat 64 p) (Nat.pos_of_ne_zero hn)
    simp only [hh, primaryIdx]
    rw [Nat.mod_eq_of_lt ((Int.toNat_lt h0).mpr hlt)]

end PV.C20
