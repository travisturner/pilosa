/-
C20 property theorems (core Lean only).

Property: for any set of nodes, replica count and (index, shard), the shard's owners are
min(max(replicas,1), nodes) distinct members; they depend only on the node ids, not on join order
or on which node computes them; a node treats itself as an owner (writes: validateShardOwnership,
anti-entropy/cleanup: containsShards, queries: shardsByNode) exactly when it is in that set.

All theorems hold for arbitrary node lists / membership histories, every replica count >= 0, every
partition, with the float step of the jump hash as a parameter `next` whose only assumption is
`hnext : forall b key, b < next b key`.  Nothing is `_partial`: after the fix of the replica clamp
(`fix: partitionNodes returns no owners for an empty cluster with ReplicaN 0`) the model has no
reachable panic and the count formula also holds for the empty cluster.
-/
import PV.C20.Model
import PV.C20.Spec
import PV.C20.NodeList
import PV.C20.Queries
namespace PV.C20
open List

/-- A concrete `next` satisfying the assumption (used by the non-vacuity examples). -/
def nextSucc (b : Nat) (_ : BitVec 64) : Nat := b + 1
theorem nextSucc_ok : ∀ b k, b < nextSucc b k := fun b _ => Nat.lt_succ_self b

theorem C20_hash_range {next : Nat → BitVec 64 → Nat} (hnext : ∀ b k, b < next b k)
    (key : BitVec 64) {n : Nat} (hn : 0 < n) :
    ∃ r : Int, hash next key n = some r ∧ 0 ≤ r ∧ r < n :=
  hash_range hnext key hn

example : hash nextSucc 5#64 3 = some 2 := by decide

theorem C20_partition_range (partitionN : Nat) (hp : 0 < partitionN) (index : List Nat) (shard : Nat) :
    partition partitionN index shard < partitionN :=
  Nat.mod_lt _ hp

/-- `partitionNodes` never panics and returns exactly min(max(replicas,1), nodes) owners
(also for the empty cluster: no owners). -/
theorem C20_count {next : Nat → BitVec 64 → Nat} (hnext : ∀ b k, b < next b k) (c : Cluster) (p : Nat) :
    ∃ l, partitionNodes next c p = .ok l ∧ l.length = min (max c.replicaN 1) c.nodes.length := by
  exact ⟨_, partitionNodes_eq hnext c p, length_take_rotate _ _ _⟩

example : partitionNodes nextSucc { nodes := [[1], [2], [3]], replicaN := 2 } 7 = .ok [[3], [1]] := by decide
example : partitionNodes nextSucc { nodes := [], replicaN := 0 } 7 = .ok [] := by decide

/-- The owners are pairwise distinct members of the cluster whenever the node list has no duplicate
id (which `C20_nodes_sorted` gives for every membership history). -/
theorem C20_distinct {next : Nat → BitVec 64 → Nat} (hnext : ∀ b k, b < next b k) (c : Cluster) (p : Nat)
    (hnd : c.nodes.Nodup) {l : List Id} (hl : partitionNodes next c p = .ok l) :
    l.Nodup ∧ ∀ x ∈ l, x ∈ c.nodes := by
  rw [partitionNodes_eq hnext] at hl
  cases hl
  exact ⟨take_rotate_nodup hnd _ _, fun _ => mem_take_rotate⟩

/-- Whatever joins and leaves a cluster value has seen, its node list is strictly ascending by id
(hence duplicate free). -/
theorem C20_nodes_sorted (evs : List Ev) : Sorted (run evs) ∧ (run evs).Nodup :=
  ⟨run_sorted evs, (run_sorted evs).nodup⟩

example : run [.join [2], .join [1, 0], .join [1], .join [2], .leave [1, 0]] = [[1], [2]] := by decide

/-- Two cluster values (two nodes, or one node at two times) whose membership histories end in the
same member set hold the same node list. -/
theorem C20_history_free (h₁ h₂ : List Ev) (hset : ∀ x, x ∈ run h₁ ↔ x ∈ run h₂) : run h₁ = run h₂ :=
  sorted_unique (run_sorted h₁) (run_sorted h₂) hset

/-- Any two join orders (with repetitions) of the same id set give the same node list and therefore
the same owners for every replica count, index and shard, on every node. -/
theorem C20_order_free (next : Nat → BitVec 64 → Nat) (o₁ o₂ : List Id) (hset : ∀ x, x ∈ o₁ ↔ x ∈ o₂)
    (replicaN partitionN : Nat) (index : List Nat) (shard : Nat) :
    run (o₁.map Ev.join) = run (o₂.map Ev.join) ∧
    shardNodes next { nodes := run (o₁.map Ev.join), replicaN := replicaN, partitionN := partitionN } index shard =
    shardNodes next { nodes := run (o₂.map Ev.join), replicaN := replicaN, partitionN := partitionN } index shard := by
  have h : run (o₁.map Ev.join) = run (o₂.map Ev.join) :=
    C20_history_free _ _ (fun x => by rw [mem_run_joins, mem_run_joins]; exact hset x)
  exact ⟨h, by rw [h]⟩

example : run ([[2], [1], [3]].map Ev.join) = run ([[3], [2], [2], [1]].map Ev.join) := by decide

/-- The node list is the member set in ascending id order: exactly the ring of the specification. -/
theorem C20_members (ids : List Id) (x : Id) : x ∈ run (ids.map Ev.join) ↔ x ∈ ids :=
  mem_run_joins ids x

/-- After any membership history the node list is the specification's ring: the member *set* in
ascending id order (`specApply` forgets the order of events). -/
theorem C20_refines_spec (evs : List Ev) : run evs = Spec.members (evs.foldl specApply []) :=
  run_eq_members evs

/-- On that ring `partitionNodes` returns exactly the specification's owner list: the first
min(max(replicas,1), n) ids of the ring rotated to the jump-hash primary. -/
theorem C20_owners_spec {next : Nat → BitVec 64 → Nat} (hnext : ∀ b k, b < next b k)
    (s : List Id) (r pn p : Nat) :
    ∃ l, partitionNodes next { nodes := Spec.members s, replicaN := r, partitionN := pn } p = .ok l ∧
      Spec.owners next s r p = some l :=
  partitionNodes_eq_spec hnext s r pn p

example : ∃ l, Spec.owners nextSucc [[3], [1], [2]] 2 7 = some l :=
  let ⟨l, _, h⟩ := C20_owners_spec nextSucc_ok [[3], [1], [2]] 2 256 7; ⟨l, h⟩

theorem C20_shardNodes_total {next : Nat → BitVec 64 → Nat} (hnext : ∀ b k, b < next b k) (c : Cluster)
    (index : List Nat) (shard : Nat) :
    shardNodes next c index shard = .ok (ownersOf next c index shard) :=
  shardNodes_total hnext c index shard

/-- `ownsShard` and `validateShardOwnership` say yes exactly for the members of the owner list. -/
theorem C20_owns_iff {next : Nat → BitVec 64 → Nat} (hnext : ∀ b k, b < next b k) (c : Cluster)
    (id : Id) (index : List Nat) (shard : Nat) :
    ∃ b, ownsShard next c id index shard = .ok b ∧ validateShardOwnership next c id index shard = .ok b ∧
      (b = true ↔ id ∈ ownersOf next c index shard) := by
  refine ⟨containsID (ownersOf next c index shard) id, ?_, ?_, containsID_iff⟩
  · simp only [ownsShard, shardNodes_total hnext]
  · simp only [validateShardOwnership, ownsShard, shardNodes_total hnext]

/-- `containsShards` (holder cleanup, anti-entropy) is the filter of the shards by ownership. -/
theorem C20_contains_eq_filter {next : Nat → BitVec 64 → Nat} (hnext : ∀ b k, b < next b k) (c : Cluster)
    (hnd : c.nodes.Nodup) (index : List Nat) (id : Id) (shards : List Nat) :
    containsShards next c index shards id =
      .ok (shards.filter (fun s => decide (id ∈ ownersOf next c index s))) :=
  containsShards_eq hnext c hnd index id shards

/-- `shardsByNode` never panics; it fails exactly when some shard has no owner among the available
nodes, and otherwise assigns every shard to exactly one node: its first available owner. -/
theorem C20_shardsByNode {next : Nat → BitVec 64 → Nat} (hnext : ∀ b k, b < next b k) (c : Cluster)
    (avail : List Id) (index : List Nat) (shards : List Nat) :
    (∃ m, shardsByNode next c avail index shards = .ok m ∧
        (∀ s ∈ shards, ∃ n, n ∈ ownersOf next c index s ∧ n ∈ avail) ∧
        ∀ n s, (n, s) ∈ pairsOf m ↔ (s ∈ shards ∧ firstAvail (ownersOf next c index s) avail = some n)) ∨
    (shardsByNode next c avail index shards = .unavailable ∧
        ∃ s ∈ shards, ∀ n ∈ ownersOf next c index s, n ∉ avail) := by
  rcases shardsByNodeAux_spec hnext c avail index shards [] with ⟨m, hm, hall, hiff⟩ | ⟨hu, s, hs, hn⟩
  · refine Or.inl ⟨m, hm, ?_, ?_⟩
    · intro s hs
      cases hf : firstAvail (ownersOf next c index s) avail with
      | none => exact absurd hf (hall s hs)
      | some n => exact ⟨n, firstAvail_some hf⟩
    · intro n s
      rw [hiff]
      exact or_iff_right (not_mem_nil (a := (n, s)))
  · exact Or.inr ⟨hu, s, hs, firstAvail_none.mp hn⟩

/-- every assignment made by `shardsByNode` is to an owner of the shard that is still available -/
theorem C20_shardsByNode_sound {next : Nat → BitVec 64 → Nat} (hnext : ∀ b k, b < next b k) (c : Cluster)
    (avail : List Id) (index : List Nat) (shards : List Nat) {m : List (Id × List Nat)}
    (hm : shardsByNode next c avail index shards = .ok m) {n : Id} {s : Nat} (h : (n, s) ∈ pairsOf m) :
    s ∈ shards ∧ n ∈ ownersOf next c index s ∧ n ∈ avail := by
  rcases C20_shardsByNode hnext c avail index shards with ⟨m', hm', _, hiff⟩ | ⟨hu, _⟩
  · rw [hm] at hm'
    have e : m = m' := SBN.ok.inj hm'
    subst e
    have := (hiff n s).mp h
    exact ⟨this.1, firstAvail_some this.2⟩
  · rw [hm] at hu; cases hu

example : shardsByNode nextSucc { nodes := [[1], [2], [3]], replicaN := 2 } [[1], [2]] [105] [0, 1]
    = .ok [([1], [0, 1])] := by decide
example : shardsByNode nextSucc { nodes := [[1], [2], [3]], replicaN := 2 } [[2]] [105] [0, 1]
    = .unavailable := by decide

end PV.C20
