import PV.C20.Owners
namespace PV.C20
open List

theorem containsID_iff {l : List Id} {id : Id} : containsID l id = true ↔ id ∈ l := by
  induction l with
  | nil => simp [containsID]
  | cons n ns ih =>
    rw [containsID, mem_cons, eq_comm (a := id)]
    by_cases h : n = id
    · simp [h]
    · simp [h, ih]

/-- On a duplicate-free list at most one element is `n`. -/
theorem flatMap_ite_nodup {β : Type} (n : Id) (X : List β) {l : List Id} : l.Nodup →
    l.flatMap (fun k => if k = n then X else []) = if n ∈ l then X else [] := by
  induction l with
  | nil => exact fun _ => rfl
  | cons k ks ih =>
    intro h
    have ⟨hk, hks⟩ := nodup_cons.mp h
    rw [flatMap_cons, ih hks]
    by_cases e : k = n
    · subst e
      rw [if_pos rfl, if_neg hk, if_pos mem_cons_self, append_nil]
    · rw [if_neg e, nil_append]
      by_cases hn : n ∈ ks
      · rw [if_pos hn, if_pos (mem_cons_of_mem _ hn)]
      · rw [if_neg hn, if_neg (fun h' => (mem_cons.mp h').elim (fun e' => e e'.symm) hn)]

theorem appendPerMatch_eq_flatMap (id : Id) (s : Nat) (owners : List Id) :
    appendPerMatch owners id s = owners.flatMap (fun n => if n = id then [s] else []) := by
  induction owners with
  | nil => rfl
  | cons n ns ih =>
    rw [appendPerMatch, flatMap_cons, ih]
    by_cases h : n = id
    · rw [if_pos h, if_pos h]
      rfl
    · rw [if_neg h, if_neg h]
      rfl

theorem containsShards_eq {next : Nat → BitVec 64 → Nat} (hnext : ∀ b k, b < next b k) (c : Cluster)
    (hnd : c.nodes.Nodup) (index : List Nat) (id : Id) : ∀ (shards : List Nat),
    containsShards next c index shards id =
      .ok (shards.filter (fun s => decide (id ∈ ownersOf next c index s))) := by
  intro shards
  induction shards with
  | nil => rfl
  | cons s ss ih =>
    have htot : partitionNodes next c (partition c.partitionN index s) = .ok (ownersOf next c index s) :=
      shardNodes_total hnext c index s
    simp only [containsShards, htot, ih, appendPerMatch_eq_flatMap,
      flatMap_ite_nodup id [s] (ownersOf_nodup hnext hnd index s), filter_cons]
    by_cases h : id ∈ ownersOf next c index s
    · rw [if_pos h, if_pos (decide_eq_true h)]
      rfl
    · rw [if_neg h, if_neg (fun h' => h (of_decide_eq_true h'))]
      rfl

theorem firstAvail_eq_find? (avail : List Id) (os : List Id) : firstAvail os avail = os.find? (containsID avail) := by
  induction os with
  | nil => rfl
  | cons o os ih =>
    rw [firstAvail, find?_cons, ih]
    cases containsID avail o <;> rfl

theorem firstAvail_some {os avail : List Id} {n : Id} (h : firstAvail os avail = some n) : n ∈ os ∧ n ∈ avail := by
  rw [firstAvail_eq_find?] at h
  exact ⟨mem_of_find?_eq_some h, containsID_iff.mp (find?_some h)⟩

theorem firstAvail_none {os avail : List Id} : firstAvail os avail = none ↔ ∀ n ∈ os, n ∉ avail := by
  simp only [firstAvail_eq_find?, find?_eq_none, containsID_iff]

/-- The (node, shard) pairs of a `shardsByNode` result. -/
def pairsOf {β : Type} (m : List (Id × List β)) : List (Id × β) :=
  m.flatMap (fun e => e.2.map (fun s => (e.1, s)))

theorem mem_pairsOf {β : Type} {m : List (Id × List β)} {n : Id} {s : β} :
    (n, s) ∈ pairsOf m ↔ ∃ ss, (n, ss) ∈ m ∧ s ∈ ss := by
  simp only [pairsOf, mem_flatMap, mem_map, Prod.mk.injEq, Prod.exists]
  constructor
  · rintro ⟨a, b, hab, x, hx, rfl, rfl⟩
    exact ⟨b, hab, hx⟩
  · rintro ⟨ss, h, hs⟩
    exact ⟨n, ss, h, s, hs, rfl, rfl⟩

theorem mem_pairsOf_cons {β : Type} {k : Id} {vs : List β} {m : List (Id × List β)} {n : Id} {s : β} :
    (n, s) ∈ pairsOf ((k, vs) :: m) ↔ (n = k ∧ s ∈ vs) ∨ (n, s) ∈ pairsOf m := by
  simp only [pairsOf, flatMap_cons, mem_append, mem_map, Prod.mk.injEq]
  exact or_congr_left ⟨fun ⟨_, h, e₁, e₂⟩ => ⟨e₁.symm, e₂ ▸ h⟩, fun ⟨e, h⟩ => ⟨s, h, e.symm, rfl⟩⟩

theorem mem_pairsOf_assocAppend {β : Type} {m : List (Id × List β)} {k : Id} {v : β} {n : Id} {s : β} :
    (n, s) ∈ pairsOf (assocAppend m k v) ↔ (n, s) ∈ pairsOf m ∨ (n = k ∧ s = v) := by
  induction m with
  | nil => simp [assocAppend, pairsOf]
  | cons e rest ih =>
    obtain ⟨k', vs⟩ := e
    rw [assocAppend]
    by_cases e : k' = k
    · subst e
      rw [if_pos rfl, mem_pairsOf_cons, mem_pairsOf_cons, mem_append, mem_singleton, and_or_left, or_right_comm]
    · rw [if_neg e, mem_pairsOf_cons, mem_pairsOf_cons, ih, or_assoc]

theorem shardsByNodeAux_spec {next : Nat → BitVec 64 → Nat} (hnext : ∀ b k, b < next b k) (c : Cluster)
    (avail : List Id) (index : List Nat) : ∀ (shards : List Nat) (m : List (Id × List Nat)),
    (∃ m', shardsByNodeAux next c avail index shards m = .ok m' ∧
        (∀ s ∈ shards, firstAvail (ownersOf next c index s) avail ≠ none) ∧
        ∀ n s, (n, s) ∈ pairsOf m' ↔
          (n, s) ∈ pairsOf m ∨ (s ∈ shards ∧ firstAvail (ownersOf next c index s) avail = some n)) ∨
    (shardsByNodeAux next c avail index shards m = .unavailable ∧
        ∃ s ∈ shards, firstAvail (ownersOf next c index s) avail = none) := by
  intro shards
  induction shards with
  | nil => exact fun m => Or.inl ⟨m, rfl, by simp, by simp⟩
  | cons s ss ih =>
    intro m
    simp only [shardsByNodeAux, shardNodes_total hnext]
    cases hfa : firstAvail (ownersOf next c index s) avail with
    | none => exact Or.inr ⟨rfl, s, mem_cons_self, hfa⟩
    | some n₀ =>
      -- shard `s` goes to `n₀`; the rest of the loop runs on the table with `(n₀, s)` added
      rcases ih (assocAppend m n₀ s) with ⟨m', hm', hall, hiff⟩ | ⟨hu, s', hs', hn'⟩
      · refine Or.inl ⟨m', hm', ?_, fun n t => ?_⟩
        · intro t ht
          rcases mem_cons.mp ht with rfl | ht
          · rw [hfa]
            exact Option.some_ne_none n₀
          · exact hall t ht
        · rw [hiff, mem_pairsOf_assocAppend, or_assoc, mem_cons, or_and_right]
          refine or_congr_right (or_congr_left ⟨?_, ?_⟩)
          · rintro ⟨rfl, rfl⟩
            exact ⟨rfl, hfa⟩
          · rintro ⟨rfl, hf⟩
            exact ⟨Option.some.inj (hfa.symm.trans hf) ▸ rfl, rfl⟩
      · exact Or.inr ⟨hu, s', mem_cons_of_mem _ hs', hn'⟩
end PV.C20
