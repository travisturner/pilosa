/- One `ValidChange c a id` followed through `cluster.diff`, `fragSources`, the job and the follower's merge. -/
import PV.C21.Lemmas
import PV.C21.Defs
namespace PV.C21
open List PV.C20

variable {next : Nat → BitVec 64 → Nat} {perm : FragsByHost → FragsByHost} {c to : Cluster} {idx : Index}
  {a : Action} {id n src : C20.Id} {f : Frag} {plan : List (C20.Id × List Source)}

theorem diff_target (hv : ValidChange c a id) : diff c.nodes (targetCluster c a id).nodes = .ok (a, id) := by
  cases a with
  | add => exact diff_add (hv.2.1 rfl)
  | remove => exact diff_remove hv.1 (hv.2.2 rfl)

theorem target_sorted (hv : ValidChange c a id) : Sorted (targetCluster c a id).nodes := by
  cases a with
  | add => exact addNode_sorted hv.1
  | remove => exact removeNode_sorted hv.1

/-- The inverse map `srcNodesByFrag` that `fragSources` builds for the change `(a, id)`. -/
abbrev srcMap (next : Nat → BitVec 64 → Nat) (perm : FragsByHost → FragsByHost) (c : Cluster) (idx : Index)
    (a : Action) (id : C20.Id) : FragsByHost :=
  srcEntries perm (fragsByHost next (srcCluster c a) idx) a id

theorem srcCluster_subset (hnext : ∀ b k, b < next b k) (c : Cluster) (a : Action) (index : List Nat) (s : Nat) :
    ∀ x ∈ ownersOf next (srcCluster c a) index s, x ∈ ownersOf next c index s := by
  unfold srcCluster
  split
  · exact owners_replica1_subset hnext c index s
  · exact fun x h => h

theorem src_valid (hnext : ∀ b k, b < next b k) (hperm : ∀ l, (perm l).Perm l)
    (h : (src, f) ∈ pairsOf (srcMap next perm c idx a id)) : SurvivingOwner next c idx a id f.shard src := by
  obtain ⟨hp, hnot⟩ := (mem_pairsOf_srcEntries hperm).mp h
  exact ⟨srcCluster_subset hnext c a idx.name f.shard src (mem_pairsOf_fragsByHost.mp hp).2.1, hnot⟩

theorem no_entry_iff (hnext : ∀ b k, b < next b k) (hperm : ∀ l, (perm l).Perm l)
    (hs : f.shard ∈ idx.avail) (hf : f ∈ combosFor idx.schema f.shard) :
    srcLookup (srcMap next perm c idx a id) f = none ↔ ∀ src, ¬ SurvivingOwner next c idx a id f.shard src := by
  rw [srcLookup_none]
  refine ⟨fun h src ⟨hown, hnot⟩ => ?_, fun h src he => h src (src_valid hnext hperm he)⟩
  -- some owner of the source cluster survives as well: with one replica on an add, its only owner
  have hsrc : ∃ s', s' ∈ ownersOf next (srcCluster c a) idx.name f.shard ∧ ¬ (a = .remove ∧ s' = id) := by
    unfold srcCluster
    split
    · rename_i hc
      cases hl : ownersOf next { c with replicaN := 1 } idx.name f.shard with
      | nil =>
        rw [(owners_replica1_nil_iff hnext c idx.name f.shard).mp hl] at hown
        cases hown
      | cons x xs => exact ⟨x, mem_cons_self, fun hh => by rw [hc.1] at hh; cases hh.1⟩
    · exact ⟨src, hown, hnot⟩
  obtain ⟨s', hs', hn'⟩ := hsrc
  exact h s' ((mem_pairsOf_srcEntries hperm).mpr ⟨mem_pairsOf_fragsByHost.mpr ⟨hs, hs', hf⟩, hn'⟩)

/-- `diffs[n]` of `fragSources` -/
abbrev fetch (next : Nat → BitVec 64 → Nat) (c to : Cluster) (idx : Index) (n : C20.Id) : List Frag :=
  nodeDiff (fragsByHost next c idx) (fragsByHost next to idx) n

theorem mem_fetch_of_newlyOwned (h : NewlyOwned next c to idx n f) : f ∈ fetch next c to idx n := by
  rw [fetch, nodeDiff_eq, mem_fragsDiff,
    count_eq_zero.mpr (fun hx => h.2.2.2 (mem_fragsOf_fragsByHost.mp hx).2.1), count_pos_iff]
  exact mem_fragsOf_fragsByHost.mpr ⟨h.1, h.2.2.1, h.2.1⟩

theorem owned_of_mem_fetch (h : f ∈ fetch next c to idx n) :
    f.shard ∈ idx.avail ∧ f ∈ combosFor idx.schema f.shard ∧ n ∈ ownersOf next to idx.name f.shard := by
  rw [fetch, nodeDiff_eq, mem_fragsDiff] at h
  have hm := mem_fragsOf_fragsByHost.mp (count_pos_iff.mp (Nat.lt_of_le_of_lt (Nat.zero_le _) h))
  exact ⟨hm.1, hm.2.2, hm.2.1⟩

/-- The multiset difference of `fragsDiff` is a set difference here, for any schema: a node that owns the shard
before and after holds the same copies of the frag on both sides. -/
theorem mem_fetch_iff (hnext : ∀ b k, b < next b k) (hc : c.nodes.Nodup) (hto : to.nodes.Nodup) :
    f ∈ fetch next c to idx n ↔ NewlyOwned next c to idx n f := by
  refine ⟨fun h => ?_, mem_fetch_of_newlyOwned⟩
  have hm := owned_of_mem_fetch h
  refine ⟨hm.1, hm.2.1, hm.2.2, fun hb => ?_⟩
  rw [fetch, nodeDiff_eq, mem_fragsDiff, count_fragsOf_congr hnext hc hto ⟨fun _ => hm.2.2, fun _ => hb⟩] at h
  exact Nat.lt_irrefl _ h

theorem fragSources_ok (hv : ValidChange c a id)
    (h : fragSources next perm c (targetCluster c a id) idx = .ok plan) :
    planNodes (srcMap next perm c idx a id) (fragsByHost next c idx)
      (fragsByHost next (targetCluster c a id) idx) (targetCluster c a id).nodes = some plan := by
  simp only [fragSources, diff_target hv] at h
  split at h
  · rename_i p hp
    exact hp.trans (congrArg some (Except.ok.inj h))
  · cases h

theorem fragSources_noSource (hv : ValidChange c a id) :
    fragSources next perm c (targetCluster c a id) idx = .error .noSource ↔
      planNodes (srcMap next perm c idx a id) (fragsByHost next c idx)
        (fragsByHost next (targetCluster c a id) idx) (targetCluster c a id).nodes = none := by
  simp only [fragSources, diff_target hv]
  split <;> simp [*]

theorem plan_sound (hnext : ∀ b k, b < next b k) (hperm : ∀ l, (perm l).Perm l) (hv : ValidChange c a id)
    (h : fragSources next perm c (targetCluster c a id) idx = .ok plan) {s : Source} (hs : s ∈ lookupPlan plan n) :
    n ∈ (targetCluster c a id).nodes ∧ s.frag ∈ fetch next c (targetCluster c a id) idx n ∧
      SurvivingOwner next c idx a id s.frag.shard s.node := by
  have ⟨hn, hf, hl⟩ := (mem_plan (fragSources_ok hv h)).mp hs
  exact ⟨hn, hf, src_valid hnext hperm (srcLookup_some hl)⟩

theorem plan_complete (hnext : ∀ b k, b < next b k) (hperm : ∀ l, (perm l).Perm l) (hv : ValidChange c a id)
    (h : fragSources next perm c (targetCluster c a id) idx = .ok plan)
    (hn : n ∈ (targetCluster c a id).nodes) (hf : f ∈ fetch next c (targetCluster c a id) idx n) :
    ∃ src, (⟨src, f⟩ : Source) ∈ lookupPlan plan n ∧ SurvivingOwner next c idx a id f.shard src := by
  have hp := fragSources_ok hv h
  cases hl : srcLookup (srcMap next perm c idx a id) f with
  | none =>
    rw [planNodes_eq_none.mpr ⟨n, hn, f, hf, hl⟩] at hp
    cases hp
  | some src => exact ⟨src, (mem_plan hp).mpr ⟨hn, hf, hl⟩, src_valid hnext hperm (srcLookup_some hl)⟩

variable {σ : Type} {planOf : Cluster → Index → Except PlanErr (List (C20.Id × List σ))} {indexes : List Index}

theorem generateJobWith_spec (hs : Sorted c.nodes) {j : JobOf σ}
    (h : generateJobWith planOf c indexes a id = .ok j) :
    (∀ ix ∈ indexes, ∃ p, planOf (targetCluster c a id) ix = .ok p) ∧
    ∀ n ∈ (targetCluster c a id).nodes,
      let srcs := jobSources (planOf (targetCluster c a id)) indexes n
      getID j.ids n = some srcs.isEmpty ∧
      (∀ l, (n, l) ∈ j.instructions ↔ (l = srcs ∧ srcs ≠ [])) := by
  simp only [generateJobWith] at h
  split at h
  · cases h
  · rename_i multi hm
    obtain rfl := Except.ok.inj h
    obtain ⟨hall, hmulti⟩ := mergePlans_ok _ _ _ _ hm
    -- the merged table lists, for every target node, all its sources
    obtain rfl : multi = (targetCluster c a id).nodes.map (fun k =>
        (k, jobSources (planOf (targetCluster c a id)) indexes k)) := by
      rw [hmulti, map_map]
      rfl
    refine ⟨hall, fun n hn => ⟨?_, fun l => ?_⟩⟩
    · rw [getID_mark, getID_newJobIDs hs, if_pos hn]
      by_cases he : (jobSources (planOf (targetCluster c a id)) indexes n).isEmpty
      · rw [if_pos ⟨hn, he⟩, he]
      · rw [if_neg (fun h => he h.2), Bool.eq_false_iff.mpr he]
    · simp only [mem_filter, mem_map, Prod.mk.injEq, Bool.not_eq_true', isEmpty_eq_false_iff]
      exact ⟨fun ⟨⟨_, _, rfl, e⟩, hne⟩ => ⟨e.symm, e ▸ hne⟩, fun ⟨e, hne⟩ => ⟨⟨n, hn, rfl, e.symm⟩, e ▸ hne⟩⟩

theorem generateJobWith_refused :
    (∃ e, generateJobWith planOf c indexes a id = .error e) ↔
      ∃ ix ∈ indexes, ∃ e, planOf (targetCluster c a id) ix = .error e := by
  simp only [generateJobWith]
  split
  · rename_i e hm
    obtain ⟨ix, hix, he⟩ := mergePlans_error _ _ _ _ hm
    exact ⟨fun _ => ⟨ix, hix, e, he⟩, fun _ => ⟨e, rfl⟩⟩
  · rename_i multi hm
    refine ⟨fun ⟨_, h⟩ => (nomatch h), fun ⟨ix, hix, e, he⟩ => ?_⟩
    obtain ⟨p, hp⟩ := (mergePlans_ok _ _ _ _ hm).1 ix hix
    rw [he] at hp
    cases hp

theorem mem_foldl_removeNode {x : C20.Id} (rs : List C20.Id) {nodes : List C20.Id} : Sorted nodes →
    (x ∈ rs.foldl removeNode nodes ↔ x ∈ nodes ∧ x ∉ rs) := by
  induction rs generalizing nodes with
  | nil => simp
  | cons y ys ih =>
    intro h
    rw [foldl_cons, ih (removeNode_sorted h), mem_removeNode h.nodup, mem_cons, not_or, and_assoc]

theorem mergeNodes_sorted {nodes : List C20.Id} (h : Sorted nodes) (self : C20.Id) (official : List C20.Id) :
    Sorted (mergeNodes nodes self official) :=
  foldlRecOn _ removeNode (foldl_addNode_sorted official h) (fun _ h _ _ => removeNode_sorted h)

/-- after the merge the node list holds the official nodes, plus this node if it was listed before -/
theorem mem_mergeNodes {nodes : List Id} (h : Sorted nodes) {self : Id} {official : List Id} {x : Id} :
    x ∈ mergeNodes nodes self official ↔ x ∈ official ∨ (x = self ∧ x ∈ nodes) := by
  unfold mergeNodes
  simp only
  rw [mem_foldl_removeNode _ (foldl_addNode_sorted official h), mem_filter, mem_foldl_addNode]
  by_cases ho : x ∈ official
  · simp [ho, containsID_iff.mpr ho]
  · have : containsID official x = false := Bool.eq_false_iff.mpr (mt containsID_iff.mp ho)
    by_cases hs : x = self
    · subst hs; simp [ho]
    · simp [ho, hs, this]

/-- a follower that stays in the cluster ends up with exactly the final ring -/
theorem mergeNodes_eq_final {nodes : List Id} (h : Sorted nodes) {self : Id} {official : List Id}
    (hself : self ∈ official ∨ self ∉ nodes) :
    mergeNodes nodes self official = run (official.map Ev.join) := by
  refine sorted_unique (mergeNodes_sorted h self official) (run_sorted _) (fun x => ?_)
  rw [mem_mergeNodes h, mem_run_joins]
  refine ⟨fun h' => h'.elim (fun h₁ => h₁) ?_, Or.inl⟩
  rintro ⟨rfl, h₂⟩
  exact hself.elim (fun h₃ => h₃) (fun h₃ => absurd h₂ h₃)

theorem setState_indexes {fo : Follower} {st : CState}
    (h : ¬ ((st = .normal ∨ st = .degraded) ∧ fo.state = .resizing)) :
    (setState next fo st).indexes = fo.indexes := by
  unfold setState
  by_cases hs : st = fo.state
  · rw [if_pos hs]
  · rw [if_neg hs]
    exact if_neg h

end PV.C21
