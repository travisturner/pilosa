/-
C21: the vocabulary of the property statements (core Lean only).
-/
import PV.C20.NodeList
import PV.C21.Vocabulary
namespace PV.C21
open List PV.C20

/-- A single-node membership change the resize code is asked to plan: the node list is the sorted,
duplicate-free list addNodeBasicSorted maintains; an added id is new, a removed id is a member. -/
def ValidChange (c : Cluster) (a : Action) (id : Id) : Prop :=
  Sorted c.nodes ∧ (a = .add → id ∉ c.nodes) ∧ (a = .remove → id ∈ c.nodes)

/-- The fragment triple `f` is newly owned by node `n`: `n` owns its shard under the target
membership `to` but not under `c`, the shard has data and (field, view) is in the schema. -/
def NewlyOwned (next : Nat → BitVec 64 → Nat) (c to : Cluster) (idx : Index) (n : Id) (f : Frag) : Prop :=
  f.shard ∈ idx.avail ∧ f ∈ combosFor idx.schema f.shard ∧
    n ∈ ownersOf next to idx.name f.shard ∧ n ∉ ownersOf next c idx.name f.shard

/-- A node that may serve as source: it owned the shard before and is not the node being removed. -/
def SurvivingOwner (next : Nat → BitVec 64 → Nat) (c : Cluster) (idx : Index) (a : Action) (id : Id)
    (shard : Nat) (src : Id) : Prop :=
  src ∈ ownersOf next c idx.name shard ∧ ¬ (a = .remove ∧ src = id)

/-- all sources of node `n` over the indexes of the holder, tagged with the index name -/
def jobSources {σ : Type} (planOf : Index → Except PlanErr (List (Id × List σ))) (indexes : List Index) (n : Id) :
    List (List Nat × σ) :=
  indexes.flatMap (fun ix => (lookupPlan (okPlan (planOf ix)) n).map (fun s => (ix.name, s)))

end PV.C21
