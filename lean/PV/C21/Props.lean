/-
C21 property theorems (core Lean only).

Property: for any cluster, replica count, schema and shards with data, adding or removing one node
produces a plan that names a source for every field view and shard each resulting node newly owns;
the source is a node that owned that shard before and is not the one being removed; the plan is
refused only when no such node exists; after a completed resize, cleanup removes from each node
only shards it no longer owns.

The theorems hold for every node list built by addNodeBasicSorted (`Sorted`), every replica count,
every schema and shard set, every single add / remove (`ValidChange`), every iteration order `perm`
of the Go map `srcFrags` (`hperm`), with the float step of the jump hash as a parameter (`hnext`).
-/
import PV.C21.Change
import PV.C20.Props
namespace PV.C21
open List PV.C20

/-- **Every newly owned fragment gets a source, and the source is a surviving previous owner.** -/
theorem C21_sources {next : Nat → BitVec 64 → Nat} (hnext : ∀ b k, b < next b k)
    {perm : FragsByHost → FragsByHost} (hperm : ∀ l, (perm l).Perm l)
    {c : Cluster} {idx : Index} {a : Action} {id : Id} (hv : ValidChange c a id)
    {plan : List (Id × List Source)}
    (h : fragSources next perm c (targetCluster c a id) idx = .ok plan)
    {n : Id} (hn : n ∈ (targetCluster c a id).nodes) {f : Frag}
    (hnew : NewlyOwned next c (targetCluster c a id) idx n f) :
    ∃ src, (⟨src, f⟩ : Source) ∈ lookupPlan plan n ∧ SurvivingOwner next c idx a id f.shard src :=
  plan_complete hnext hperm hv h hn (mem_fetch_of_newlyOwned hnew)

/-- **Every source the plan names is a surviving previous owner**, and it is listed for a node of
the target membership that owns the shard after the change. -/
theorem C21_sources_valid {next : Nat → BitVec 64 → Nat} (hnext : ∀ b k, b < next b k)
    {perm : FragsByHost → FragsByHost} (hperm : ∀ l, (perm l).Perm l)
    {c : Cluster} {idx : Index} {a : Action} {id : Id} (hv : ValidChange c a id)
    {plan : List (Id × List Source)}
    (h : fragSources next perm c (targetCluster c a id) idx = .ok plan)
    {n : Id} {s : Source} (hs : s ∈ lookupPlan plan n) :
    n ∈ (targetCluster c a id).nodes ∧ SurvivingOwner next c idx a id s.frag.shard s.node ∧
      s.frag.shard ∈ idx.avail ∧ s.frag ∈ combosFor idx.schema s.frag.shard ∧
      n ∈ ownersOf next (targetCluster c a id) idx.name s.frag.shard := by
  have ⟨hn, hf, hsrc⟩ := plan_sound hnext hperm hv h hs
  have ⟨hav, hcombo, hown⟩ := owned_of_mem_fetch hf
  exact ⟨hn, hsrc, hav, hcombo, hown⟩

/-- **The plan is refused exactly when some fragment a node must fetch has no surviving previous
owner** (and for no other reason; the answer does not depend on the map iteration order). -/
theorem C21_refusal {next : Nat → BitVec 64 → Nat} (hnext : ∀ b k, b < next b k)
    {perm : FragsByHost → FragsByHost} (hperm : ∀ l, (perm l).Perm l)
    {c : Cluster} {idx : Index} {a : Action} {id : Id} (hv : ValidChange c a id) :
    fragSources next perm c (targetCluster c a id) idx = .error .noSource ↔
      ∃ n ∈ (targetCluster c a id).nodes,
        ∃ f ∈ nodeDiff (fragsByHost next c idx) (fragsByHost next (targetCluster c a id) idx) n,
          ∀ src, ¬ SurvivingOwner next c idx a id f.shard src := by
  rw [fragSources_noSource hv, planNodes_eq_none]
  -- a frag of a node's diff lies in a shard with data and in the schema, where `no_entry_iff` applies
  have key : ∀ n f, f ∈ nodeDiff (fragsByHost next c idx) (fragsByHost next (targetCluster c a id) idx) n →
      (srcLookup (srcEntries perm (fragsByHost next (srcCluster c a) idx) a id) f = none ↔
        ∀ src, ¬ SurvivingOwner next c idx a id f.shard src) := fun n f hf =>
    have ⟨hav, hcombo, _⟩ := owned_of_mem_fetch hf
    no_entry_iff hnext hperm hav hcombo
  exact exists_congr fun n => and_congr_right fun _ => exists_congr fun f => and_congr_right (key n f)

/-- In particular: a newly owned fragment without a surviving previous owner forces the refusal. -/
theorem C21_refused_when_no_owner {next : Nat → BitVec 64 → Nat} (hnext : ∀ b k, b < next b k)
    {perm : FragsByHost → FragsByHost} (hperm : ∀ l, (perm l).Perm l)
    {c : Cluster} {idx : Index} {a : Action} {id : Id} (hv : ValidChange c a id)
    {n : Id} (hn : n ∈ (targetCluster c a id).nodes) {f : Frag}
    (hnew : NewlyOwned next c (targetCluster c a id) idx n f)
    (hno : ∀ src, ¬ SurvivingOwner next c idx a id f.shard src) :
    fragSources next perm c (targetCluster c a id) idx = .error .noSource :=
  (C21_refusal hnext hperm hv).mpr ⟨n, hn, f, mem_fetch_of_newlyOwned hnew, hno⟩

/-! ### the plan lists nothing else -/

/-- **The plan fetches only newly owned fragments.** -/
theorem C21_plan_minimal {next : Nat → BitVec 64 → Nat} (hnext : ∀ b k, b < next b k)
    {perm : FragsByHost → FragsByHost} (_hperm : ∀ l, (perm l).Perm l)
    {c : Cluster} {idx : Index} (hsch : SchemaOK idx.schema) {a : Action} {id : Id} (hv : ValidChange c a id)
    {plan : List (Id × List Source)}
    (h : fragSources next perm c (targetCluster c a id) idx = .ok plan)
    {n : Id} {s : Source} (hs : s ∈ lookupPlan plan n) :
    NewlyOwned next c (targetCluster c a id) idx n s.frag :=
  (mem_fetch_iff hnext hv.1.nodup (target_sorted hv).nodup).mp (plan_sound hnext _hperm hv h hs).2.1

/-- **Refusal, in the property's own words**: the plan is refused exactly when some node of the
target membership newly owns a fragment whose shard no surviving node owned before. -/
theorem C21_refusal_newly_owned {next : Nat → BitVec 64 → Nat} (hnext : ∀ b k, b < next b k)
    {perm : FragsByHost → FragsByHost} (hperm : ∀ l, (perm l).Perm l)
    {c : Cluster} {idx : Index} (hsch : SchemaOK idx.schema) {a : Action} {id : Id} (hv : ValidChange c a id) :
    fragSources next perm c (targetCluster c a id) idx = .error .noSource ↔
      ∃ n ∈ (targetCluster c a id).nodes, ∃ f, NewlyOwned next c (targetCluster c a id) idx n f ∧
        ∀ src, ¬ SurvivingOwner next c idx a id f.shard src := by
  rw [C21_refusal hnext hperm hv]
  exact exists_congr fun n => and_congr_right fun _ => exists_congr fun f =>
    and_congr_left' (mem_fetch_iff hnext hv.1.nodup (target_sorted hv).nodup)

/-! ### cleanup -/

/-- **CleanHolder keeps exactly the local fragments whose shard the node owns** under the cluster
value it is run with (the final membership): a fragment is deleted iff its shard is no longer owned. -/
theorem C21_cleanup {next : Nat → BitVec 64 → Nat} (hnext : ∀ b k, b < next b k) (c : Cluster)
    (hnd : c.nodes.Nodup) (self : Id) (idx : Index) :
    cleanIndex next c self idx =
      idx.locals.filter (fun f => decide (self ∈ ownersOf next c idx.name f.shard)) := by
  unfold cleanIndex containedShards
  rw [containsShards_eq hnext c hnd idx.name self idx.avail]
  apply List.filter_congr
  intro f hf
  have hav : f.shard ∈ idx.avail := mem_avail.mpr (Or.inr ⟨f, hf, rfl⟩)
  rw [Bool.eq_iff_iff, contains_iff_mem, mem_filter, and_iff_right hav]

/-! ### the plan the correspondence check compares -/

/-- **The open-choice plan the driver prints and the plan for any one iteration order agree**: same
refusals, same frags per node, and every source named lies in the printed candidate set. -/
theorem C21_choice {next : Nat → BitVec 64 → Nat} {perm : FragsByHost → FragsByHost}
    (hperm : ∀ l, (perm l).Perm l) (c to : Cluster) (idx : Index) :
    (∀ e, fragSources next perm c to idx = .error e ↔ fragSourcesChoices next c to idx = .error e) ∧
    (∀ plan ch, fragSources next perm c to idx = .ok plan → fragSourcesChoices next c to idx = .ok ch →
      ∀ n, (lookupPlan plan n).map (·.frag) = (lookupPlan ch n).map (·.1) ∧
        ∀ s ∈ lookupPlan plan n, ∃ cands, (s.frag, cands) ∈ lookupPlan ch n ∧ s.node ∈ cands) := by
  unfold fragSources fragSourcesChoices
  cases hd : diff c.nodes to.nodes with
  | error e0 => exact ⟨fun _ => ⟨fun h => congrArg _ (Except.error.inj h), fun h => congrArg _ (Except.error.inj h)⟩,
      fun _ _ h => nomatch h⟩
  | ok ad =>
    simp only
    split <;> split
    · rename_i _ p hp _ q hc
      refine ⟨fun _ => ⟨fun h => (nomatch h), fun h => (nomatch h)⟩, fun plan ch h₁ h₂ n => ?_⟩
      obtain rfl := Except.ok.inj h₁
      obtain rfl := Except.ok.inj h₂
      exact plan_in_choices hperm hp hc n
    · rename_i _ p hp _ hc
      rw [(planNodes_none_iff_choiceNodes_none hperm).mpr hc] at hp
      cases hp
    · rename_i _ hp _ q hc
      rw [(planNodes_none_iff_choiceNodes_none hperm).mp hp] at hc
      cases hc
    · exact ⟨fun _ => ⟨fun h => congrArg _ (Except.error.inj h), fun h => congrArg _ (Except.error.inj h)⟩,
      fun _ _ h => nomatch h⟩

/-! ### the generated job -/

/-- **The generated job carries exactly the per-index plans**: it exists iff no index refuses; a node
of the target membership with nothing to fetch is marked complete and gets no instruction; every
other node gets one instruction holding all its sources and stays pending. -/
theorem C21_job {next : Nat → BitVec 64 → Nat} {perm : FragsByHost → FragsByHost}
    {c : Cluster} {indexes : List Index} {a : Action} {id : Id} (hv : ValidChange c a id)
    {j : JobOf Source} (h : generateJob next perm c indexes a id = .ok j) :
    (∀ ix ∈ indexes, ∃ p, fragSources next perm c (targetCluster c a id) ix = .ok p) ∧
    ∀ n ∈ (targetCluster c a id).nodes,
      let srcs := jobSources (fun ix => fragSources next perm c (targetCluster c a id) ix) indexes n
      getID j.ids n = some srcs.isEmpty ∧
      (∀ l, (n, l) ∈ j.instructions ↔ (l = srcs ∧ srcs ≠ [])) :=
  generateJobWith_spec hv.1 h

/-- the job is refused exactly when the plan of some index is refused -/
theorem C21_job_refused {next : Nat → BitVec 64 → Nat} {perm : FragsByHost → FragsByHost}
    {c : Cluster} {indexes : List Index} {a : Action} {id : Id} :
    (∃ e, generateJob next perm c indexes a id = .error e) ↔
      ∃ ix ∈ indexes, ∃ e, fragSources next perm c (targetCluster c a id) ix = .error e :=
  generateJobWith_refused

/-! ### non-vacuity: concrete states satisfying the hypotheses (jump-hash step `b ↦ b+1`) -/

def exIdx : Index :=
  { name := [105], schema := [("f", ["standard"])], remote := [0, 1], locals := [⟨"f", "standard", 1⟩] }
def exC : Cluster := { nodes := [[1], [2]], replicaN := 1 }
def exC3 : Cluster := { nodes := [[1], [2], [3]], replicaN := 2 }

example : ValidChange exC .add [3] := ⟨by unfold Sorted; decide, by decide, by decide⟩
example : ValidChange exC3 .remove [3] := ⟨by unfold Sorted; decide, by decide, by decide⟩
example : SchemaOK exIdx.schema := ⟨by decide, by decide⟩

/-- adding node 3 to {1,2}: node 3 newly owns both shards and fetches them from their old owner 2 -/
example : fragSources nextSucc (fun t => t) exC (targetCluster exC .add [3]) exIdx =
    .ok [([1], []), ([2], []), ([3], [⟨[2], ⟨"f", "standard", 0⟩⟩, ⟨[2], ⟨"f", "standard", 1⟩⟩])] := by rfl
example : NewlyOwned nextSucc exC (targetCluster exC .add [3]) exIdx [3] ⟨"f", "standard", 0⟩ := by
  unfold NewlyOwned; decide
/-- removing node 2 from {1,2} with one replica: node 1 newly owns the shards, nobody survives: refused -/
example : fragSources nextSucc (fun t => t) exC (targetCluster exC .remove [2]) exIdx = .error .noSource := by rfl
/-- removing node 3 from {1,2,3} with two replicas: node 2 takes over from the surviving owner 1 -/
example : fragSources nextSucc List.reverse exC3 (targetCluster exC3 .remove [3]) exIdx =
    .ok [([1], []), ([2], [⟨[1], ⟨"f", "standard", 0⟩⟩, ⟨[1], ⟨"f", "standard", 1⟩⟩])] := by rfl
example : fragSourcesChoices nextSucc exC3 (targetCluster exC3 .remove [3]) exIdx =
    .ok [([1], []), ([2], [(⟨"f", "standard", 0⟩, [[1]]), (⟨"f", "standard", 1⟩, [[1]])])] := by rfl
/-- cleanup: node 2 owns shard 1 and keeps its fragment, node 1 does not and loses it -/
example : cleanIndex nextSucc exC [2] exIdx = [⟨"f", "standard", 1⟩] := by rfl
example : cleanIndex nextSucc exC [1] exIdx = [] := by rfl
example : (generateJob nextSucc (fun t => t) exC [exIdx] .add [3]).toOption.map (·.ids) =
    some [([1], true), ([2], true), ([3], false)] := by rfl

/-! ### a follower applies the final ClusterStatus of a completed resize -/

/-- **Cleanup never runs against a stale membership.**  A node that is not the coordinator, is in
state RESIZING and receives the coordinator's final ClusterStatus (NORMAL or DEGRADED, the final node
list) ends with (1) exactly the final ring as its node list, (2) the new state, and (3) exactly
those local fragments whose shard it owns under the FINAL membership -- for an added or a removed
node alike, for every follower that is part of the final membership (or was not listed before). -/
theorem C21_follower_cleanup {next : Nat → BitVec 64 → Nat} (hnext : ∀ b k, b < next b k)
    (f : Follower) (cs : Status) (hs : Sorted f.cluster.nodes) (hfollower : f.coordinator ≠ f.self)
    (hres : f.state = .resizing) (hfinal : cs.state = .normal ∨ cs.state = .degraded)
    (hself : f.self ∈ cs.nodes ∨ f.self ∉ f.cluster.nodes) :
    let final : Cluster := { f.cluster with nodes := run (cs.nodes.map Ev.join) }
    (mergeClusterStatus next f cs).cluster = final ∧
    (mergeClusterStatus next f cs).state = cs.state ∧
    (mergeClusterStatus next f cs).indexes = f.indexes.map (fun ix =>
      { ix with locals := ix.locals.filter (fun fr => decide (f.self ∈ ownersOf next final ix.name fr.shard)) }) := by
  have hne : ¬ cs.state = CState.resizing := by
    rcases hfinal with h | h <;> rw [h] <;> decide
  simp only [mergeClusterStatus, hfollower, if_false, setState, hres, hne, hfinal, and_self, if_true,
    mergeNodes_eq_final hs hself, true_and]
  apply List.map_congr_left
  intro ix _
  rw [C21_cleanup hnext _ (run_sorted _).nodup]

/-- In every other situation the status merge leaves the fragments alone: cleanup is triggered
only by the RESIZING -> NORMAL/DEGRADED transition, and never on the coordinator by this path. -/
theorem C21_follower_no_cleanup {next : Nat → BitVec 64 → Nat} (f : Follower) (cs : Status)
    (h : f.coordinator = f.self ∨ f.state ≠ .resizing ∨ cs.state = .resizing ∨ cs.state = .starting) :
    (mergeClusterStatus next f cs).indexes = f.indexes := by
  unfold mergeClusterStatus
  by_cases hc : f.coordinator = f.self
  · rw [if_pos hc]
  · rw [if_neg hc]
    refine setState_indexes (fun ⟨h₁, h₂⟩ => ?_)
    rcases h with h | h | h | h
    · exact hc h
    · exact h h₂
    · rw [h] at h₁
      rcases h₁ with h₁ | h₁ <;> cases h₁
    · rw [h] at h₁
      rcases h₁ with h₁ | h₁ <;> cases h₁

/-- a follower of {1,2,3} (replicas 2) learns that node 3 is gone: it keeps what it owns among {1,2} -/
example : (mergeClusterStatus nextSucc
    { cluster := exC3, state := .resizing, self := [1], coordinator := [2],
      indexes := [{ exIdx with locals := [⟨"f", "standard", 0⟩, ⟨"f", "standard", 1⟩] }] }
    { state := .normal, nodes := [[1], [2]], coordinator := [2] }).indexes.map (·.locals)
    = [[⟨"f", "standard", 0⟩, ⟨"f", "standard", 1⟩]] := by rfl
example : (mergeClusterStatus nextSucc
    { cluster := { nodes := [[1], [2], [3]], replicaN := 1 }, state := .resizing, self := [1], coordinator := [2],
      indexes := [{ exIdx with locals := [⟨"f", "standard", 0⟩, ⟨"f", "standard", 1⟩] }] }
    { state := .normal, nodes := [[1], [2]], coordinator := [2] }).indexes.map (·.locals) = [[]] := by rfl

end PV.C21
