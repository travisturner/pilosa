import PV.C21.Model
namespace PV.C21
open List PV.C20

/-- distinct field names, distinct views per field -/
def SchemaOK (schema : List (String × List String)) : Prop :=
  (schema.map (·.1)).Nodup ∧ ∀ fv ∈ schema, fv.2.Nodup

/-- the plan of an index, empty when the index is refused -/
def okPlan {σ : Type} : Except PlanErr (List (Id × List σ)) → List (Id × List σ)
  | .ok p => p
  | .error _ => []

/-- `j.IDs[n]` -/
def getID (m : List (Id × Bool)) (n : Id) : Option Bool := (m.find? (fun e => e.1 = n)).map (·.2)

end PV.C21
