/-
C22: the inductive invariant, in two halves that read different fields of the state: `JobInv` (listener, jobs) and
`QueueInv` (cluster state, queue, mutex).  A job the listener is not on is settled and stays so.
-/
import PV.C22.Step
namespace PV.C22

/-- In `handleNodeAction` for job `k`, before `completeCurrentJob`. -/
def onJob (s : St) (k : Nat) : Prop := s.lpc = .wait k ∨ ∃ r, s.lpc = .got k r

/-- `done2 k` names job `k` without being on it. -/
def LPc.job : LPc → Option Nat
  | .wait k | .got k _ | .done2 k => some k
  | _ => none

theorem onJob_job {s : St} {k : Nat} (h : onJob s k) : s.lpc.job = some k := by
  rcases h with h | ⟨r, h⟩ <;> rw [h] <;> rfl

theorem onJob_unique {s : St} {a b : Nat} (ha : onJob s a) (hb : onJob s b) : a = b :=
  Option.some.inj ((onJob_job ha).symm.trans (onJob_job hb))

theorem not_onJob {s : St} (h : s.lpc.job = none) (k : Nat) : ¬ onJob s k :=
  fun hk => by rw [onJob_job hk] at h; cases h

theorem onJob_ne_done2 {s : St} {k i : Nat} (h : onJob s k) : s.lpc ≠ .done2 i :=
  fun e => by rcases h with h | ⟨r, h⟩ <;> rw [e] at h <;> cases h

/-- `waitJustified s k` of Spec.lean, as a `Prop`, of the job at index `k`. -/
def waitOk (j : Job) : Prop :=
  j.buf.isSome = true ∨ j.run ≠ .finished ∨ (j.state = .running ∧ hasPending j.ids = true)

theorem setJState_live {st : JState} (to : JState) (h : st = .new ∨ st = .running) : setJState st to = to := by
  rcases h with rfl | rfl <;> rfl

/-- After an abort has cleared the current job under the listener (`abortHit`) only `nocur_aborted` speaks of it. -/
structure JobOk (s : St) (k : Nat) (j : Job) : Prop where
  /-- DONE is offered only when no node is pending. -/
  buf_done : j.buf = some .done → allDone j.ids
  /-- C22_one_job -/
  run_lis : j.state = .running → onJob s k
  /-- An unfinished `run` belongs to the listener's job. -/
  alive_lis : j.run = .notStarted ∨ j.run = .started → onJob s k
  /-- Only an abort takes the listener's job from `cur`, and it marks the job. -/
  nocur_aborted : onJob s k → s.cur = none → j.state = .aborted
  /-- so `setState` on the current job goes through -/
  cur_live : s.cur = some k → j.state = .new ∨ j.state = .running
  /-- The state follows `run`: "" until it starts, RUNNING from then on. -/
  st_run : s.abortHit = false → onJob s k →
    (j.run = .notStarted → j.state = .new) ∧ ((j.run = .started ∨ j.run = .finished) → j.state = .running) ∧
    j.run ≠ .unspawned
  /-- C22_no_stall_partial (2) -/
  wait_ok : s.abortHit = false → s.lpc = .wait k → waitOk j
  /-- `buf_done`, kept after the DONE was received -/
  got_done : s.lpc = .got k .done → allDone j.ids
  /-- C22_membership -/
  done2 : s.lpc = .done2 k → j.state = .done ∧ allDone j.ids

theorem JobOk.frame {s s' : St} {k : Nat} {j : Job} (h : JobOk s k j) (h1 : s'.lpc = s.lpc)
    (h2 : s'.cur = s.cur) (h3 : s'.abortHit = s.abortHit) : JobOk s' k j := by
  -- the clauses read no other field of the state
  obtain ⟨a, b, c, d, e, f, g, i, l⟩ := h
  cases s; cases s'; cases h1; cases h2; cases h3
  exact ⟨a, b, c, d, e, f, g, i, l⟩

theorem JobOk.settled {s : St} {k : Nat} {j : Job} (hb : j.buf = some .done → allDone j.ids)
    (hs : j.state ≠ .running) (hr : ¬ (j.run = .notStarted ∨ j.run = .started))
    (hl : s.lpc.job ≠ some k) (hc : s.cur ≠ some k) : JobOk s k j where
  buf_done := hb
  run_lis h := absurd h hs
  alive_lis h := absurd h hr
  nocur_aborted h := absurd (onJob_job h) hl
  cur_live h := absurd h hc
  st_run _ h := absurd (onJob_job h) hl
  wait_ok _ h := absurd (by rw [h]; rfl) hl
  got_done h := absurd (by rw [h]; rfl) hl
  done2 h := absurd (by rw [h]; rfl) hl

theorem JobOk.other {s s' : St} {k : Nat} {j : Job} (h : JobOk s k j) (hn : ¬ onJob s k)
    (hl : s'.lpc.job ≠ some k) (hc : s'.cur ≠ some k) : JobOk s' k j :=
  .settled h.buf_done (fun hr => hn (h.run_lis hr)) (fun hr => hn (h.alive_lis hr)) hl hc

structure JobInv (s : St) : Prop where
  job : ∀ k j, s.jobs[k]? = some j → JobOk s k j
  /-- hence C22_generate_never_collides -/
  cur_lis : ∀ k, s.cur = some k → onJob s k
  lis_lt : ∀ k, s.lpc.job = some k → k < s.jobs.length
  /-- Only an abort takes `cur` from under the listener. -/
  noabort_cur : s.abortHit = false → ∀ k, onJob s k → s.cur = some k

theorem JobInv.frame {s s' : St} (h : JobInv s) (h1 : s'.lpc = s.lpc) (h2 : s'.cur = s.cur)
    (h3 : s'.jobs = s.jobs) (h4 : s'.abortHit = s.abortHit) : JobInv s' := by
  obtain ⟨a, b, c, d⟩ := h
  cases s; cases s'; cases h1; cases h2; cases h3; cases h4
  exact ⟨fun k j hk => (a k j hk).frame rfl rfl rfl, b, c, d⟩

theorem JobInv.enq {s : St} (a : NodeAction) (h : JobInv s) : JobInv (enqueue s a) := by
  unfold enqueue; split <;> exact h.frame rfl rfl rfl rfl

theorem JobInv.upd {s : St} {k : Nat} {j0 : Job} {f : Job → Job} (h : JobInv s) (hk : s.jobs[k]? = some j0)
    (hf : JobOk s k j0 → JobOk s k (f j0)) : JobInv { s with jobs := updJob s.jobs k f } := by
  refine ⟨fun i j hj => ?_, h.cur_lis, fun i hi => ?_, h.noabort_cur⟩
  · rcases updJob_cases hj with ⟨rfl, j1, hj1, rfl⟩ | ⟨_, hj1⟩
    · rw [hk] at hj1; cases hj1; exact (hf (h.job _ _ hk)).frame rfl rfl rfl
    · exact (h.job i j hj1).frame rfl rfl rfl
  · rw [updJob_length]; exact h.lis_lt i hi

theorem JobInv.off {s s' : St} (h : JobInv s) (hn : ∀ k, ¬ onJob s k) (hl : s'.lpc.job = none)
    (hc : s'.cur = s.cur) (hj : s'.jobs = s.jobs) : JobInv s' := by
  have hcur : s'.cur = none := by
    rw [hc]
    cases hcur : s.cur with
    | none => rfl
    | some c => exact absurd (h.cur_lis c hcur) (hn c)
  refine ⟨fun k j hk => (h.job k j (hj ▸ hk)).other (hn k) (by rw [hl]; nofun) (by rw [hcur]; nofun),
    fun k hk => ?_, fun k hk => ?_, fun _ k hk => absurd hk (not_onJob hl k)⟩
  · rw [hcur] at hk; cases hk
  · rw [hl] at hk; cases hk

theorem JobInv.jobs_upd {s s' : St} {k : Nat} {f : Job → Job} (h : JobInv s) (hon : onJob s k)
    (hl : s'.lpc.job = none ∨ s'.lpc.job = some k) (hc : s'.cur = none ∨ s'.cur = some k)
    (hk : ∀ j0, s.jobs[k]? = some j0 → JobOk s k j0 → JobOk s' k (f j0)) :
    ∀ i j, (updJob s.jobs k f)[i]? = some j → JobOk s' i j := by
  intro i j hj
  rcases updJob_cases hj with ⟨rfl, j0, hj0, rfl⟩ | ⟨hne, hj⟩
  · exact hk j0 hj0 (h.job _ j0 hj0)
  · have hne' : some k ≠ some i := fun e => hne (Option.some.inj e).symm
    refine (h.job i j hj).other (fun hi => hne (onJob_unique hi hon)) ?_ ?_
    · rcases hl with e | e <;> rw [e]
      · nofun
      · exact hne'
    · rcases hc with e | e <;> rw [e]
      · nofun
      · exact hne'

theorem JobOk.complete {s : St} {k : Nat} {j : Job} (n : Nat) (e : Bool) (ok : JobOk s k j) :
    JobOk s k (completeJob j n e) := by
  unfold completeJob
  split
  · exact { ok with
      buf_done := fun hb => ok.buf_done ((offer_eq_some hb).resolve_right nofun)
      wait_ok := fun _ _ => .inl (offer_isSome _ _) }
  split
  · exact ok
  · have hall := allDone_markReported (ids := j.ids) n
    by_cases hp : hasPending (markReported j.ids n) = true
    · -- a pending node is left: nothing is delivered
      simp only [hp, if_true]
      exact { ok with
        buf_done := fun hb => hall (ok.buf_done hb)
        wait_ok := fun ha hl => (ok.wait_ok ha hl).imp_right (Or.imp_right fun h => ⟨h.1, hp⟩)
        got_done := fun hl => hall (ok.got_done hl)
        done2 := fun hl => ⟨(ok.done2 hl).1, hall (ok.done2 hl).2⟩ }
    · -- the last pending node reported: DONE is offered
      simp only [hp]
      have hd := allDone_iff.mpr (Bool.eq_false_iff.mpr hp)
      exact { ok with
        buf_done := fun _ => hd
        wait_ok := fun _ _ => .inl (offer_isSome _ _)
        got_done := fun _ => hd
        done2 := fun hl => ⟨(ok.done2 hl).1, hd⟩ }

theorem JobOk.rStart {s : St} {k : Nat} {j : Job} (hrun : j.run = .notStarted) (ok : JobOk s k j) :
    JobOk s k { j with state := setJState j.state .running, run := .started } := by
  have hon := ok.alive_lis (.inl hrun)
  exact { ok with
    run_lis := fun _ => hon
    alive_lis := fun _ => hon
    nocur_aborted := fun _ hc => by rw [ok.nocur_aborted hon hc]; rfl
    cur_live := fun hc => .inr (setJState_live _ (ok.cur_live hc))
    st_run := fun ha _ => by
      rw [(ok.st_run ha hon).1 hrun]
      exact ⟨nofun, fun _ => rfl, nofun⟩
    wait_ok := fun _ _ => .inr (.inl nofun)
    done2 := fun hl => by rw [(ok.done2 hl).1]; exact ⟨rfl, (ok.done2 hl).2⟩ }

theorem JobOk.rGo {s : St} {k : Nat} {j : Job} (fail : List Nat) (hrun : j.run = .started) (ok : JobOk s k j) :
    JobOk s k (runGo j fail) := by
  have hon := ok.alive_lis (.inr hrun)
  have running : s.abortHit = false → j.state = .running := fun ha => (ok.st_run ha hon).2.1 (.inl hrun)
  unfold runGo
  split
  · rename_i hp
    exact { ok with
      buf_done := fun _ => allDone_iff.mpr (by simpa using hp)
      alive_lis := fun _ => hon
      st_run := fun ha _ => ⟨nofun, fun _ => running ha, nofun⟩
      wait_ok := fun _ _ => .inl (offer_isSome _ _) }
  split
  · exact { ok with
      buf_done := fun hb => ok.buf_done ((offer_eq_some hb).resolve_right nofun)
      alive_lis := fun _ => hon
      st_run := fun ha _ => ⟨nofun, fun _ => running ha, nofun⟩
      wait_ok := fun _ _ => .inl (offer_isSome _ _) }
  · rename_i hp _
    exact { ok with
      alive_lis := fun _ => hon
      st_run := fun ha _ => ⟨nofun, fun _ => running ha, nofun⟩
      wait_ok := fun ha _ => .inr (.inr ⟨running ha, by simpa using hp⟩) }

theorem jobInv_init (c : Nat) (o : List Nat) : JobInv (init c o) :=
  ⟨fun _ _ hk => (nomatch hk), fun _ hk => (nomatch hk), fun _ hk => (nomatch hk),
   fun _ k hk => (not_onJob (s := init c o) rfl k hk).elim⟩

theorem jobInv_step {s s' : St} (h : JobInv s) (hs : Step s s') : JobInv s' := by
  cases hs with
  | same => exact h
  | enq a => exact h.enq a
  | failsend ns => exact h.frame rfl rfl rfl rfl
  | complete n e hk => exact h.upd hk (.complete n e)
  | rStart hk hrun => exact h.upd hk (.rStart hrun)
  | rGo hk hrun => exact h.upd hk (.rGo _ hrun)
  | deq hl hq => exact h.off (not_onJob (by rcases hl with hl | hl <;> rw [hl] <;> rfl)) rfl rfl rfl
  | drained hl _ | toNormal hl _ | toIdle hl _ | genFail hl | genErr hl =>
    exact h.off (not_onJob (by rw [hl]; rfl)) rfl rfl rfl
  | done2 hl _ =>
    exact h.off (fun i hi => onJob_ne_done2 hi hl) rfl rfl rfl
  | genBusy _ hl hc => exact absurd (h.cur_lis _ hc) (not_onJob (by rw [hl]; rfl) _)
  | genJob pend hl hc =>
    -- the new job becomes current and the listener's
    have hn := not_onJob (s := s) (by rw [hl]; rfl)
    refine { job := fun i j hj => ?_, cur_lis := fun k hk => ?_, lis_lt := fun k hk => ?_,
             noabort_cur := fun _ k hk => ?_ }
    · rcases append_get_cases hj with ⟨hi, hj⟩ | ⟨rfl, rfl⟩
      · have hne : some s.jobs.length ≠ some i := fun e => by cases e; exact Nat.lt_irrefl _ hi
        exact (h.job i j hj).other (hn i) hne hne
      · exact {
          buf_done := nofun
          run_lis := nofun
          alive_lis := fun _ => .inl rfl
          nocur_aborted := nofun
          cur_live := fun _ => .inl rfl
          st_run := fun _ _ => ⟨fun _ => rfl, nofun, nofun⟩
          wait_ok := fun _ _ => .inr (.inl nofun)
          got_done := nofun
          done2 := nofun }
    · cases hk; exact .inl rfl
    · cases hk; rw [List.length_append]; exact Nat.lt_succ_self _
    · cases onJob_unique hk (.inl rfl); rfl
  | @abort c hc =>
    -- the listener's job becomes ABORTED, nothing is current
    have hon := h.cur_lis c hc
    refine { job := h.jobs_upd hon (.inr (onJob_job hon)) (.inl rfl) fun j0 _ ok => ?_, cur_lis := nofun,
             lis_lt := fun k hk => ?_, noabort_cur := nofun }
    · have hab := setJState_live .aborted (ok.cur_live hc)
      exact { ok with
        run_lis := fun hr => by rw [hab] at hr; cases hr
        nocur_aborted := fun _ _ => hab
        cur_live := nofun
        st_run := nofun
        wait_ok := nofun
        done2 := fun hl => absurd hl (onJob_ne_done2 hon) }
    · rw [updJob_length]; exact h.lis_lt k hk
  | @recv k j0 r hl hk hb =>
    -- a DONE taken out of the channel is remembered in `got`
    have hon : onJob s k := .inl hl
    have hcur : s.cur = none ∨ s.cur = some k := by
      cases hc : s.cur with
      | none => exact .inl rfl
      | some c => exact .inr (congrArg some (onJob_unique (h.cur_lis c hc) hon))
    refine { job := h.jobs_upd hon (.inr rfl) hcur fun j1 hj1 ok => ?_, cur_lis := fun c hc => ?_,
             lis_lt := fun i hi => ?_, noabort_cur := fun ha i hi => ?_ }
    · rw [hk] at hj1; cases hj1
      exact { ok with
        buf_done := nofun
        run_lis := fun _ => .inr ⟨r, rfl⟩
        alive_lis := fun _ => .inr ⟨r, rfl⟩
        nocur_aborted := fun _ => ok.nocur_aborted hon
        st_run := fun ha _ => ok.st_run ha hon
        wait_ok := nofun
        got_done := fun e => by cases e; exact ok.buf_done hb
        done2 := nofun }
    · cases onJob_unique (h.cur_lis c hc) hon; exact .inr ⟨r, rfl⟩
    · cases hi; rw [updJob_length]; exact h.lis_lt k (onJob_job hon)
    · cases onJob_unique hi (.inr ⟨r, rfl⟩); exact h.noabort_cur ha k hon
  | @completeNoCur k r j0 hl hk hfin hc =>
    -- an abort took the job: it is ABORTED, its `run` has finished
    have hon : onJob s k := .inr ⟨r, hl⟩
    refine { job := fun i j hj => ?_, cur_lis := fun c hc' => ?_, lis_lt := nofun,
             noabort_cur := fun _ i hi => absurd hi (not_onJob rfl i) }
    · by_cases hi : onJob s i
      · cases onJob_unique hi hon
        rw [hk] at hj; cases hj
        have ok := h.job _ _ hk
        exact .settled ok.buf_done (by rw [ok.nocur_aborted hon hc]; nofun) (by rw [hfin]; nofun) nofun
          (by rw [hc]; nofun)
      · exact (h.job i j hj).other hi nofun (by rw [hc]; nofun)
    · rw [hc] at hc'; cases hc'
  | @completeDone k c j0 hl hk hfin hc =>
    -- the job, still current and live, becomes DONE
    have hon : onJob s k := .inr ⟨_, hl⟩
    have hck := onJob_unique hon (h.cur_lis c hc)
    subst hck
    refine { job := h.jobs_upd hon (.inr rfl) (.inl rfl) fun j1 hj1 ok => ?_, cur_lis := nofun,
             lis_lt := fun i hi => ?_, noabort_cur := fun _ i hi => absurd rfl (onJob_ne_done2 hi) }
    · have hd := setJState_live .done (ok.cur_live hc)
      rw [hk] at hj1; cases hj1
      exact {
        buf_done := ok.buf_done
        run_lis := fun hr => by rw [hd] at hr; cases hr
        alive_lis := fun hr => by rw [hfin] at hr; exact absurd hr nofun
        nocur_aborted := fun hi => absurd rfl (onJob_ne_done2 hi)
        cur_live := nofun
        st_run := fun _ hi => absurd rfl (onJob_ne_done2 hi)
        wait_ok := nofun
        got_done := nofun
        done2 := fun _ => ⟨hd, ok.got_done hl⟩ }
    · cases hi; rw [updJob_length]; exact h.lis_lt k (onJob_job hon)
  | @completeAborted k c j0 hl hk hfin hc =>
    have hon : onJob s k := .inr ⟨_, hl⟩
    have hck := onJob_unique hon (h.cur_lis c hc)
    subst hck
    refine { job := h.jobs_upd hon (.inl rfl) (.inl rfl) fun j1 hj1 ok => ?_, cur_lis := nofun, lis_lt := nofun,
             noabort_cur := fun _ i hi => absurd hi (not_onJob rfl i) }
    rw [hk] at hj1; cases hj1
    exact .settled ok.buf_done (by rw [setJState_live _ (ok.cur_live hc)]; nofun) (by rw [hfin]; nofun) nofun nofun

/-- "Something is still to be done": what keeps a RESIZING cluster from being idle. -/
def busyP (s : St) : Prop :=
  s.queue ≠ [] ∨ s.held.isSome = true ∨
  (match s.lpc with
   | .gen _ | .genErr | .wait _ | .got _ _ | .done2 _ => True
   | .top | .afterDrain => s.setNormal = true
   | .idle => False)

/-- `busyP` without the listener's way back to NORMAL (`genErr`, `done2`, `top` / `afterDrain` with `setNormal`). -/
def workP (s : St) : Prop :=
  s.queue ≠ [] ∨ s.held.isSome = true ∨
  (match s.lpc with
   | .gen _ | .wait _ | .got _ _ => True
   | _ => False)

structure QueueInv (s : St) : Prop where
  /-- C22_leaves_resizing_partial (1) -/
  busy : s.abortHit = false → s.cstate = .resizing → busyP s
  /-- unless NORMAL was set over a non-empty queue -/
  work_resizing : s.staleNormal = false → workP s → s.cstate = .resizing
  q_le : s.queue.length ≤ cap
  held_full : s.held.isSome = true → s.queue.length = cap

theorem queueInv_init (c : Nat) (o : List Nat) : QueueInv (init c o) :=
  ⟨nofun, fun _ hw => hw.elim (fun h => absurd rfl h) (fun hw => hw.elim nofun False.elim), Nat.zero_le _, nofun⟩

theorem QueueInv.enq {s : St} (a : NodeAction) (h : QueueInv s) : QueueInv (enqueue s a) := by
  unfold enqueue
  split
  · rename_i hlt
    refine ⟨fun _ _ => .inl (by simp), fun _ _ => rfl, ?_, fun hh => ?_⟩
    · rw [List.length_append]; exact hlt
    · exact absurd (h.held_full hh) (Nat.ne_of_lt hlt)
  · rename_i hlt
    exact ⟨fun _ _ => .inr (.inl rfl), fun _ _ => rfl, h.q_le, fun _ => Nat.le_antisymm h.q_le (Nat.le_of_not_lt hlt)⟩

theorem workP_of_not_stale {s : St} (lpc : LPc) (hl : lpc = .top ∨ lpc = .idle)
    (hst : (s.staleNormal || !s.queue.isEmpty || s.held.isSome) = false) :
    ¬ workP { s with cstate := .normal, lpc := lpc,
                     staleNormal := s.staleNormal || !s.queue.isEmpty || s.held.isSome } := by
  simp at hst
  intro hw
  rcases hw with hw | hw | hw
  · exact hw hst.1.2
  · rw [hst.2] at hw; cases hw
  · rcases hl with rfl | rfl <;> exact hw

theorem queueInv_step {s s' : St} (hJ : JobInv s) (h : QueueInv s) (hs : Step s s') : QueueInv s' := by
  -- the listener has moved, the queue and the mutex are as before
  have move : ∀ {s' : St}, s'.queue = s.queue → s'.held = s.held →
      (s'.abortHit = false → s'.cstate = .resizing → busyP s') →
      (s'.staleNormal = false → workP s' → s'.cstate = .resizing) → QueueInv s' :=
    fun hq hh hb hw => ⟨hb, hw, hq ▸ h.q_le, hq ▸ hh ▸ h.held_full⟩
  cases hs with
  | same => exact h
  | enq a => exact h.enq a
  | failsend | complete _ _ _ | rStart _ _ | rGo _ _ => exact ⟨h.busy, h.work_resizing, h.q_le, h.held_full⟩
  | abort _ => exact ⟨nofun, h.work_resizing, h.q_le, h.held_full⟩
  | deq _ hq =>
    have hle := h.q_le
    refine ⟨fun _ _ => .inr (.inr trivial), fun hst _ => h.work_resizing hst (.inl (by rw [hq]; nofun)), ?_, nofun⟩
    rw [hq] at hle
    cases hh : s.held with
    | none => simp at hle ⊢; omega
    | some x => have := h.held_full (by rw [hh]; rfl); rw [hq] at this; simp at this ⊢; omega
  | drained hl hq =>
    have hheld : s.held.isSome = false := by
      cases hh : s.held.isSome with
      | false => rfl
      | true => have := h.held_full hh; rw [hq] at this; cases this
    refine move rfl rfl (fun ha hc => ?_) (fun hst hw => h.work_resizing hst (hw.imp_right (Or.imp_right False.elim)))
    rcases h.busy ha hc with hb | hb | hb
    · exact absurd hq hb
    · rw [hheld] at hb; cases hb
    · rw [hl] at hb; exact .inr (.inr hb)
  | toNormal _ _ => exact move rfl rfl nofun (fun hst hw => absurd hw (workP_of_not_stale _ (.inr rfl) hst))
  | genErr _ => exact move rfl rfl nofun (fun hst hw => absurd hw (workP_of_not_stale _ (.inl rfl) hst))
  | toIdle hl hsn =>
    refine move rfl rfl (fun ha hc => ?_) (fun hst hw => h.work_resizing hst (hw.imp_right (Or.imp_right False.elim)))
    refine (h.busy ha hc).imp_right (Or.imp_right fun hb => ?_)
    rw [hl] at hb; rw [hsn] at hb; cases hb
  | genFail hl | genBusy _ hl _ | genJob _ hl _ | recv hl _ _ | completeDone hl _ _ _ =>
    exact move rfl rfl (fun _ _ => .inr (.inr trivial))
      (fun hst _ => h.work_resizing hst (.inr (.inr (by rw [hl]; trivial))))
  | completeNoCur hl _ _ hc =>
    -- without an abort the listener's job would still be current
    refine move rfl rfl (fun ha => ?_) (fun hst _ => h.work_resizing hst (.inr (.inr (by rw [hl]; trivial))))
    have := hJ.noabort_cur ha _ (.inr ⟨_, hl⟩); rw [hc] at this; cases this
  | completeAborted hl _ _ _ =>
    exact move rfl rfl (fun _ _ => .inr (.inr rfl))
      (fun hst _ => h.work_resizing hst (.inr (.inr (by rw [hl]; trivial))))
  | done2 hl _ =>
    exact move rfl rfl (fun _ _ => .inr (.inr rfl))
      (fun hst hw => h.work_resizing hst (hw.imp_right (Or.imp_right False.elim)))

inductive Reachable : St → Prop where
  | init (c : Nat) (o : List Nat) : Reachable (init c o)
  | step {s s' : St} (l : Label) : Reachable s → step s l = some s' → Reachable s'

theorem reachable_inv {s : St} (h : Reachable s) : JobInv s ∧ QueueInv s := by
  induction h with
  | init c o => exact ⟨jobInv_init c o, queueInv_init c o⟩
  | step l _ hs ih => exact ⟨jobInv_step ih.1 (step_sound hs), queueInv_step ih.1 ih.2 (step_sound hs)⟩

end PV.C22
