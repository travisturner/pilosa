/-
C22 property theorems.  `Reachable` closes the initial states (any member list) under ALL label sequences
(events and internal steps of the listener and the `run` goroutines), so every theorem below is an invariant
over all interleavings at the model's granularity, for any cluster size and any number of jobs.

PARTIAL BY NATURE: goroutine scheduling finer than one lock-protected region, HTTP timeouts, a
coordinator change during a job, file-system errors of saveTopology, and the STARTING / DEGRADED /
no-data regimes are outside the model (see design/C22.md).

Where the current code does not meet the property the full-strength statement is kept in a comment,
the proved theorem is named `_partial`, the excluded region is explicit through the model's ghost
flags (`abortHit`, `staleNormal`) or the queue bound, and a witness theorem exhibits a concrete
trace of the model reaching the bad state (each is replayed on the real code by the harness and
listed in known_findings.jsonl).
-/
import PV.C22.Invariant
import PV.C22.Spec
namespace PV.C22

/-- In every reachable state at most one job is RUNNING — and it is the job the listener is
handling (`wait k` / `got k _`). -/
theorem C22_one_job {s : St} (h : Reachable s) :
    (∀ (k1 k2 : Nat) (j1 j2 : Job), s.jobs[k1]? = some j1 → s.jobs[k2]? = some j2 →
      j1.state = .running → j2.state = .running → k1 = k2) ∧
    (∀ (k : Nat) (j : Job), s.jobs[k]? = some j → j.state = .running → onJob s k) ∧
    (∀ k, s.cur = some k → onJob s k) := by
  have hJ := (reachable_inv h).1
  have hrun := fun k j hk => (hJ.job k j hk).run_lis
  exact ⟨fun k1 k2 j1 j2 h1 h2 r1 r2 => onJob_unique (hrun k1 j1 h1 r1) (hrun k2 j2 h2 r2), hrun, hJ.cur_lis⟩

/-- A new job is never made current while another one is: `generate` cannot hit its
"there is currently a resize job running" branch. -/
theorem C22_generate_never_collides {s : St} (h : Reachable s) (a : NodeAction) (hl : s.lpc = .gen a) :
    s.cur = none := by
  cases hc : s.cur with
  | none => rfl
  | some c => exact absurd ((reachable_inv h).1.cur_lis c hc) (not_onJob (by rw [hl]; rfl) c)

theorem dequeue_nodes {s s1 : St} {a : NodeAction} (h : dequeue s = some (a, s1)) : s1.nodes = s.nodes := by
  cases hq : s.queue with
  | nil => rw [dequeue_nil hq] at h; cases h
  | cons a' q => rw [dequeue_cons hq] at h; cases h; rfl

/-- The member list changes only in the DONE branch of `handleNodeAction` (label `lDone2`), by
exactly the job's add/remove, and at that point every node of the job's target membership is
marked done: `noWork` (the plan gave it nothing to fetch) or `reported` (set only by a success
completion, see `C22_reported_only_by_success`). -/
theorem C22_membership {s s' : St} {l : Label} (h : Reachable s) (hs : step s l = some s')
    (hn : s'.nodes ≠ s.nodes) :
    ∃ k j, s.lpc = .done2 k ∧ s.jobs[k]? = some j ∧ allDone j.ids ∧ s'.nodes = applyAct j s.nodes := by
  rcases (step_sound hs).nodes with e | ⟨k, j, hl, hk, e⟩
  · exact absurd e hn
  · exact ⟨k, j, hl, hk, (((reachable_inv h).1.job k j hk).done2 hl).2, e⟩

/-- … and the job whose add/remove is applied ended DONE: never a job that an abort has marked
ABORTED, whatever the interleaving of the last completion, the abort and the listener's steps. -/
theorem C22_member_change_only_for_done_job {s s' : St} {l : Label} (h : Reachable s)
    (hs : step s l = some s') (hn : s'.nodes ≠ s.nodes) :
    ∃ k j, s.lpc = .done2 k ∧ s.jobs[k]? = some j ∧ j.state = .done ∧ allDone j.ids := by
  obtain ⟨k, j, hl, hj, hd, _⟩ := C22_membership h hs hn
  exact ⟨k, j, hl, hj, (((reachable_inv h).1.job k j hj).done2 hl).1, hd⟩

/-- The abort interplay, step level: when an abort has cleared currentJob between the delivery of the
result (`lRecv`, even of DONE) and the listener's `completeCurrentJob`, that call fails with
ErrResizeNotRunning, `handleNodeAction` returns, and the member list is NOT changed
(`unprotectedCompleteCurrentJob` must report the missing job — the DONE branch relies on it). -/
theorem C22_abort_before_completion_skips_member_change {s s' : St} {k : Nat} {r : JResult}
    (hl : s.lpc = .got k r) (hc : s.cur = none) (hs : step s .lComplete = some s') :
    s'.lpc = .top ∧ s'.nodes = s.nodes ∧ s'.jobs = s.jobs := by
  have h := step_core hs
  simp only [stepCore] at h
  unfold stepLComplete at h
  rw [hl] at h
  simp only at h
  split at h
  · split at h
    · cases h
    · simp only [hc] at h
      cases h
      exact ⟨rfl, rfl, rfl⟩
  · cases h

/-- The interleaving itself: node 2's (last) success completion puts DONE on `j.result`, the listener
receives it, an abort is accepted, then the listener goes on: the job is ABORTED and the member list
is still [0, 1]. -/
theorem C22_abort_after_done_delivery_example :
    (runTrace (init 0 [1])
      [.join 2, .lIdle, .lGen (some [2]), .rStart 0, .rGo 0, .complete 0 2 false, .lRecv, .abort,
       .lComplete, .lTop, .lAfterDrain]).map
      (fun s => (s.lpc, s.nodes, s.cur, s.jobs.map (·.state), s.abortHit)) =
    some (.idle, [0, 1], none, [.aborted], true) := by decide

/-- `reported` enters a job's id map only through a success completion for that node. -/
theorem C22_reported_only_by_success (ids : List (Nat × IdSt)) (n m : Nat)
    (h : (m, IdSt.reported) ∈ markReported ids n) : (m, IdSt.reported) ∈ ids ∨ m = n :=
  (mem_markReported h).imp_right fun e => (Prod.mk.inj e).1

/-! C22_leaves_resizing.  Full-strength statement (does NOT hold for the current code, see the two witnesses):
  ∀ reachable s,  (s.lpc = .idle ∧ s.queue = [] ∧ s.held = none → s.cstate = .normal)
                ∧ (s.cur.isSome → s.cstate = .resizing)
-/

/-- Proved part. (1) Unless an abort has cleared the current job under the listener
(`abortHit`), a cluster is RESIZING only while something remains to be done (`busyP`: an action is
queued, a job is being generated / waited for / completed, or the listener is on its way to set
NORMAL), so an idle listener with an empty queue means NORMAL.  (2) Unless NORMAL was set while an
action was still queued (`staleNormal`), a current job implies RESIZING. -/
theorem C22_leaves_resizing_partial {s : St} (h : Reachable s) :
    (s.abortHit = false → s.cstate = .resizing → busyP s) ∧
    (s.abortHit = false → s.lpc = .idle → s.queue = [] → s.held = none → s.cstate = .normal) ∧
    (s.staleNormal = false → s.cur.isSome = true → s.cstate = .resizing) := by
  obtain ⟨hJ, hQ⟩ := reachable_inv h
  refine ⟨hQ.busy, fun ha hl hq hh => ?_, fun hst hc => ?_⟩
  · cases hc : s.cstate with
    | normal => rfl
    | resizing =>
      rcases hQ.busy ha hc with hb | hb | hb
      · exact absurd hq hb
      · rw [hh] at hb; cases hb
      · rw [hl] at hb; exact hb.elim
  · cases hcur : s.cur with
    | none => rw [hcur] at hc; cases hc
    | some k =>
      refine hQ.work_resizing hst (.inr (.inr ?_))
      rcases hJ.cur_lis k hcur with hw | ⟨r, hw⟩ <;> rw [hw] <;> trivial

/-! C22_no_stall.  Full-strength statement (does NOT hold for the current code, see the witnesses):
  ∀ reachable s, s.held = none ∧ (∀ k, s.lpc = .wait k → the wait can still be ended by the job
  itself or by a success completion that is accepted) ∧ no handler panics or parks.

In the model of the fixed code no sender can park on a job's result channel by construction
(`offer` never blocks) and an unknown job id is an error return (`stepComplete`, `ret`), which is
exactly what the `fix:` commits establish and the correspondence harness re-checks on the real code.
-/

theorem ite_ne_panic {c : Prop} [Decidable c] {a b : Ret} (ha : a ≠ .panic) (hb : b ≠ .panic) :
    (if c then a else b) ≠ .panic := by
  split <;> assumption

theorem ret_ne_panic (s : St) (l : Label) : ret s l ≠ .panic := by
  cases l with
  | join n => exact ite_ne_panic nofun (ite_ne_panic nofun (ite_ne_panic nofun nofun))
  | leave n ok => exact ite_ne_panic nofun (ite_ne_panic nofun (ite_ne_panic nofun (ite_ne_panic nofun nofun)))
  | complete k n e =>
    refine ite_ne_panic nofun ?_
    cases s.jobs[k]? with
    | none => nofun
    | some j => exact ite_ne_panic nofun (ite_ne_panic nofun nofun)
  | abort => exact ite_ne_panic nofun (ite_ne_panic nofun (ite_ne_panic nofun nofun))
  | _ => nofun

/-- Proved part. (1) A join/leave handler parks (holding the cluster mutex) only when ten actions
are already queued.  (2) Unless an abort has cleared the current job under the listener, whenever
the listener waits on `j.result` the job is the current one and the wait is justified (`waitOk`):
a result is buffered, or the job's run goroutine has not finished, or the job is RUNNING with a
pending node — whose success completion is accepted and, for the last one, delivers DONE.
(3) No handler panics. -/
theorem C22_no_stall_partial {s : St} (h : Reachable s) :
    (s.queue.length ≤ cap ∧ (s.held.isSome = true → s.queue.length = cap)) ∧
    (s.abortHit = false → ∀ k, s.lpc = .wait k → s.cur = some k ∧ ∃ j, s.jobs[k]? = some j ∧ waitOk j) ∧
    (∀ l, ret s l ≠ .panic) := by
  obtain ⟨hJ, hQ⟩ := reachable_inv h
  refine ⟨⟨hQ.q_le, hQ.held_full⟩, fun ha k hl => ?_, ret_ne_panic s⟩
  have hk := List.getElem?_eq_getElem (hJ.lis_lt k (by rw [hl]; rfl))
  exact ⟨hJ.noabort_cur ha k (.inl hl), _, hk, (hJ.job k _ hk).wait_ok ha hl⟩

/-- What "RUNNING with a pending node" buys: a success completion of a pending node of a job
that is not complete is accepted, and when it was the last pending node a result is delivered. -/
theorem C22_success_completion_progress (j : Job) (n : Nat)
    (hs : j.state = .new ∨ j.state = .running) :
    hasPending (completeJob j n false).ids = true ∨ (completeJob j n false).buf.isSome = true := by
  unfold completeJob
  have h1 : ¬ (j.state = .done ∨ j.state = .aborted) := by rcases hs with h | h <;> simp [h]
  simp only [Bool.false_eq_true, if_false, h1]
  by_cases hp : hasPending (markReported j.ids n) = true
  · left; simpa using hp
  · right; simp only [hp]; exact offer_isSome _ _

/-- `run` with a failing send: whichever instruction of the job goes to a node for which SendTo
fails (first, middle, last, several), the run goroutine finishes and a result is on `j.result`;
it is ABORTED unless a result was already there. -/
theorem C22_failed_send_delivers_aborted (j : Job) (fail : List Nat) (n : Nat)
    (hn : n ∈ pendingOf j.ids) (hf : n ∈ fail) :
    (runGo j fail).run = .finished ∧ (runGo j fail).buf.isSome = true ∧
    (j.buf = none → (runGo j fail).buf = some .aborted) := by
  have hp : hasPending j.ids = true := mem_pendingOf_hasPending hn
  have hsf : sendFails j.ids fail = true := by
    unfold sendFails
    exact List.any_eq_true.mpr ⟨n, hn, by simpa using hf⟩
  unfold runGo
  simp only [hp, hsf, Bool.not_true, Bool.false_eq_true, if_false, if_true]
  refine ⟨trivial, offer_isSome _ _, ?_⟩
  intro hb; simp [hb, offer]

/-- … and with an ABORTED result delivered to the waiting listener of the current job, four
listener steps later the job is ABORTED, no job is current, the listener is idle and (nothing else
being queued) the cluster has left RESIZING.  Together with `C22_failed_send_delivers_aborted`:
a job whose instruction send fails never stays RUNNING and never keeps the cluster RESIZING. -/
theorem C22_aborted_result_leaves_resizing (s : St) (k : Nat) (j : Job)
    (hl : s.lpc = .wait k) (hc : s.cur = some k) (hk : s.jobs[k]? = some j)
    (hb : j.buf = some .aborted) (hr : j.run = .finished) (hst : j.state = .running)
    (hh : s.held = none) (hq : s.queue = []) :
    (runTrace s [.lRecv, .lComplete, .lTop, .lAfterDrain]).map
      (fun s' => (s'.cstate, s'.lpc, s'.cur, (s'.jobs[k]?).map (·.state))) =
    some (.normal, .idle, none, some .aborted) := by
  have hk1 : (updJob s.jobs k (fun j => { j with buf := none }))[k]? = some { j with buf := none } :=
    updJob_get_eq hk
  have hk2 : (updJob (updJob s.jobs k (fun j => { j with buf := none })) k
      (fun j => { j with state := setJState j.state (resultState .aborted) }))[k]? =
      some { j with buf := none, state := .aborted } := by
    rw [updJob_get_eq hk1]; simp [setJState, resultState, hst]
  -- run the four steps; `hk1`, `hk2`: the job after `lRecv` and after `lComplete`
  simp [runTrace, step, stepCore, Label.needsMu, hh, stepLRecv, hl, hk, hb, stepLComplete, hk1, hr,
    hc, stepLTop, dequeue, hq, stepLAfterDrain, hk2]

/-- When the mutex is held by a parked join while the listener waits for a finished run with no
result buffered, nothing but environment switches can happen any more: a deadlock. -/
theorem C22_held_is_deadlock {s s' : St} {l : Label} {k : Nat} {j : Job} (hh : s.held.isSome = true)
    (hl : s.lpc = .wait k) (hk : s.jobs[k]? = some j) (hb : j.buf = none)
    (hs : step s l = some s') : (∃ b, l = .failsend b) ∨ (∃ i, l = .rStart i) ∨ (∃ i, l = .rGo i) := by
  unfold step at hs
  cases l with
  | failsend b => left; exact ⟨b, rfl⟩
  | rStart i => right; left; exact ⟨i, rfl⟩
  | rGo i => right; right; exact ⟨i, rfl⟩
  | join _ | leave _ _ | complete _ _ _ | abort | lGen _ | lGenErr | lComplete | lDone2 =>
    simp [hh, Label.needsMu] at hs
  | lTop => split at hs <;> simp [stepCore, stepLTop, hl] at hs
  | lIdle => split at hs <;> simp [stepCore, stepLIdle, hl] at hs
  | lAfterDrain => split at hs <;> simp [stepCore, stepLAfterDrain, hl] at hs
  | lRecv => split at hs <;> simp [stepCore, stepLRecv, hl, hk, hb] at hs

/-- A two-node cluster, node 2 joins, the job (pending: node 2) runs, then `ResizeAbort`. -/
def abortTrace : List Label :=
  [.join 2, .lIdle, .lGen (some [2]), .rStart 0, .rGo 0, .abort]

/-- After an accepted abort the listener keeps waiting on a job that is ABORTED and no longer
current, with no result buffered and the run goroutine finished (the wait is not justified), and
the cluster stays RESIZING. -/
theorem C22_abort_leaves_listener_waiting_witness :
    (runTrace (init 0 [1]) abortTrace).map (fun s => (s.lpc, s.cur, s.cstate, s.abortHit)) =
      some (.wait 0, none, .resizing, true) ∧
    (runTrace (init 0 [1]) abortTrace).map (fun s => (waitJustified s 0, s.jobs.map (·.state))) =
      some (false, [.aborted]) := by decide

/-- A later error completion wakes the listener, `completeCurrentJob` fails, and the cluster is
left RESIZING with an idle listener, an empty queue and no job. -/
theorem C22_abort_stuck_resizing_witness :
    (runTrace (init 0 [1]) (abortTrace ++ [.complete 0 2 true, .lRecv, .lComplete, .lTop, .lAfterDrain])).map
      (fun s => (s.lpc, s.queue.length, s.held.isSome, s.cur, s.cstate)) =
    some (.idle, 0, false, none, .resizing) := by decide

/-- Node 2 joins twice (memberlist join + the restart NodeJoin of waitForStarted) and node 3 once
while the first job runs.  The duplicate fails to plan ("clusters are the same size"), the error
path sets NORMAL although node 3's action is still queued, and node 3's job then runs while the
cluster is NORMAL (data requests are admitted during the resize). -/
theorem C22_normal_set_while_actions_queued_witness :
    (runTrace (init 0 [1])
      [.join 2, .lIdle, .lGen (some [2]), .rStart 0, .rGo 0, .join 2, .join 3,
       .complete 0 2 false, .lRecv, .lComplete, .lDone2,
       .lTop, .lGen none, .lGenErr, .lTop, .lGen (some [3]), .rStart 1]).map
      (fun s => (s.cur, s.cstate, s.staleNormal, s.nodes, s.jobs.map (·.state))) =
    some (some 1, .normal, true, [0, 1, 2], [.done, .running]) := by decide

/-- The same state through a scheduling race alone (no failing plan): a join arrives between the
listener's "queue is empty" check and its `setStateAndBroadcast(NORMAL)`. -/
theorem C22_normal_race_witness :
    (runTrace (init 0 [1])
      [.join 2, .lIdle, .lGen (some []), .rStart 0, .rGo 0, .lRecv, .lComplete, .lDone2,
       .lTop, .join 3, .lAfterDrain, .lIdle, .lGen (some [3]), .rStart 1]).map
      (fun s => (s.cur, s.cstate, s.staleNormal, s.jobs.map (·.state))) =
    some (some 1, .normal, true, [.done, .running]) := by decide

/-- Eleven joins while a job runs: the eleventh handler parks on the full `joiningLeavingNodes`
channel while holding the cluster mutex; by `C22_held_is_deadlock` nothing can move any more. -/
theorem C22_join_queue_full_witness :
    (runTrace (init 0 [1])
      ([.join 2, .lIdle, .lGen (some [2]), .rStart 0, .rGo 0] ++ (List.replicate 11 (Label.join 3)))).map
      (fun s => (s.lpc, s.held.isSome, s.queue.length, s.jobs.map (·.buf) == [none], ret s (.complete 0 2 false))) =
    some (.wait 0, true, 10, true, .blocked) := by decide

/-- Concrete run, cluster {0,1,4,5}, node 2 joins, three nodes must fetch data (2, 0 and 5): the
send to node 0 fails (a send that is neither the first nor the last in any order of three).  The job
ends ABORTED, nothing stays current, the listener is idle and the cluster is NORMAL again. -/
theorem C22_failed_middle_send_example :
    (runTrace (init 0 [1, 4, 5])
      [.failsend [0], .join 2, .lIdle, .lGen (some [2, 0, 5]), .rStart 0, .rGo 0,
       .lRecv, .lComplete, .lTop, .lAfterDrain]).map
      (fun s => (s.lpc, s.cstate, s.cur, s.jobs.map (·.state), s.nodes)) =
    some (.idle, .normal, none, [.aborted], [0, 1, 4, 5]) := by decide

/-! ### Non-vacuity: the happy path is reachable and satisfies the hypotheses -/

/-- A complete add-node resize: RESIZING while the job runs, member list changed at the end, NORMAL
and idle afterwards, ghost flags untouched. -/
example :
    (runTrace (init 0 [1])
      [.join 2, .lIdle, .lGen (some [2, 0]), .rStart 0, .rGo 0, .complete 0 2 false, .complete 0 2 false,
       .complete 0 0 false, .lRecv, .lComplete, .lDone2, .lTop, .lAfterDrain]).map
      (fun s => (s.lpc, s.cstate, s.nodes, s.cur, (s.abortHit, s.staleNormal, s.jobs.map (·.state)) == (false, false, [.done]))) =
    some (.idle, .normal, [0, 1, 2], none, true) := by decide

example : Reachable (init 0 [1, 2]) := Reachable.init 0 [1, 2]

end PV.C22
