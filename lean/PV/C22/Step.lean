/-
C22: `Step s s'` lists the branches of `step` with what is known in each; `step_sound` is the one place where the step
functions are opened for the invariants (the one-step theorems of Props.lean run single step functions themselves).
-/
import PV.C22.Model
namespace PV.C22

theorem updJob_length (js : List Job) (k : Nat) (f : Job → Job) : (updJob js k f).length = js.length := by
  induction js generalizing k with
  | nil => rfl
  | cons j js ih => cases k <;> simp [updJob, ih]

theorem updJob_get (js : List Job) (k i : Nat) (f : Job → Job) :
    (updJob js k f)[i]? = if i = k then (js[i]?).map f else js[i]? := by
  induction js generalizing k i with
  | nil => simp [updJob]
  | cons j js ih =>
    cases k with
    | zero => cases i <;> simp [updJob]
    | succ k => cases i <;> simp [updJob, ih]

theorem updJob_get_eq {js : List Job} {k : Nat} {f : Job → Job} {j : Job} (h : js[k]? = some j) :
    (updJob js k f)[k]? = some (f j) := by simp [updJob_get, h]

theorem updJob_cases {js : List Job} {k i : Nat} {f : Job → Job} {j' : Job}
    (h : (updJob js k f)[i]? = some j') :
    (i = k ∧ ∃ j, js[k]? = some j ∧ j' = f j) ∨ (i ≠ k ∧ js[i]? = some j') := by
  rw [updJob_get] at h
  by_cases hik : i = k
  · subst hik
    rw [if_pos rfl, Option.map_eq_some_iff] at h
    obtain ⟨j, hj, rfl⟩ := h
    exact .inl ⟨rfl, j, hj, rfl⟩
  · rw [if_neg hik] at h; exact .inr ⟨hik, h⟩

theorem append_get_cases {js : List Job} {x : Job} {i : Nat} {j' : Job}
    (h : (js ++ [x])[i]? = some j') : (i < js.length ∧ js[i]? = some j') ∨ (i = js.length ∧ j' = x) := by
  rcases Nat.lt_trichotomy i js.length with hi | hi | hi
  · rw [List.getElem?_append_left hi] at h; exact .inl ⟨hi, h⟩
  · subst hi; rw [List.getElem?_concat_length] at h; cases h; exact .inr ⟨rfl, rfl⟩
  · rw [List.getElem?_eq_none (by simp; omega)] at h; cases h

theorem allDone_iff {ids : List (Nat × IdSt)} : allDone ids ↔ hasPending ids = false := by
  unfold hasPending
  rw [List.any_eq_false]
  constructor
  · intro h p hp hpend
    rcases h p hp with h | h <;> rw [h] at hpend <;> cases hpend
  · intro h p hp
    have := h p hp
    cases hst : p.2 with
    | pending => rw [hst] at this; exact absurd rfl this
    | noWork => exact .inl rfl
    | reported => exact .inr rfl

theorem mem_markReported {ids : List (Nat × IdSt)} {n : Nat} {p : Nat × IdSt} (h : p ∈ markReported ids n) :
    p ∈ ids ∨ p = (n, .reported) := by
  induction ids with
  | nil => exact .inr (List.mem_singleton.mp h)
  | cons x xs ih =>
    obtain ⟨m, st⟩ := x
    unfold markReported at h
    split at h
    · rename_i hmn
      rcases List.mem_cons.mp h with rfl | h
      · split
        · exact .inr (by rw [hmn])
        · exact .inl List.mem_cons_self
      · exact .inl (List.mem_cons_of_mem _ h)
    · rcases List.mem_cons.mp h with rfl | h
      · exact .inl List.mem_cons_self
      · exact (ih h).imp_left (List.mem_cons_of_mem _)

theorem allDone_markReported {ids : List (Nat × IdSt)} (n : Nat) (h : allDone ids) : allDone (markReported ids n) := by
  intro p hp
  rcases mem_markReported hp with hp | rfl
  · exact h p hp
  · exact .inr rfl

theorem hasPending_mark_mono {ids : List (Nat × IdSt)} {n : Nat} (h : hasPending (markReported ids n) = true) :
    hasPending ids = true := by
  cases hp : hasPending ids with
  | true => rfl
  | false => rw [allDone_iff.mp (allDone_markReported n (allDone_iff.mpr hp))] at h; cases h

theorem mem_pendingOf_hasPending {ids : List (Nat × IdSt)} {n : Nat} (h : n ∈ pendingOf ids) :
    hasPending ids = true := by
  unfold pendingOf at h
  simp only [List.mem_map, List.mem_filter] at h
  obtain ⟨p, ⟨hp, hst⟩, _⟩ := h
  exact List.any_eq_true.mpr ⟨p, hp, hst⟩

theorem offer_isSome (b : Option JResult) (r : JResult) : (offer b r).isSome = true := by
  cases b <;> rfl

theorem offer_eq_some {b : Option JResult} {r x : JResult} (h : offer b r = some x) : b = some x ∨ r = x := by
  cases b with
  | none => exact .inr (Option.some.inj h)
  | some y => exact .inl h

theorem enqueue_nodes (s : St) (a : NodeAction) : (enqueue s a).nodes = s.nodes := by
  unfold enqueue; split <;> rfl

theorem dequeue_nil {s : St} (hq : s.queue = []) : dequeue s = none := by
  unfold dequeue; rw [hq]

theorem dequeue_cons {s : St} {a : NodeAction} {q : List NodeAction} (hq : s.queue = a :: q) :
    dequeue s = some (a, { s with queue := q ++ s.held.toList, held := none }) := by
  unfold dequeue; rw [hq]
  cases s with | mk _ _ _ _ _ _ _ _ held _ _ _ => cases held <;> simp

/-- `split` on this chain of four tests is slow to check; naming the tests one by one is not. -/
theorem stepLeave_cases (s : St) (n : Nat) (ok : Bool) :
    stepLeave s n ok = some s ∨ stepLeave s n ok = some (enqueue s ⟨.remove, n⟩) := by
  unfold stepLeave
  by_cases h1 : s.cstate ≠ .normal
  · exact .inl (if_pos h1)
  by_cases h2 : n ∉ s.nodes
  · exact .inl ((if_neg h1).trans (if_pos h2))
  by_cases h3 : n = s.coord
  · exact .inl ((if_neg h1).trans ((if_neg h2).trans (if_pos h3)))
  by_cases h4 : (!ok) = true
  · exact .inl ((if_neg h1).trans ((if_neg h2).trans ((if_neg h3).trans (if_pos h4))))
  · exact .inr ((if_neg h1).trans ((if_neg h2).trans ((if_neg h3).trans (if_neg h4))))

/-- The branches of `step`.  `same` stands for every refused or ignored event and `enq` for an accepted
join or leave: what made them so plays no part in the invariants. -/
inductive Step (s : St) : St → Prop
  | same : Step s s
  | enq (a : NodeAction) : Step s (enqueue s a)
  | failsend (ns : List Nat) : Step s { s with failNodes := ns }
  | complete {k : Nat} {j : Job} (n : Nat) (e : Bool) : s.jobs[k]? = some j →
      Step s { s with jobs := updJob s.jobs k (fun j => completeJob j n e) }
  | abort {k : Nat} : s.cur = some k →
      Step s { s with jobs := updJob s.jobs k (fun j => { j with state := setJState j.state .aborted }),
                      cur := none, abortHit := true }
  | deq {a : NodeAction} {q : List NodeAction} : s.lpc = .top ∨ s.lpc = .idle → s.queue = a :: q →
      Step s { s with queue := q ++ s.held.toList, held := none, lpc := .gen a }
  | drained : s.lpc = .top → s.queue = [] → Step s { s with lpc := .afterDrain }
  | toNormal : s.lpc = .afterDrain → s.setNormal = true →
      Step s { s with cstate := .normal, lpc := .idle,
                      staleNormal := s.staleNormal || !s.queue.isEmpty || s.held.isSome }
  | toIdle : s.lpc = .afterDrain → s.setNormal = false → Step s { s with lpc := .idle }
  | genFail {a : NodeAction} : s.lpc = .gen a → Step s { s with lpc := .genErr }
  | genBusy {a : NodeAction} {c : Nat} (pend : List Nat) : s.lpc = .gen a → s.cur = some c →
      Step s { s with jobs := s.jobs ++ [mkJob a s.nodes pend false], lpc := .genErr }
  | genJob {a : NodeAction} (pend : List Nat) : s.lpc = .gen a → s.cur = none →
      Step s { s with jobs := s.jobs ++ [mkJob a s.nodes pend true], cur := some s.jobs.length,
                      lpc := .wait s.jobs.length }
  | genErr : s.lpc = .genErr →
      Step s { s with cstate := .normal, lpc := .top,
                      staleNormal := s.staleNormal || !s.queue.isEmpty || s.held.isSome }
  | rStart {k : Nat} {j : Job} : s.jobs[k]? = some j → j.run = .notStarted →
      Step s { s with jobs := updJob s.jobs k
                        (fun j => { j with state := setJState j.state .running, run := .started }) }
  | rGo {k : Nat} {j : Job} : s.jobs[k]? = some j → j.run = .started →
      Step s { s with jobs := updJob s.jobs k (fun j => runGo j s.failNodes) }
  | recv {k : Nat} {j : Job} {r : JResult} : s.lpc = .wait k → s.jobs[k]? = some j → j.buf = some r →
      Step s { s with jobs := updJob s.jobs k (fun j => { j with buf := none }), lpc := .got k r }
  | completeNoCur {k : Nat} {r : JResult} {j : Job} :
      s.lpc = .got k r → s.jobs[k]? = some j → j.run = .finished → s.cur = none →
      Step s { s with lpc := .top }
  | completeDone {k c : Nat} {j : Job} :
      s.lpc = .got k .done → s.jobs[k]? = some j → j.run = .finished → s.cur = some c →
      Step s { s with jobs := updJob s.jobs c (fun j => { j with state := setJState j.state .done }),
                      cur := none, lpc := .done2 k }
  | completeAborted {k c : Nat} {j : Job} :
      s.lpc = .got k .aborted → s.jobs[k]? = some j → j.run = .finished → s.cur = some c →
      Step s { s with jobs := updJob s.jobs c (fun j => { j with state := setJState j.state .aborted }),
                      cur := none, setNormal := true, lpc := .top }
  | done2 {k : Nat} {j : Job} : s.lpc = .done2 k → s.jobs[k]? = some j →
      Step s { s with nodes := applyAct j s.nodes, setNormal := true, lpc := .top }

theorem step_core {s s' : St} {l : Label} (h : step s l = some s') : stepCore s l = some s' := by
  unfold step at h; split at h
  · cases h
  · exact h

theorem step_sound {s s' : St} {l : Label} (hs : step s l = some s') : Step s s' := by
  have hc := step_core hs
  cases l with
  | join n =>
    simp only [stepCore, stepJoin] at hc
    split at hc <;> cases hc
    · exact .same
    · exact .enq _
  | leave n ok =>
    rcases stepLeave_cases s n ok with h | h <;> rw [stepCore, h] at hc <;> cases hc
    · exact .same
    · exact .enq _
  | complete k n e =>
    simp only [stepCore, stepComplete] at hc
    split at hc <;> cases hc
    · exact .same
    · exact .complete n e ‹_›
  | abort =>
    simp only [stepCore, stepAbort] at hc
    split at hc
    · cases hc; exact .same
    · split at hc <;> cases hc
      · exact .same
      · exact .abort ‹_›
  | failsend ns => simp only [stepCore] at hc; cases hc; exact .failsend ns
  | lTop =>
    simp only [stepCore, stepLTop] at hc
    split at hc
    · cases hc
    · rename_i hl
      cases hq : s.queue with
      | nil => simp only [dequeue_nil hq] at hc; cases hc; exact .drained (Decidable.not_not.mp hl) hq
      | cons a q => simp only [dequeue_cons hq] at hc; cases hc; exact .deq (.inl (Decidable.not_not.mp hl)) hq
  | lIdle =>
    simp only [stepCore, stepLIdle] at hc
    split at hc
    · cases hc
    · rename_i hl
      cases hq : s.queue with
      | nil => simp only [dequeue_nil hq] at hc; cases hc
      | cons a q => simp only [dequeue_cons hq] at hc; cases hc; exact .deq (.inr (Decidable.not_not.mp hl)) hq
  | lAfterDrain =>
    simp only [stepCore, stepLAfterDrain] at hc
    split at hc
    · cases hc
    · rename_i hl
      split at hc <;> cases hc
      · exact .toNormal (Decidable.not_not.mp hl) ‹_›
      · exact .toIdle (Decidable.not_not.mp hl) (Bool.eq_false_iff.mpr ‹_›)
  | lGen p =>
    simp only [stepCore, stepLGen] at hc
    split at hc
    · rename_i a hl
      split at hc
      · cases hc; exact .genFail hl
      · split at hc <;> cases hc
        · exact .genBusy _ hl ‹_›
        · exact .genJob _ hl ‹_›
    · cases hc
  | lGenErr =>
    simp only [stepCore, stepLGenErr] at hc
    split at hc <;> cases hc
    exact .genErr (Decidable.not_not.mp ‹_›)
  | rStart k =>
    simp only [stepCore, stepRStart] at hc
    split at hc
    · split at hc <;> cases hc
      exact .rStart ‹_› ‹_›
    · cases hc
  | rGo k =>
    simp only [stepCore, stepRGo] at hc
    split at hc
    · split at hc <;> cases hc
      exact .rGo ‹_› ‹_›
    · cases hc
  | lRecv =>
    simp only [stepCore, stepLRecv] at hc
    split at hc
    · split at hc
      · split at hc <;> cases hc
        exact .recv ‹_› ‹_› ‹_›
      · cases hc
    · cases hc
  | lComplete =>
    simp only [stepCore, stepLComplete] at hc
    split at hc
    · rename_i k r hl
      split at hc
      · rename_i j hk
        split at hc
        · cases hc
        · rename_i hfin
          have hfin := Decidable.not_not.mp hfin
          split at hc
          · cases hc; exact .completeNoCur hl hk hfin ‹_›
          · cases r <;> cases hc
            · exact .completeDone hl hk hfin ‹_›
            · exact .completeAborted hl hk hfin ‹_›
      · cases hc
    · cases hc
  | lDone2 =>
    simp only [stepCore, stepLDone2] at hc
    split at hc
    · split at hc <;> cases hc
      exact .done2 ‹_› ‹_›
    · cases hc

theorem Step.nodes {s s' : St} (h : Step s s') :
    s'.nodes = s.nodes ∨ ∃ k j, s.lpc = .done2 k ∧ s.jobs[k]? = some j ∧ s'.nodes = applyAct j s.nodes := by
  cases h with
  | enq a => exact .inl (enqueue_nodes s a)
  | done2 hl hk => exact .inr ⟨_, _, hl, hk, rfl⟩
  | _ => exact .inl rfl

end PV.C22
