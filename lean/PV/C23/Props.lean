/-
The quantifier of C23 is "every (cluster state, API entry point) pair, and every exported API entry
point in the source".  That domain IS a finite table: `apiFns`, `methodsCommon/Normal/Resizing`,
`validTable` are regenerated from the current api.go by harness/extract/gate before
every build: each `decide` below ranges over the whole domain.
`classify` is a 40-way match on string literals, dear to evaluate: the gate theorems are evaluated, as they
are stated, on the rows of `apiFns.zip classes` (`classified_ind`, Table.lean), by the kernel alone
(`decide +kernel`), one pass per state; `C23_classified` and `C23_handlers_classified` walk names through
`classify` themselves.

The classification of entry points (`classify`) is by name and hand-written; the
translator knows nothing about it.  A new or renamed entry point has no class → `C23_classified`
fails; an entry point that lost its gate, whose `validate` result is not checked, whose gate moved
under a class served in the wrong states, or that touches something before the gate fails
its theorem below.
-/
import PV.C23.Table
namespace PV.C23

/-- Every exported method of `API` in the source has a class. -/
theorem C23_classified : ∀ f ∈ apiFns, (classify f.name).isSome = true := by decide +kernel

/-- The gate function itself and the table construction have the modelled shape:
`validate` = lookup of the method in `validAPIMethods[state]`, `appendMap` = union, and the table
has a row for each of the four states and no other. -/
theorem C23_validate_shape :
    validateShapeOk = true ∧ appendMapShapeOk = true ∧
    validTable.map (·.1) = CState.all.map CState.ident := by decide

/-- **Refused.**  While the cluster is STARTING or RESIZING every query, import, export, schema
change, anti-entropy request (and node-removal request) has a checked gate and the gate refuses. -/
theorem C23_refused (s : CState) (hs : s.serving = false) :
    ∀ f ∈ apiFns, ∀ c, classify f.name = some c → c.mustGate = true → gateRefuses s f = true := by
  cases s <;> cases hs <;> exact classified_ind (by decide +kernel)

/-- **Admitted.**  In NORMAL and DEGRADED every such request passes its gate. -/
theorem C23_admitted (s : CState) (hs : s.serving = true) :
    ∀ f ∈ apiFns, ∀ c, classify f.name = some c → c.mustGate = true → gateAdmits s f = true := by
  cases s <;> cases hs <;> exact classified_ind (by decide +kernel)

/-- **Resizing only.**  What a RESIZING cluster serves is exactly: cluster messages, coordinator
changes, shard data transfer, resize abort (plus the ungated informational reads, which reach
neither data nor schema). -/
theorem C23_resizing_only :
    ∀ f ∈ apiFns, ∀ c, classify f.name = some c →
      (admits .resizing f = c.servedWhileResizing) :=
  classified_ind (by decide +kernel)

/-- Cluster messages and coordinator changes are served in every state; transfer and abort are
served while RESIZING. -/
theorem C23_resizing_served (s : CState) :
    ∀ f ∈ apiFns, ∀ c, classify f.name = some c →
      ((c = .clusterMessage ∨ c = .coordinator) → gateAdmits s f = true) ∧
      ((c = .transfer ∨ c = .abort) → admits .resizing f = true) := by
  cases s <;> exact classified_ind (by decide +kernel)

def tracingCalls : List String := ["tracing.StartSpanFromContext", "span.Finish", "span.LogKV"]

/-- **Before touching data.**  Nothing but tracing calls precedes the gate of a gated entry point,
and no entry point has a `validate` call in an unchecked / nested position. -/
theorem C23_before_data :
    ∀ f ∈ apiFns, (∀ b ∈ f.before, b ∈ tracingCalls) ∧ f.note = "" := by decide

/-- The same fact with the SITE in the statement: the translator lists, with file:line and function,
every statement between function entry and the gate that is not span/tracing set-up (assignments,
calls, and conditionals that can skip or precede the gate) and every `validate` call that is not a
checked top-level gate.  When the list is not empty the failing goal printed by Lean is the list
itself, e.g. `["api.go:941 Import: if-statement … before the state gate calling …"] = []`. -/
theorem C23_before_data_sites : gateOffences = [] := by
  unfold gateOffences; decide

/-- Every API method the HTTP layer calls is an extracted, classified request entry point. -/
theorem C23_handlers_classified :
    ∀ n ∈ handlerCalls, (apiFns.any (fun f => f.name = n)) = true ∧
      (classify n).isSome = true ∧ classify n ≠ some .lifecycle := by decide +kernel

/-- The protocol answer of the model (`callModel`, what pm_c23 prints) agrees with the
specification wherever the specification fixes an answer: for every state and every extracted
entry point.  (This is the statement the correspondence harness re-checks on the real server.) -/
theorem C23_model_meets_spec (s : CState) :
    ∀ f ∈ apiFns, ∀ a, callSpec s f.name = some a → callModel s f.name = a := by
  intro f hf a h
  obtain ⟨c, hc⟩ := Option.isSome_iff_exists.1 (C23_classified f hf)
  -- `callModel` looks the name up again and finds an entry point `f'` of that name, hence of that class;
  -- what its gate answers is said by the four gate theorems above
  obtain ⟨f', hfind, hf', hname⟩ := findFn_mem hf
  rw [← hname] at hc
  simp only [callSpec, ← hname, hc] at h
  simp only [callModel, hfind]
  by_cases hm : c.mustGate = true
  · rw [if_pos hm] at h
    cases hs : s.serving
    · rw [hs] at h
      cases h
      rw [admits_of_gateRefuses (C23_refused s hs f' hf' c hc hm)]
    · rw [hs] at h
      cases h
      rw [admits_of_gateAdmits (C23_admitted s hs f' hf' c hc hm)]
  · rw [if_neg hm] at h
    cases c with
    | clusterMessage | coordinator =>
      cases h
      rw [admits_of_gateAdmits ((C23_resizing_served s f' hf' _ hc).1 (by simp))]
      rfl
    | transfer | abort =>
      -- the answer is fixed only while RESIZING
      dsimp only at h
      split at h
      · next hs =>
        cases h
        rw [hs, C23_resizing_only f' hf' _ hc]
        rfl
      · cases h
    | informational | lifecycle => cases h
    | _ => exact absurd rfl hm

/-! Non-vacuity: the classes are inhabited in the extracted table, and the gate does discriminate. -/
example : (apiFns.filter (fun f => (classify f.name).any Class.mustGate)).length ≥ 20 := by
  rw [length_filter_classified (·.any Class.mustGate)]
  decide
example : (apiFns.filter (fun f => (classify f.name) == some Class.transfer)).length ≥ 1 := by
  rw [length_filter_classified (· == some Class.transfer)]
  decide
example : allowed .normal .apiQuery = true ∧ allowed .resizing .apiQuery = false ∧
    allowed .resizing .apiFragmentData = true ∧ allowed .normal .apiFragmentData = false := by decide

end PV.C23
