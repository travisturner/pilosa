/-
`classify` is a 40-way match on string literals, and evaluating it on the 39 names of `apiFns` is what a
table fact of C23 costs.  Here it is evaluated once: `classes` lists the class of each entry point in the
order of `apiFns`, and a statement about every `f ∈ apiFns` and its class follows from the same statement
about the rows of `apiFns.zip classes`, where no string is compared.
-/
import PV.C23.Spec
namespace PV.C23

/-- Kept by hand beside `classify`; `classes_eq` fails when it is out of step with the regenerated `apiFns`, which
happens exactly when an entry point is added, removed or renamed in api.go, i.e. when `classify` has to be
looked at as well (`C23_classified`). -/
def classes : List Class :=
  [.schema, .informational, .lifecycle, .clusterMessage, .schema, .schema, .schema, .schema, .schema, .schema,
   .export_, .query, .antiEntropy, .antiEntropy, .antiEntropy, .transfer, .transfer, .informational,
   .import_, .import_, .import_, .query, .antiEntropy, .informational, .informational, .informational,
   .informational, .query, .query, .resize, .abort, .informational, .coordinator, .query, .informational,
   .informational, .import_, .informational, .query]

theorem classes_eq : apiFns.map (fun f => classify f.name) = classes.map some := by decide +kernel

theorem mem_zip_map {α β : Type} (g : α → β) {a : α} : ∀ {l : List α}, a ∈ l → (a, g a) ∈ l.zip (l.map g)
  | _ :: _, .head _ => .head _
  | _ :: _, .tail _ h => .tail _ (mem_zip_map g h)

theorem mem_classified {f : ApiFn} {c : Class} (hf : f ∈ apiFns) (hc : classify f.name = some c) :
    (f, c) ∈ apiFns.zip classes := by
  have hm := mem_zip_map (fun f => classify f.name) hf
  rw [classes_eq, hc, List.zip_map_right] at hm
  obtain ⟨⟨_, _⟩, hx, he⟩ := List.mem_map.1 hm
  cases he
  exact hx

/-- A statement about every entry point and its class holds if it holds of every row of the table. -/
theorem classified_ind {Φ : ApiFn → Class → Prop} (h : ∀ x ∈ apiFns.zip classes, Φ x.1 x.2) :
    ∀ f ∈ apiFns, ∀ c, classify f.name = some c → Φ f c :=
  fun _ hf _ hc => h _ (mem_classified hf hc)

theorem admits_of_gateAdmits {s : CState} {f : ApiFn} (h : gateAdmits s f = true) : admits s f = true := by
  revert h
  unfold gateAdmits admits
  cases f.gate <;> simp

theorem admits_of_gateRefuses {s : CState} {f : ApiFn} (h : gateRefuses s f = true) : admits s f = false := by
  revert h
  unfold gateRefuses admits
  cases f.gate <;> simp

/-- `findFn` may return another entry point than `f`, but one of the same name. -/
theorem findFn_mem {f : ApiFn} (hf : f ∈ apiFns) :
    ∃ f', findFn f.name = some f' ∧ f' ∈ apiFns ∧ f'.name = f.name := by
  cases hfind : findFn f.name with
  | none => exact absurd (List.find?_eq_none.1 hfind f hf) (by simp)
  | some f' => exact ⟨f', rfl, List.mem_of_find?_eq_some hfind, by simpa using List.find?_some hfind⟩

theorem length_filter_classified (p : Option Class → Bool) :
    (apiFns.filter (fun f => p (classify f.name))).length = ((classes.map some).filter p).length := by
  rw [← classes_eq, List.filter_map, List.length_map]
  rfl

end PV.C23
