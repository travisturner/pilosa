/-
C24: uvarint and LogEntry coding.  ReadFrom undoes WriteTo whatever follows the entry, and `lookupKey`
finds a written key at the offset of its length prefix, also after the file has grown.
-/
import PV.C24.Table
namespace PV.C24
open List

theorem uvarintSize_eq (x : Nat) : uvarintSize x = (putUvarint x).length := by
  induction x using Nat.strongRecOn with
  | _ x ih =>
    rw [uvarintSize, putUvarint]
    split
    · rfl
    · rw [length_cons, ih (x / 128) (by omega)]

theorem putUvarint_ne_nil (x : Nat) : putUvarint x ≠ [] := by
  rw [putUvarint]; split <;> exact cons_ne_nil _ _

theorem uvarint_acc (x v s : Nat) : x + v % 128 * 2 ^ s + v / 128 * 2 ^ (s + 7) = x + v * 2 ^ s := by
  have h7 : 2 ^ (s + 7) = 128 * 2 ^ s := by rw [Nat.pow_add, Nat.mul_comm]
  rw [h7, ← Nat.mul_assoc, Nat.add_assoc, ← Nat.add_mul, Nat.mul_comm (v / 128), Nat.mod_add_div]

/-- ReadUvarint accepts ten bytes, the tenth at most 1: with `i` bytes read, a value that needs at
most `k + 1` more (`i + k = 9`, the last one below 2) is read back. -/
theorem readUvarintAux_put (v : Nat) : ∀ (k i x s : Nat) (rest : Bytes), i + k = 9 → v < 2 * 128 ^ k →
    readUvarintAux i x s (putUvarint v ++ rest) = some (x + v * 2 ^ s, rest) := by
  induction v using Nat.strongRecOn with
  | _ v ih =>
    intro k i x s rest hi hv
    have h10 : ¬ i ≥ 10 := by omega
    rw [putUvarint]
    split
    · rename_i h
      have h9 : ¬ (i = 9 ∧ v > 1) := by
        rintro ⟨h9, h1⟩
        obtain rfl : k = 0 := by omega
        omega
      rw [singleton_append, readUvarintAux, if_neg h10, if_pos h, if_neg h9]
    · rename_i h
      obtain ⟨k, rfl⟩ : ∃ k', k = k' + 1 := by
        cases k with
        | zero => omega
        | succ k => exact ⟨k, rfl⟩
      have hb : ¬ (v % 128 + 128 < 128) := Nat.not_lt.mpr (Nat.le_add_left _ _)
      have hm : (v % 128 + 128) % 128 = v % 128 := by rw [Nat.add_mod_right, Nat.mod_mod]
      rw [cons_append, readUvarintAux, if_neg h10, if_neg hb, hm,
        ih (v / 128) (Nat.div_lt_self (Nat.lt_of_lt_of_le (by decide) (Nat.le_of_not_lt h)) (by decide)) k (i + 1) _
          (s + 7) rest ((Nat.add_right_comm i 1 k).trans hi)
          (Nat.div_lt_of_lt_mul (by rwa [Nat.pow_succ, ← Nat.mul_assoc, Nat.mul_comm] at hv)),
        uvarint_acc]

theorem readUvarint_put (v : Nat) (rest : Bytes) (hv : v < 2 ^ 64) :
    readUvarint (putUvarint v ++ rest) = some (v, rest) := by
  have := readUvarintAux_put v 9 0 0 0 rest rfl hv
  rwa [Nat.zero_add, Nat.pow_zero, Nat.mul_one] at this

theorem readN_length_append (k rest : Bytes) : readN k.length (k ++ rest) = some (k, rest) := by
  simp [readN]

/-- what the encoder requires of an entry: every varint field fits 64 bits. -/
structure Entry.WF (e : Entry) : Prop where
  index : e.index.length < 2 ^ 64
  field : e.field.length < 2 ^ 64
  count : e.pairs.length < 2 ^ 64
  pairs : ∀ p ∈ e.pairs, p.1 < 2 ^ 64 ∧ p.2.length < 2 ^ 64
  body : (encodeBody e).length < 2 ^ 64

theorem decodePairs_encode (ps : List (Nat × Bytes)) (rest : Bytes)
    (h : ∀ p ∈ ps, p.1 < 2 ^ 64 ∧ p.2.length < 2 ^ 64) :
    decodePairs ps.length (encodePairs ps ++ rest) = some (ps, rest) := by
  induction ps with
  | nil => rfl
  | cons p ps ih =>
    obtain ⟨id, key⟩ := p
    have hp := h (id, key) mem_cons_self
    have := ih (fun q hq => h q (mem_cons_of_mem _ hq))
    simp only [encodePairs] at this
    simp only [encodePairs, map_cons, flatten_cons, encodePair, length_cons, decodePairs, append_assoc,
      readUvarint_put id _ hp.1, readUvarint_put key.length _ hp.2, readN_length_append, this]

theorem decodeEntry_encode (e : Entry) (rest : Bytes) (h : e.WF) :
    decodeEntry (encodeEntry e ++ rest) = some (e, (encodeBody e).length, rest) := by
  simp only [encodeEntry, decodeEntry, append_assoc]
  rw [readUvarint_put _ _ h.body]
  simp only [encodeBody, cons_append, append_assoc, readUvarint_put _ _ h.index, readN_length_append,
    readUvarint_put _ _ h.field, readUvarint_put _ _ h.count, decodePairs_encode _ _ h.pairs]

theorem encodeEntry_length_pos (e : Entry) : 0 < (encodeEntry e).length := by
  rw [encodeEntry, length_append]
  exact Nat.lt_of_lt_of_le (length_pos_iff.mpr (putUvarint_ne_nil _)) (Nat.le_add_right _ _)

theorem encodeEntry_ne_nil (e : Entry) : encodeEntry e ≠ [] :=
  length_pos_iff.mp (encodeEntry_length_pos e)

theorem readUvarintAux_append (bs : Bytes) : ∀ (i x s v : Nat) (r t : Bytes),
    readUvarintAux i x s bs = some (v, r) → readUvarintAux i x s (bs ++ t) = some (v, r ++ t) := by
  induction bs with
  | nil => intro i x s v r t h; simp [readUvarintAux] at h
  | cons b bs ih =>
    intro i x s v r t h
    simp only [cons_append, readUvarintAux] at h ⊢
    by_cases h1 : i ≥ 10
    · simp [h1] at h
    · simp only [h1, if_false] at h ⊢
      by_cases h2 : b < 128
      · simp only [h2, if_true] at h ⊢
        by_cases h3 : i = 9 ∧ b > 1
        · simp [h3] at h
        · simp only [h3, if_false, Option.some.injEq, Prod.mk.injEq] at h ⊢
          simp [h.1, h.2]
      · simp only [h2, if_false] at h ⊢
        exact ih _ _ _ _ _ _ h

theorem readUvarint_append (bs t : Bytes) (v : Nat) (r : Bytes) (h : readUvarint bs = some (v, r)) :
    readUvarint (bs ++ t) = some (v, r ++ t) :=
  readUvarintAux_append bs 0 0 0 v r t h

theorem lookupKey_le (data x : Bytes) : KeyAt.le (lookupKey data) (lookupKey (data ++ x)) := by
  intro off k h
  unfold lookupKey at h ⊢
  split at h
  · simp at h
  · rename_i hle
    have hle' : ¬ off > (data ++ x).length := by rw [length_append]; omega
    simp only [hle', if_false]
    split at h
    · simp at h
    · rename_i n rest hr
      have hd : (data ++ x).drop off = data.drop off ++ x := by
        rw [drop_append_of_le_length (by omega)]
      rw [hd, readUvarint_append _ _ _ _ hr]
      simp only
      split at h
      · rename_i hn
        have : n ≤ (rest ++ x).length := by rw [length_append]; omega
        simp only [this, if_true]
        simp only [Except.ok.injEq] at h
        rw [take_append_of_le_length hn, h]
      · simp at h

theorem lookupKey_at (a k b : Bytes) (hk : k.length < 2 ^ 64) :
    lookupKey (a ++ (putUvarint k.length ++ (k ++ b))) a.length = .ok k := by
  unfold lookupKey
  have h1 : ¬ a.length > (a ++ (putUvarint k.length ++ (k ++ b))).length := by simp
  simp only [h1, if_false, drop_left]
  rw [readUvarint_put _ _ hk]
  simp

end PV.C24
