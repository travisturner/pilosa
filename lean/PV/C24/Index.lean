/-
C24: an index in terms of the list of pairs applied to it.  Lookups answer with the last pair of a
key or id (`lastId`, `lastKey`); where key and id determine each other (`LogFun`) "last" is "any", in
particular the first, which is what `Spec.idOf` / `Spec.keyOf` read (no theorem states that link).
-/
import PV.C24.Codec
namespace PV.C24
open List

theorem snoc_induction {α : Type} {P : List α → Prop} (hnil : P [])
    (hsnoc : ∀ l a, P l → P (l ++ [a])) : ∀ l, P l := by
  intro l
  rw [← reverse_reverse l]
  induction l.reverse with
  | nil => exact hnil
  | cons a t ih => rw [reverse_cons]; exact hsnoc _ _ ih

/-- `g p` for the last `p` of `l` with `f p = b`; `lastId` and `lastKey` below unfold to it -/
def lastBy {α β γ : Type} [DecidableEq β] (f : α → β) (g : α → γ) (l : List α) (b : β) : Option γ :=
  l.foldl (fun acc p => if f p = b then some (g p) else acc) none

section
variable {α β γ : Type} [DecidableEq β] (f : α → β) (g : α → γ)

theorem lastBy_snoc (l : List α) (p : α) (b : β) :
    lastBy f g (l ++ [p]) b = if f p = b then some (g p) else lastBy f g l b := by
  simp only [lastBy, foldl_append, foldl_cons, foldl_nil]

theorem lastBy_eq_none_iff (l : List α) (b : β) : lastBy f g l b = none ↔ ∀ p ∈ l, f p ≠ b := by
  induction l using snoc_induction with
  | hnil => exact ⟨fun _ _ hp => (nomatch hp), fun _ => rfl⟩
  | hsnoc l a ih =>
    rw [lastBy_snoc]
    by_cases h : f a = b
    · rw [if_pos h]
      exact ⟨fun hh => (nomatch hh), fun hh => absurd h (hh a (mem_append_right _ (mem_singleton_self a)))⟩
    · rw [if_neg h, ih]
      constructor
      · intro hh p hp
        rcases mem_append.mp hp with hp | hp
        · exact hh p hp
        · rwa [mem_singleton.mp hp]
      · intro hh p hp; exact hh p (mem_append_left _ hp)

theorem lastBy_eq_some {l : List α} {b : β} {c : γ} (h : lastBy f g l b = some c) :
    ∃ p ∈ l, f p = b ∧ g p = c := by
  induction l using snoc_induction with
  | hnil => exact nomatch h
  | hsnoc l a ih =>
    rw [lastBy_snoc] at h
    by_cases hk : f a = b
    · rw [if_pos hk] at h
      exact ⟨a, mem_append_right _ (mem_singleton_self a), hk, Option.some.inj h⟩
    · rw [if_neg hk] at h
      obtain ⟨p, hp, hpb⟩ := ih h
      exact ⟨p, mem_append_left _ hp, hpb⟩

theorem lastBy_of_mem {l : List α} (hfun : ∀ p ∈ l, ∀ q ∈ l, f p = f q → g p = g q) {p : α} (hp : p ∈ l) :
    lastBy f g l (f p) = some (g p) := by
  cases hl : lastBy f g l (f p) with
  | none => exact absurd rfl ((lastBy_eq_none_iff f g l (f p)).mp hl p hp)
  | some c =>
    obtain ⟨q, hq, hfq, hgq⟩ := lastBy_eq_some f g hl
    rw [← hgq, hfun q hq p hp hfq]

end

def lastId (ps : List (Nat × Bytes)) (key : Bytes) : Option Nat :=
  ps.foldl (fun acc p => if p.2 = key then some p.1 else acc) none

def lastKey (ps : List (Nat × Bytes)) (id : Nat) : Option Bytes :=
  ps.foldl (fun acc p => if p.1 = id then some p.2 else acc) none

def maxId (ps : List (Nat × Bytes)) : Nat := ps.foldl (fun m p => max m p.1) 0

theorem lastId_snoc (ps : List (Nat × Bytes)) (p : Nat × Bytes) (key : Bytes) :
    lastId (ps ++ [p]) key = if p.2 = key then some p.1 else lastId ps key :=
  lastBy_snoc _ _ ps p key

theorem lastKey_snoc (ps : List (Nat × Bytes)) (p : Nat × Bytes) (id : Nat) :
    lastKey (ps ++ [p]) id = if p.1 = id then some p.2 else lastKey ps id :=
  lastBy_snoc _ _ ps p id

theorem lastId_none_iff (ps : List (Nat × Bytes)) (key : Bytes) :
    lastId ps key = none ↔ ∀ p ∈ ps, p.2 ≠ key :=
  lastBy_eq_none_iff _ _ ps key

theorem lastId_mem (ps : List (Nat × Bytes)) (key : Bytes) (id : Nat) (h : lastId ps key = some id) :
    (id, key) ∈ ps := by
  obtain ⟨⟨a, b⟩, hp, rfl, rfl⟩ := lastBy_eq_some _ _ h
  exact hp

theorem lastKey_none_iff (ps : List (Nat × Bytes)) (id : Nat) :
    lastKey ps id = none ↔ ∀ p ∈ ps, p.1 ≠ id :=
  lastBy_eq_none_iff _ _ ps id

theorem lastKey_mem (ps : List (Nat × Bytes)) (id : Nat) (key : Bytes) (h : lastKey ps id = some key) :
    (id, key) ∈ ps := by
  obtain ⟨⟨a, b⟩, hp, rfl, rfl⟩ := lastBy_eq_some _ _ h
  exact hp

theorem maxId_fold (l : List (Nat × Bytes)) : ∀ (a : Nat),
    foldl (fun m p => max m p.1) a l = max a (foldl (fun m p => max m p.1) 0 l) := by
  induction l with
  | nil => intro a; exact (Nat.max_zero a).symm
  | cons q l ihl =>
    intro a
    rw [foldl_cons, foldl_cons, ihl, ihl (max 0 q.1), Nat.zero_max, Nat.max_assoc]

theorem maxId_cons (p : Nat × Bytes) (ps : List (Nat × Bytes)) : maxId (p :: ps) = max p.1 (maxId ps) := by
  rw [maxId, foldl_cons, maxId_fold, Nat.zero_max]
  rfl

theorem maxId_append (a b : List (Nat × Bytes)) : maxId (a ++ b) = max (maxId a) (maxId b) := by
  rw [maxId, foldl_append, maxId_fold]
  rfl

theorem maxId_snoc (ps : List (Nat × Bytes)) (p : Nat × Bytes) :
    maxId (ps ++ [p]) = max (maxId ps) p.1 := by
  rw [maxId_append, maxId_cons]
  exact congrArg _ (Nat.max_zero _)

theorem maxId_ge (ps : List (Nat × Bytes)) : ∀ p ∈ ps, p.1 ≤ maxId ps := by
  induction ps with
  | nil => exact fun _ hp => nomatch hp
  | cons a l ih =>
    intro p hp
    rw [maxId_cons]
    rcases mem_cons.mp hp with rfl | hp
    · exact Nat.le_max_left _ _
    · exact Nat.le_trans (ih p hp) (Nat.le_max_right _ _)

/-- in one namespace: equal keys have equal ids and vice versa, ids are positive -/
def LogFun (ps : List (Nat × Bytes)) : Prop :=
  ∀ p ∈ ps, 1 ≤ p.1 ∧ ∀ q ∈ ps, (p.2 = q.2 ↔ p.1 = q.1)

theorem LogFun.lastId {ps : List (Nat × Bytes)} (h : LogFun ps) {id : Nat} {key : Bytes}
    (hm : (id, key) ∈ ps) : lastId ps key = some id :=
  lastBy_of_mem (fun p : Nat × Bytes => p.2) (fun p => p.1) (fun p hp q hq e => ((h p hp).2 q hq).mp e) hm

theorem LogFun.lastKey {ps : List (Nat × Bytes)} (h : LogFun ps) {id : Nat} {key : Bytes}
    (hm : (id, key) ∈ ps) : lastKey ps id = some key :=
  lastBy_of_mem (fun p : Nat × Bytes => p.1) (fun p => p.2) (fun p hp q hq e => ((h p hp).2 q hq).mpr e) hm

theorem LogFun.mono {ps qs : List (Nat × Bytes)} (h : LogFun qs) (hsub : ∀ p ∈ ps, p ∈ qs) : LogFun ps :=
  fun p hp => ⟨(h p (hsub p hp)).1, fun q hq => (h p (hsub p hp)).2 q (hsub q hq)⟩

theorem LogFun.snoc_dup {l : List (Nat × Bytes)} (h : LogFun l) {p : Nat × Bytes} (hp : p ∈ l) :
    LogFun (l ++ [p]) :=
  h.mono fun _ hq => (mem_append.mp hq).elim (fun h => h) fun hq => mem_singleton.mp hq ▸ hp

theorem LogFun.snoc_fresh {l : List (Nat × Bytes)} (h : LogFun l) (v : Nat) (k : Bytes)
    (hv : 1 ≤ v) (hk : ∀ q ∈ l, q.2 ≠ k) (hid : ∀ q ∈ l, q.1 ≠ v) : LogFun (l ++ [(v, k)]) := by
  intro a ha
  rcases mem_append.mp ha with ha | ha
  · refine ⟨(h a ha).1, fun b hb => ?_⟩
    rcases mem_append.mp hb with hb | hb
    · exact (h a ha).2 b hb
    · rw [mem_singleton.mp hb]
      exact ⟨fun e => absurd e (hk a ha), fun e => absurd e (hid a ha)⟩
  · rw [mem_singleton.mp ha]
    refine ⟨hv, fun b hb => ?_⟩
    rcases mem_append.mp hb with hb | hb
    · exact ⟨fun e => absurd e.symm (hk b hb), fun e => absurd e.symm (hid b hb)⟩
    · rw [mem_singleton.mp hb]
      exact ⟨fun _ => rfl, fun _ => rfl⟩

variable {T : TableImpl} {L : TableLaws T}

structure IndexOK (T : TableImpl) (L : TableLaws T) (ka : KeyAt) (ix : Index T.τ)
    (ps : List (Nat × Bytes)) : Prop where
  valid : L.Valid ka ix.tbl
  fwd : ∀ key, T.lookup ka ix.tbl key = .ok (lastId ps key)
  rev : ∀ id, ix.keyByID ka id = .ok (lastKey ps id)

theorem IndexOK.new (T : TableImpl) (L : TableLaws T) (ka : KeyAt) : IndexOK T L ka (newIndex T) [] where
  valid := L.valid_empty ka
  fwd := L.lookup_empty ka
  rev := fun _ => rfl

theorem IndexOK.seq {ka : KeyAt} {ix : Index T.τ}
    {ps : List (Nat × Bytes)} (h : IndexOK T L ka ix ps) (s : Nat) : IndexOK T L ka { ix with seq := s } ps :=
  ⟨h.valid, h.fwd, h.rev⟩

theorem keyByID_mono {τ : Type} (ka ka' : KeyAt) (hle : KeyAt.le ka ka') (ix : Index τ) (id : Nat)
    (r : Option Bytes) (h : ix.keyByID ka id = .ok r) : ix.keyByID ka' id = .ok r := by
  unfold Index.keyByID at h ⊢
  cases hl : ix.offsetsByID.lookup id with
  | none => simpa [hl] using h
  | some off =>
    simp only [hl] at h ⊢
    cases hk : ka off with
    | error e => simp [hk] at h
    | ok k =>
      simp only [hk, ebind_ok, epure, Except.ok.injEq] at h
      simp [hle off k hk, h]

theorem IndexOK.mono {ka ka' : KeyAt} {ix : Index T.τ}
    {ps : List (Nat × Bytes)} (hle : KeyAt.le ka ka') (h : IndexOK T L ka ix ps) :
    IndexOK T L ka' ix ps where
  valid := (L.mono ka ka' ix.tbl hle h.valid).1
  fwd := fun key => by rw [(L.mono ka ka' ix.tbl hle h.valid).2 key]; exact h.fwd key
  rev := fun id => keyByID_mono ka ka' hle ix id _ (h.rev id)

theorem IndexOK.insert {T : TableImpl} {L : TableLaws T} {ka : KeyAt} {ix : Index T.τ}
    {ps : List (Nat × Bytes)} (h : IndexOK T L ka ix ps) (id off : Nat) (key : Bytes)
    (hk : ka off = .ok key) :
    ∃ ix', ix.insert T ka id off = .ok ix' ∧ IndexOK T L ka ix' (ps ++ [(id, key)]) ∧ ix'.seq = ix.seq := by
  obtain ⟨t', ht, hv, hl⟩ := L.insert_ok ka ix.tbl off id key h.valid hk
  refine ⟨{ ix with tbl := t', offsetsByID := (id, off) :: ix.offsetsByID }, ?_, ⟨hv, ?_, ?_⟩, rfl⟩
  · simp only [Index.insert, ht, ebind_ok, epure]
  · intro key'
    rw [hl key', lastId_snoc, h.fwd key']
    by_cases hkk : key' = key
    · rw [if_pos hkk, if_pos hkk.symm]
    · rw [if_neg hkk, if_neg (Ne.symm hkk)]
  · intro id'
    rw [lastKey_snoc]
    by_cases hid : id = id'
    · subst hid
      simp [Index.keyByID, hk]
    · have h2 := h.rev id'
      simp only [Index.keyByID, List.lookup_cons] at h2 ⊢
      have : (id' == id) = false := beq_false_of_ne (Ne.symm hid)
      simp only [this, hid, if_false]
      exact h2

/-- the offsets `applyEntry` computes point at the keys -/
def OffsOK (ka : KeyAt) : List (Nat × Bytes) → Nat → Prop
  | [], _ => True
  | (id, key) :: ps, off =>
    ka (off + uvarintSize id) = .ok key ∧
      OffsOK ka ps (off + (uvarintSize id + uvarintSize key.length + key.length))

theorem applyPairs_ok {ka : KeyAt} (new : List (Nat × Bytes)) :
    ∀ (ix : Index T.τ) (ps : List (Nat × Bytes)) (off : Nat), IndexOK T L ka ix ps → OffsOK ka new off →
    ∃ ix', applyPairs T ka ix new off = .ok ix' ∧ IndexOK T L ka ix' (ps ++ new) ∧
      ix'.seq = max ix.seq (maxId new) := by
  induction new with
  | nil => intro ix ps off h _; exact ⟨ix, rfl, by rwa [append_nil], (Nat.max_zero _).symm⟩
  | cons p new ih =>
    intro ix ps off h ho
    obtain ⟨id, key⟩ := p
    obtain ⟨hk, ho'⟩ := ho
    obtain ⟨ix1, e1, ok1, s1⟩ := h.insert id (off + uvarintSize id) key hk
    -- `if id > idx.seq { idx.seq = id }`
    obtain ⟨ix2, e2, ok2, s2⟩ : ∃ ix2, (if id > ix1.seq then { ix1 with seq := id } else ix1) = ix2 ∧
        IndexOK T L ka ix2 (ps ++ [(id, key)]) ∧ ix2.seq = max ix.seq id := by
      by_cases c : id > ix1.seq
      · exact ⟨_, if_pos c, ok1.seq id, by rw [s1] at c; exact (Nat.max_eq_right (Nat.le_of_lt c)).symm⟩
      · exact ⟨_, if_neg c, ok1, by rw [s1] at c ⊢; exact (Nat.max_eq_left (Nat.le_of_not_lt c)).symm⟩
    obtain ⟨ix', e', ok', s'⟩ := ih ix2 (ps ++ [(id, key)]) _ ok2 ho'
    refine ⟨ix', ?_, by rwa [append_assoc] at ok', by rw [s', s2, maxId_cons, Nat.max_assoc]⟩
    rw [applyPairs, e1, ebind_ok, e2]
    exact e'

theorem offsOK_encodePairs (ps : List (Nat × Bytes)) : ∀ (pre post : Bytes),
    (∀ p ∈ ps, p.2.length < 2 ^ 64) →
    OffsOK (lookupKey (pre ++ (encodePairs ps ++ post))) ps pre.length := by
  induction ps with
  | nil => intro _ _ _; trivial
  | cons p ps ih =>
    intro pre post h
    obtain ⟨id, key⟩ := p
    have hp := h (id, key) mem_cons_self
    have hdata : pre ++ (encodePairs ((id, key) :: ps) ++ post) =
        (pre ++ putUvarint id) ++ (putUvarint key.length ++ (key ++ (encodePairs ps ++ post))) := by
      simp [encodePairs, encodePair, append_assoc]
    constructor
    · rw [hdata]
      have : pre.length + uvarintSize id = (pre ++ putUvarint id).length := by
        rw [length_append, uvarintSize_eq]
      rw [this]
      exact lookupKey_at _ _ _ hp
    · have hdata2 : pre ++ (encodePairs ((id, key) :: ps) ++ post) =
          (pre ++ (putUvarint id ++ (putUvarint key.length ++ key))) ++ (encodePairs ps ++ post) := by
        simp [encodePairs, encodePair, append_assoc]
      rw [hdata2]
      have : pre.length + (uvarintSize id + uvarintSize key.length + key.length) =
          (pre ++ (putUvarint id ++ (putUvarint key.length ++ key))).length := by
        simp only [length_append, uvarintSize_eq, Nat.add_assoc]
      rw [this]
      exact ih _ _ (fun q hq => h q (mem_cons_of_mem _ hq))

theorem offsOK_entry (pre post : Bytes) (e : Entry) (h : ∀ p ∈ e.pairs, p.2.length < 2 ^ 64) :
    OffsOK (lookupKey (pre ++ (encodeEntry e ++ post))) e.pairs
      (pre.length + headerSize e (encodeBody e).length) := by
  -- everything WriteTo puts before the pairs
  let hd := putUvarint (encodeBody e).length ++ (e.typ :: (putUvarint e.index.length ++ (e.index ++
    (putUvarint e.field.length ++ (e.field ++ putUvarint e.pairs.length)))))
  have hdata : pre ++ (encodeEntry e ++ post) = (pre ++ hd) ++ (encodePairs e.pairs ++ post) := by
    simp [hd, encodeEntry, encodeBody, append_assoc]
  have hlen : pre.length + headerSize e (encodeBody e).length = (pre ++ hd).length := by
    simp [hd, headerSize, uvarintSize_eq]; omega
  rw [hdata, hlen]
  exact offsOK_encodePairs _ _ _ h

end PV.C24
