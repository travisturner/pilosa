/-
C24 model: the key-translation store of /repo/translate.go.

Modelled branch for branch (names are the Go names):
  * `putUvarint`/`readUvarint`/`uvarintSize`     binary.PutUvarint / binary.ReadUvarint / uVarintSize
  * `Entry`, `encodeEntry`, `decodeEntry`        LogEntry.WriteTo / LogEntry.ReadFrom
  * `lookupKey`                                   index.lookupKey (reads the key out of the data file)
  * `RHH.*`                                       index.alloc / dist / idByKey / insertIDbyOffset and the
                                                  table part of index.insert (n++, grow at n > threshold, n-- on overwrite)
  * `Index.insert`, `Index.keyByID`               index.insert (reverse map part), index.keyByID
  * `applyEntry`, `appendEntry`, `replay`         TranslateFile.applyEntry / appendEntry / replayEntries
  * `phase1`, `phase2`, `translate`               the read-locked and the write-locked half of
                                                  TranslateColumnsToUint64 / TranslateRowsToUint64
  * `readerChunks`, `replicate`                   translateFileReader.read and TranslateFile.replicate

Bytes are naturals (a byte is a `Nat` < 256; keys are opaque).  `uint64` is `Nat` (no wrap-around;
ids and lengths stay far below 2^64).  Go panics and endless loops are explicit `Except.error`
outcomes ("panic:<site>", "hang:<site>"), never a default value.  The hash function is a parameter
`H`; `hashKey` is the code's wrapper that maps 0 to 1.

The hash table is reached through the record `TableImpl` so that the store-level functions and
theorems are written once, for the robin-hood table `rhh H` (the code) and for any other
implementation that satisfies the finite-map laws (`PV.C24.TableLaws` in Table.lean).
Core Lean only.
-/
namespace PV.C24

abbrev Bytes := List Nat

/-! ### uvarint -/

/-- binary.PutUvarint. -/
def putUvarint (x : Nat) : Bytes :=
  if x < 128 then [x] else (x % 128 + 128) :: putUvarint (x / 128)
termination_by x
decreasing_by omega

/-- uVarintSize (copied from encoding/binary in translate.go). -/
def uvarintSize (x : Nat) : Nat :=
  if x < 128 then 1 else uvarintSize (x / 128) + 1
termination_by x
decreasing_by omega

/-- binary.ReadUvarint: `i` bytes consumed so far, `x` the value so far, `s` the shift.
`none` = EOF / unexpected EOF / overflow (more than 10 bytes, or 10th byte > 1). -/
def readUvarintAux : Nat → Nat → Nat → Bytes → Option (Nat × Bytes)
  | _, _, _, [] => none
  | i, x, s, b :: rest =>
    if i ≥ 10 then none
    else if b < 128 then
      if i = 9 ∧ b > 1 then none else some (x + b * 2 ^ s, rest)
    else readUvarintAux (i + 1) (x + (b % 128) * 2 ^ s) (s + 7) rest

def readUvarint (bs : Bytes) : Option (Nat × Bytes) := readUvarintAux 0 0 0 bs

/-- io.ReadFull of `n` bytes. -/
def readN (n : Nat) (bs : Bytes) : Option (Bytes × Bytes) :=
  if n ≤ bs.length then some (bs.take n, bs.drop n) else none

/-! ### LogEntry -/

structure Entry where
  typ : Nat
  index : Bytes
  field : Bytes
  /-- `IDs[i]`, `Keys[i]` (the code keeps two slices of equal length, built in lock step). -/
  pairs : List (Nat × Bytes)
deriving Repr, DecidableEq, Inhabited

def encodePair (p : Nat × Bytes) : Bytes :=
  putUvarint p.1 ++ (putUvarint p.2.length ++ p.2)

def encodePairs (ps : List (Nat × Bytes)) : Bytes := (ps.map encodePair).flatten

/-- The buffer `buf` of LogEntry.WriteTo (everything after the length prefix). -/
def encodeBody (e : Entry) : Bytes :=
  e.typ :: (putUvarint e.index.length ++ (e.index ++ (putUvarint e.field.length ++ (e.field ++
    (putUvarint e.pairs.length ++ encodePairs e.pairs)))))

/-- LogEntry.WriteTo: length prefix, then the buffer. -/
def encodeEntry (e : Entry) : Bytes :=
  let b := encodeBody e
  putUvarint b.length ++ b

def decodePairs : Nat → Bytes → Option (List (Nat × Bytes) × Bytes)
  | 0, bs => some ([], bs)
  | k + 1, bs =>
    match readUvarint bs with
    | none => none
    | some (id, bs1) =>
      match readUvarint bs1 with
      | none => none
      | some (sz, bs2) =>
        match readN sz bs2 with
        | none => none
        | some (key, bs3) =>
          match decodePairs k bs3 with
          | none => none
          | some (ps, bs4) => some ((id, key) :: ps, bs4)

/-- LogEntry.ReadFrom.  Returns the entry, its `Length` field (as read, not re-checked against the
bytes consumed — the code trusts it) and the unread rest.  `none` = any read error (EOF included). -/
def decodeEntry (bs : Bytes) : Option (Entry × Nat × Bytes) :=
  match readUvarint bs with
  | none => none
  | some (len, bs0) =>
    match bs0 with
    | [] => none
    | typ :: bs1 =>
      match readUvarint bs1 with
      | none => none
      | some (isz, bs2) =>
        match readN isz bs2 with
        | none => none
        | some (index, bs3) =>
          match readUvarint bs3 with
          | none => none
          | some (fsz, bs4) =>
            match readN fsz bs4 with
            | none => none
            | some (field, bs5) =>
              match readUvarint bs5 with
              | none => none
              | some (cnt, bs6) =>
                match decodePairs cnt bs6 with
                | none => none
                | some (ps, bs7) => some (⟨typ, index, field, ps⟩, len, bs7)

/-- LogEntry.headerSize (needs `Length`, which WriteTo/ReadFrom have filled in). -/
def headerSize (e : Entry) (len : Nat) : Nat :=
  uvarintSize len + 1 + uvarintSize e.index.length + e.index.length +
    uvarintSize e.field.length + e.field.length + uvarintSize e.pairs.length

/-! ### keys live in the data file -/

/-- index.lookupKey: the key whose length prefix starts at `offset` of the mapped file.
An offset outside the written file, or a length prefix that does not decode, is a slice panic
(or garbage) in Go; here an error. -/
def lookupKey (data : Bytes) (offset : Nat) : Except String Bytes :=
  if offset > data.length then .error "panic:lookupKey" else
  match readUvarint (data.drop offset) with
  | none => .error "panic:lookupKey"
  | some (n, rest) => if n ≤ rest.length then .ok (rest.take n) else .error "panic:lookupKey"

abbrev KeyAt := Nat → Except String Bytes

/-! ### hash table interface -/

structure TableImpl where
  τ : Type
  /-- newIndex: an empty table of 256 slots. -/
  empty : τ
  /-- the table part of index.insert(id, offset). -/
  insert : KeyAt → τ → (offset id : Nat) → Except String τ
  /-- index.idByKey. -/
  lookup : KeyAt → τ → Bytes → Except String (Option Nat)

/-! ### the robin-hood table of translate.go -/

structure Elem where
  offset : Nat
  id : Nat
  hash : Nat
deriving Repr, DecidableEq, Inhabited

def Elem.none : Elem := ⟨0, 0, 0⟩

structure RHH where
  elems : List Elem
  n : Nat
  mask : Nat
  threshold : Nat
deriving Repr, DecidableEq

def defaultLoadFactor : Nat := 90

/-- hashKey: the parameter hash with 0 replaced by 1. -/
def hashKey (H : Bytes → Nat) (key : Bytes) : Nat :=
  if H key = 0 then 1 else H key

namespace RHH

/-- index.alloc (keeps `n`). -/
def alloc (t : RHH) (capacity : Nat) : RHH :=
  { t with elems := List.replicate capacity Elem.none,
           threshold := capacity * defaultLoadFactor / 100,
           mask := capacity - 1 }

def new : RHH := alloc ⟨[], 0, 0, 0⟩ 256

/-- index.dist. -/
def dist (t : RHH) (hash i : Nat) : Nat :=
  (i + t.elems.length - (hash &&& t.mask)) &&& t.mask

def get (t : RHH) (pos : Nat) : Except String Elem :=
  match t.elems[pos]? with
  | some e => .ok e
  | none => .error "panic:elems-index"

/-- The loop of index.idByKey; `fuel` bounds the iterations (running out = the Go loop never ends). -/
def lookupLoop (keyAt : KeyAt) (t : RHH) (key : Bytes) (hash : Nat) :
    Nat → Nat → Nat → Except String (Option Nat)
  | 0, _, _ => .error "hang:idByKey"
  | fuel + 1, pos, d => do
    let e ← t.get pos
    if e.hash = 0 then return none
    else if d > t.dist e.hash pos then return none
    else if e.hash = hash then
      let k ← keyAt e.offset
      if k = key then return some e.id
      else lookupLoop keyAt t key hash fuel ((pos + 1) &&& t.mask) (d + 1)
    else lookupLoop keyAt t key hash fuel ((pos + 1) &&& t.mask) (d + 1)

/-- index.idByKey. -/
def idByKey (H : Bytes → Nat) (keyAt : KeyAt) (t : RHH) (key : Bytes) : Except String (Option Nat) :=
  let hash := hashKey H key
  lookupLoop keyAt t key hash (t.elems.length + 1) (hash &&& t.mask) 0

/-- The loop of index.insertIDbyOffset.  `key` stays the key of the element being inserted even
after a swap (as in the code: `key` is computed once, before the loop). -/
def insertLoop (keyAt : KeyAt) (key : Bytes) :
    Nat → RHH → (hash offset id pos d : Nat) → Except String (RHH × Bool)
  | 0, _, _, _, _, _, _ => .error "hang:insertIDbyOffset"
  | fuel + 1, t, hash, offset, id, pos, d => do
    let e ← t.get pos
    if e.hash = 0 then
      return ({ t with elems := t.elems.set pos ⟨offset, id, hash⟩ }, false)
    let k ← keyAt e.offset
    if k = key then
      return ({ t with elems := t.elems.set pos ⟨offset, id, hash⟩ }, true)
    let d' := t.dist e.hash pos
    if d' < d then
      insertLoop keyAt key fuel { t with elems := t.elems.set pos ⟨offset, id, hash⟩ }
        e.hash e.offset e.id ((pos + 1) &&& t.mask) (d' + 1)
    else
      insertLoop keyAt key fuel t hash offset id ((pos + 1) &&& t.mask) (d + 1)

/-- index.insertIDbyOffset. -/
def insertIDbyOffset (H : Bytes → Nat) (keyAt : KeyAt) (t : RHH) (offset id : Nat) :
    Except String (RHH × Bool) := do
  let key ← keyAt offset
  let hash := hashKey H key
  insertLoop keyAt key (t.elems.length + 1) t hash offset id (hash &&& t.mask) 0

/-- The re-insertion loop of index.insert after `alloc`. -/
def reinsert (H : Bytes → Nat) (keyAt : KeyAt) : List Elem → RHH → Except String RHH
  | [], t => .ok t
  | e :: es, t =>
    if e.hash = 0 then reinsert H keyAt es t
    else do
      let (t', _) ← insertIDbyOffset H keyAt t e.offset e.id
      reinsert H keyAt es t'

/-- The growth step of index.insert: when the element count (already incremented) exceeds the
threshold, allocate twice the capacity and re-insert every element. -/
def grow (H : Bytes → Nat) (keyAt : KeyAt) (t : RHH) : Except String RHH :=
  if t.n > t.threshold then reinsert H keyAt t.elems (t.alloc (t.elems.length * 2)) else .ok t

/-- The table part of index.insert. -/
def insert (H : Bytes → Nat) (keyAt : KeyAt) (t : RHH) (offset id : Nat) : Except String RHH := do
  let t2 ← grow H keyAt { t with n := t.n + 1 }
  let r ← insertIDbyOffset H keyAt t2 offset id
  return if r.2 then { r.1 with n := r.1.n - 1 } else r.1

end RHH

/-- The table of the code, for a hash function `H`. -/
def rhh (H : Bytes → Nat) : TableImpl where
  τ := RHH
  empty := RHH.new
  insert := RHH.insert H
  lookup := RHH.idByKey H

/-! ### index = table + reverse map + sequence -/

structure Index (τ : Type) where
  seq : Nat
  tbl : τ
  /-- Go map id → offset, as an association list (newest first). -/
  offsetsByID : List (Nat × Nat)

def newIndex (T : TableImpl) : Index T.τ := ⟨0, T.empty, []⟩

/-- index.insert. -/
def Index.insert (T : TableImpl) (keyAt : KeyAt) (ix : Index T.τ) (id offset : Nat) :
    Except String (Index T.τ) := do
  let tbl ← T.insert keyAt ix.tbl offset id
  return { ix with tbl := tbl, offsetsByID := (id, offset) :: ix.offsetsByID }

/-- index.keyByID. -/
def Index.keyByID {τ : Type} (keyAt : KeyAt) (ix : Index τ) (id : Nat) : Except String (Option Bytes) :=
  match ix.offsetsByID.lookup id with
  | none => .ok none
  | some off => do let k ← keyAt off; return some k

/-! ### the store -/

inductive NsKey where
  | col (index : Bytes)
  | row (index field : Bytes)
deriving Repr, DecidableEq, Inhabited

structure Store (τ : Type) where
  /-- contents of the data file (written through `bufio.Writer` + `Flush` on every append). -/
  data : Bytes
  /-- `s.n`. -/
  n : Nat
  /-- `s.cols` and `s.rows`. -/
  nss : List (NsKey × Index τ)
  /-- `PrimaryTranslateStore != nil`. -/
  readOnly : Bool

def Store.empty (τ : Type) (ro : Bool) : Store τ := ⟨[], 0, [], ro⟩

def getNs {τ : Type} (nss : List (NsKey × Index τ)) (k : NsKey) : Option (Index τ) :=
  match nss with
  | [] => none
  | (k', ix) :: rest => if k' = k then some ix else getNs rest k

def setNs {τ : Type} (nss : List (NsKey × Index τ)) (k : NsKey) (ix : Index τ) :
    List (NsKey × Index τ) :=
  match nss with
  | [] => [(k, ix)]
  | (k', ix') :: rest => if k' = k then (k, ix) :: rest else (k', ix') :: setNs rest k ix

def LogEntryTypeInsertColumn : Nat := 1
def LogEntryTypeInsertRow : Nat := 2

def nsOfEntry (e : Entry) : Except String NsKey :=
  if e.typ = LogEntryTypeInsertColumn then .ok (.col e.index)
  else if e.typ = LogEntryTypeInsertRow then .ok (.row e.index e.field)
  else .error "err:unknown-entry-type"

/-- The pair loop of applyEntry. -/
def applyPairs (T : TableImpl) (keyAt : KeyAt) :
    Index T.τ → List (Nat × Bytes) → Nat → Except String (Index T.τ)
  | ix, [], _ => .ok ix
  | ix, (id, key) :: ps, offset => do
    let sz := uvarintSize id
    let ix1 ← ix.insert T keyAt id (offset + sz)
    let ix2 := if id > ix1.seq then { ix1 with seq := id } else ix1
    applyPairs T keyAt ix2 ps (offset + (sz + uvarintSize key.length + key.length))

/-- TranslateFile.applyEntry (`len` = entry.Length; `data` = the mapped file the index reads keys from). -/
def applyEntry (T : TableImpl) (data : Bytes) (nss : List (NsKey × Index T.τ)) (e : Entry)
    (len offset : Nat) : Except String (List (NsKey × Index T.τ)) := do
  let k ← nsOfEntry e
  let ix := (getNs nss k).getD (newIndex T)
  let ix' ← applyPairs T (lookupKey data) ix e.pairs (offset + headerSize e len)
  return setNs nss k ix'

/-- TranslateFile.appendEntry. -/
def appendEntry (T : TableImpl) (s : Store T.τ) (e : Entry) : Except String (Store T.τ) := do
  let offset := s.n
  let bytes := encodeEntry e
  let data := s.data ++ bytes
  let nss ← applyEntry T data s.nss e (encodeBody e).length offset
  return { s with data := data, n := s.n + bytes.length, nss := nss }

/-- The loop of TranslateFile.replayEntries over the unread rest `r` of the mapped file. -/
def replayLoop (T : TableImpl) (data : Bytes) :
    Nat → Bytes → Nat → List (NsKey × Index T.τ) → Except String (Nat × List (NsKey × Index T.τ))
  | 0, _, _, _ => .error "hang:replayEntries"
  | fuel + 1, r, n, nss =>
    if r = [] then .ok (n, nss)       -- io.EOF on the first byte of the length
    else
      match decodeEntry r with
      | none => .error "err:replay-decode"
      | some (e, len, r') => do
        let nss' ← applyEntry T data nss e len n
        replayLoop T data fuel r' (n + (uvarintSize len + len)) nss'

/-- Open (replayEntries) of a store whose file holds `data`. -/
def replay (T : TableImpl) (data : Bytes) (ro : Bool) : Except String (Store T.τ) := do
  let (n, nss) ← replayLoop T data (data.length + 1) data 0 []
  return ⟨data, n, nss, ro⟩

/-! ### translation calls: two phases -/

/-- `idx.idByKey` for each value; a miss contributes 0 and sets `writeRequired`. -/
def lookupAll (T : TableImpl) (keyAt : KeyAt) (ix : Index T.τ) :
    List Bytes → Except String (List Nat × Bool)
  | [] => .ok ([], false)
  | k :: ks => do
    let r ← T.lookup keyAt ix.tbl k
    let (ids, need) ← lookupAll T keyAt ix ks
    return match r with
      | some id => (id :: ids, need)
      | none => (0 :: ids, true)

/-- The read-locked half: `(ret, done)`; `done` = every value found (the call returns). -/
def phase1 (T : TableImpl) (s : Store T.τ) (ns : NsKey) (keys : List Bytes) :
    Except String (List Nat × Bool) :=
  match getNs s.nss ns with
  | none => .ok (keys.map (fun _ => 0), false)
  | some ix => do
    let (ret, need) ← lookupAll T (lookupKey s.data) ix keys
    return (ret, !need)

/-- The recheck loop under the write lock: only slots still 0 are looked up again. -/
def recheck (T : TableImpl) (keyAt : KeyAt) (ix : Index T.τ) :
    List Bytes → List Nat → Except String (List Nat × Bool)
  | k :: ks, r :: rs => do
    let (ids, need) ← recheck T keyAt ix ks rs
    if r ≠ 0 then return (r :: ids, need)
    else
      match ← T.lookup keyAt ix.tbl k with
      | some id => return (id :: ids, need)
      | none => return (0 :: ids, true)
  | _, _ => .ok ([], false)

/-- The allocation loop with the `check` map: `(ret, new pairs, seq)`. -/
def allocate : List Bytes → List Nat → List (Bytes × Nat) → Nat →
    List Nat × List (Nat × Bytes) × Nat
  | k :: ks, r :: rs, check, seq =>
    if r ≠ 0 then
      let res := allocate ks rs check seq
      (r :: res.1, res.2.1, res.2.2)
    else
      match check.lookup k with
      | some v =>
        let res := allocate ks rs check seq
        (v :: res.1, (v, k) :: res.2.1, res.2.2)
      | none =>
        let v := seq + 1
        let res := allocate ks rs ((k, v) :: check) v
        (v :: res.1, (v, k) :: res.2.1, res.2.2)
  | _, _, _, seq => ([], [], seq)

def entryFor (ns : NsKey) (ps : List (Nat × Bytes)) : Entry :=
  match ns with
  | .col index => ⟨LogEntryTypeInsertColumn, index, [], ps⟩
  | .row index field => ⟨LogEntryTypeInsertRow, index, field, ps⟩

/-- The recheck under the write lock (no index yet: everything is still missing). -/
def recheckNs (T : TableImpl) (s : Store T.τ) (ns : NsKey) (keys : List Bytes) (ret : List Nat) :
    Except String (List Nat × Bool) :=
  match getNs s.nss ns with
  | none => .ok (ret, true)
  | some ix => recheck T (lookupKey s.data) ix keys ret

/-- The write-locked half, entered with the `ret` left by phase 1. -/
def phase2 (T : TableImpl) (s : Store T.τ) (ns : NsKey) (keys : List Bytes) (ret : List Nat) :
    Except String (Store T.τ × List Nat) := do
  let rc ← recheckNs T s ns keys ret
  if !rc.2 then return (s, rc.1)
  -- create the index if missing, allocate, append
  let ix := (getNs s.nss ns).getD (newIndex T)
  let al := allocate keys rc.1 [] ix.seq
  let s1 := { s with nss := setNs s.nss ns { ix with seq := al.2.2 } }
  let s2 ← appendEntry T s1 (entryFor ns al.2.1)
  return (s2, al.1)

/-- A whole call with nobody in between (phase 1, read-only check, phase 2). -/
def translate (T : TableImpl) (s : Store T.τ) (ns : NsKey) (keys : List Bytes) :
    Except String (Store T.τ × List Nat × Bool) := do
  let (ret, done) ← phase1 T s ns keys
  if done then return (s, ret, true)
  if s.readOnly then return (s, ret, false)    -- ErrTranslateStoreReadOnly, partial `ret`
  let (s', ret') ← phase2 T s ns keys ret
  return (s', ret', true)

/-- TranslateColumnToString / TranslateRowToString (a missing id gives the empty string). -/
def keyOf {τ : Type} (s : Store τ) (ns : NsKey) (id : Nat) : Except String Bytes :=
  match getNs s.nss ns with
  | none => .ok []
  | some ix => do
    match ← ix.keyByID (lookupKey s.data) id with
    | some k => return k
    | none => return []

/-! ### concurrent callers: any interleaving is a sequence of phases

Every caller holds `s.mu` (read or write) for the whole of a phase, so an execution with any
number of concurrent callers is a sequence of atomic phases: a caller *starts* (phase 1 under the
read lock; it returns at once when everything was found or the store is read-only) and later
*finishes* (phase 2 under the write lock), with arbitrary phases of other callers in between. -/

structure Pending where
  ns : NsKey
  keys : List Bytes
  ret : List Nat

/-- a returned call: the ids it reported; `ok = false` is ErrTranslateStoreReadOnly -/
structure Done where
  ns : NsKey
  keys : List Bytes
  ids : List Nat
  ok : Bool

structure Sys (τ : Type) where
  store : Store τ
  pending : List Pending
  done : List Done

inductive Step where
  | start (ns : NsKey) (keys : List Bytes)
  | finish (i : Nat)           -- the i-th caller waiting for the write lock gets it

def Sys.step (T : TableImpl) (y : Sys T.τ) : Step → Except String (Sys T.τ)
  | .start ns keys => do
    let (ret, dn) ← phase1 T y.store ns keys
    if dn then return { y with done := y.done ++ [⟨ns, keys, ret, true⟩] }
    else if y.store.readOnly then return { y with done := y.done ++ [⟨ns, keys, ret, false⟩] }
    else return { y with pending := y.pending ++ [⟨ns, keys, ret⟩] }
  | .finish i =>
    match y.pending[i]? with
    | none => .ok y
    | some p => do
      let (s', ids) ← phase2 T y.store p.ns p.keys p.ret
      return { store := s', pending := y.pending.eraseIdx i, done := y.done ++ [⟨p.ns, p.keys, ids, true⟩] }

def Sys.run (T : TableImpl) (y : Sys T.τ) : List Step → Except String (Sys T.τ)
  | [] => .ok y
  | st :: rest => do
    let y' ← y.step T st
    Sys.run T y' rest

/-- idByKey on a namespace of a store (no index = not found). -/
def lookupId (T : TableImpl) (s : Store T.τ) (ns : NsKey) (key : Bytes) : Except String (Option Nat) :=
  match getNs s.nss ns with
  | none => .ok none
  | some ix => T.lookup (lookupKey s.data) ix.tbl key

/-! ### streaming the log to a replica -/

/-- translateFileReader.read, called with buffers of the given sizes until `limit` bytes of the
primary's file have been handed out: the chunks a consumer sees.  A zero-sized buffer yields an
empty chunk. -/
def readerChunks (data : Bytes) (limit : Nat) : Nat → List Nat → List Bytes
  | _, [] => []
  | off, sz :: szs =>
    let top := min limit data.length
    if off ≥ top then []
    else
      let n := min sz (top - off)
      ((data.drop off).take n) :: readerChunks data limit (off + n) szs

/-- TranslateFile.replicate over the bytes that arrive (bufio glues the chunks together):
decode one entry, append it locally, repeat; stop at the first read error / EOF. -/
def replicateLoop (T : TableImpl) : Nat → Store T.τ → Bytes → Except String (Store T.τ)
  | 0, _, _ => .error "hang:replicate"
  | fuel + 1, s, r =>
    match decodeEntry r with
    | none => .ok s
    | some (e, _, r') => do
      let s' ← appendEntry T s e
      replicateLoop T fuel s' r'

def replicate (T : TableImpl) (s : Store T.τ) (chunks : List Bytes) : Except String (Store T.τ) :=
  let stream := chunks.flatten
  replicateLoop T (stream.length + 1) s stream

end PV.C24
