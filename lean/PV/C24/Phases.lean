/-
C24: translation calls.  Both lookup loops (phase 1 under the read lock, the recheck of phase 2
under the write lock) compute the same list, complete for the namespace's pairs (`LookedUp`); the
allocation loop turns it into a batch of new pairs that keeps key ↔ id one-to-one.  `SysInv` is the
invariant of the system of interleaved phases.
-/
import PV.C24.Store
namespace PV.C24
open List

theorem forall_zip_cons {α β : Type} {P : α × β → Prop} {a : α} {b : β} {as : List α} {bs : List β} :
    (∀ x ∈ (a :: as).zip (b :: bs), P x) ↔ P (a, b) ∧ ∀ x ∈ as.zip bs, P x := by
  rw [zip_cons_cons]
  exact forall_mem_cons

/-- every namespace of the log is one-to-one -/
def LogOKAll (es : List Entry) : Prop := ∀ ns, LogFun (Spec.pairsOf es ns)

/-- what a pending caller carries from phase 1: non-zero slots are right -/
def RetOK (ps : List (Nat × Bytes)) (keys : List Bytes) (ret : List Nat) : Prop :=
  ret.length = keys.length ∧ ∀ kr ∈ keys.zip ret, kr.2 ≠ 0 → lastId ps kr.1 = some kr.2

/-- what a returned call reports: for every key a positive id that the namespace maps to it -/
def ResOK (ps : List (Nat × Bytes)) (keys : List Bytes) (ids : List Nat) : Prop :=
  ids.length = keys.length ∧ ∀ kr ∈ keys.zip ids, 1 ≤ kr.2 ∧ (kr.2, kr.1) ∈ ps

/-- what a lookup loop leaves: non-zero slots are the ids of their keys, zero slots are keys the
namespace does not have -/
def LookedUp (ps : List (Nat × Bytes)) (keys : List Bytes) (ret : List Nat) : Prop :=
  ret.length = keys.length ∧ ∀ kr ∈ keys.zip ret,
    (kr.2 ≠ 0 → lastId ps kr.1 = some kr.2) ∧ (kr.2 = 0 → lastId ps kr.1 = none)

section
variable {ps : List (Nat × Bytes)} {keys : List Bytes} {ret : List Nat}

theorem LookedUp.tail {k : Bytes} {r : Nat}
    (h : LookedUp ps (k :: keys) (r :: ret)) : LookedUp ps keys ret :=
  ⟨Nat.succ.inj h.1, (forall_zip_cons.mp h.2).2⟩

theorem LookedUp.retOK (h : LookedUp ps keys ret) :
    RetOK ps keys ret :=
  ⟨h.1, fun kr hkr => (h.2 kr hkr).1⟩

theorem LookedUp.resOK (h : LookedUp ps keys ret)
    (hf : LogFun ps) (hnz : ∀ r ∈ ret, r ≠ 0) : ResOK ps keys ret := by
  refine ⟨h.1, fun kr hkr => ?_⟩
  have hm := lastId_mem ps kr.1 kr.2 ((h.2 kr hkr).1 (hnz _ (of_mem_zip hkr).2))
  exact ⟨(hf _ hm).1, hm⟩

theorem LookedUp.lookups (hf : LogFun ps) (keys : List Bytes) :
    LookedUp ps keys (keys.map fun k => (lastId ps k).getD 0) := by
  induction keys with
  | nil => exact ⟨rfl, fun _ h => nomatch h⟩
  | cons k ks ih =>
    refine ⟨congrArg (· + 1) ih.1, forall_zip_cons.mpr ⟨?_, ih.2⟩⟩
    show ((lastId ps k).getD 0 ≠ 0 → lastId ps k = some ((lastId ps k).getD 0)) ∧
      ((lastId ps k).getD 0 = 0 → lastId ps k = none)
    cases hl : lastId ps k with
    | none => exact ⟨fun h0 => absurd rfl h0, fun _ => rfl⟩
    | some v => exact ⟨fun _ => rfl, fun h0 => absurd h0 (Nat.pos_iff_ne_zero.mp (hf _ (lastId_mem ps k v hl)).1)⟩

theorem lookups_nonzero (hf : LogFun ps)
    (h : keys.any (fun k => (lastId ps k).isNone) = false) :
    ∀ r ∈ keys.map (fun k => (lastId ps k).getD 0), r ≠ 0 := by
  intro r hr
  obtain ⟨k, hk, rfl⟩ := mem_map.mp hr
  have hk' := any_eq_false.mp h k hk
  cases hl : lastId ps k with
  | none => rw [hl] at hk'; exact absurd rfl hk'
  | some v => exact Nat.pos_iff_ne_zero.mp (hf _ (lastId_mem ps k v hl)).1

theorem RetOK.mono {ps' : List (Nat × Bytes)}
    (h : RetOK ps keys ret) (hsub : ∀ p ∈ ps, p ∈ ps') (hf : LogFun ps') : RetOK ps' keys ret :=
  ⟨h.1, fun kr hkr hne => hf.lastId (hsub _ (lastId_mem ps kr.1 kr.2 (h.2 kr hkr hne)))⟩

theorem ResOK.mono {ps' : List (Nat × Bytes)} {ids : List Nat}
    (h : ResOK ps keys ids) (hsub : ∀ p ∈ ps, p ∈ ps') : ResOK ps' keys ids :=
  ⟨h.1, fun kr hkr => ⟨(h.2 kr hkr).1, hsub _ (h.2 kr hkr).2⟩⟩

end

variable {T : TableImpl} {L : TableLaws T}

theorem lookupAll_ok {ka : KeyAt} {ix : Index T.τ} {ps : List (Nat × Bytes)} (h : IndexOK T L ka ix ps)
    (keys : List Bytes) :
    lookupAll T ka ix keys = .ok (keys.map (fun k => (lastId ps k).getD 0),
      keys.any (fun k => (lastId ps k).isNone)) := by
  induction keys with
  | nil => rfl
  | cons k ks ih =>
    simp only [lookupAll, h.fwd k, ebind_ok, ih, epure, map_cons, any_cons]
    cases lastId ps k <;> rfl

/-- the slots a pending caller found earlier are still what a lookup gives now -/
theorem recheck_ok {ka : KeyAt} {ix : Index T.τ} {ps : List (Nat × Bytes)} (h : IndexOK T L ka ix ps) :
    ∀ (keys : List Bytes) (ret : List Nat), RetOK ps keys ret →
    recheck T ka ix keys ret = .ok (keys.map (fun k => (lastId ps k).getD 0),
      keys.any (fun k => (lastId ps k).isNone)) := by
  intro keys
  induction keys with
  | nil => intro ret _; cases ret <;> rfl
  | cons k ks ih =>
    intro ret hret
    cases ret with
    | nil => exact nomatch hret.1
    | cons r rs =>
      simp only [recheck, ih rs ⟨Nat.succ.inj hret.1, (forall_zip_cons.mp hret.2).2⟩, ebind_ok, map_cons,
        any_cons]
      by_cases hr : r ≠ 0
      · rw [if_pos hr, (forall_zip_cons.mp hret.2).1 hr]
        rfl
      · rw [if_neg hr, h.fwd k, ebind_ok]
        cases lastId ps k <;> rfl

theorem allocate_nz (k : Bytes) (ks : List Bytes) (r : Nat) (rs : List Nat) (check : List (Bytes × Nat)) (seq : Nat)
    (h : r ≠ 0) : allocate (k :: ks) (r :: rs) check seq =
      (r :: (allocate ks rs check seq).1, (allocate ks rs check seq).2.1, (allocate ks rs check seq).2.2) := by
  rw [allocate]; simp [h]

theorem allocate_hit (k : Bytes) (ks : List Bytes) (rs : List Nat) (check : List (Bytes × Nat)) (seq v : Nat)
    (h : check.lookup k = some v) : allocate (k :: ks) (0 :: rs) check seq =
      (v :: (allocate ks rs check seq).1, (v, k) :: (allocate ks rs check seq).2.1, (allocate ks rs check seq).2.2) := by
  rw [allocate]; simp [h]

theorem allocate_miss (k : Bytes) (ks : List Bytes) (rs : List Nat) (check : List (Bytes × Nat)) (seq : Nat)
    (h : check.lookup k = none) : allocate (k :: ks) (0 :: rs) check seq =
      ((seq + 1) :: (allocate ks rs ((k, seq + 1) :: check) (seq + 1)).1,
       (seq + 1, k) :: (allocate ks rs ((k, seq + 1) :: check) (seq + 1)).2.1,
       (allocate ks rs ((k, seq + 1) :: check) (seq + 1)).2.2) := by
  rw [allocate]; simp [h]

/-- What the allocation loop returns (`res` = ids, new pairs, sequence) when it runs over `keys`
with `qs` being the namespace's pairs followed by the pairs decided so far in this batch. -/
structure AllocOK (qs : List (Nat × Bytes)) (keys : List Bytes) (seq : Nat)
    (res : List Nat × List (Nat × Bytes) × Nat) : Prop where
  length : res.1.length = keys.length
  oneToOne : LogFun (qs ++ res.2.1)
  seq_eq : res.2.2 = max seq (maxId res.2.1)
  logged : ∀ kr ∈ keys.zip res.1, (kr.2, kr.1) ∈ qs ++ res.2.1
  keys_sub : ∀ p ∈ res.2.1, p.2 ∈ keys

theorem AllocOK.keep {qs : List (Nat × Bytes)} {ks : List Bytes} {seq : Nat}
    {res : List Nat × List (Nat × Bytes) × Nat} (h : AllocOK qs ks seq res) {r : Nat} {k : Bytes}
    (hm : (r, k) ∈ qs) : AllocOK qs (k :: ks) seq (r :: res.1, res.2.1, res.2.2) where
  length := congrArg (· + 1) h.length
  oneToOne := h.oneToOne
  seq_eq := h.seq_eq
  logged := forall_zip_cons.mpr ⟨mem_append_left _ hm, h.logged⟩
  keys_sub := fun p hp => mem_cons_of_mem _ (h.keys_sub p hp)

/-- a key for which the pair `(v, k)` is logged: the rest of the loop ran with it appended to `qs` -/
theorem AllocOK.emit {qs : List (Nat × Bytes)} {ks : List Bytes} {seq seq0 v : Nat} {k : Bytes}
    {res : List Nat × List (Nat × Bytes) × Nat} (h : AllocOK (qs ++ [(v, k)]) ks seq0 res)
    (hs : seq0 = max seq v) : AllocOK qs (k :: ks) seq (v :: res.1, (v, k) :: res.2.1, res.2.2) := by
  have hone := h.oneToOne
  have hlog := h.logged
  rw [append_assoc, singleton_append] at hone hlog
  exact {
    length := congrArg (· + 1) h.length
    oneToOne := hone
    seq_eq := by rw [h.seq_eq, hs]; show _ = max seq (maxId (_ :: _)); rw [maxId_cons, Nat.max_assoc]
    logged := forall_zip_cons.mpr ⟨mem_append_right _ mem_cons_self, hlog⟩
    keys_sub := forall_mem_cons.mpr ⟨mem_cons_self, fun p hp => mem_cons_of_mem _ (h.keys_sub p hp)⟩ }

/-- `hc`: the `check` map answers like `qs` on the keys that `ps` does not have -/
theorem allocate_ok (ps : List (Nat × Bytes)) : ∀ (keys : List Bytes) (ret : List Nat)
    (check : List (Bytes × Nat)) (seq : Nat) (qs : List (Nat × Bytes)),
    LookedUp ps keys ret → (∀ p ∈ ps, p ∈ qs) → LogFun qs → maxId qs ≤ seq →
    (∀ k, lastId ps k = none → check.lookup k = lastId qs k) →
    AllocOK qs keys seq (allocate keys ret check seq) := by
  intro keys
  induction keys with
  | nil =>
    intro ret check seq qs _ _ hf _ _
    refine ⟨rfl, ?_, (Nat.max_zero _).symm, fun _ h => (nomatch h), fun _ h => (nomatch h)⟩
    show LogFun (qs ++ [])
    rwa [append_nil]
  | cons k ks ih =>
    intro ret check seq qs hr hsub hf hm hc
    cases ret with
    | nil => exact nomatch hr.1
    | cons r rs =>
      have hkr := (forall_zip_cons.mp hr.2).1
      by_cases hr0 : r ≠ 0
      · rw [allocate_nz _ _ _ _ _ _ hr0]
        exact (ih rs check seq qs hr.tail hsub hf hm hc).keep (hsub _ (lastId_mem ps k r (hkr.1 hr0)))
      · obtain rfl : r = 0 := Decidable.of_not_not hr0
        have hlk := hc k (hkr.2 rfl)
        cases hq : lastId qs k with
        | some v =>
          -- `check` has the key: the id decided earlier in this batch
          rw [hq] at hlk
          have hmem := lastId_mem qs k v hq
          have hv : v ≤ seq := Nat.le_trans (maxId_ge qs (v, k) hmem) hm
          rw [allocate_hit _ _ _ _ _ _ hlk]
          refine (ih rs check seq (qs ++ [(v, k)]) hr.tail (fun p hp => mem_append_left _ (hsub p hp))
            (hf.snoc_dup hmem) (by rw [maxId_snoc]; exact Nat.max_le.mpr ⟨hm, hv⟩) fun k' hk' => ?_).emit
            (Nat.max_eq_left hv).symm
          rw [lastId_snoc, hc k' hk']
          by_cases hkk : k = k'
          · rw [if_pos hkk, ← hkk, hq]
          · rw [if_neg hkk]
        | none =>
          -- a fresh key: the next id
          rw [hq] at hlk
          rw [allocate_miss _ _ _ _ _ hlk]
          refine (ih rs ((k, seq + 1) :: check) (seq + 1) (qs ++ [(seq + 1, k)]) hr.tail
            (fun p hp => mem_append_left _ (hsub p hp))
            (hf.snoc_fresh (seq + 1) k (Nat.succ_pos seq) ((lastId_none_iff qs k).mp hq)
              (fun q hq' => Nat.ne_of_lt (Nat.lt_succ_of_le (Nat.le_trans (maxId_ge qs q hq') hm))))
            (by rw [maxId_snoc]; exact Nat.max_le.mpr ⟨Nat.le_succ_of_le hm, Nat.le_refl _⟩) fun k' hk' => ?_).emit
            (Nat.max_eq_right (Nat.le_succ seq)).symm
          rw [lastId_snoc, lookup_cons, hc k' hk']
          by_cases hkk : k = k'
          · rw [if_pos hkk, hkk, beq_self_eq_true]
          · rw [if_neg hkk, beq_false_of_ne (Ne.symm hkk)]

theorem phase1_ok {s : Store T.τ} {es : List Entry}
    (h : Good T L s es) (ns : NsKey) (hf : LogFun (Spec.pairsOf es ns)) (keys : List Bytes) :
    ∃ ret dn, phase1 T s ns keys = .ok (ret, dn) ∧ LookedUp (Spec.pairsOf es ns) keys ret ∧
      (dn = true → ∀ r ∈ ret, r ≠ 0) := by
  unfold phase1
  cases hget : getNs s.nss ns with
  | none =>
    rw [pairsOf_nil_of_not_hasNs es ns (h.nss.none ns hget)]
    exact ⟨_, false, rfl, .lookups (show LogFun [] from fun _ hp => nomatch hp) keys, fun hdn => nomatch hdn⟩
  | some ix =>
    simp only [lookupAll_ok (h.nss.some ns ix hget).2.1 keys, ebind_ok, epure]
    exact ⟨_, _, rfl, .lookups hf keys, fun hdn => lookups_nonzero hf (by rw [← Bool.not_eq_true']; exact hdn)⟩

theorem nsOf_entryFor (ns : NsKey) (ps : List (Nat × Bytes)) :
    nsOfEntry (entryFor ns ps) = .ok ns ∧ Spec.nsOf (entryFor ns ps) = some ns ∧
      (entryFor ns ps).pairs = ps ∧ ((entryFor ns ps).typ = 1 ∨ (entryFor ns ps).typ = 2) := by
  cases ns <;> simp [entryFor, nsOfEntry, Spec.nsOf, LogEntryTypeInsertColumn, LogEntryTypeInsertRow]

theorem phase2_ok {s : Store T.τ} {es : List Entry}
    (h : Good T L s es) (hlog : LogOKAll es) (ns : NsKey) (keys : List Bytes) (ret : List Nat)
    (hret : RetOK (Spec.pairsOf es ns) keys ret) (hfit : ∀ k ∈ keys, k.length < 2 ^ 64) :
    ∃ s' ids es', phase2 T s ns keys ret = .ok (s', ids) ∧ Good T L s' es' ∧ LogOKAll es' ∧
      (∀ ns', ∀ p ∈ Spec.pairsOf es ns', p ∈ Spec.pairsOf es' ns') ∧ ResOK (Spec.pairsOf es' ns) keys ids := by
  have hps := hlog ns
  -- the recheck leaves a full list
  obtain ⟨ret1, need, hrce, hfull, hnz⟩ : ∃ ret1 need, recheckNs T s ns keys ret = .ok (ret1, need) ∧
      LookedUp (Spec.pairsOf es ns) keys ret1 ∧ (need = false → ∀ r ∈ ret1, r ≠ 0) := by
    unfold recheckNs
    cases hget : getNs s.nss ns with
    | none =>
      refine ⟨ret, true, rfl, ⟨hret.1, fun kr hkr => ?_⟩, fun hn => nomatch hn⟩
      have hp := pairsOf_nil_of_not_hasNs es ns (h.nss.none ns hget)
      rw [hp] at hret ⊢
      exact ⟨hret.2 kr hkr, fun _ => rfl⟩
    | some ix =>
      exact ⟨_, _, recheck_ok (h.nss.some ns ix hget).2.1 keys ret hret, .lookups hps keys, lookups_nonzero hps⟩
  cases need with
  | false =>
    refine ⟨s, ret1, es, ?_, h, hlog, fun _ p hp => hp, hfull.resOK hps (hnz rfl)⟩
    unfold phase2
    simp only [hrce, ebind_ok, Bool.not_false, if_true, epure]
  | true =>
    -- the index the ids come from
    obtain ⟨_, hixs⟩ := h.nss.getD ns
    have hgx := h.nss.advance ns
    generalize hixe : (getNs s.nss ns).getD (newIndex T) = ix at hixs hgx
    have hok := allocate_ok (Spec.pairsOf es ns) keys ret1 [] ix.seq _ hfull
      (fun _ hp => hp) hps (Nat.le_of_eq hixs.symm) (fun k hk => hk ▸ rfl)
    rcases hal : allocate keys ret1 [] ix.seq with ⟨ids, new, seq'⟩
    rw [hal] at hok
    obtain ⟨e1, e2, e3, e4⟩ := nsOf_entryFor ns new
    have he : EntryOK (entryFor ns new) := ⟨by rw [e3]; exact fun p hp => hfit _ (hok.keys_sub p hp), e4⟩
    let s1 : Store T.τ := { s with nss := setNs s.nss ns { ix with seq := seq' } }
    obtain ⟨s2, hap, hg2, _⟩ := appendEntry_good_except (s := s1) (entryFor ns new) ns h.data h.n h.wf (hgx seq') he e1 e2 (by
      intro ix2 hget
      obtain rfl : { ix with seq := seq' } = ix2 := Option.some.inj ((getNs_setNs_same _ _ _).symm.trans hget)
      show max seq' (maxId (entryFor ns new).pairs) = _
      rw [e3, maxId_append, show seq' = max ix.seq (maxId new) from hok.seq_eq, hixs, Nat.max_assoc, Nat.max_self])
    have hpairs : ∀ ns', Spec.pairsOf (es ++ [entryFor ns new]) ns' =
        Spec.pairsOf es ns' ++ (if ns' = ns then new else []) := by
      intro ns'
      rw [pairsOf_snoc, e2, e3]
      by_cases hns : ns' = ns
      · rw [if_pos hns, if_pos (congrArg some hns.symm)]
      · rw [if_neg hns, if_neg fun e => hns (Option.some.inj e).symm]
    refine ⟨s2, ids, es ++ [entryFor ns new], ?_, hg2, ?_, ?_, ?_⟩
    · unfold phase2
      simp only [s1] at hap
      simp only [hrce, ebind_ok, Bool.not_true, hixe, hal]
      simp only [Bool.false_eq_true, if_false, hap, ebind_ok, epure]
    · intro ns'
      rw [hpairs]
      by_cases hns : ns' = ns
      · rw [if_pos hns, hns]; exact hok.oneToOne
      · rw [if_neg hns, append_nil]; exact hlog ns'
    · intro ns' p hp
      rw [hpairs]
      exact mem_append_left _ hp
    · rw [hpairs, if_pos rfl]
      exact ⟨hok.length, fun kr hkr => ⟨(hok.oneToOne _ (hok.logged kr hkr)).1, hok.logged kr hkr⟩⟩

def StepOK : Step → Prop
  | .start _ keys => ∀ k ∈ keys, k.length < 2 ^ 64
  | .finish _ => True

structure SysInv (T : TableImpl) (L : TableLaws T) (y : Sys T.τ) (es : List Entry) : Prop where
  good : Good T L y.store es
  log : LogOKAll es
  pend : ∀ p ∈ y.pending, RetOK (Spec.pairsOf es p.ns) p.keys p.ret ∧ ∀ k ∈ p.keys, k.length < 2 ^ 64
  done : ∀ d ∈ y.done, d.ok = true → ResOK (Spec.pairsOf es d.ns) d.keys d.ids

theorem step_inv {T : TableImpl} {L : TableLaws T} {y : Sys T.τ} {es : List Entry}
    (h : SysInv T L y es) (st : Step) (hst : StepOK st) :
    ∃ y' es', y.step T st = .ok y' ∧ SysInv T L y' es' ∧
      (∀ ns, ∀ p ∈ Spec.pairsOf es ns, p ∈ Spec.pairsOf es' ns) ∧
      (∃ l, y'.done = y.done ++ l) := by
  cases st with
  | start ns keys =>
    obtain ⟨ret, dn, hp1, hfull, hdn⟩ := phase1_ok h.good ns (h.log ns) keys
    simp only [Sys.step, hp1, ebind_ok]
    -- a call that returns at once adds a report
    have hdone : ∀ ok, (ok = true → ResOK (Spec.pairsOf es ns) keys ret) →
        SysInv T L { y with done := y.done ++ [⟨ns, keys, ret, ok⟩] } es := fun ok hres =>
      ⟨h.good, h.log, h.pend, fun d hd hok => (mem_append.mp hd).elim (fun hd => h.done d hd hok)
        fun hd => by rw [mem_singleton.mp hd] at hok ⊢; exact hres hok⟩
    cases dn with
    | true => exact ⟨_, es, rfl, hdone true fun _ => hfull.resOK (h.log ns) (hdn rfl), fun _ p hp => hp, ⟨_, rfl⟩⟩
    | false =>
      by_cases hro : y.store.readOnly = true
      · simp only [Bool.false_eq_true, if_false, hro, if_true]
        exact ⟨_, es, rfl, hdone false fun hok => (nomatch hok), fun _ p hp => hp, ⟨_, rfl⟩⟩
      · simp only [Bool.false_eq_true, if_false, hro]
        refine ⟨_, es, rfl, ⟨h.good, h.log, fun p hp => ?_, h.done⟩, fun _ p hp => hp, ⟨[], (append_nil _).symm⟩⟩
        rcases mem_append.mp hp with hp | hp
        · exact h.pend p hp
        · rw [mem_singleton.mp hp]
          exact ⟨hfull.retOK, hst⟩
  | finish i =>
    simp only [Sys.step]
    cases hi : y.pending[i]? with
    | none => exact ⟨y, es, rfl, h, fun _ p hp => hp, ⟨[], (append_nil _).symm⟩⟩
    | some p =>
      obtain ⟨hret, hfit⟩ := h.pend p (mem_of_getElem? hi)
      obtain ⟨s', ids, es', hp2, hg', hlog', hsub, hres⟩ :=
        phase2_ok h.good h.log p.ns p.keys p.ret hret hfit
      simp only [hp2, ebind_ok]
      refine ⟨_, es', rfl, ⟨hg', hlog', ?_, ?_⟩, hsub, ⟨_, rfl⟩⟩
      · intro q hq
        obtain ⟨a, b⟩ := h.pend q ((eraseIdx_sublist y.pending i).subset hq)
        exact ⟨a.mono (hsub q.ns) (hlog' q.ns), b⟩
      · intro d hd hok
        rcases mem_append.mp hd with hd | hd
        · exact (h.done d hd hok).mono (hsub d.ns)
        · rw [mem_singleton.mp hd]
          exact hres

theorem run_inv (steps : List Step) :
    ∀ (y : Sys T.τ) (es : List Entry), SysInv T L y es → (∀ st ∈ steps, StepOK st) →
    ∃ y' es', Sys.run T y steps = .ok y' ∧ SysInv T L y' es' ∧ ∃ l, y'.done = y.done ++ l := by
  induction steps with
  | nil => intro y es h _; exact ⟨y, es, rfl, h, [], (append_nil _).symm⟩
  | cons st steps ih =>
    intro y es h hok
    obtain ⟨y1, es1, e1, h1, _, l1, d1⟩ := step_inv h st (hok st mem_cons_self)
    obtain ⟨y2, es2, e2, h2, l2, d2⟩ := ih y1 es1 h1 (fun s hs => hok s (mem_cons_of_mem _ hs))
    refine ⟨y2, es2, ?_, h2, l1 ++ l2, by rw [d2, d1, append_assoc]⟩
    simp only [Sys.run, e1, ebind_ok]
    exact e2

theorem run_append (T : TableImpl) (a b : List Step) : ∀ (y : Sys T.τ),
    Sys.run T y (a ++ b) = (Sys.run T y a >>= fun y' => Sys.run T y' b) := by
  induction a with
  | nil => intro y; rfl
  | cons st a ih =>
    intro y
    simp only [cons_append, Sys.run]
    cases y.step T st with
    | error e => rfl
    | ok y1 => simp only [ebind_ok]; exact ih y1

def Sys.init (T : TableImpl) (ro : Bool) : Sys T.τ := ⟨Store.empty T.τ ro, [], []⟩

theorem SysInv.init (T : TableImpl) (L : TableLaws T) (ro : Bool) : SysInv T L (Sys.init T ro) [] where
  good := Good.empty T L ro
  log := fun _ _ hp => nomatch hp
  pend := fun _ hp => nomatch hp
  done := fun _ hd => nomatch hd

/-- What a finished run reports, checked against the final store. -/
def DoneAgrees (T : TableImpl) (y : Sys T.τ) (d : Done) : Prop :=
  d.ids.length = d.keys.length ∧
  ∀ kr ∈ d.keys.zip d.ids,
    1 ≤ kr.2 ∧ lookupId T y.store d.ns kr.1 = .ok (some kr.2) ∧ keyOf y.store d.ns kr.2 = .ok kr.1

end PV.C24
