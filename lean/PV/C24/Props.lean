/-
C24 property theorems: key translation is a stable bijection on every node.  The store-level
theorems are stated for any table implementation `T` with `L : TableLaws T`; `C24_rhh_refines`
proves these laws for the robin-hood table of the code, `C24_bijection_rhh` is the instance.
Core Lean only.
-/
import PV.C24.Phases
import PV.C24.Replica
import PV.C24.RefTable
import PV.C24.RobinHoodGrow
namespace PV.C24
open List

/-- WriteTo then ReadFrom gives the entry back, reports its Length and leaves the rest unread. -/
theorem C24_entry_roundtrip (e : Entry) (rest : Bytes) (h : e.WF) :
    decodeEntry (encodeEntry e ++ rest) = some (e, (encodeBody e).length, rest) :=
  decodeEntry_encode e rest h

example : (⟨1, [105], [], [(1, [107, 49]), (2, []), (300, [7, 7, 7])]⟩ : Entry).WF := by
  refine ⟨by decide, by decide, by decide, ?_, ?_⟩
  · intro p hp; simp at hp; rcases hp with rfl | rfl | rfl <;> simp <;> omega
  · have h300 : putUvarint 300 = [172, 2] := by
      rw [putUvarint]; simp; rw [putUvarint]; simp
    have h : ∀ x, x < 128 → putUvarint x = [x] := fun x hx => by rw [putUvarint]; simp [hx]
    simp [encodeBody, encodePairs, encodePair, h300, h]

/-- Any number of callers, any interleaving of their phases (`steps`), starting from an empty
store: nothing panics or hangs; every call that returned without error reported, for each key, a
positive id which is what the final store translates the key to and which translates back to the
key; and whatever was reported after a prefix of the steps is still in the final report list. -/
theorem C24_bijection (T : TableImpl) (L : TableLaws T) (ro : Bool) (steps : List Step)
    (hfit : ∀ st ∈ steps, StepOK st) :
    ∃ y es, Sys.run T (Sys.init T ro) steps = .ok y ∧ Good T L y.store es ∧
      (∀ d ∈ y.done, d.ok = true → DoneAgrees T y d) ∧
      (∀ a b, steps = a ++ b → ∃ ya l, Sys.run T (Sys.init T ro) a = .ok ya ∧ y.done = ya.done ++ l) := by
  obtain ⟨y, es, hrun, hinv, _⟩ := run_inv steps (Sys.init T ro) [] (SysInv.init T L ro) hfit
  refine ⟨y, es, hrun, hinv.good, ?_, ?_⟩
  · intro d hd hok
    obtain ⟨h1, h2⟩ := hinv.done d hd hok
    refine ⟨h1, fun kr hkr => ?_⟩
    obtain ⟨hpos, hmem⟩ := h2 kr hkr
    refine ⟨hpos, ?_, ?_⟩
    · rw [lookupId_good hinv.good, (hinv.log d.ns).lastId hmem]
    · rw [keyOf_good hinv.good, (hinv.log d.ns).lastKey hmem]; rfl
  · intro a b hab
    obtain ⟨ya, esa, hra, hia, _⟩ := run_inv a (Sys.init T ro) [] (SysInv.init T L ro)
      (fun st hs => hfit st (by rw [hab]; simp [hs]))
    obtain ⟨yb, _, hrb, _, l, hl⟩ := run_inv b ya esa hia (fun st hs => hfit st (by rw [hab]; simp [hs]))
    refine ⟨ya, l, hra, ?_⟩
    rw [hab, run_append, hra] at hrun
    simp only [ebind_ok] at hrun
    rw [hrb] at hrun
    simp only [Except.ok.injEq] at hrun
    rw [← hrun, hl]

/-- Distinct keys have distinct ids, and one key has one id — across all calls of a run. -/
theorem C24_injective (T : TableImpl) (y : Sys T.τ) (d d' : Done)
    (h : DoneAgrees T y d) (h' : DoneAgrees T y d') (hns : d.ns = d'.ns)
    (kr kr' : Bytes × Nat) (hk : kr ∈ d.keys.zip d.ids) (hk' : kr' ∈ d'.keys.zip d'.ids) :
    kr.1 = kr'.1 ↔ kr.2 = kr'.2 := by
  obtain ⟨_, a1, a2⟩ := h.2 kr hk
  obtain ⟨_, b1, b2⟩ := h'.2 kr' hk'
  rw [← hns] at b1 b2
  constructor
  · intro e; rw [e, b1] at a1; simpa using a1.symm
  · intro e; rw [e, b2] at a2; simpa using a2.symm

/-- two concurrent callers with overlapping batches, every interleaving shape is a `steps` list -/
example : ∀ st ∈ [Step.start (.col [105]) [[97], [98], [97]], .start (.col [105]) [[98], [99]],
    .finish 1, .finish 0, .start (.col [105]) [[97], [99]]], StepOK st := by
  intro st hs; simp at hs; rcases hs with rfl | rfl | rfl | rfl | rfl <;> simp [StepOK] <;> omega

/-- Restart: replaying the file of a store that agrees with its (encodable) log succeeds and
yields the same file, position, sequence numbers and answers. -/
theorem C24_restart (T : TableImpl) (L : TableLaws T) (s : Store T.τ) (es : List Entry)
    (h : Good T L s es) (henc : ∀ e ∈ es, e.WF) :
    ∃ s', replay T s.data s.readOnly = .ok s' ∧ Good T L s' es ∧
      s'.data = s.data ∧ s'.n = s.n ∧ s'.readOnly = s.readOnly ∧
      (∀ ns, seqOf s' ns = seqOf s ns) ∧
      (∀ ns key, lookupId T s' ns key = lookupId T s ns key) ∧
      (∀ ns id, keyOf s' ns id = keyOf s ns id) := by
  obtain ⟨s', hr, hg, hro⟩ := replay_good (T := T) (L := L) es s.readOnly h.wf henc
  rw [← h.data] at hr
  exact ⟨s', hr, hg, by rw [hg.data, h.data], by rw [hg.n, h.n, hg.data, h.data], hro, hg.same_answers h⟩

/-- every reachable store agrees with a log in which key ↔ id is one-to-one: the hypothesis of
`C24_restart` / `C24_replica` is met by every store the translation calls can produce -/
theorem C24_reachable_good (T : TableImpl) (L : TableLaws T) (ro : Bool) (steps : List Step)
    (hfit : ∀ st ∈ steps, StepOK st) :
    ∃ y es, Sys.run T (Sys.init T ro) steps = .ok y ∧ Good T L y.store es ∧ LogOKAll es := by
  obtain ⟨y, es, hrun, hinv, _⟩ := run_inv steps (Sys.init T ro) [] (SysInv.init T L ro) hfit
  exact ⟨y, es, hrun, hinv.good, hinv.log⟩

/-- Replication: the replica `r` holds the first `k` entries of the primary `p`; one replicate()
session reads the primary's file from the replica's size in reads of arbitrary sizes, possibly cut
anywhere (`limit`).  The replica never fails, ends on a prefix `j ≥ k` of the same log, and when
everything the primary has was delivered its file and every lookup equal the primary's. -/
theorem C24_replica (T : TableImpl) (L : TableLaws T) (p r : Store T.τ) (es : List Entry) (k : Nat)
    (hp : Good T L p es) (hr : Good T L r (es.take k)) (henc : ∀ e ∈ es, e.WF)
    (limit : Nat) (sizes : List Nat) :
    ∃ r' j, replicate T r (readerChunks p.data limit r.n sizes) = .ok r' ∧ k ≤ j ∧
      Good T L r' (es.take j) ∧ r'.readOnly = r.readOnly ∧
      ((readerChunks p.data limit r.n sizes).flatten = p.data.drop r.n →
        r'.data = p.data ∧ (∀ ns, seqOf r' ns = seqOf p ns) ∧
        (∀ ns key, lookupId T r' ns key = lookupId T p ns key) ∧
        (∀ ns id, keyOf r' ns id = keyOf p ns id)) := by
  obtain ⟨m, hm⟩ := readerChunks_flatten p.data limit sizes r.n
  have hsplit : p.data.drop r.n = Spec.fileOf (es.drop k) := by
    rw [hp.data, hr.n, hr.data]
    conv => lhs; arg 2; rw [← take_append_drop k es, fileOf_append]
    simp
  have hcat : (readerChunks p.data limit r.n sizes).flatten ++ (p.data.drop r.n).drop m = Spec.fileOf (es.drop k) := by
    rw [hm, take_append_drop, hsplit]
  obtain ⟨r', j, hrl, hg, hro, hall⟩ := replicateLoop_good (T := T) (L := L) (es.drop k) r (es.take k)
    _ _ ((readerChunks p.data limit r.n sizes).flatten.length + 1)
    (fun e he => hp.wf e (mem_of_mem_drop he)) (fun e he => henc e (mem_of_mem_drop he)) hr hcat (Nat.lt_succ_self _)
  have htake : es.take k ++ (es.drop k).take j = es.take (k + j) := by
    rw [take_add]
  rw [htake] at hg
  refine ⟨r', k + j, hrl, Nat.le_add_right k j, hg, hro, ?_⟩
  intro hfull
  have htail : (p.data.drop r.n).drop m = [] := by
    have := congrArg List.length hcat
    rw [hfull, ← hsplit] at this
    simp only [length_append] at this
    exact length_eq_zero_iff.mp (by omega)
  have hj' := hall htail
  have hes : es.take (k + j) = es := by
    apply take_of_length_le
    rw [hj']; simp; omega
  rw [hes] at hg
  exact ⟨by rw [hg.data, hp.data], hg.same_answers hp⟩

/-- with enough reads of at least one byte each and no cut, everything is delivered -/
theorem C24_reader_delivers_all (data : Bytes) (limit : Nat) (sizes : List Nat) : ∀ (off : Nat),
    data.length ≤ limit → (∀ sz ∈ sizes, 1 ≤ sz) → data.length - off ≤ sizes.length →
    (readerChunks data limit off sizes).flatten = data.drop off := by
  induction sizes with
  | nil =>
    intro off _ _ hlen
    simp only [length_nil, Nat.le_zero_eq] at hlen
    simp [readerChunks, drop_eq_nil_of_le (by omega : data.length ≤ off)]
  | cons sz sizes ih =>
    intro off hlim hpos hlen
    have hmin : min limit data.length = data.length := Nat.min_eq_right hlim
    simp only [readerChunks, hmin]
    by_cases h : off ≥ data.length
    · simp [h, drop_eq_nil_of_le h]
    · simp only [h, if_false, flatten_cons]
      -- at least one byte is handed out
      have hm : 1 ≤ min sz (data.length - off) :=
        Nat.le_min.mpr ⟨hpos sz mem_cons_self, Nat.sub_pos_of_lt (Nat.lt_of_not_ge h)⟩
      rw [length_cons] at hlen
      generalize min sz (data.length - off) = m at hm ⊢
      rw [ih (off + m) hlim (fun s hs => hpos s (mem_cons_of_mem _ hs)) (by clear hmin; omega), ← drop_drop,
        take_append_drop]

/-- The finite-map laws are satisfiable: a plain association-list table meets them, so the
hypothesis `L : TableLaws T` of the theorems above is not vacuous. -/
example : TableLaws refTable := refLaws

/-- The robin-hood table of translate.go (alloc, dist, idByKey with the distance cut-off,
insertIDbyOffset with swaps and the once-computed key, growth by doubling at 90 % load with
re-insertion, the n++ / n-- bookkeeping) satisfies the finite-map laws for ANY hash function `H`:
the empty table finds nothing; on a valid table lookups never fail (no panic, no endless loop);
`insert` of an offset whose key is `k` succeeds, keeps validity and changes lookups exactly like
a map update at `k`; and validity and lookups do not depend on the key file growing.
(`rhhLaws H` is that instance; its components are the statements.) -/
theorem C24_rhh_refines (H : Bytes → Nat) : Nonempty (TableLaws (rhh H)) := ⟨rhhLaws H⟩

/-- a hash function that sends every key to the same slot (all collisions) is covered too -/
example : Nonempty (TableLaws (rhh (fun _ => 7))) := C24_rhh_refines _

/-- `C24_bijection` for the table of the code, any hash function. -/
theorem C24_bijection_rhh (H : Bytes → Nat) (ro : Bool) (steps : List Step)
    (hfit : ∀ st ∈ steps, StepOK st) :
    ∃ y es, Sys.run (rhh H) (Sys.init (rhh H) ro) steps = .ok y ∧ Good (rhh H) (rhhLaws H) y.store es ∧
      (∀ d ∈ y.done, d.ok = true → DoneAgrees (rhh H) y d) ∧
      (∀ a b, steps = a ++ b → ∃ ya l, Sys.run (rhh H) (Sys.init (rhh H) ro) a = .ok ya ∧ y.done = ya.done ++ l) :=
  C24_bijection (rhh H) (rhhLaws H) ro steps hfit

end PV.C24
