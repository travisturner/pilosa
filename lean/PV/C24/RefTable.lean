/-
A reference table (association list, newest first) that satisfies `TableLaws`: shows the laws are
satisfiable and serves as the finite map the robin-hood table is compared with.  Core Lean only.
-/
import PV.C24.Table
namespace PV.C24
open List

abbrev RefT := List (Nat × Nat)

def refLookup (ka : KeyAt) : RefT → Bytes → Except String (Option Nat)
  | [], _ => .ok none
  | (off, id) :: rest, key => do
    let k ← ka off
    if k = key then return some id else refLookup ka rest key

def refInsert (ka : KeyAt) (t : RefT) (off id : Nat) : Except String RefT := do
  let _ ← ka off
  return (off, id) :: t

def refValid (ka : KeyAt) (t : RefT) : Prop := ∀ p ∈ t, ∃ k, ka p.1 = .ok k

theorem refLookup_ok (ka : KeyAt) (t : RefT) (k : Bytes) (hv : refValid ka t) :
    ∃ r, refLookup ka t k = .ok r := by
  induction t with
  | nil => exact ⟨none, rfl⟩
  | cons p t ih =>
    obtain ⟨off, id⟩ := p
    obtain ⟨k', hk'⟩ := hv (off, id) (by simp)
    obtain ⟨r, hr⟩ := ih (fun q hq => hv q (by simp [hq]))
    simp only [refLookup, hk', ebind_ok]
    by_cases h : k' = k
    · exact ⟨some id, by simp [h]⟩
    · exact ⟨r, by simp only [h, if_false]; exact hr⟩

theorem refInsert_ok (ka : KeyAt) (t : RefT) (off id : Nat) (k : Bytes) (hv : refValid ka t)
    (hk : ka off = .ok k) :
    ∃ t', refInsert ka t off id = .ok t' ∧ refValid ka t' ∧
      ∀ k', refLookup ka t' k' = if k' = k then .ok (some id) else refLookup ka t k' := by
  refine ⟨(off, id) :: t, by simp [refInsert, hk], ?_, ?_⟩
  · intro p hp
    simp only [mem_cons] at hp
    rcases hp with rfl | hp
    · exact ⟨k, hk⟩
    · exact hv p hp
  · intro k'
    simp only [refLookup, hk, ebind_ok]
    by_cases h : k' = k
    · subst h; simp
    · have : ¬ k = k' := fun e => h e.symm
      simp [h, this]

theorem refMono (ka ka' : KeyAt) (t : RefT) (hle : KeyAt.le ka ka') (hv : refValid ka t) :
    refValid ka' t ∧ ∀ k, refLookup ka' t k = refLookup ka t k := by
  refine ⟨fun p hp => ?_, fun k => ?_⟩
  · obtain ⟨k, hk⟩ := hv p hp; exact ⟨k, hle _ _ hk⟩
  · induction t with
    | nil => rfl
    | cons p t ih =>
      obtain ⟨off, id⟩ := p
      obtain ⟨k', hk'⟩ := hv (off, id) (by simp)
      simp only [refLookup, hk', hle _ _ hk', ebind_ok]
      by_cases h : k' = k
      · simp [h]
      · simp only [h, if_false]
        exact ih (fun q hq => hv q (by simp [hq]))

def refTable : TableImpl where
  τ := RefT
  empty := []
  insert := refInsert
  lookup := refLookup

def refLaws : TableLaws refTable where
  Valid := refValid
  valid_empty := fun _ p hp => by simp [refTable] at hp
  lookup_empty := fun _ _ => rfl
  lookup_ok := refLookup_ok
  insert_ok := refInsert_ok
  mono := refMono

end PV.C24
