/-
C24: replication.  The decoders ignore what follows an entry, so a stream cut inside an entry decodes
to nothing and replicate stops there, on a prefix of the primary's log.
-/
import PV.C24.Store
namespace PV.C24
open List

/-- A reader that succeeds on `bs` succeeds on `bs ++ t` and leaves `t` behind its rest; the decoders
are chains of readers, and the two proofs below go down the chain (`split at h`: the next reader
succeeded on `bs`). -/
theorem readN_append (n : Nat) (bs t k r : Bytes) (h : readN n bs = some (k, r)) :
    readN n (bs ++ t) = some (k, r ++ t) := by
  unfold readN at h ⊢
  split at h
  · rename_i hn
    have : n ≤ (bs ++ t).length := by simp; omega
    simp only [this, if_true]
    simp only [Option.some.injEq, Prod.mk.injEq] at h
    rw [take_append_of_le_length hn, drop_append_of_le_length hn, h.1, h.2]
  · simp at h

theorem decodePairs_append (k : Nat) : ∀ (bs t : Bytes) (ps : List (Nat × Bytes)) (r : Bytes),
    decodePairs k bs = some (ps, r) → decodePairs k (bs ++ t) = some (ps, r ++ t) := by
  induction k with
  | zero => intro bs t ps r h; simp [decodePairs] at h ⊢; simp [h.1, h.2]
  | succ k ih =>
    intro bs t ps r h
    simp only [decodePairs] at h ⊢
    split at h
    · exact nomatch h
    rename_i id bs1 h1
    rw [readUvarint_append _ t _ _ h1]
    dsimp only
    split at h
    · exact nomatch h
    rename_i sz bs2 h2
    rw [readUvarint_append _ t _ _ h2]
    dsimp only
    split at h
    · exact nomatch h
    rename_i key bs3 h3
    rw [readN_append _ _ t _ _ h3]
    dsimp only
    split at h
    · exact nomatch h
    rename_i ps' bs4 h4
    rw [ih _ t _ _ h4]
    simp only [Option.some.injEq, Prod.mk.injEq] at h ⊢
    exact ⟨h.1, by rw [h.2]⟩

theorem decodeEntry_append (bs t : Bytes) (e : Entry) (l : Nat) (r : Bytes)
    (h : decodeEntry bs = some (e, l, r)) : decodeEntry (bs ++ t) = some (e, l, r ++ t) := by
  simp only [decodeEntry] at h ⊢
  split at h
  · exact nomatch h
  rename_i len bs0 h0
  rw [readUvarint_append _ t _ _ h0]
  dsimp only
  split at h
  · exact nomatch h
  rename_i typ bs1
  dsimp only [cons_append]
  split at h
  · exact nomatch h
  rename_i isz bs2 h1
  rw [readUvarint_append _ t _ _ h1]
  dsimp only
  split at h
  · exact nomatch h
  rename_i index bs3 h2
  rw [readN_append _ _ t _ _ h2]
  dsimp only
  split at h
  · exact nomatch h
  rename_i fsz bs4 h3
  rw [readUvarint_append _ t _ _ h3]
  dsimp only
  split at h
  · exact nomatch h
  rename_i field bs5 h4
  rw [readN_append _ _ t _ _ h4]
  dsimp only
  split at h
  · exact nomatch h
  rename_i cnt bs6 h5
  rw [readUvarint_append _ t _ _ h5]
  dsimp only
  split at h
  · exact nomatch h
  rename_i ps bs7 h6
  rw [decodePairs_append _ _ t _ _ h6]
  simp only [Option.some.injEq, Prod.mk.injEq] at h ⊢
  exact ⟨h.1, h.2.1, by rw [h.2.2]⟩

theorem decodeEntry_strict_prefix (e : Entry) (he : e.WF) (pre x : Bytes) (hx : x ≠ [])
    (h : pre ++ x = encodeEntry e) : decodeEntry pre = none := by
  cases hd : decodeEntry pre with
  | none => rfl
  | some p =>
    obtain ⟨e', l', r'⟩ := p
    have h1 := decodeEntry_append pre x e' l' r' hd
    have h2 := decodeEntry_encode e [] he
    rw [append_nil, ← h, h1] at h2
    simp only [Option.some.injEq, Prod.mk.injEq] at h2
    have := h2.2.2
    simp at this
    exact absurd this.2 hx

theorem decodeEntry_nil : decodeEntry [] = none := by
  simp [decodeEntry, readUvarint, readUvarintAux]

variable {T : TableImpl} {L : TableLaws T}

/-- replicate on a stream that is any prefix of the entries the replica is missing -/
theorem replicateLoop_good (rest : List Entry) :
    ∀ (r : Store T.τ) (es1 : List Entry) (stream tail : Bytes) (fuel : Nat),
    (∀ e ∈ rest, EntryOK e) → (∀ e ∈ rest, e.WF) → Good T L r es1 → stream ++ tail = Spec.fileOf rest → stream.length < fuel →
    ∃ r' j, replicateLoop T fuel r stream = .ok r' ∧ Good T L r' (es1 ++ rest.take j) ∧
      r'.readOnly = r.readOnly ∧ (tail = [] → j = rest.length) := by
  induction rest with
  | nil =>
    intro r es1 stream tail fuel _ _ hg hst hf
    simp [Spec.fileOf] at hst
    cases fuel with
    | zero => omega
    | succ fuel =>
      refine ⟨r, 0, ?_, by simpa using hg, rfl, fun _ => rfl⟩
      simp [replicateLoop, hst.1, decodeEntry_nil]
  | cons e rest ih =>
    intro r es1 stream tail fuel hwf henc hg hst hf
    have he : EntryOK e := hwf e mem_cons_self
    have hee : e.WF := henc e mem_cons_self
    obtain ⟨fuel, rfl⟩ := Nat.exists_eq_add_one_of_ne_zero (Nat.ne_zero_of_lt hf)
    -- the stream holds all of `e`: it is applied, and the rest of the stream goes on
    have whole : ∀ c', stream = encodeEntry e ++ c' → c' ++ tail = Spec.fileOf rest →
        ∃ r' j, replicateLoop T (fuel + 1) r stream = .ok r' ∧ Good T L r' (es1 ++ (e :: rest).take j) ∧
          r'.readOnly = r.readOnly ∧ (tail = [] → j = (e :: rest).length) := by
      intro c' hc1 hc2
      obtain ⟨r1, hap, hg1, hro⟩ := appendEntry_good e hg he
      obtain ⟨r', j, hrl, hg', hro', hall⟩ := ih r1 (es1 ++ [e]) c' tail fuel
        (fun x hx => hwf x (mem_cons_of_mem _ hx)) (fun x hx => henc x (mem_cons_of_mem _ hx)) hg1 hc2 (by
          rw [hc1, length_append] at hf
          have := encodeEntry_length_pos e
          omega)
      refine ⟨r', j + 1, ?_, by rwa [take_succ_cons, append_cons], hro'.trans hro, fun ht => congrArg (· + 1) (hall ht)⟩
      rw [replicateLoop, hc1, decodeEntry_encode e c' hee]
      simp only [hap, ebind_ok]
      exact hrl
    rw [fileOf_cons] at hst
    rcases append_eq_append_iff.mp hst with ⟨a', ha1, ha2⟩ | ⟨c', hc1, hc2⟩
    · by_cases hnil : a' = []
      · rw [hnil, append_nil] at ha1
        rw [hnil, nil_append] at ha2
        exact whole [] (by rw [append_nil, ha1]) ha2
      · -- the stream ends inside `e`: nothing more decodes
        refine ⟨r, 0, ?_, by rwa [take_zero, append_nil], rfl, fun ht => ?_⟩
        · rw [replicateLoop, decodeEntry_strict_prefix e hee stream a' hnil ha1.symm]
        · rw [ht] at ha2
          exact absurd (append_eq_nil_iff.mp ha2.symm).1 hnil
    · exact whole c' hc1 hc2.symm

theorem readerChunks_flatten (data : Bytes) (limit : Nat) (sizes : List Nat) : ∀ (off : Nat),
    ∃ m, (readerChunks data limit off sizes).flatten = (data.drop off).take m := by
  induction sizes with
  | nil => intro off; exact ⟨0, rfl⟩
  | cons sz sizes ih =>
    intro off
    simp only [readerChunks]
    by_cases h : off ≥ min limit data.length
    · exact ⟨0, by rw [if_pos h]; rfl⟩
    · rw [if_neg h]
      generalize min sz (min limit data.length - off) = n
      obtain ⟨m, hm⟩ := ih (off + n)
      exact ⟨n + m, by rw [flatten_cons, hm, take_add, drop_drop]⟩

end PV.C24
