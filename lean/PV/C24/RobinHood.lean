/-
C24, robin-hood table: the invariant and index.idByKey.  The invariant is kept in a local form;
`walk` is its global consequence: a lookup that has probed `d` slots without meeting its key may stop at
a free slot or at an element closer to its home than `d`, since the key is then nowhere (`not_maps`).
-/
import PV.C24.Slots
import PV.C24.Table
namespace PV.C24
open List

variable {H : Bytes → Nat} {ka : KeyAt} {t : RHH}

structure RHH.Shape (t : RHH) : Prop where
  pow2 : ∃ k, 1 ≤ k ∧ t.elems.length = 2 ^ k
  mask : t.mask = t.elems.length - 1

theorem RHH.Shape.cap_gt (h : t.Shape) : 1 < t.elems.length := by
  obtain ⟨k, hk, he⟩ := h.pow2
  rw [he]
  exact Nat.one_lt_two_pow (by omega)

theorem RHH.Shape.and_mask (h : t.Shape) (x : Nat) : x &&& t.mask = x % t.elems.length := by
  obtain ⟨k, _, he⟩ := h.pow2
  rw [h.mask, he, Nat.and_two_pow_sub_one_eq_mod]

theorem RHH.Shape.dist_eq (h : t.Shape) (hash i : Nat) :
    t.dist hash i = D t.elems.length hash i := by
  simp only [RHH.dist, D, h.and_mask]

theorem RHH.Shape.next_eq (h : t.Shape) (pos : Nat) :
    (pos + 1) &&& t.mask = nxt t.elems.length pos :=
  h.and_mask _

theorem RHH.Shape.home_eq (h : t.Shape) (hash : Nat) :
    hash &&& t.mask = adv t.elems.length hash 0 :=
  h.and_mask _

def Occ (t : RHH) (p : Nat) (e : Elem) : Prop := t.elems[p]? = some e ∧ e.hash ≠ 0

def Free (t : RHH) (p : Nat) : Prop := ∃ e, t.elems[p]? = some e ∧ e.hash = 0

theorem Occ.lt {p : Nat} {e : Elem} (h : Occ t p e) : p < t.elems.length :=
  (List.getElem?_eq_some_iff.mp h.1).1

theorem Free.lt {p : Nat} (h : Free t p) : p < t.elems.length := by
  obtain ⟨e, he, _⟩ := h
  exact (List.getElem?_eq_some_iff.mp he).1

theorem occ_or_free (t : RHH) {p : Nat} (hp : p < t.elems.length) : (∃ e, Occ t p e) ∨ Free t p := by
  have : t.elems[p]? = some t.elems[p] := getElem?_eq_getElem hp
  by_cases c : t.elems[p].hash = 0
  · exact Or.inr ⟨_, this, c⟩
  · exact Or.inl ⟨_, this, c⟩

theorem Occ.unique {t : RHH} {p : Nat} {e f : Elem} (h1 : Occ t p e) (h2 : Occ t p f) : e = f :=
  Option.some.inj (h1.1.symm.trans h2.1)

theorem Occ.not_free {p : Nat} {e : Elem} (h1 : Occ t p e) (h2 : Free t p) : False := by
  obtain ⟨f, hf, hz⟩ := h2
  exact h1.2 (Option.some.inj (h1.1.symm.trans hf) ▸ hz)

theorem get_occ {p : Nat} {e : Elem} (h : Occ t p e) : t.get p = .ok e := by
  rw [RHH.get, h.1]

theorem get_free {p : Nat} (h : Free t p) : ∃ e, t.get p = .ok e ∧ e.hash = 0 := by
  obtain ⟨e, he, hz⟩ := h
  exact ⟨e, by rw [RHH.get, he], hz⟩

def Maps (ka : KeyAt) (t : RHH) (key : Bytes) (id : Nat) : Prop :=
  ∃ p e, Occ t p e ∧ ka e.offset = .ok key ∧ e.id = id

/-- The robin-hood invariant, in its local form: an element that is not in its home slot has an
occupied predecessor slot whose element is at most one step closer to its own home. -/
structure RHH.Inv (H : Bytes → Nat) (ka : KeyAt) (t : RHH) : Prop where
  shape : t.Shape
  keyed : ∀ p e, Occ t p e → ∃ k, ka e.offset = .ok k ∧ e.hash = hashKey H k
  uniq : ∀ p q e f k, Occ t p e → Occ t q f → ka e.offset = .ok k → ka f.offset = .ok k → p = q
  loc : ∀ p e, Occ t p e → 0 < D t.elems.length e.hash p →
    ∃ f, Occ t (prv t.elems.length p) f ∧
      D t.elems.length e.hash p ≤ D t.elems.length f.hash (prv t.elems.length p) + 1

theorem RHH.Inv.hash_eq (h : t.Inv H ka) {p : Nat} {e : Elem} {K : Bytes}
    (ho : Occ t p e) (hk : ka e.offset = .ok K) : e.hash = hashKey H K := by
  obtain ⟨k, hk', hh⟩ := h.keyed p e ho
  rw [hh, Except.ok.inj (hk'.symm.trans hk)]

theorem RHH.Inv.maps_fun (h : t.Inv H ka) {key : Bytes} {a b : Nat}
    (ha : Maps ka t key a) (hb : Maps ka t key b) : a = b := by
  obtain ⟨p, e, ho, hk, hid⟩ := ha
  obtain ⟨q, f, hof, hkf, hidf⟩ := hb
  have hpq := h.uniq p q e f key ho hof hk hkf
  subst hpq
  rw [← hid, ← hidf, ho.unique hof]

/-- global form: every slot probed before reaching an element is occupied by an element at least
as far from its home (induction on the number of steps back from the element) -/
theorem RHH.Inv.walk (h : t.Inv H ka) {p : Nat} {e : Elem}
    (ho : Occ t p e) {j : Nat} (hj : j ≤ D t.elems.length e.hash p) :
    ∃ f, Occ t (adv t.elems.length e.hash j) f ∧ j ≤ D t.elems.length f.hash (adv t.elems.length e.hash j) := by
  have hc := h.shape.cap_gt
  obtain ⟨k, hk⟩ : ∃ k, j + k = D t.elems.length e.hash p := ⟨_, Nat.add_sub_cancel' hj⟩
  clear hj
  induction k generalizing j with
  | zero =>
    obtain rfl : j = D t.elems.length e.hash p := hk
    rw [adv_D hc e.hash ho.lt]
    exact ⟨e, ho, Nat.le_refl _⟩
  | succ k ih =>
    obtain ⟨f, hf, hd⟩ := ih (j := j + 1) ((Nat.add_right_comm j 1 k).trans hk)
    obtain ⟨g, hg, hgd⟩ := h.loc _ f hf (Nat.lt_of_lt_of_le (Nat.succ_pos j) hd)
    rw [prv_adv hc] at hg hgd
    exact ⟨g, hg, Nat.le_of_succ_le_succ (Nat.le_trans hd hgd)⟩

/-- the slots probed before the one that holds key `K` hold other keys, each at least as far from
its home as the probe has come -/
theorem RHH.Inv.before (h : t.Inv H ka) {p : Nat} {e : Elem}
    {K : Bytes} (ho : Occ t p e) (hk : ka e.offset = .ok K) {d : Nat} (hd : d < D t.elems.length e.hash p) :
    ∃ f kf, Occ t (adv t.elems.length e.hash d) f ∧
      d ≤ D t.elems.length f.hash (adv t.elems.length e.hash d) ∧ ka f.offset = .ok kf ∧ kf ≠ K := by
  have hc := h.shape.cap_gt
  obtain ⟨f, hf, hfd⟩ := h.walk ho (Nat.le_of_lt hd)
  obtain ⟨kf, hkf, _⟩ := h.keyed _ f hf
  refine ⟨f, kf, hf, hfd, hkf, fun heq => ?_⟩
  have hpos := h.uniq _ _ f e K hf ho (heq ▸ hkf) hk
  have := D_adv hc e.hash (Nat.lt_trans hd (D_lt hc e.hash p))
  rw [hpos] at this
  exact absurd this.symm (Nat.ne_of_lt hd)

/-- why a lookup may stop: if the first `d` slots probed for `key` do not hold it and the next one is
free or holds an element closer to its home than `d`, the table does not hold `key` (were it `j ≥ d`
steps from its home, `walk` would put an element at least `d` from home into slot `d`) -/
theorem RHH.Inv.not_maps (h : t.Inv H ka) {key : Bytes} {d : Nat}
    (hbefore : ∀ j < d, ∀ e, Occ t (adv t.elems.length (hashKey H key) j) e → ka e.offset ≠ .ok key)
    (hstop : ∀ e, Occ t (adv t.elems.length (hashKey H key) d) e →
      D t.elems.length e.hash (adv t.elems.length (hashKey H key) d) < d) (id : Nat) :
    ¬ Maps ka t key id := by
  rintro ⟨s, e, ho, hk, _⟩
  have hc := h.shape.cap_gt
  rw [← h.hash_eq ho hk] at hbefore hstop
  by_cases hd : D t.elems.length e.hash s < d
  · exact hbefore _ hd e ((adv_D hc e.hash ho.lt).symm ▸ ho) hk
  · obtain ⟨f, hf, hfd⟩ := h.walk ho (Nat.le_of_not_lt hd)
    exact Nat.lt_irrefl _ (Nat.lt_of_le_of_lt hfd (hstop f hf))

/-- one turn of the loop of idByKey at an occupied slot, in the vocabulary of the proofs -/
theorem lookupLoop_occ (hs : t.Shape) {pos : Nat} {e : Elem} (ho : Occ t pos e) (ka : KeyAt)
    (key : Bytes) (hash fuel d : Nat) :
    RHH.lookupLoop ka t key hash (fuel + 1) pos d =
      if d > D t.elems.length e.hash pos then .ok none
      else if e.hash = hash then
        ka e.offset >>= fun k => if k = key then .ok (some e.id)
          else RHH.lookupLoop ka t key hash fuel (nxt t.elems.length pos) (d + 1)
      else RHH.lookupLoop ka t key hash fuel (nxt t.elems.length pos) (d + 1) := by
  simp only [RHH.lookupLoop, get_occ ho, ebind_ok, ho.2, if_false, hs.dist_eq, hs.next_eq, epure]

theorem lookupLoop_free {pos : Nat} (hf : Free t pos) (ka : KeyAt) (key : Bytes) (hash fuel d : Nat) :
    RHH.lookupLoop ka t key hash (fuel + 1) pos d = .ok none := by
  obtain ⟨e, he, hz⟩ := get_free hf
  simp only [RHH.lookupLoop, he, ebind_ok, hz, if_true, epure]

/-- the loop of idByKey, started after `d` probes that did not meet `key` -/
theorem lookupLoop_eq (h : t.Inv H ka) (key : Bytes) :
    ∀ (fuel d : Nat), d ≤ t.elems.length → t.elems.length + 1 ≤ fuel + d →
    (∀ j < d, ∀ e, Occ t (adv t.elems.length (hashKey H key) j) e → ka e.offset ≠ .ok key) →
    ∃ r, RHH.lookupLoop ka t key (hashKey H key) fuel (adv t.elems.length (hashKey H key) d) d = .ok r ∧
      ∀ id, r = some id ↔ Maps ka t key id := by
  have hc := h.shape.cap_gt
  intro fuel
  induction fuel with
  | zero => intro d hd hf; omega
  | succ fuel ih =>
    intro d hd hf hbefore
    -- both ways of stopping empty-handed are `not_maps`
    have none_of : (∀ e, Occ t (adv t.elems.length (hashKey H key) d) e →
          D t.elems.length e.hash (adv t.elems.length (hashKey H key) d) < d) →
        ∃ r, (.ok none : Except String (Option Nat)) = .ok r ∧ ∀ id, r = some id ↔ Maps ka t key id :=
      fun hstop => ⟨none, rfl, fun id => ⟨fun e => (nomatch e), fun hm => (h.not_maps hbefore hstop id hm).elim⟩⟩
    rcases occ_or_free t (adv_lt hc (hashKey H key) d) with ⟨e, ho⟩ | hfree
    · rw [lookupLoop_occ h.shape ho]
      by_cases c1 : d > D t.elems.length e.hash (adv t.elems.length (hashKey H key) d)
      · rw [if_pos c1]
        exact none_of fun f hf => ho.unique hf ▸ c1
      · rw [if_neg c1, nxt_adv]
        obtain ⟨k, hk, hh⟩ := h.keyed _ e ho
        have hnext : k ≠ key → _ := fun hne => ih (d + 1)
          (Nat.succ_le_of_lt (Nat.lt_of_le_of_lt (Nat.le_of_not_gt c1) (D_lt hc e.hash _)))
          (by rw [Nat.add_comm d 1, ← Nat.add_assoc]; exact hf)
          fun j hj f hof => (Nat.lt_succ_iff_lt_or_eq.mp hj).elim (fun hj => hbefore j hj f hof)
            fun hj => by subst hj; rw [← ho.unique hof, hk]; exact fun e => hne (Except.ok.inj e)
        by_cases c2 : e.hash = hashKey H key
        · rw [if_pos c2, hk, ebind_ok]
          by_cases c3 : k = key
          · rw [if_pos c3]
            have hm : Maps ka t key e.id := ⟨_, e, ho, c3 ▸ hk, rfl⟩
            exact ⟨_, rfl, fun id => ⟨fun e' => Option.some.inj e' ▸ hm, fun hm' => congrArg some (h.maps_fun hm hm')⟩⟩
          · rw [if_neg c3]
            exact hnext c3
        · rw [if_neg c2]
          exact hnext fun hkk => c2 (hkk ▸ hh)
    · rw [lookupLoop_free hfree]
      exact none_of fun f hf => (hf.not_free hfree).elim

theorem idByKey_eq (h : t.Inv H ka) (key : Bytes) :
    ∃ r, RHH.idByKey H ka t key = .ok r ∧ ∀ id, r = some id ↔ Maps ka t key id := by
  simp only [RHH.idByKey, h.shape.home_eq]
  exact lookupLoop_eq h key _ 0 (Nat.zero_le _) (Nat.le_refl _) fun _ hj => absurd hj (Nat.not_lt_zero _)

end PV.C24
