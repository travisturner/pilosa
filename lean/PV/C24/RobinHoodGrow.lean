/-
C24, robin-hood table: growth (a fresh table of twice the capacity, every element re-inserted), the
table part of index.insert with its `n` bookkeeping, and the proof that the table of the code
satisfies the finite-map laws (`rhhLaws`) for every hash function.
-/
import PV.C24.RobinHoodInsert
namespace PV.C24
open List

variable {H : Bytes → Nat} {ka : KeyAt} {t : RHH}

/-- re-insertion: the table gains the non-empty elements of the list -/
theorem reinsert_spec : ∀ (es : List Elem) (t : RHH), t.Inv H ka →
    (∀ e ∈ es, e.hash ≠ 0 → ∃ k, ka e.offset = .ok k ∧ e.hash = hashKey H k) →
    DistinctKeys ka (es.filter (·.hash ≠ 0) ++ t.contents) →
    (es.filter (·.hash ≠ 0) ++ t.contents).length < t.elems.length →
    ∃ t', RHH.reinsert H ka es t = .ok t' ∧ t'.Inv H ka ∧ t'.SameFrame t ∧
      (es.filter (·.hash ≠ 0) ++ t.contents).Perm t'.contents := by
  intro es
  induction es with
  | nil => exact fun t h _ _ _ => ⟨t, rfl, h, ⟨rfl, rfl, rfl, rfl⟩, .refl _⟩
  | cons x xs ih =>
    intro t h hkeyed hdist hroom
    have hkeyed' := fun e he => hkeyed e (mem_cons_of_mem _ he)
    by_cases hz : x.hash = 0
    · rw [filter_cons, if_neg (fun h => absurd hz (of_decide_eq_true h))] at hdist hroom ⊢
      rw [RHH.reinsert, if_pos hz]
      exact ih t h hkeyed' hdist hroom
    · rw [filter_cons, if_pos (decide_eq_true hz)] at hdist hroom ⊢
      obtain ⟨kx, hkx, hhx⟩ := hkeyed x mem_cons_self hz
      obtain ⟨t1, hins, hinv1, hfr1, hperm1⟩ := insertIDbyOffset_absent h
        (Nat.lt_of_le_of_lt (length_append ▸ Nat.le_add_left _ _) hroom) x.offset x.id kx hkx
        (fun e he => (pairwise_cons.mp hdist).1 e (mem_append_right _ he) kx hkx)
      rw [← hhx] at hperm1
      -- `x` has moved from the list into the table
      have hmove : (x :: xs.filter (·.hash ≠ 0) ++ t.contents).Perm (xs.filter (·.hash ≠ 0) ++ t1.contents) :=
        perm_middle.symm.trans (hperm1.append_left _)
      obtain ⟨t', hr, i1, i2, i3⟩ := ih t1 hinv1 hkeyed' (hdist.perm hmove) (by rw [← hmove.length_eq, hfr1.1]; exact hroom)
      refine ⟨t', ?_, i1, i2.trans hfr1, hmove.trans i3⟩
      rw [RHH.reinsert, if_neg hz, hins, ebind_ok]
      exact hr

theorem alloc_no_occ (t : RHH) (c : Nat) (p : Nat) (e : Elem) : ¬ Occ (t.alloc c) p e := by
  rintro ⟨he, hne⟩
  simp only [RHH.alloc, getElem?_replicate] at he
  split at he
  · exact hne (Option.some.inj he ▸ rfl)
  · exact nomatch he

theorem contents_alloc (t : RHH) (c : Nat) : (t.alloc c).contents = [] :=
  filter_eq_nil_iff.mpr fun _ ha => eq_of_mem_replicate ha ▸ (nomatch ·)

theorem alloc_inv (H : Bytes → Nat) (ka : KeyAt) (t : RHH) (k : Nat) (hk : 1 ≤ k) :
    (t.alloc (2 ^ k)).Inv H ka ∧ countNE (t.alloc (2 ^ k)) = 0 ∧
      (∀ key id, ¬ Maps ka (t.alloc (2 ^ k)) key id) := by
  refine ⟨⟨⟨⟨k, hk, length_replicate⟩, by simp only [RHH.alloc, length_replicate]⟩, ?_, ?_, ?_⟩, ?_, ?_⟩
  · intro p e ho; exact absurd ho (alloc_no_occ t _ p e)
  · intro p q e f _ ho; exact absurd ho (alloc_no_occ t _ p e)
  · intro p e ho; exact absurd ho (alloc_no_occ t _ p e)
  · simp [countNE, RHH.alloc, Elem.none, countP_replicate]
  · rintro key id ⟨p, e, ho, _⟩; exact alloc_no_occ t _ p e ho

theorem alloc_fields (t : RHH) (c : Nat) : (t.alloc c).n = t.n ∧
    (t.alloc c).threshold = c * defaultLoadFactor / 100 ∧ (t.alloc c).elems.length = c :=
  ⟨rfl, rfl, length_replicate⟩

theorem new_eq : RHH.new = (⟨[], 0, 0, 0⟩ : RHH).alloc (2 ^ 8) := rfl

/-- the invariant only looks at the slots and the mask -/
theorem RHH.Inv.congr {t t' : RHH} (h : t.Inv H ka)
    (he : t'.elems = t.elems) (hm : t'.mask = t.mask) : t'.Inv H ka := by
  obtain ⟨els, n, m, th⟩ := t
  obtain ⟨els', n', m', th'⟩ := t'
  obtain rfl : els' = els := he
  obtain rfl : m' = m := hm
  exact ⟨⟨h.shape.pow2, h.shape.mask⟩, h.keyed, h.uniq, h.loc⟩

/-- what the finite-map laws call a valid table -/
structure RValid (H : Bytes → Nat) (ka : KeyAt) (t : RHH) : Prop where
  inv : t.Inv H ka
  n : t.n = countNE t
  room : t.n ≤ t.threshold
  thr : t.threshold = t.elems.length * defaultLoadFactor / 100

/-- at a load factor of 90 % a table that is not over its threshold has a free slot, and doubling
the capacity makes room for one more element -/
theorem threshold_lt {c : Nat} (hc : 0 < c) : c * defaultLoadFactor / 100 < c :=
  Nat.div_lt_of_lt_mul (by unfold defaultLoadFactor; omega)

theorem threshold_double {c : Nat} (hc : 2 ≤ c) :
    c * defaultLoadFactor / 100 + 1 ≤ c * 2 * defaultLoadFactor / 100 := by
  rw [← Nat.add_div_right _ (by decide : 0 < 100)]
  exact Nat.div_le_div_right (by unfold defaultLoadFactor; omega)

/-- the growth step keeps the contents and leaves room for one more element -/
theorem grow_spec (h : RValid H ka t) :
    ∃ t2, RHH.grow H ka { t with n := t.n + 1 } = .ok t2 ∧ t2.Inv H ka ∧ t.contents.Perm t2.contents ∧
      t2.n = t.n + 1 ∧ t2.n ≤ t2.threshold ∧ t2.threshold = t2.elems.length * defaultLoadFactor / 100 ∧
      t2.contents.length < t2.elems.length := by
  have hc := h.inv.shape.cap_gt
  have hcnt : t.contents.length ≤ t.elems.length := length_filter_le ..
  have hthr := h.thr
  unfold RHH.grow
  by_cases hg : t.n + 1 > t.threshold
  · rw [if_pos hg]
    obtain ⟨k, hk1, hcap⟩ := h.inv.shape.pow2
    have h2 : t.elems.length * 2 = 2 ^ (k + 1) := by rw [hcap, Nat.pow_succ]
    have hdbl := threshold_double hc
    show ∃ t2, RHH.reinsert H ka t.elems (({ t with n := t.n + 1 } : RHH).alloc (t.elems.length * 2)) = .ok t2 ∧ _
    rw [h2] at hdbl ⊢
    obtain ⟨ainv, _, _⟩ := alloc_inv H ka ({ t with n := t.n + 1 } : RHH) (k + 1) (Nat.le_add_left 1 k)
    have hnil : t.elems.filter (·.hash ≠ 0) ++ (({ t with n := t.n + 1 } : RHH).alloc (2 ^ (k + 1))).contents = t.contents := by
      rw [contents_alloc, append_nil]
      rfl
    have alen : (({ t with n := t.n + 1 } : RHH).alloc (2 ^ (k + 1))).elems.length = 2 ^ (k + 1) := length_replicate
    have hroom : t.contents.length < 2 ^ (k + 1) := by rw [← h2]; omega
    obtain ⟨t2, hr, i1, ⟨f1, _, f3, f4⟩, i3⟩ := reinsert_spec (H := H) (ka := ka) t.elems _ ainv
      (fun e he hne => by
        obtain ⟨p, hp⟩ := mem_iff_getElem?.mp he
        exact h.inv.keyed p e ⟨hp, hne⟩)
      (hnil ▸ h.inv.distinctKeys) (by rw [hnil, alen]; exact hroom)
    rw [hnil] at i3
    rw [alen] at f1
    refine ⟨t2, hr, i1, i3, f3, ?_, ?_, ?_⟩
    · rw [f3, f4]
      exact Nat.le_trans (Nat.succ_le_succ (hthr ▸ h.room)) hdbl
    · rw [f4, f1]
      rfl
    · rw [← i3.length_eq, f1]
      exact hroom
  · rw [if_neg hg]
    have hle : t.n + 1 ≤ t.threshold := Nat.le_of_not_gt hg
    refine ⟨_, rfl, h.inv.congr rfl rfl, .refl _, rfl, hle, hthr, ?_⟩
    show t.contents.length < t.elems.length
    rw [← countNE_eq, ← h.n]
    exact Nat.lt_of_lt_of_le hle (hthr ▸ Nat.le_of_lt (threshold_lt (Nat.lt_of_succ_lt hc)))

theorem insert_spec {H : Bytes → Nat} {ka : KeyAt} {t : RHH} (h : RValid H ka t) (off id : Nat)
    (K : Bytes) (hk : ka off = .ok K) :
    ∃ t', RHH.insert H ka t off id = .ok t' ∧ RValid H ka t' ∧
      (∀ key id', Maps ka t' key id' ↔ (key = K ∧ id' = id) ∨ (Maps ka t key id' ∧ key ≠ K)) := by
  obtain ⟨t2, hst, hinv2, hperm2, hn2, hroom2, hthr2, hlt2⟩ := grow_spec h
  obtain ⟨t3, ow, hins, hinv3, hl3, _, hn3, hth3, hmaps3, hcnt3⟩ :=
    insertIDbyOffset_spec hinv2 (countNE_eq t2 ▸ hlt2) off id K hk
  have hcnt2 : countNE t2 = countNE t := by rw [countNE_eq, countNE_eq, hperm2.length_eq]
  have hn := h.n
  unfold RHH.insert
  simp only [hst, ebind_ok, hins, epure]
  refine ⟨_, rfl, ?_, fun key id' => ?_⟩
  · have hthr3 : t3.threshold = t3.elems.length * defaultLoadFactor / 100 := by
      rw [hth3, hl3]
      exact hthr2
    cases ow with
    | true =>
      rw [if_pos rfl] at hcnt3 ⊢
      refine ⟨hinv3.congr rfl rfl, ?_, ?_, hthr3⟩
      · show t3.n - 1 = countNE t3
        rw [hn3, hn2, hcnt3, hcnt2, ← hn]
        rfl
      · show t3.n - 1 ≤ t3.threshold
        rw [hn3, hth3]
        exact Nat.le_trans (Nat.sub_le _ _) hroom2
    | false =>
      rw [if_neg Bool.false_ne_true] at hcnt3 ⊢
      exact ⟨hinv3, by rw [hn3, hn2, hcnt3, hcnt2, hn], by rw [hn3, hth3]; exact hroom2, hthr3⟩
  · simp only [← maps_of_perm hperm2, ← hmaps3]
    cases ow <;> exact Iff.rfl

theorem rvalid_new (H : Bytes → Nat) (ka : KeyAt) : RValid H ka RHH.new := by
  obtain ⟨ainv, acnt, _⟩ := alloc_inv H ka ⟨[], 0, 0, 0⟩ 8 (by omega)
  obtain ⟨f1, f2, f3⟩ := alloc_fields ⟨[], 0, 0, 0⟩ (2 ^ 8)
  rw [new_eq]
  exact ⟨ainv, by rw [acnt, f1], f1 ▸ Nat.zero_le _, by rw [f2, f3]⟩

theorem lookup_of_maps {H : Bytes → Nat} {ka : KeyAt} {t : RHH} (h : t.Inv H ka) (key : Bytes) :
    (∀ id, RHH.idByKey H ka t key = .ok (some id) ↔ Maps ka t key id) ∧
    (RHH.idByKey H ka t key = .ok none ↔ ∀ id, ¬ Maps ka t key id) ∧
    ∃ r, RHH.idByKey H ka t key = .ok r := by
  obtain ⟨r, hr, hm⟩ := idByKey_eq h key
  rw [hr]
  refine ⟨fun id => ?_, ?_, r, rfl⟩
  · rw [← hm id]
    exact ⟨fun e => Except.ok.inj e, fun e => e ▸ rfl⟩
  · constructor
    · intro e id hid
      exact nomatch (Except.ok.inj e).symm.trans ((hm id).mpr hid)
    · intro hno
      cases r with
      | none => rfl
      | some id => exact absurd ((hm id).mp rfl) (hno id)

theorem lookup_new (H : Bytes → Nat) (ka : KeyAt) (k : Bytes) : RHH.idByKey H ka RHH.new k = .ok none := by
  obtain ⟨ainv, _, amaps⟩ := alloc_inv H ka ⟨[], 0, 0, 0⟩ 8 (by omega)
  rw [new_eq]
  exact (lookup_of_maps ainv k).2.1.mpr (amaps k)

def rhhLaws (H : Bytes → Nat) : TableLaws (rhh H) where
  Valid := RValid H
  valid_empty := fun ka => by
    have := rvalid_new H ka
    simpa only [rhh] using this
  lookup_empty := fun ka k => by
    have := lookup_new H ka k
    simpa only [rhh] using this
  lookup_ok := fun ka t k hv => (lookup_of_maps hv.inv k).2.2
  insert_ok := by
    intro ka t off id k hv hk
    obtain ⟨t', hins, hv', hmaps⟩ := insert_spec hv off id k hk
    refine ⟨t', hins, hv', fun k' => ?_⟩
    obtain ⟨a1, a2, r, hr⟩ := lookup_of_maps hv.inv k'
    obtain ⟨b1, b2, _⟩ := lookup_of_maps hv'.inv k'
    by_cases hkk : k' = k
    · subst hkk
      simp only [if_true]
      exact (b1 id).mpr ((hmaps k' id).mpr (Or.inl ⟨rfl, rfl⟩))
    · simp only [hkk, if_false]
      show RHH.idByKey H ka t' k' = RHH.idByKey H ka t k'
      rw [hr]
      cases r with
      | none =>
        refine b2.mpr (fun id' hm => ?_)
        rcases (hmaps k' id').mp hm with ⟨heq, _⟩ | ⟨hm', _⟩
        · exact hkk heq
        · exact (a2.mp hr) id' hm'
      | some id' => exact (b1 id').mpr ((hmaps k' id').mpr (Or.inr ⟨(a1 id').mp hr, hkk⟩))
  mono := by
    intro ka ka' t hle hv
    have hinv' : t.Inv H ka' := by
      refine ⟨hv.inv.shape, ?_, ?_, hv.inv.loc⟩
      · intro p e ho
        obtain ⟨k, hk, hh⟩ := hv.inv.keyed p e ho
        exact ⟨k, hle _ _ hk, hh⟩
      · intro p q e f k ho1 ho2 hk1 hk2
        obtain ⟨ke, hke, _⟩ := hv.inv.keyed p e ho1
        obtain ⟨kf, hkf, _⟩ := hv.inv.keyed q f ho2
        have e1 : ke = k := by have := hle _ _ hke; rw [hk1] at this; simpa using this.symm
        have e2 : kf = k := by have := hle _ _ hkf; rw [hk2] at this; simpa using this.symm
        exact hv.inv.uniq p q e f k ho1 ho2 (e1 ▸ hke) (e2 ▸ hkf)
    refine ⟨⟨hinv', hv.n, hv.room, hv.thr⟩, fun k => ?_⟩
    have hmaps : ∀ id, Maps ka' t k id ↔ Maps ka t k id := by
      intro id
      constructor
      · rintro ⟨p, e, ho, hk, hid⟩
        obtain ⟨ke, hke, _⟩ := hv.inv.keyed p e ho
        have : ke = k := by have := hle _ _ hke; rw [hk] at this; simpa using this.symm
        exact ⟨p, e, ho, this ▸ hke, hid⟩
      · rintro ⟨p, e, ho, hk, hid⟩
        exact ⟨p, e, ho, hle _ _ hk, hid⟩
    obtain ⟨a1, a2, r, hr⟩ := lookup_of_maps hv.inv k
    obtain ⟨b1, b2, _⟩ := lookup_of_maps hinv' k
    show RHH.idByKey H ka' t k = RHH.idByKey H ka t k
    rw [hr]
    cases r with
    | none => exact b2.mpr (fun id hm => (a2.mp hr) id ((hmaps id).mp hm))
    | some id => exact (b1 id).mpr ((hmaps id).mpr ((a1 id).mp hr))

end PV.C24
