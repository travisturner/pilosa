/-
C24, robin-hood table: index.insertIDbyOffset.  The loop carries an element forward and writes it
into a slot (`RHH.put`) that is free or whose element is closer to home; `RHH.Inv.put` says when such
a write keeps the invariant.  A write exchanges one element of what the table holds (`RHH.contents`) for
another, so the loop conserves "carried element + contents" up to permutation; what the table maps and
how many slots it fills are read off that.
-/
import PV.C24.RobinHood
namespace PV.C24
open List

variable {H : Bytes → Nat} {ka : KeyAt} {t : RHH}

def RHH.put (t : RHH) (pos : Nat) (c : Elem) : RHH := { t with elems := t.elems.set pos c }

theorem put_length (t : RHH) (pos : Nat) (c : Elem) : (t.put pos c).elems.length = t.elems.length :=
  length_set

theorem put_shape (h : t.Shape) (pos : Nat) (c : Elem) : (t.put pos c).Shape :=
  ⟨(put_length t pos c).symm ▸ h.pow2, (put_length t pos c).symm ▸ h.mask⟩

/-- `t'` differs from `t` in the contents of its slots only -/
def RHH.SameFrame (t' t : RHH) : Prop :=
  t'.elems.length = t.elems.length ∧ t'.mask = t.mask ∧ t'.n = t.n ∧ t'.threshold = t.threshold

theorem RHH.SameFrame.put (t : RHH) (pos : Nat) (c : Elem) : (t.put pos c).SameFrame t :=
  ⟨put_length t pos c, rfl, rfl, rfl⟩

theorem RHH.SameFrame.trans {t'' t' t : RHH} (h1 : t''.SameFrame t') (h2 : t'.SameFrame t) : t''.SameFrame t :=
  ⟨h1.1.trans h2.1, h1.2.1.trans h2.2.1, h1.2.2.1.trans h2.2.2.1, h1.2.2.2.trans h2.2.2.2⟩

theorem occ_put {pos : Nat} {c : Elem} (hp : pos < t.elems.length) (p : Nat) (e : Elem) :
    Occ (t.put pos c) p e ↔ (p = pos ∧ e = c ∧ c.hash ≠ 0) ∨ (p ≠ pos ∧ Occ t p e) := by
  unfold Occ RHH.put
  by_cases hpp : p = pos
  · subst hpp
    simp only [getElem?_set_self hp, Option.some.injEq, true_and, ne_eq, not_true_eq_false, false_and, or_false]
    constructor
    · rintro ⟨rfl, h⟩; exact ⟨rfl, h⟩
    · rintro ⟨rfl, h⟩; exact ⟨rfl, h⟩
  · simp only [getElem?_set_ne (Ne.symm hpp), hpp, false_and, false_or, ne_eq, not_false_eq_true, true_and]

theorem occ_put_self {pos : Nat} {c : Elem} (hp : pos < t.elems.length) (hcn : c.hash ≠ 0) :
    Occ (t.put pos c) pos c :=
  (occ_put hp pos c).mpr (Or.inl ⟨rfl, rfl, hcn⟩)

theorem Occ.put_ne {pos p : Nat} {c f : Elem} (hf : Occ t p f) (hp : pos < t.elems.length)
    (hne : p ≠ pos) : Occ (t.put pos c) p f :=
  (occ_put hp p f).mpr (Or.inr ⟨hne, hf⟩)

theorem free_put_other {pos : Nat} {c : Elem} {p : Nat} (hpp : p ≠ pos) :
    Free (t.put pos c) p ↔ Free t p := by
  unfold Free RHH.put
  simp only [getElem?_set_ne (Ne.symm hpp)]

/-- number of occupied slots -/
def countNE (t : RHH) : Nat := t.elems.countP (fun e => e.hash ≠ 0)

/-- the elements the table holds, in slot order -/
def RHH.contents (t : RHH) : List Elem := t.elems.filter (·.hash ≠ 0)

theorem countNE_eq (t : RHH) : countNE t = t.contents.length := countP_eq_length_filter

theorem mem_contents {e : Elem} : e ∈ t.contents ↔ ∃ p, Occ t p e := by
  rw [RHH.contents, mem_filter, decide_eq_true_eq, mem_iff_getElem?]
  exact ⟨fun ⟨⟨p, h⟩, hn⟩ => ⟨p, h, hn⟩, fun ⟨p, h, hn⟩ => ⟨⟨p, h⟩, hn⟩⟩

theorem maps_iff_contents (key : Bytes) (id : Nat) :
    Maps ka t key id ↔ ∃ e ∈ t.contents, ka e.offset = .ok key ∧ e.id = id := by
  simp only [Maps, mem_contents]
  exact ⟨fun ⟨p, e, ho, h⟩ => ⟨e, ⟨p, ho⟩, h⟩, fun ⟨e, ⟨p, ho⟩, h⟩ => ⟨p, e, ho, h⟩⟩

theorem maps_of_perm {t t' : RHH} (h : t.contents.Perm t'.contents) (key : Bytes) (id : Nat) :
    Maps ka t' key id ↔ Maps ka t key id := by
  simp only [maps_iff_contents, h.mem_iff]

/-- what a table maps whose contents are those of `t` and one element more -/
theorem maps_of_perm_cons {t t' : RHH} {c : Elem} (h : (c :: t.contents).Perm t'.contents) (key : Bytes) (id : Nat) :
    Maps ka t' key id ↔ (ka c.offset = .ok key ∧ c.id = id) ∨ Maps ka t key id := by
  simp only [maps_iff_contents, ← h.mem_iff, mem_cons, or_and_right, exists_or, exists_eq_left]

/-- a slot write exchanges one element of the list for another -/
theorem perm_set {α : Type} {l : List α} {i : Nat} (h : i < l.length) (c : α) :
    (c :: l).Perm (l[i] :: l.set i c) := by
  induction l generalizing i with
  | nil => exact absurd h (Nat.not_lt_zero i)
  | cons a l ih =>
    cases i with
    | zero => exact Perm.swap _ _ _
    | succ i => exact (Perm.swap _ _ _).trans (((ih (Nat.lt_of_succ_lt_succ h)).cons a).trans (Perm.swap _ _ _))

/-- a write of an element exchanges it for what the slot held: nothing, if the slot was free -/
theorem contents_put_occ {pos : Nat} {c e : Elem} (ho : Occ t pos e) (hcn : c.hash ≠ 0) :
    (c :: t.contents).Perm (e :: (t.put pos c).contents) := by
  have hp := ho.lt
  obtain rfl : t.elems[pos] = e := Option.some.inj ((getElem?_eq_getElem hp).symm.trans ho.1)
  have := (perm_set hp c).filter (·.hash ≠ 0)
  rwa [filter_cons, filter_cons, if_pos (decide_eq_true hcn), if_pos (decide_eq_true ho.2)] at this

theorem contents_put_free {pos : Nat} {c : Elem} (hf : Free t pos) (hcn : c.hash ≠ 0) :
    (c :: t.contents).Perm (t.put pos c).contents := by
  have hp := hf.lt
  obtain ⟨e, he, hz⟩ := hf
  obtain rfl : t.elems[pos] = e := Option.some.inj ((getElem?_eq_getElem hp).symm.trans he)
  have := (perm_set hp c).filter (·.hash ≠ 0)
  rwa [filter_cons, filter_cons, if_pos (decide_eq_true hcn), if_neg (fun h => absurd hz (of_decide_eq_true h))] at this

theorem countNE_put_free {pos : Nat} {c : Elem} (hf : Free t pos) (hcn : c.hash ≠ 0) :
    countNE (t.put pos c) = countNE t + 1 := by
  rw [countNE_eq, countNE_eq, ← (contents_put_free hf hcn).length_eq]
  rfl

theorem maps_put_free {c : Elem} {pos : Nat} (hfree : Free t pos) (hcn : c.hash ≠ 0) (key : Bytes) (id : Nat) :
    Maps ka (t.put pos c) key id ↔ (ka c.offset = .ok key ∧ c.id = id) ∨ Maps ka t key id :=
  maps_of_perm_cons (contents_put_free hfree hcn) key id

theorem countNE_put_occ {pos : Nat} {c e : Elem} (ho : Occ t pos e) (hcn : c.hash ≠ 0) :
    countNE (t.put pos c) = countNE t := by
  rw [countNE_eq, countNE_eq]
  exact (Nat.succ.inj (contents_put_occ ho hcn).length_eq).symm

theorem exists_free_of_count (h : countNE t < t.elems.length) : ∃ q, Free t q := by
  have : ∃ e ∈ t.elems, e.hash = 0 := Classical.byContradiction fun hn =>
    Nat.ne_of_lt h (countP_eq_length.mpr fun e he => decide_eq_true fun hz => hn ⟨e, he, hz⟩)
  obtain ⟨e, he, hz⟩ := this
  obtain ⟨q, hq⟩ := mem_iff_getElem?.mp he
  exact ⟨q, e, hq, hz⟩

/-- Writing `c`, whose key `kc` no other slot holds and which would satisfy the local condition at
`pos`, over a slot that is free or holds an element no farther from its home than `c` is. -/
theorem RHH.Inv.put (h : t.Inv H ka) {c : Elem} {pos : Nat} {kc : Bytes}
    (hp : pos < t.elems.length) (hcn : c.hash ≠ 0) (hk : ka c.offset = .ok kc) (hh : c.hash = hashKey H kc)
    (hfresh : ∀ p e, p ≠ pos → Occ t p e → ka e.offset ≠ .ok kc)
    (hloc : 0 < D t.elems.length c.hash pos → ∃ f, Occ t (prv t.elems.length pos) f ∧
      D t.elems.length c.hash pos ≤ D t.elems.length f.hash (prv t.elems.length pos) + 1)
    (hslot : Free t pos ∨ ∃ e, Occ t pos e ∧ D t.elems.length e.hash pos ≤ D t.elems.length c.hash pos) :
    (t.put pos c).Inv H ka := by
  have hc := h.shape.cap_gt
  have hlen := put_length t pos c
  refine ⟨put_shape h.shape pos c, ?_, ?_, ?_⟩
  · intro p e ho
    rcases (occ_put hp p e).mp ho with ⟨_, rfl, _⟩ | ⟨_, ho'⟩
    · exact ⟨kc, hk, hh⟩
    · exact h.keyed p e ho'
  · intro p q e f k ho1 ho2 hk1 hk2
    rcases (occ_put hp p e).mp ho1 with ⟨rfl, rfl, _⟩ | ⟨hne1, ho1'⟩
    · rcases (occ_put hp q f).mp ho2 with ⟨rfl, _, _⟩ | ⟨hne2, ho2'⟩
      · rfl
      · obtain rfl : kc = k := Except.ok.inj (hk.symm.trans hk1)
        exact absurd hk2 (hfresh q f hne2 ho2')
    · rcases (occ_put hp q f).mp ho2 with ⟨rfl, rfl, _⟩ | ⟨_, ho2'⟩
      · obtain rfl : kc = k := Except.ok.inj (hk.symm.trans hk2)
        exact absurd hk1 (hfresh p e hne1 ho1')
      · exact h.uniq p q e f k ho1' ho2' hk1 hk2
  · intro p e ho hd
    rw [hlen] at hd ⊢
    rcases (occ_put hp p e).mp ho with ⟨rfl, rfl, _⟩ | ⟨hne, ho'⟩
    · obtain ⟨f, hf, hfd⟩ := hloc hd
      exact ⟨f, hf.put_ne hp (prv_ne hc hp), hfd⟩
    · obtain ⟨f, hf, hfd⟩ := h.loc p e ho' hd
      by_cases hpp : prv t.elems.length p = pos
      · -- its predecessor slot is the one that was overwritten
        rw [hpp] at hf hfd ⊢
        rcases hslot with hfree | ⟨e0, he0, hle⟩
        · exact (hf.not_free hfree).elim
        · obtain rfl : f = e0 := hf.unique he0
          exact ⟨c, occ_put_self hp hcn, Nat.le_trans hfd (Nat.succ_le_succ hle)⟩
      · exact ⟨f, hf.put_ne hp hpp, hfd⟩

/-- what the insert loop knows about the element it carries to slot `pos` -/
structure Carried (H : Bytes → Nat) (ka : KeyAt) (t : RHH) (c : Elem) (pos : Nat) (kc : Bytes) : Prop where
  pos_lt : pos < t.elems.length
  hash_ne : c.hash ≠ 0
  key : ka c.offset = .ok kc
  hash_eq : c.hash = hashKey H kc
  fresh : ∀ p e, Occ t p e → ka e.offset ≠ .ok kc
  loc : 0 < D t.elems.length c.hash pos → ∃ f, Occ t (prv t.elems.length pos) f ∧
    D t.elems.length c.hash pos ≤ D t.elems.length f.hash (prv t.elems.length pos) + 1

/-- the displaced element, if any, is no longer in the table -/
theorem put_inv {H : Bytes → Nat} {ka : KeyAt} {t : RHH} {c : Elem} {pos : Nat} {kc : Bytes}
    (h : t.Inv H ka) (hcar : Carried H ka t c pos kc)
    (hslot : Free t pos ∨ ∃ e, Occ t pos e ∧ D t.elems.length e.hash pos ≤ D t.elems.length c.hash pos) :
    (t.put pos c).Inv H ka :=
  h.put hcar.pos_lt hcar.hash_ne hcar.key hcar.hash_eq (fun p e _ => hcar.fresh p e) hcar.loc hslot

theorem RHH.Inv.put_same (h : t.Inv H ka) {s : Nat} {e0 c : Elem}
    {K : Bytes} (ho : Occ t s e0) (hk0 : ka e0.offset = .ok K) (hkc : ka c.offset = .ok K)
    (hh : c.hash = e0.hash) : (t.put s c).Inv H ka := by
  refine h.put ho.lt (hh ▸ ho.2) hkc (hh.trans (h.hash_eq ho hk0))
    (fun p e hne hoe hke => hne (h.uniq p s e e0 K hoe ho hke hk0))
    ?_ (Or.inr ⟨e0, ho, Nat.le_of_eq (by rw [hh])⟩)
  rw [hh]
  exact h.loc s e0 ho

theorem maps_put_occ (h : t.Inv H ka) {c e : Elem} {pos : Nat}
    {kc ke : Bytes} (ho : Occ t pos e) (hke : ka e.offset = .ok ke) (hcn : c.hash ≠ 0)
    (hk : ka c.offset = .ok kc) (key : Bytes) (id : Nat) :
    Maps ka (t.put pos c) key id ↔ (key = kc ∧ id = c.id) ∨ (Maps ka t key id ∧ key ≠ ke) := by
  have hp := ho.lt
  constructor
  · rintro ⟨p, x, hox, hkx, hid⟩
    rcases (occ_put hp p x).mp hox with ⟨_, rfl, _⟩ | ⟨hne, hox'⟩
    · exact Or.inl ⟨Except.ok.inj (hkx.symm.trans hk), hid.symm⟩
    · exact Or.inr ⟨⟨p, x, hox', hkx, hid⟩, fun heq => hne (h.uniq p pos x e ke hox' ho (heq ▸ hkx) hke)⟩
  · rintro (⟨rfl, rfl⟩ | ⟨⟨p, x, hox, hkx, hid⟩, hne⟩)
    · exact ⟨pos, c, occ_put_self hp hcn, hk, rfl⟩
    · refine ⟨p, x, hox.put_ne hp (fun heq => ?_), hkx, hid⟩
      obtain rfl : x = e := (heq ▸ hox).unique ho
      exact hne (Except.ok.inj (hkx.symm.trans hke))

theorem insertLoop_occ (hs : t.Shape) {pos : Nat} {e : Elem} (ho : Occ t pos e)
    {ke : Bytes} (hke : ka e.offset = .ok ke) (K : Bytes) (hash off id fuel d : Nat) :
    RHH.insertLoop ka K (fuel + 1) t hash off id pos d =
      if ke = K then .ok (t.put pos ⟨off, id, hash⟩, true)
      else if D t.elems.length e.hash pos < d then
        RHH.insertLoop ka K fuel (t.put pos ⟨off, id, hash⟩) e.hash e.offset e.id
          (nxt t.elems.length pos) (D t.elems.length e.hash pos + 1)
      else RHH.insertLoop ka K fuel t hash off id (nxt t.elems.length pos) (d + 1) := by
  simp only [RHH.insertLoop, get_occ ho, ebind_ok, ho.2, if_false, hke, hs.dist_eq, hs.next_eq, epure]
  rfl

theorem insertLoop_free {pos : Nat} (hf : Free t pos) (ka : KeyAt) (K : Bytes)
    (hash off id fuel d : Nat) :
    RHH.insertLoop ka K (fuel + 1) t hash off id pos d = .ok (t.put pos ⟨off, id, hash⟩, false) := by
  obtain ⟨e, he, hz⟩ := get_free hf
  simp only [RHH.insertLoop, he, ebind_ok, hz, if_true, epure]
  rfl

/-- The key of the carried element is not in the table, a free slot is `j` steps ahead, and no slot up
to there holds the key `K` the loop compares with.  The bound `D … + j < cap` keeps the distance of
whatever is carried below `cap`: a swap hands on an element that was closer to home. -/
theorem insertLoop_absent (K : Bytes) : ∀ (fuel : Nat) (t : RHH) (c : Elem)
    (pos : Nat) (kc : Bytes) (j : Nat), t.Inv H ka → Carried H ka t c pos kc →
    D t.elems.length c.hash pos + j < t.elems.length →
    (∀ i < j, ∀ e, Occ t (adv t.elems.length pos i) e → ka e.offset ≠ .ok K) →
    Free t (adv t.elems.length pos j) → j < fuel →
    ∃ t', RHH.insertLoop ka K fuel t c.hash c.offset c.id pos (D t.elems.length c.hash pos) = .ok (t', false) ∧
      t'.Inv H ka ∧ t'.SameFrame t ∧ (c :: t.contents).Perm t'.contents := by
  intro fuel
  induction fuel with
  | zero => intro _ _ _ _ j _ _ _ _ _ hf; exact absurd hf (Nat.not_lt_zero j)
  | succ fuel ih =>
    intro t c pos kc j h hcar hbound hseg hfree hf
    have hc := h.shape.cap_gt
    have hp := hcar.pos_lt
    rcases occ_or_free t hp with ⟨e, ho⟩ | hfree0
    · obtain ⟨j, rfl⟩ : ∃ j', j = j' + 1 := by
        cases j with
        | zero => exact ((adv_zero hp ▸ hfree).elim fun _ hf0 => (ho.not_free ⟨_, hf0⟩).elim)
        | succ j => exact ⟨j, rfl⟩
      obtain ⟨ke, hke, hhe⟩ := h.keyed pos e ho
      have hkeK : ke ≠ K := fun heq =>
        hseg 0 (Nat.succ_pos j) e (by rw [adv_zero hp]; exact ho) (heq ▸ hke)
      have hkne : ke ≠ kc := fun heq => hcar.fresh pos e ho (heq ▸ hke)
      have hahead : ∀ i ≤ j, adv t.elems.length pos (i + 1) ≠ pos := fun i hi =>
        adv_ne hc hp (Nat.succ_pos i)
          (Nat.lt_of_le_of_lt (Nat.le_trans (Nat.succ_le_succ hi) (Nat.le_add_left _ _)) hbound)
      rw [insertLoop_occ h.shape ho hke, if_neg hkeK]
      by_cases hsw : D t.elems.length e.hash pos < D t.elems.length c.hash pos
      · -- swap: `c` stays here, `e` is carried on
        have hlen1 := put_length t pos c
        have b2 : D t.elems.length e.hash pos + 1 + j < t.elems.length :=
          Nat.lt_of_le_of_lt (Nat.add_le_add_right (Nat.succ_le_of_lt hsw) j) (Nat.lt_of_succ_lt hbound)
        have b1 := Nat.lt_of_le_of_lt (Nat.le_add_right _ j) b2
        have hD : D t.elems.length e.hash (nxt t.elems.length pos) = D t.elems.length e.hash pos + 1 :=
          D_nxt hc e.hash hp b1
        have hcar1 : Carried H ka (t.put pos c) e (nxt t.elems.length pos) ke := by
          refine ⟨by rw [hlen1]; exact nxt_lt hc pos, ho.2, hke, hhe, ?_, ?_⟩
          · intro p x hox heq
            rcases (occ_put hp p x).mp hox with ⟨_, rfl, _⟩ | ⟨hne, hox'⟩
            · exact hkne (Except.ok.inj (heq.symm.trans hcar.key))
            · exact hne (h.uniq p pos x e ke hox' ho heq hke)
          · intro _
            rw [hlen1, prv_nxt hc hp, hD]
            exact ⟨c, occ_put_self hp hcar.hash_ne, Nat.succ_le_succ (Nat.le_of_lt hsw)⟩
        obtain ⟨t', hrun, hinv', hfr', hperm'⟩ :=
          ih (t.put pos c) e (nxt t.elems.length pos) ke j (put_inv h hcar (Or.inr ⟨e, ho, Nat.le_of_lt hsw⟩)) hcar1
            (by rw [hlen1, hD]; exact b2)
            (fun i hi x hox => by
              rw [hlen1, adv_nxt] at hox
              rcases (occ_put hp _ x).mp hox with ⟨heq, _⟩ | ⟨_, hox'⟩
              · exact absurd heq (hahead i (Nat.le_of_lt hi))
              · exact hseg (i + 1) (Nat.succ_lt_succ hi) x hox')
            (by rw [hlen1, adv_nxt]
                exact (free_put_other (hahead j (Nat.le_refl j))).mpr hfree)
            (Nat.lt_of_succ_lt_succ hf)
        rw [hlen1, hD] at hrun
        rw [if_pos hsw]
        exact ⟨t', hrun, hinv', hfr'.trans (.put t pos c), (contents_put_occ ho hcar.hash_ne).trans hperm'⟩
      · -- no swap: carry `c` on
        have b2 : D t.elems.length c.hash pos + 1 + j < t.elems.length := by
          rw [Nat.add_right_comm]
          exact hbound
        have b1 := Nat.lt_of_le_of_lt (Nat.le_add_right _ j) b2
        have hD : D t.elems.length c.hash (nxt t.elems.length pos) = D t.elems.length c.hash pos + 1 :=
          D_nxt hc c.hash hp b1
        have hcar1 : Carried H ka t c (nxt t.elems.length pos) kc :=
          ⟨nxt_lt hc pos, hcar.hash_ne, hcar.key, hcar.hash_eq, hcar.fresh, fun _ => by
            rw [prv_nxt hc hp, hD]
            exact ⟨e, ho, Nat.succ_le_succ (Nat.le_of_not_lt hsw)⟩⟩
        obtain ⟨t', hrun, hrest⟩ := ih t c (nxt t.elems.length pos) kc j h hcar1
          (by rw [hD]; exact b2) (fun i hi x hox => hseg (i + 1) (Nat.succ_lt_succ hi) x (adv_nxt _ pos i ▸ hox))
          (adv_nxt _ pos j ▸ hfree) (Nat.lt_of_succ_lt_succ hf)
        rw [hD] at hrun
        rw [if_neg hsw]
        exact ⟨t', hrun, hrest⟩
    · exact ⟨t.put pos c, insertLoop_free hfree0 .., put_inv h hcar (Or.inl hfree0), .put t pos c,
        contents_put_free hfree0 hcar.hash_ne⟩

/-- the key is in the table (slot `s`): the loop walks there without a swap and overwrites the slot -/
theorem insertLoop_present (h : t.Inv H ka) {s : Nat} {e0 : Elem}
    {K : Bytes} (ho : Occ t s e0) (hk0 : ka e0.offset = .ok K) (off id : Nat) :
    ∀ (n d fuel : Nat), d + n = D t.elems.length e0.hash s → n < fuel →
    RHH.insertLoop ka K fuel t e0.hash off id (adv t.elems.length e0.hash d) d =
      .ok (t.put s ⟨off, id, e0.hash⟩, true) := by
  have hc := h.shape.cap_gt
  intro n
  induction n with
  | zero =>
    intro d fuel hd hf
    obtain ⟨fuel, rfl⟩ := Nat.exists_eq_add_one_of_ne_zero (Nat.ne_zero_of_lt hf)
    obtain rfl : d = D t.elems.length e0.hash s := hd
    rw [adv_D hc e0.hash ho.lt, insertLoop_occ h.shape ho hk0, if_pos rfl]
  | succ n ih =>
    intro d fuel hd hf
    obtain ⟨fuel, rfl⟩ := Nat.exists_eq_add_one_of_ne_zero (Nat.ne_zero_of_lt hf)
    have hlt : d < D t.elems.length e0.hash s := hd ▸ Nat.lt_add_of_pos_right (Nat.succ_pos n)
    have hd' : d + 1 + n = D t.elems.length e0.hash s := (Nat.add_right_comm d 1 n).trans hd
    have hf' : n < fuel := Nat.lt_of_succ_lt_succ hf
    obtain ⟨f, kf, hfo, hfd, hkf, hne⟩ := h.before ho hk0 hlt
    rw [insertLoop_occ h.shape hfo hkf, if_neg hne, if_neg (Nat.not_lt.mpr hfd), nxt_adv]
    exact ih (d + 1) fuel hd' hf'

/-- no key twice -/
def DistinctKeys (ka : KeyAt) (l : List Elem) : Prop :=
  l.Pairwise fun a b => ∀ k, ka a.offset = .ok k → ka b.offset ≠ .ok k

theorem DistinctKeys.perm {l l' : List Elem} (h : DistinctKeys ka l) (hp : l.Perm l') : DistinctKeys ka l' :=
  hp.pairwise h fun hab k hb ha => hab k ha hb

theorem RHH.Inv.distinctKeys (h : t.Inv H ka) : DistinctKeys ka t.contents := by
  rw [DistinctKeys, RHH.contents, pairwise_filter, pairwise_iff_getElem]
  intro i j hi hj hij hne1 hne2 k hk1 hk2
  exact Nat.ne_of_lt hij (h.uniq i j _ _ k ⟨getElem?_eq_getElem hi, of_decide_eq_true hne1⟩
    ⟨getElem?_eq_getElem hj, of_decide_eq_true hne2⟩ hk1 hk2)

/-- index.insertIDbyOffset of a key the table holds in slot `s`: that slot is overwritten -/
theorem insertIDbyOffset_present (h : t.Inv H ka) {s : Nat} {e0 : Elem} {K : Bytes} (ho : Occ t s e0)
    (hk0 : ka e0.offset = .ok K) {off : Nat} (hk : ka off = .ok K) (id : Nat) :
    RHH.insertIDbyOffset H ka t off id = .ok (t.put s ⟨off, id, e0.hash⟩, true) := by
  unfold RHH.insertIDbyOffset
  simp only [hk, ebind_ok, h.shape.home_eq]
  rw [← h.hash_eq ho hk0]
  exact insertLoop_present h ho hk0 off id (D t.elems.length e0.hash s) 0 (t.elems.length + 1)
    (Nat.zero_add _) (Nat.lt_succ_of_lt (D_lt h.shape.cap_gt e0.hash s))

/-- index.insertIDbyOffset of a key the table does not hold -/
theorem insertIDbyOffset_absent (h : t.Inv H ka) (hroom : t.contents.length < t.elems.length)
    (off id : Nat) (K : Bytes) (hk : ka off = .ok K) (hno : ∀ e ∈ t.contents, ka e.offset ≠ .ok K) :
    ∃ t', RHH.insertIDbyOffset H ka t off id = .ok (t', false) ∧ t'.Inv H ka ∧ t'.SameFrame t ∧
      (⟨off, id, hashKey H K⟩ :: t.contents).Perm t'.contents := by
  have hc := h.shape.cap_gt
  have hno' : ∀ p e, Occ t p e → ka e.offset ≠ .ok K := fun p e ho => hno e (mem_contents.mpr ⟨p, ho⟩)
  obtain ⟨q, hq⟩ := exists_free_of_count (countNE_eq t ▸ hroom)
  have hD0 : D t.elems.length (hashKey H K) (adv t.elems.length (hashKey H K) 0) = 0 :=
    D_adv hc _ (Nat.lt_of_succ_lt hc)
  have hhne : hashKey H K ≠ 0 := by unfold hashKey; split <;> omega
  have hcar : Carried H ka t ⟨off, id, hashKey H K⟩ (adv t.elems.length (hashKey H K) 0) K :=
    ⟨adv_lt hc _ 0, hhne, hk, rfl, hno', fun hd => by rw [hD0] at hd; exact absurd hd (Nat.lt_irrefl 0)⟩
  obtain ⟨t', hrun, hrest⟩ :=
    insertLoop_absent K (t.elems.length + 1) t ⟨off, id, hashKey H K⟩ _ K
      (D t.elems.length (adv t.elems.length (hashKey H K) 0) q) h hcar
      (by rw [hD0, Nat.zero_add]; exact D_lt hc _ q)
      (fun i _ e he => hno' _ e he)
      (by rw [adv_D hc _ hq.lt]; exact hq) (Nat.lt_succ_of_lt (D_lt hc _ q))
  rw [hD0] at hrun
  refine ⟨t', ?_, hrest⟩
  unfold RHH.insertIDbyOffset
  simp only [hk, ebind_ok, h.shape.home_eq]
  exact hrun

theorem insertIDbyOffset_spec {H : Bytes → Nat} {ka : KeyAt} {t : RHH} (h : t.Inv H ka)
    (hroom : countNE t < t.elems.length) (off id : Nat) (K : Bytes) (hk : ka off = .ok K) :
    ∃ t' ow, RHH.insertIDbyOffset H ka t off id = .ok (t', ow) ∧ t'.Inv H ka ∧
      t'.elems.length = t.elems.length ∧ t'.mask = t.mask ∧ t'.n = t.n ∧ t'.threshold = t.threshold ∧
      (∀ key id', Maps ka t' key id' ↔ (key = K ∧ id' = id) ∨ (Maps ka t key id' ∧ key ≠ K)) ∧
      countNE t' = countNE t + (if ow then 0 else 1) := by
  by_cases hex : ∃ id0, Maps ka t K id0
  · obtain ⟨id0, s, e0, ho, hk0, _⟩ := hex
    exact ⟨_, true, insertIDbyOffset_present h ho hk0 hk id, h.put_same ho hk0 hk rfl, put_length .., rfl, rfl, rfl,
      maps_put_occ h ho hk0 ho.2 hk, countNE_put_occ ho ho.2⟩
  · have hno : ∀ e ∈ t.contents, ka e.offset ≠ .ok K := fun e he hke =>
      hex ⟨e.id, (maps_iff_contents K e.id).mpr ⟨e, he, hke, rfl⟩⟩
    obtain ⟨t', hrun, hinv, ⟨f1, f2, f3, f4⟩, hperm⟩ := insertIDbyOffset_absent h (countNE_eq t ▸ hroom) off id K hk hno
    refine ⟨t', false, hrun, hinv, f1, f2, f3, f4, fun key id' => ?_,
      by rw [countNE_eq, countNE_eq, ← hperm.length_eq]; rfl⟩
    rw [maps_of_perm_cons hperm]
    constructor
    · rintro (⟨hke, hid⟩ | hm)
      · exact Or.inl ⟨Except.ok.inj (hke.symm.trans hk), hid.symm⟩
      · exact Or.inr ⟨hm, fun heq => hex ⟨id', heq ▸ hm⟩⟩
    · rintro (⟨rfl, rfl⟩ | ⟨hm, _⟩)
      · exact Or.inl ⟨hk, rfl⟩
      · exact Or.inr hm

end PV.C24
