/-
C24, robin-hood table: slots of a circular table of `cap` slots.  Everything rests on three facts, none
of which needs a case split on the wrap-around: steps add up (`adv_adv`), fewer than `cap` steps never
meet (`adv_inj`), and `D` steps from home lead to the slot (`adv_D`).
-/
namespace PV.C24

/-- probe distance of hash `h` at slot `p` -/
def D (cap h p : Nat) : Nat := (p + cap - h % cap) % cap
def nxt (cap p : Nat) : Nat := (p + 1) % cap
def prv (cap p : Nat) : Nat := (p + cap - 1) % cap
/-- the slot `i` steps after `p`; for a hash `h`, `adv cap h j` is the `j`-th slot probed -/
def adv (cap p i : Nat) : Nat := (p + i) % cap

theorem adv_adv (cap p i j : Nat) : adv cap (adv cap p i) j = adv cap p (i + j) := by
  simp only [adv, Nat.mod_add_mod, Nat.add_assoc]

theorem nxt_adv (cap p i : Nat) : nxt cap (adv cap p i) = adv cap p (i + 1) := adv_adv cap p i 1

theorem adv_nxt (cap p i : Nat) : adv cap (nxt cap p) i = adv cap p (i + 1) := by
  rw [Nat.add_comm]
  exact adv_adv cap p 1 i

theorem prv_eq_adv {cap : Nat} (hc : 0 < cap) (p : Nat) : prv cap p = adv cap p (cap - 1) := by
  rw [prv, adv, Nat.add_sub_assoc hc]

theorem adv_zero {cap p : Nat} (hp : p < cap) : adv cap p 0 = p := Nat.mod_eq_of_lt hp

theorem adv_cap {cap p : Nat} (hp : p < cap) : adv cap p cap = p := by
  rw [adv, Nat.add_mod_right, Nat.mod_eq_of_lt hp]

theorem adv_inj {cap p i j : Nat} (hi : i < cap) (hj : j < cap) (h : adv cap p i = adv cap p j) : i = j := by
  have le : ∀ {a b : Nat}, a < cap → adv cap p a = adv cap p b → a ≤ b := by
    intro a b ha hab
    have h0 : (p + a - (p + b)) % cap = 0 := Nat.sub_mod_eq_zero_of_mod_eq hab
    rw [Nat.add_sub_add_left, Nat.mod_eq_of_lt (by omega)] at h0
    omega
  exact Nat.le_antisymm (le hi h) (le hj h.symm)

section
variable {cap : Nat} (hc : 1 < cap)
include hc

theorem D_lt (h p : Nat) : D cap h p < cap := Nat.mod_lt _ (by omega)
theorem nxt_lt (p : Nat) : nxt cap p < cap := Nat.mod_lt _ (by omega)
theorem prv_lt (p : Nat) : prv cap p < cap := Nat.mod_lt _ (by omega)
theorem adv_lt (p i : Nat) : adv cap p i < cap := Nat.mod_lt _ (by omega)

theorem adv_ne {p i : Nat} (hp : p < cap) (h0 : 0 < i) (hi : i < cap) : adv cap p i ≠ p := by
  intro e
  have := adv_inj hi (by omega) (e.trans (adv_zero hp).symm)
  omega

theorem adv_D (h : Nat) {p : Nat} (hp : p < cap) : adv cap h (D cap h p) = p := by
  have hm : h % cap ≤ p + cap := by have := Nat.mod_lt h (by omega : 0 < cap); omega
  rw [adv, D, Nat.add_mod_mod, ← Nat.mod_add_mod, Nat.add_sub_cancel' hm, Nat.add_mod_right,
    Nat.mod_eq_of_lt hp]

theorem D_eq_iff (h : Nat) {p d : Nat} (hp : p < cap) (hd : d < cap) :
    D cap h p = d ↔ adv cap h d = p :=
  ⟨fun e => e ▸ adv_D hc h hp, fun e => adv_inj (D_lt hc h p) hd ((adv_D hc h hp).trans e.symm)⟩

theorem D_adv (h : Nat) {j : Nat} (hj : j < cap) : D cap h (adv cap h j) = j :=
  (D_eq_iff hc h (adv_lt hc h j) hj).mpr rfl

theorem D_zero_iff (h : Nat) {p : Nat} (hp : p < cap) : D cap h p = 0 ↔ p = h % cap := by
  rw [D_eq_iff hc h hp (by omega)]
  exact eq_comm

theorem prv_nxt {p : Nat} (hp : p < cap) : prv cap (nxt cap p) = p := by
  rw [prv_eq_adv (by omega)]
  show adv cap (adv cap p 1) (cap - 1) = p
  rw [adv_adv, Nat.add_sub_cancel' (by omega), adv_cap hp]

theorem nxt_prv {p : Nat} (hp : p < cap) : nxt cap (prv cap p) = p := by
  rw [prv_eq_adv (by omega)]
  show adv cap (adv cap p (cap - 1)) 1 = p
  rw [adv_adv, Nat.sub_add_cancel (by omega), adv_cap hp]

theorem nxt_ne {p : Nat} (hp : p < cap) : nxt cap p ≠ p := adv_ne hc hp (by omega) hc

theorem prv_ne {p : Nat} (hp : p < cap) : prv cap p ≠ p := by
  rw [prv_eq_adv (by omega)]
  exact adv_ne hc hp (by omega) (by omega)

theorem prv_adv (p i : Nat) : prv cap (adv cap p (i + 1)) = adv cap p i := by
  rw [← nxt_adv, prv_nxt hc (adv_lt hc p i)]

theorem D_nxt (h : Nat) {p : Nat} (hp : p < cap) (hd : D cap h p + 1 < cap) :
    D cap h (nxt cap p) = D cap h p + 1 := by
  rw [D_eq_iff hc h (nxt_lt hc p) hd, ← nxt_adv, adv_D hc h hp]

theorem D_prv (h : Nat) {p : Nat} (hp : p < cap) (hd : 0 < D cap h p) :
    D cap h (prv cap p) = D cap h p - 1 := by
  have hl := D_lt hc h p
  rw [D_eq_iff hc h (prv_lt hc p) (by omega)]
  calc adv cap h (D cap h p - 1) = prv cap (adv cap h (D cap h p - 1 + 1)) := (prv_adv hc h _).symm
    _ = prv cap p := by rw [Nat.sub_add_cancel hd, adv_D hc h hp]

end

end PV.C24
