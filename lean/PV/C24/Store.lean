/-
C24: a store agrees with its log: its file is the encoding of the committed entries `es` and every
namespace's index holds the pairs of that namespace (`Good`).  appendEntry keeps the agreement,
replay re-establishes it, and what such a store answers is a function of `es`.
-/
import PV.C24.Index
import PV.C24.Spec
namespace PV.C24
open List

theorem getNs_setNs_same {τ : Type} (nss : List (NsKey × Index τ)) (k : NsKey) (ix : Index τ) :
    getNs (setNs nss k ix) k = some ix := by
  induction nss with
  | nil => simp [setNs, getNs]
  | cons p nss ih =>
    obtain ⟨k', ix'⟩ := p
    by_cases h : k' = k
    · simp [setNs, getNs, h]
    · simp [setNs, getNs, h, ih]

theorem getNs_setNs_other {τ : Type} (nss : List (NsKey × Index τ)) (k k2 : NsKey) (ix : Index τ)
    (hne : k2 ≠ k) : getNs (setNs nss k ix) k2 = getNs nss k2 := by
  induction nss with
  | nil => simp [setNs, getNs]; exact fun e => hne e.symm
  | cons p nss ih =>
    obtain ⟨k', ix'⟩ := p
    by_cases h : k' = k
    · subst h
      have : ¬ k' = k2 := fun e => hne e.symm
      simp [setNs, getNs, this]
    · by_cases h2 : k' = k2
      · subst h2; simp [setNs, getNs, h]
      · simp [setNs, getNs, h, h2, ih]

theorem pairsOf_snoc (es : List Entry) (e : Entry) (ns : NsKey) :
    Spec.pairsOf (es ++ [e]) ns = Spec.pairsOf es ns ++ (if Spec.nsOf e = some ns then e.pairs else []) := by
  simp only [Spec.pairsOf, filter_append, flatMap_append]
  by_cases h : Spec.nsOf e = some ns
  · simp [h]
  · simp [h]

theorem hasNs_snoc (es : List Entry) (e : Entry) (ns : NsKey) :
    Spec.hasNs (es ++ [e]) ns = (Spec.hasNs es ns || decide (Spec.nsOf e = some ns)) := by
  simp [Spec.hasNs]

theorem pairsOf_nil_of_not_hasNs (es : List Entry) (k : NsKey) (hn : Spec.hasNs es k = false) :
    Spec.pairsOf es k = [] := by
  simp only [Spec.hasNs, any_eq_false] at hn
  have : es.filter (fun e => Spec.nsOf e = some k) = [] :=
    filter_eq_nil_iff.mpr hn
  simp only [Spec.pairsOf, this, flatMap_nil]

theorem nsOfEntry_eq (e : Entry) (h : e.typ = 1 ∨ e.typ = 2) :
    ∃ k, nsOfEntry e = .ok k ∧ Spec.nsOf e = some k := by
  rcases h with h | h
  · exact ⟨.col e.index, by simp [nsOfEntry, Spec.nsOf, h, LogEntryTypeInsertColumn]⟩
  · exact ⟨.row e.index e.field, by simp [nsOfEntry, Spec.nsOf, h, LogEntryTypeInsertColumn, LogEntryTypeInsertRow]⟩

theorem fileOf_append (a b : List Entry) : Spec.fileOf (a ++ b) = Spec.fileOf a ++ Spec.fileOf b := by
  simp [Spec.fileOf]

theorem fileOf_snoc (es : List Entry) (e : Entry) :
    Spec.fileOf (es ++ [e]) = Spec.fileOf es ++ encodeEntry e := by
  simp [Spec.fileOf]

theorem fileOf_cons (e : Entry) (es : List Entry) : Spec.fileOf (e :: es) = encodeEntry e ++ Spec.fileOf es := by
  simp [Spec.fileOf]

variable {T : TableImpl} {L : TableLaws T}

/-- the in-memory indexes agree with the log `es`, reading keys through `data` -/
structure GoodNss (T : TableImpl) (L : TableLaws T) (data : Bytes) (nss : List (NsKey × Index T.τ))
    (es : List Entry) : Prop where
  none : ∀ ns, getNs nss ns = none → Spec.hasNs es ns = false
  some : ∀ ns ix, getNs nss ns = some ix → Spec.hasNs es ns = true ∧
    IndexOK T L (lookupKey data) ix (Spec.pairsOf es ns) ∧ ix.seq = maxId (Spec.pairsOf es ns)

theorem GoodNss.empty (T : TableImpl) (L : TableLaws T) (data : Bytes) : GoodNss T L data [] [] where
  none := fun _ _ => rfl
  some := fun _ _ h => nomatch h

/-- `GoodNss` with the namespace `k` exempted from the sequence / presence conditions: the state
between `idx.seq++` (and the creation of a missing index) and the append in phase 2. -/
structure GoodNssExcept (T : TableImpl) (L : TableLaws T) (data : Bytes) (nss : List (NsKey × Index T.τ))
    (es : List Entry) (k : NsKey) : Prop where
  none : ∀ ns, getNs nss ns = none → Spec.hasNs es ns = false
  some : ∀ ns ix, getNs nss ns = some ix → IndexOK T L (lookupKey data) ix (Spec.pairsOf es ns) ∧
    (ns ≠ k → Spec.hasNs es ns = true ∧ ix.seq = maxId (Spec.pairsOf es ns))

theorem GoodNss.toExcept {data : Bytes} {nss : List (NsKey × Index T.τ)}
    {es : List Entry} (h : GoodNss T L data nss es) (k : NsKey) : GoodNssExcept T L data nss es k where
  none := h.none
  some := fun ns ix hs => ⟨(h.some ns ix hs).2.1, fun _ => ⟨(h.some ns ix hs).1, (h.some ns ix hs).2.2⟩⟩

theorem GoodNss.getD {data : Bytes} {nss : List (NsKey × Index T.τ)}
    {es : List Entry} (h : GoodNss T L data nss es) (ns : NsKey) :
    IndexOK T L (lookupKey data) ((getNs nss ns).getD (newIndex T)) (Spec.pairsOf es ns) ∧
      ((getNs nss ns).getD (newIndex T)).seq = maxId (Spec.pairsOf es ns) := by
  cases hget : getNs nss ns with
  | none =>
    rw [pairsOf_nil_of_not_hasNs es ns (h.none ns hget)]
    exact ⟨IndexOK.new T L _, rfl⟩
  | some ix => exact (h.some ns ix hget).2

theorem GoodNss.advance {data : Bytes} {nss : List (NsKey × Index T.τ)}
    {es : List Entry} (h : GoodNss T L data nss es) (k : NsKey) (sq : Nat) :
    GoodNssExcept T L data (setNs nss k { (getNs nss k).getD (newIndex T) with seq := sq }) es k := by
  constructor
  · intro ns hnone
    by_cases hns : ns = k
    · rw [hns] at hnone
      exact nomatch (getNs_setNs_same _ _ _).symm.trans hnone
    · exact h.none ns ((getNs_setNs_other _ _ _ _ hns).symm.trans hnone)
  · intro ns ix hsome
    by_cases hns : ns = k
    · subst hns
      obtain rfl := Option.some.inj ((getNs_setNs_same _ _ _).symm.trans hsome)
      exact ⟨(h.getD ns).1.seq sq, fun hne => absurd rfl hne⟩
    · obtain ⟨b1, b2, b3⟩ := h.some ns ix ((getNs_setNs_other _ _ _ _ hns).symm.trans hsome)
      exact ⟨b2, fun _ => ⟨b1, b3⟩⟩

/-- `hseq`: the sequence of the namespace's index may be ahead of the log (phase 2 does `idx.seq++`
before it appends) as long as the ids of the entry catch up with it. -/
theorem applyEntry_good_except {data data' : Bytes}
    {nss : List (NsKey × Index T.τ)} {es : List Entry} (e : Entry) (off : Nat) (k : NsKey)
    (hg : GoodNssExcept T L data nss es k) (hle : KeyAt.le (lookupKey data) (lookupKey data'))
    (hk : nsOfEntry e = .ok k) (hk2 : Spec.nsOf e = some k)
    (hseq : ∀ ix, getNs nss k = some ix → max ix.seq (maxId e.pairs) = maxId (Spec.pairsOf es k ++ e.pairs))
    (ho : OffsOK (lookupKey data') e.pairs (off + headerSize e (encodeBody e).length)) :
    ∃ nss', applyEntry T data' nss e (encodeBody e).length off = .ok nss' ∧
      GoodNss T L data' nss' (es ++ [e]) := by
  obtain ⟨ix, hixe, hok, hseq'⟩ : ∃ ix, (getNs nss k).getD (newIndex T) = ix ∧
      IndexOK T L (lookupKey data') ix (Spec.pairsOf es k) ∧
      max ix.seq (maxId e.pairs) = maxId (Spec.pairsOf es k ++ e.pairs) := by
    cases hget : getNs nss k with
    | none =>
      rw [pairsOf_nil_of_not_hasNs es k (hg.none k hget)]
      exact ⟨newIndex T, rfl, IndexOK.new T L _, Nat.zero_max _⟩
    | some ix => exact ⟨ix, rfl, (hg.some k ix hget).1.mono hle, hseq ix hget⟩
  obtain ⟨ix', e', ok', s'⟩ := applyPairs_ok e.pairs ix _ _ hok ho
  have hpk : Spec.pairsOf (es ++ [e]) k = Spec.pairsOf es k ++ e.pairs := by rw [pairsOf_snoc, if_pos hk2]
  have hpo : ∀ ns, ns ≠ k → Spec.pairsOf (es ++ [e]) ns = Spec.pairsOf es ns ∧
      Spec.hasNs (es ++ [e]) ns = Spec.hasNs es ns := fun ns hns => by
    have hne : ¬ Spec.nsOf e = some ns := fun h => hns (Option.some.inj (h.symm.trans hk2))
    rw [pairsOf_snoc, if_neg hne, append_nil, hasNs_snoc, decide_eq_false hne, Bool.or_false]
    exact ⟨rfl, rfl⟩
  refine ⟨setNs nss k ix', ?_, ?_, ?_⟩
  · simp only [applyEntry, hk, ebind_ok, hixe, e', epure]
  · intro ns hnone
    by_cases hns : ns = k
    · rw [hns, getNs_setNs_same] at hnone
      exact nomatch hnone
    · rw [getNs_setNs_other _ _ _ _ hns] at hnone
      rw [(hpo ns hns).2, hg.none ns hnone]
  · intro ns ix2 hsome
    by_cases hns : ns = k
    · subst hns
      rw [getNs_setNs_same] at hsome
      obtain rfl : ix' = ix2 := Option.some.inj hsome
      refine ⟨?_, by rwa [hpk], by rw [hpk, s', hseq']⟩
      rw [hasNs_snoc, decide_eq_true hk2, Bool.or_true]
    · rw [getNs_setNs_other _ _ _ _ hns] at hsome
      obtain ⟨h2, h13⟩ := hg.some ns ix2 hsome
      rw [(hpo ns hns).1, (hpo ns hns).2]
      exact ⟨(h13 hns).1, h2.mono hle, (h13 hns).2⟩

theorem applyEntry_good {data data' : Bytes}
    {nss : List (NsKey × Index T.τ)} {es : List Entry} (e : Entry) (off : Nat)
    (hg : GoodNss T L data nss es) (hle : KeyAt.le (lookupKey data) (lookupKey data'))
    (htyp : e.typ = 1 ∨ e.typ = 2)
    (ho : OffsOK (lookupKey data') e.pairs (off + headerSize e (encodeBody e).length)) :
    ∃ nss', applyEntry T data' nss e (encodeBody e).length off = .ok nss' ∧
      GoodNss T L data' nss' (es ++ [e]) := by
  obtain ⟨k, hk, hk2⟩ := nsOfEntry_eq e htyp
  refine applyEntry_good_except e off k (hg.toExcept k) hle hk hk2 ?_ ho
  intro ix hget
  rw [(hg.some k ix hget).2.2, maxId_append]

/-- what applyEntry needs of an entry; `Entry.WF` is what the decoder needs (replay and replication
do both) -/
def EntryOK (e : Entry) : Prop := (∀ p ∈ e.pairs, p.2.length < 2 ^ 64) ∧ (e.typ = 1 ∨ e.typ = 2)

structure Good (T : TableImpl) (L : TableLaws T) (s : Store T.τ) (es : List Entry) : Prop where
  data : s.data = Spec.fileOf es
  n : s.n = s.data.length
  wf : ∀ e ∈ es, EntryOK e
  nss : GoodNss T L s.data s.nss es

theorem Good.empty (T : TableImpl) (L : TableLaws T) (ro : Bool) : Good T L (Store.empty T.τ ro) [] where
  data := rfl
  n := rfl
  wf := fun _ h => nomatch h
  nss := GoodNss.empty T L _

theorem appendEntry_good_except {s : Store T.τ} {es : List Entry}
    (e : Entry) (k : NsKey) (hdata : s.data = Spec.fileOf es) (hn : s.n = s.data.length)
    (hwf : ∀ e ∈ es, EntryOK e) (hg : GoodNssExcept T L s.data s.nss es k) (he : EntryOK e)
    (hk : nsOfEntry e = .ok k) (hk2 : Spec.nsOf e = some k)
    (hseq : ∀ ix, getNs s.nss k = some ix → max ix.seq (maxId e.pairs) = maxId (Spec.pairsOf es k ++ e.pairs)) :
    ∃ s', appendEntry T s e = .ok s' ∧ Good T L s' (es ++ [e]) ∧ s'.readOnly = s.readOnly := by
  have ho : OffsOK (lookupKey (s.data ++ encodeEntry e)) e.pairs (s.n + headerSize e (encodeBody e).length) := by
    have := offsOK_entry s.data [] e he.1
    rwa [append_nil, ← hn] at this
  obtain ⟨nss', hap, hg'⟩ := applyEntry_good_except e s.n k hg (lookupKey_le s.data (encodeEntry e)) hk hk2 hseq ho
  refine ⟨{ s with data := s.data ++ encodeEntry e, n := s.n + (encodeEntry e).length, nss := nss' }, ?_, ?_, rfl⟩
  · simp only [appendEntry, hap, ebind_ok, epure]
  · exact ⟨by rw [fileOf_snoc, ← hdata], by rw [length_append, ← hn],
      fun x hx => (mem_append.mp hx).elim (hwf x) fun h => mem_singleton.mp h ▸ he, hg'⟩

theorem appendEntry_good {s : Store T.τ} {es : List Entry}
    (e : Entry) (h : Good T L s es) (he : EntryOK e) :
    ∃ s', appendEntry T s e = .ok s' ∧ Good T L s' (es ++ [e]) ∧ s'.readOnly = s.readOnly := by
  obtain ⟨k, hk, hk2⟩ := nsOfEntry_eq e he.2
  refine appendEntry_good_except e k h.data h.n h.wf (h.nss.toExcept k) he hk hk2 fun ix hget => ?_
  rw [(h.nss.some k ix hget).2.2, maxId_append]

theorem replayLoop_good (es2 : List Entry) :
    ∀ (es1 : List Entry) (nss : List (NsKey × Index T.τ)) (fuel : Nat),
    (∀ e ∈ es1 ++ es2, EntryOK e) → (∀ e ∈ es2, e.WF) →
    GoodNss T L (Spec.fileOf (es1 ++ es2)) nss es1 →
    (Spec.fileOf es2).length < fuel →
    ∃ nss', replayLoop T (Spec.fileOf (es1 ++ es2)) fuel (Spec.fileOf es2) (Spec.fileOf es1).length nss =
        .ok ((Spec.fileOf (es1 ++ es2)).length, nss') ∧
      GoodNss T L (Spec.fileOf (es1 ++ es2)) nss' (es1 ++ es2) := by
  induction es2 with
  | nil =>
    intro es1 nss fuel _ _ hg hf
    obtain ⟨fuel, rfl⟩ := Nat.exists_eq_add_one_of_ne_zero (Nat.ne_zero_of_lt hf)
    exact ⟨nss, by simp [replayLoop, Spec.fileOf], by rwa [append_nil] at hg ⊢⟩
  | cons e es2 ih =>
    intro es1 nss fuel hwf henc hg hf
    obtain ⟨fuel, rfl⟩ := Nat.exists_eq_add_one_of_ne_zero (Nat.ne_zero_of_lt hf)
    have he : EntryOK e := hwf e (mem_append_right _ mem_cons_self)
    have hne : Spec.fileOf (e :: es2) ≠ [] := by
      rw [fileOf_cons]
      exact fun h => encodeEntry_ne_nil e (append_eq_nil_iff.mp h).1
    have ho : OffsOK (lookupKey (Spec.fileOf (es1 ++ e :: es2))) e.pairs
        ((Spec.fileOf es1).length + headerSize e (encodeBody e).length) := by
      rw [fileOf_append, fileOf_cons]
      exact offsOK_entry _ _ e he.1
    obtain ⟨nss1, hap, hg1⟩ := applyEntry_good e (Spec.fileOf es1).length hg (KeyAt.le_refl _) he.2 ho
    have hcat : es1 ++ e :: es2 = (es1 ++ [e]) ++ es2 := (append_cons es1 e es2)
    have hlen : (Spec.fileOf es1).length + (uvarintSize (encodeBody e).length + (encodeBody e).length) =
        (Spec.fileOf (es1 ++ [e])).length := by
      rw [fileOf_snoc, length_append, encodeEntry, length_append, uvarintSize_eq]
    rw [hcat] at hwf hg1 hap ⊢
    obtain ⟨nss', hrl, hg'⟩ := ih (es1 ++ [e]) nss1 fuel hwf
      (fun x hx => henc x (mem_cons_of_mem _ hx)) hg1 (by
        rw [fileOf_cons, length_append] at hf
        have := encodeEntry_length_pos e
        omega)
    refine ⟨nss', ?_, hg'⟩
    rw [replayLoop, if_neg hne, fileOf_cons, decodeEntry_encode e _ (henc e mem_cons_self)]
    simp only [hap, ebind_ok]
    rw [hlen]
    exact hrl

theorem replay_good (es : List Entry) (ro : Bool)
    (hwf : ∀ e ∈ es, EntryOK e) (henc : ∀ e ∈ es, e.WF) :
    ∃ s, replay T (Spec.fileOf es) ro = .ok s ∧ Good T L s es ∧ s.readOnly = ro := by
  obtain ⟨nss', hrl, hg⟩ := replayLoop_good (T := T) (L := L) es [] [] ((Spec.fileOf es).length + 1)
    hwf henc (GoodNss.empty T L _) (Nat.lt_succ_self _)
  rw [nil_append] at hrl hg
  refine ⟨⟨Spec.fileOf es, (Spec.fileOf es).length, nss', ro⟩, ?_, ⟨rfl, rfl, hwf, hg⟩, rfl⟩
  have : replayLoop T (Spec.fileOf es) ((Spec.fileOf es).length + 1) (Spec.fileOf es) 0 [] =
      .ok ((Spec.fileOf es).length, nss') := hrl
  simp only [replay, this, ebind_ok, epure]

theorem lookupId_good {s : Store T.τ} {es : List Entry}
    (h : Good T L s es) (ns : NsKey) (key : Bytes) :
    lookupId T s ns key = .ok (lastId (Spec.pairsOf es ns) key) := by
  unfold lookupId
  cases hget : getNs s.nss ns with
  | none => rw [pairsOf_nil_of_not_hasNs es ns (h.nss.none ns hget)]; rfl
  | some ix => exact (h.nss.some ns ix hget).2.1.fwd key

theorem keyOf_good {s : Store T.τ} {es : List Entry}
    (h : Good T L s es) (ns : NsKey) (id : Nat) :
    keyOf s ns id = .ok ((lastKey (Spec.pairsOf es ns) id).getD []) := by
  unfold keyOf
  cases hget : getNs s.nss ns with
  | none => rw [pairsOf_nil_of_not_hasNs es ns (h.nss.none ns hget)]; rfl
  | some ix =>
    simp only [(h.nss.some ns ix hget).2.1.rev id, ebind_ok]
    cases lastKey (Spec.pairsOf es ns) id <;> rfl

/-- The sequence number of a namespace (`none` = no index). -/
def seqOf {τ : Type} (s : Store τ) (ns : NsKey) : Option Nat := (getNs s.nss ns).map (·.seq)

theorem seqOf_good {s : Store T.τ} {es : List Entry}
    (h : Good T L s es) (ns : NsKey) :
    seqOf s ns = if Spec.hasNs es ns then some (maxId (Spec.pairsOf es ns)) else none := by
  unfold seqOf
  cases hget : getNs s.nss ns with
  | none => rw [h.nss.none ns hget]; rfl
  | some ix => obtain ⟨a, _, c⟩ := h.nss.some ns ix hget; rw [a, if_pos rfl, ← c]; rfl

theorem Good.same_answers {s s' : Store T.τ} {es : List Entry}
    (h' : Good T L s' es) (h : Good T L s es) :
    (∀ ns, seqOf s' ns = seqOf s ns) ∧ (∀ ns key, lookupId T s' ns key = lookupId T s ns key) ∧
      (∀ ns id, keyOf s' ns id = keyOf s ns id) :=
  ⟨fun ns => by rw [seqOf_good h', seqOf_good h], fun ns key => by rw [lookupId_good h', lookupId_good h],
    fun ns id => by rw [keyOf_good h', keyOf_good h]⟩

end PV.C24
