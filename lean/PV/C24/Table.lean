/-
C24: what the store asks of its hash table: a finite map key → id (`TableLaws`), whatever the key
file, which only ever grows (`KeyAt.le`), looks like.
-/
import PV.C24.Model
namespace PV.C24
open List

@[simp] theorem ebind_ok {ε α β : Type} (a : α) (f : α → Except ε β) : (Except.ok a >>= f) = f a := rfl
@[simp] theorem ebind_err {ε α β : Type} (e : ε) (f : α → Except ε β) : ((Except.error e : Except ε α) >>= f) = Except.error e := rfl
@[simp] theorem epure {ε α : Type} (a : α) : (pure a : Except ε α) = Except.ok a := rfl

def KeyAt.le (f g : KeyAt) : Prop := ∀ off k, f off = .ok k → g off = .ok k

theorem KeyAt.le_refl (f : KeyAt) : KeyAt.le f f := fun _ _ h => h

/-- A table implementation refines a finite map key → id: a validity invariant that holds for the
empty table and is kept by `insert`, lookups that never fail on valid tables and behave like a
map update, and indifference to the key file growing. -/
structure TableLaws (T : TableImpl) where
  Valid : KeyAt → T.τ → Prop
  valid_empty : ∀ ka, Valid ka T.empty
  lookup_empty : ∀ ka k, T.lookup ka T.empty k = .ok none
  lookup_ok : ∀ ka t k, Valid ka t → ∃ r, T.lookup ka t k = .ok r
  insert_ok : ∀ ka t off id k, Valid ka t → ka off = .ok k →
    ∃ t', T.insert ka t off id = .ok t' ∧ Valid ka t' ∧
      ∀ k', T.lookup ka t' k' = if k' = k then .ok (some id) else T.lookup ka t k'
  mono : ∀ ka ka' t, KeyAt.le ka ka' → Valid ka t →
    Valid ka' t ∧ ∀ k, T.lookup ka' t k = T.lookup ka t k

end PV.C24
