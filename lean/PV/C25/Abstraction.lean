/-
From the bucket to the specification state: the finite map a bucket stands for (`absDb`) and the
invariants on both sides (`DbOK`, `SpecOK`).
-/
import PV.C25.AssocMap
namespace PV.C25
open List

theorem decodeAttr_encodeAttr (k : Nat) (v : Val) : decodeAttr (encodeAttr k v) = (k, some v) := by
  cases v <;> simp [encodeAttr, decodeAttr, attrTypeString, attrTypeInt, attrTypeBool, attrTypeFloat]

theorem decodeStep_encode (m : AttrMap) (k : Nat) (v : Val) :
    decodeStep m (encodeAttr k v) = amSet m k v := by
  simp [decodeStep, decodeAttr_encodeAttr]

/-- decoding inserts the records into an empty map, which rebuilds a canonical map -/
theorem decode_encode (m : AttrMap) (hs : Sorted m) : decodeAttrs (encodeAttrs m) = m := by
  rw [decodeAttrs, encodeAttrs, foldl_map]
  simp only [decodeStep_encode]
  exact overrideWith_nil m hs

theorem encodeAttrs_eq_nil (m : AttrMap) : encodeAttrs m = [] ↔ m = [] := by
  simp [encodeAttrs]

theorem mergeStep_delete (a : AttrMap) (k : Nat) (v : InVal) (h : coerce v = .delete) :
    Spec.mergeStep a (k, v) = amDel a k := by simp [Spec.mergeStep, h]
theorem mergeStep_put (a : AttrMap) (k : Nat) (v : InVal) (x : Val) (h : coerce v = .put x) :
    Spec.mergeStep a (k, v) = amSet a k x := by simp [Spec.mergeStep, h]
theorem mergeStep_invalid (a : AttrMap) (k : Nat) (v : InVal) (h : coerce v = .invalid) :
    Spec.mergeStep a (k, v) = a := by simp [Spec.mergeStep, h]

theorem valid_iff (m : List (Nat × InVal)) : Spec.valid m = true ↔ ∀ kv ∈ m, coerce kv.2 ≠ .invalid := by
  simp only [Spec.valid, all_eq_true, decide_eq_true_eq]

theorem valid_cons (k : Nat) (v : InVal) (m : List (Nat × InVal)) :
    Spec.valid ((k, v) :: m) = (decide (coerce v ≠ .invalid) && Spec.valid m) := by
  simp [Spec.valid]

theorem mergeInto_eq (m : List (Nat × InVal)) : ∀ (a : AttrMap),
    mergeInto a m = if Spec.valid m then some (Spec.merge a m) else none := by
  induction m with
  | nil => intro a; rfl
  | cons kv m ih =>
    intro a
    obtain ⟨k, v⟩ := kv
    rw [valid_cons, Spec.merge, foldl_cons, mergeInto]
    cases hc : coerce v with
    | delete => rw [mergeStep_delete a k v hc]; exact ih _
    | put x => rw [mergeStep_put a k v x hc]; exact ih _
    | invalid => rfl

theorem sorted_mergeStep (a : AttrMap) (ha : Sorted a) (kv : Nat × InVal) : Sorted (Spec.mergeStep a kv) := by
  obtain ⟨k, v⟩ := kv
  cases hc : coerce v with
  | delete => rw [mergeStep_delete a k v hc]; exact sorted_amDel _ _ ha
  | put x => rw [mergeStep_put a k v x hc]; exact sorted_amSet _ _ _ ha
  | invalid => rw [mergeStep_invalid a k v hc]; exact ha

theorem sorted_merge (m : List (Nat × InVal)) (a : AttrMap) (ha : Sorted a) : Sorted (Spec.merge a m) :=
  foldlRecOn m _ ha fun s h kv _ => sorted_mergeStep s h kv

theorem sameIface_coerce (stored : Val) (v : InVal) (h : sameIface stored v = true) :
    coerce v = .put stored := by
  cases stored <;> cases v <;> simp_all [sameIface, coerce]

/-- the early return of SetAttrs -/
theorem mapContains_merge (m : List (Nat × InVal)) (a : AttrMap) (hs : Sorted a)
    (h : mapContains a m = true) : Spec.valid m = true ∧ Spec.merge a m = a := by
  induction m with
  | nil => exact ⟨rfl, rfl⟩
  | cons kv m ih =>
    obtain ⟨k, v⟩ := kv
    simp only [mapContains, all_cons, Bool.and_eq_true] at h
    obtain ⟨h1, h2⟩ := h
    cases hg : amGet a k with
    | none => simp [hg] at h1
    | some x =>
      simp only [hg] at h1
      have hc := sameIface_coerce x v h1
      obtain ⟨i1, i2⟩ := ih h2
      refine ⟨by rw [valid_cons, hc, i1]; rfl, ?_⟩
      rw [Spec.merge, foldl_cons, mergeStep_put a k v x hc, amSet_same a k x hs hg]
      exact i2

def SpecOK (st : Spec.SMap) : Prop := Sorted st ∧ ∀ e ∈ st, Sorted e.2 ∧ e.2 ≠ []

/-- no id is stored with an empty attribute map, so `Spec.get` determines the entry -/
theorem SpecOK.amGet_eq {st : Spec.SMap} (h : SpecOK st) (id : Nat) :
    amGet st id = if Spec.get st id = [] then none else some (Spec.get st id) := by
  unfold Spec.get
  cases hg : amGet st id with
  | none => rfl
  | some a => simp [(h.2 _ (amGet_mem st id a hg)).2]

theorem SpecOK.ext {s1 s2 : Spec.SMap} (h1 : SpecOK s1) (h2 : SpecOK s2)
    (h : ∀ r, Spec.get s1 r = Spec.get s2 r) : s1 = s2 :=
  sorted_ext _ _ h1.1 h2.1 fun r => by rw [h1.amGet_eq, h2.amGet_eq, h r]

theorem SpecOK.get_sorted {st : Spec.SMap} (h : SpecOK st) (id : Nat) : Sorted (Spec.get st id) := by
  unfold Spec.get
  cases hg : amGet st id with
  | none => exact Sorted.nil
  | some a => exact (h.2 _ (amGet_mem st id a hg)).1

theorem SpecOK.put {st : Spec.SMap} (h : SpecOK st) (id : Nat) (a : AttrMap) (ha : Sorted a) :
    SpecOK (Spec.put st id a) := by
  unfold Spec.put
  split
  · exact ⟨sorted_amDel _ _ h.1, fun e he => h.2 e (mem_amDel _ _ _ he)⟩
  · next c =>
    refine ⟨sorted_amSet _ _ _ h.1, fun e he => ?_⟩
    rcases mem_amSet _ _ _ _ he with rfl | he
    · exact ⟨ha, c⟩
    · exact h.2 e he

theorem SpecOK.get_put {st : Spec.SMap} (h : SpecOK st) (id : Nat) (a : AttrMap) (id' : Nat) :
    Spec.get (Spec.put st id a) id' = if id' = id then a else Spec.get st id' := by
  unfold Spec.put Spec.get
  split
  · next c => rw [amGet_amDel _ _ _ h.1, c]; split <;> rfl
  · rw [amGet_amSet _ _ _ _ h.1]; split <;> rfl

theorem SpecOK.put_get {st : Spec.SMap} (h : SpecOK st) (id : Nat) :
    Spec.put st id (Spec.get st id) = st := by
  have hg := h.amGet_eq id
  unfold Spec.put
  split
  · next c => rw [if_pos c] at hg; exact amDel_absent st id h.1 hg
  · next c => rw [if_neg c] at hg; exact amSet_same st id _ h.1 hg

def DbOK (db : List (Nat × Enc)) : Prop :=
  Sorted db ∧ ∀ e ∈ db, ∃ m : AttrMap, Sorted m ∧ m ≠ [] ∧ e.2 = encodeAttrs m

def absDb (db : List (Nat × Enc)) : Spec.SMap := mapV decodeAttrs db

theorem DbOK.empty : DbOK [] := ⟨Sorted.nil, nofun⟩

theorem DbOK.spec {db : List (Nat × Enc)} (h : DbOK db) : SpecOK (absDb db) := by
  refine ⟨(sorted_mapV _ _).mpr h.1, fun e he => ?_⟩
  obtain ⟨e0, he0, rfl⟩ := mem_map.mp he
  obtain ⟨m, hm, hne, henc⟩ := h.2 e0 he0
  simp only [henc, decode_encode m hm]
  exact ⟨hm, hne⟩

theorem DbOK.reencode {db : List (Nat × Enc)} (h : DbOK db) (e : Nat × Enc) (he : e ∈ db) :
    encodeAttrs (decodeAttrs e.2) = e.2 := by
  obtain ⟨m, hm, _, henc⟩ := h.2 e he
  rw [henc, decode_encode m hm]

theorem get_absDb (db : List (Nat × Enc)) (id : Nat) :
    Spec.get (absDb db) id = ((amGet db id).map decodeAttrs).getD [] := by
  rw [Spec.get, absDb, amGet_mapV]

/-- the bucket update of txUpdateAttrs is `put` on the abstract state -/
theorem DbOK.update {db : List (Nat × Enc)} (h : DbOK db) (id : Nat) (merged : AttrMap) (hm : Sorted merged) :
    DbOK (if merged.length = 0 then amDel db id else amSet db id (encodeAttrs merged)) ∧
    absDb (if merged.length = 0 then amDel db id else amSet db id (encodeAttrs merged)) =
      Spec.put (absDb db) id merged := by
  simp only [length_eq_zero_iff, Spec.put]
  split
  · exact ⟨⟨sorted_amDel _ _ h.1, fun e he => h.2 e (mem_amDel _ _ _ he)⟩, mapV_amDel _ _ _⟩
  · next c =>
    refine ⟨⟨sorted_amSet _ _ _ h.1, fun e he => ?_⟩, ?_⟩
    · rcases mem_amSet _ _ _ _ he with rfl | he
      · exact ⟨merged, hm, c, rfl⟩
      · exact h.2 e he
    · rw [absDb, mapV_amSet, decode_encode merged hm]; rfl

/-- what both SetAttrs and one element of SetBulkAttrs do when every value type is supported -/
def applyUpd (st : Spec.SMap) (c : Nat × List (Nat × InVal)) : Spec.SMap :=
  Spec.put st c.1 (Spec.merge (Spec.get st c.1) c.2)

theorem SpecOK.applyUpd {st : Spec.SMap} (h : SpecOK st) (c : Nat × List (Nat × InVal)) : SpecOK (applyUpd st c) :=
  h.put c.1 _ (sorted_merge _ _ (h.get_sorted c.1))

theorem specOK_foldl {st : Spec.SMap} (hst : SpecOK st) (acc : List (Nat × List (Nat × InVal))) :
    SpecOK (acc.foldl applyUpd st) :=
  foldlRecOn acc _ hst fun _ h c _ => h.applyUpd c

theorem set_valid (st : Spec.SMap) (id : Nat) (m : List (Nat × InVal)) (hv : Spec.valid m = true) :
    Spec.set st id m = (applyUpd st (id, m), true) := by
  simp [Spec.set, hv, applyUpd]

theorem set_invalid (st : Spec.SMap) (id : Nat) (m : List (Nat × InVal)) (hv : Spec.valid m = false) :
    Spec.set st id m = (st, false) := by
  simp [Spec.set, hv]

theorem set_same {st : Spec.SMap} (h : SpecOK st) (id : Nat) (m : List (Nat × InVal))
    (hv : Spec.valid m = true) (hm : Spec.merge (Spec.get st id) m = Spec.get st id) :
    Spec.set st id m = (st, true) := by
  rw [set_valid st id m hv, applyUpd, hm, h.put_get]

theorem bulk_valid (st : Spec.SMap) (m : List (Nat × List (Nat × InVal)))
    (hv : m.all (fun p => Spec.valid p.2) = true) : Spec.bulk st m = (m.foldl applyUpd st, true) := by
  simp only [Spec.bulk, hv, Bool.not_true, Bool.false_eq_true, if_false]
  rfl

end PV.C25
