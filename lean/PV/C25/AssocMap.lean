/-
Canonical association lists: keys strictly ascending.  `amSet` is the sorted insert-or-replace of
`Common.AscMap`; on an ascending list `amGet` is `List.lookup` (its early exit at the first larger key
loses nothing) and `amDel` is a filter, so the laws of get / set / delete are those of `Common.AscMap`.
-/
import PV.C25.Model
import PV.C25.Spec
import PV.Common.AscMap
namespace PV.C25
open List

def Sorted {β : Type} (l : List (Nat × β)) : Prop := l.Pairwise (fun a b => a.1 < b.1)

theorem Sorted.nil {β : Type} : Sorted ([] : List (Nat × β)) := Pairwise.nil

theorem Sorted.tail {β : Type} {p : Nat × β} {l : List (Nat × β)} (h : Sorted (p :: l)) : Sorted l :=
  (pairwise_cons.mp h).2

theorem Sorted.head_lt {β : Type} {p : Nat × β} {l : List (Nat × β)} (h : Sorted (p :: l)) :
    ∀ q ∈ l, p.1 < q.1 := (pairwise_cons.mp h).1

theorem Sorted.filter {β : Type} {l : List (Nat × β)} (h : Sorted l) (p : Nat × β → Bool) :
    Sorted (l.filter p) := Pairwise.filter p h

theorem amGet_head {β : Type} (k : Nat) (v : β) (l : List (Nat × β)) : amGet ((k, v) :: l) k = some v := by
  simp [amGet]

theorem amGet_none_of_lt {β : Type} (l : List (Nat × β)) (k : Nat) (h : ∀ q ∈ l, k < q.1) :
    amGet l k = none := by
  cases l with
  | nil => rfl
  | cons p l =>
    have hp : k < p.1 := h p mem_cons_self
    simp only [amGet, if_neg (Nat.ne_of_gt hp), if_pos hp]

theorem amSet_eq {β : Type} (l : List (Nat × β)) (k : Nat) (v : β) : amSet l k v = Common.AscMap.put k v l := by
  induction l with
  | nil => rfl
  | cons e r ih =>
    obtain ⟨a, b⟩ := e
    simp only [amSet, Common.AscMap.put, ih]
    split
    · rfl
    · split
      · next h => rw [h]
      · rfl

/-- on an ascending list the early exit of `amGet` only skips keys that are not there -/
theorem Sorted.amGet_eq_lookup {β : Type} {l : List (Nat × β)} (hs : Sorted l) (k : Nat) :
    amGet l k = l.lookup k := by
  induction l with
  | nil => rfl
  | cons p l ih =>
    rw [Common.AscMap.lookup_cons, ← ih hs.tail]
    by_cases c : k = p.1
    · rw [if_pos c, c]; exact amGet_head _ _ _
    · simp only [amGet, if_neg c, if_neg (Ne.symm c)]
      split
      · next hlt => exact (amGet_none_of_lt l k fun q hq => Nat.lt_trans hlt (hs.head_lt q hq)).symm
      · rfl

theorem Sorted.amGet_cons {β : Type} {p : Nat × β} {l : List (Nat × β)} (h : Sorted (p :: l)) (k : Nat) :
    amGet (p :: l) k = if k = p.1 then some p.2 else amGet l k := by
  rw [h.amGet_eq_lookup, h.tail.amGet_eq_lookup, Common.AscMap.lookup_cons]

theorem amGet_mem {β : Type} (l : List (Nat × β)) (k : Nat) (v : β) (h : amGet l k = some v) :
    (k, v) ∈ l := by
  induction l with
  | nil => simp [amGet] at h
  | cons p l ih =>
    obtain ⟨k0, w⟩ := p
    simp only [amGet] at h
    split at h
    · next c => simp only [Option.some.injEq] at h; simp [← c, h]
    · split at h
      · simp at h
      · exact mem_cons_of_mem _ (ih h)

theorem amGet_of_mem {β : Type} (l : List (Nat × β)) (k : Nat) (v : β) (hs : Sorted l)
    (h : (k, v) ∈ l) : amGet l k = some v := by
  rw [hs.amGet_eq_lookup]
  exact Common.AscMap.lookup_of_mem hs h

theorem sorted_ext {β : Type} : ∀ (l1 l2 : List (Nat × β)), Sorted l1 → Sorted l2 →
    (∀ k, amGet l1 k = amGet l2 k) → l1 = l2 :=
  fun _ _ h1 h2 h => Common.AscMap.ext h1 h2 fun k => by
    rw [← h1.amGet_eq_lookup, ← h2.amGet_eq_lookup]
    exact h k

theorem mem_amSet {β : Type} (l : List (Nat × β)) (k : Nat) (v : β) (e : Nat × β)
    (h : e ∈ amSet l k v) : e = (k, v) ∨ e ∈ l :=
  Common.AscMap.mem_put (amSet_eq l k v ▸ h)

theorem amDel_sublist {β : Type} (l : List (Nat × β)) (k : Nat) : (amDel l k).Sublist l := by
  induction l with
  | nil => exact Sublist.refl _
  | cons p l ih =>
    obtain ⟨k0, w⟩ := p
    simp only [amDel]
    split
    · exact Sublist.refl _
    · split
      · exact sublist_cons_self _ _
      · exact ih.cons_cons _

theorem mem_amDel {β : Type} (l : List (Nat × β)) (k : Nat) (e : Nat × β)
    (h : e ∈ amDel l k) : e ∈ l := (amDel_sublist l k).subset h

theorem sorted_amSet {β : Type} (l : List (Nat × β)) (k : Nat) (v : β) (hs : Sorted l) :
    Sorted (amSet l k v) :=
  amSet_eq l k v ▸ Common.AscMap.keysAsc_put k v hs

theorem sorted_amDel {β : Type} (l : List (Nat × β)) (k : Nat) (hs : Sorted l) :
    Sorted (amDel l k) := hs.sublist (amDel_sublist l k)

theorem amGet_amSet {β : Type} (l : List (Nat × β)) (k : Nat) (v : β) (k' : Nat) (hs : Sorted l) :
    amGet (amSet l k v) k' = if k' = k then some v else amGet l k' := by
  rw [(sorted_amSet l k v hs).amGet_eq_lookup, amSet_eq, Common.AscMap.lookup_put, hs.amGet_eq_lookup]

theorem Sorted.amDel_eq_filter {β : Type} {l : List (Nat × β)} (hs : Sorted l) (k : Nat) :
    amDel l k = l.filter (fun e => e.1 != k) := by
  induction l with
  | nil => rfl
  | cons p l ih =>
    obtain ⟨k0, w⟩ := p
    have rest : ∀ {c : Nat}, c ≤ k0 → l.filter (fun e => e.1 != c) = l := fun hc =>
      filter_eq_self.mpr fun e he => bne_iff_ne.mpr (Nat.ne_of_gt (Nat.lt_of_le_of_lt hc (hs.head_lt e he)))
    rw [amDel, filter_cons]
    split
    · next hlt => rw [if_pos (bne_iff_ne.mpr (Nat.ne_of_gt hlt)), rest (Nat.le_of_lt hlt)]
    · split
      · next heq => rw [if_neg (fun h => bne_iff_ne.mp h heq.symm), rest (Nat.le_of_eq heq)]
      · next hne => rw [if_pos (bne_iff_ne.mpr (Ne.symm hne)), ih hs.tail]

theorem amGet_amDel {β : Type} (l : List (Nat × β)) (k : Nat) (k' : Nat) (hs : Sorted l) :
    amGet (amDel l k) k' = if k' = k then none else amGet l k' := by
  rw [(sorted_amDel l k hs).amGet_eq_lookup, hs.amDel_eq_filter, Common.AscMap.lookup_filter_ne,
    hs.amGet_eq_lookup]

theorem amSet_same {β : Type} (l : List (Nat × β)) (k : Nat) (v : β) (hs : Sorted l)
    (h : amGet l k = some v) : amSet l k v = l := by
  apply sorted_ext _ _ (sorted_amSet l k v hs) hs
  intro k'
  rw [amGet_amSet l k v k' hs]
  split
  · next c => rw [c, h]
  · rfl

theorem amDel_absent {β : Type} (l : List (Nat × β)) (k : Nat) (hs : Sorted l)
    (h : amGet l k = none) : amDel l k = l := by
  apply sorted_ext _ _ (sorted_amDel l k hs) hs
  intro k'
  rw [amGet_amDel l k k' hs]
  split
  · next c => rw [c, h]
  · rfl

def mapV {β γ : Type} (f : β → γ) (l : List (Nat × β)) : List (Nat × γ) := l.map (fun e => (e.1, f e.2))

theorem amGet_mapV {β γ : Type} (f : β → γ) (l : List (Nat × β)) (k : Nat) :
    amGet (mapV f l) k = (amGet l k).map f := by
  induction l with
  | nil => rfl
  | cons p l ih =>
    simp only [mapV, map_cons, amGet] at ih ⊢
    by_cases c : p.1 = k
    · rw [if_pos c, if_pos c]; rfl
    · rw [if_neg c, if_neg c]
      by_cases d : k < p.1
      · rw [if_pos d, if_pos d]; rfl
      · rw [if_neg d, if_neg d, ih]

theorem mapV_amSet {β γ : Type} (f : β → γ) (l : List (Nat × β)) (k : Nat) (v : β) :
    mapV f (amSet l k v) = amSet (mapV f l) k (f v) := by
  induction l with
  | nil => rfl
  | cons p l ih =>
    simp only [mapV, map_cons, amSet] at ih ⊢
    by_cases c : k < p.1
    · rw [if_pos c, if_pos c]; rfl
    · rw [if_neg c, if_neg c]
      by_cases d : k = p.1
      · rw [if_pos d, if_pos d]; rfl
      · rw [if_neg d, if_neg d, map_cons, ih]

theorem mapV_amDel {β γ : Type} (f : β → γ) (l : List (Nat × β)) (k : Nat) :
    mapV f (amDel l k) = amDel (mapV f l) k := by
  induction l with
  | nil => rfl
  | cons p l ih =>
    simp only [mapV, map_cons, amDel] at ih ⊢
    by_cases c : k < p.1
    · rw [if_pos c, if_pos c]; rfl
    · rw [if_neg c, if_neg c]
      by_cases d : k = p.1
      · rw [if_pos d, if_pos d]
      · rw [if_neg d, if_neg d, map_cons, ih]

theorem sorted_mapV {β γ : Type} (f : β → γ) (l : List (Nat × β)) : Sorted (mapV f l) ↔ Sorted l := by
  simp only [Sorted, mapV, pairwise_map]

/-- `f` changes what `rd` reads under its own key only; folded over ascending keys, every key is
touched at most once, by its own entry.  `P`: what the step needs of the state and keeps. -/
theorem read_foldl {σ β γ : Type} (P : σ → Prop) (f : σ → Nat × β → σ) (rd : σ → Nat → γ) (g : γ → β → γ)
    (hP : ∀ s kv, P s → P (f s kv))
    (hf : ∀ s kv k, P s → rd (f s kv) k = if k = kv.1 then g (rd s k) kv.2 else rd s k)
    (u : List (Nat × β)) : ∀ s, Sorted u → P s → ∀ k,
    rd (u.foldl f s) k = (amGet u k).elim (rd s k) (g (rd s k)) := by
  induction u with
  | nil => exact fun _ _ _ _ => rfl
  | cons kv u ih =>
    intro s hu hs k
    rw [foldl_cons, ih _ hu.tail (hP s kv hs) k, hf s kv k hs, hu.amGet_cons]
    by_cases c : k = kv.1
    · rw [if_pos c, if_pos c, amGet_none_of_lt u k (c ▸ hu.head_lt)]; rfl
    · rw [if_neg c, if_neg c]

/-- `u2` written over `u1` key by key (Go: `for k, v := range u2 { u1[k] = v }`) -/
def overrideWith {β : Type} (u1 u2 : List (Nat × β)) : List (Nat × β) :=
  u2.foldl (fun m kv => amSet m kv.1 kv.2) u1

theorem sorted_overrideWith {β : Type} (u1 u2 : List (Nat × β)) (h1 : Sorted u1) : Sorted (overrideWith u1 u2) :=
  foldlRecOn u2 _ h1 fun _ h _ _ => sorted_amSet _ _ _ h

theorem mem_overrideWith {β : Type} (u1 u2 : List (Nat × β)) (e : Nat × β) (h : e ∈ overrideWith u1 u2) :
    e ∈ u1 ∨ e ∈ u2 :=
  foldlRecOn (motive := fun m => ∀ e ∈ m, e ∈ u1 ∨ e ∈ u2) u2 _ (fun _ => Or.inl)
    (fun _ hm _ hkv e he => (mem_amSet _ _ _ e he).elim (fun c => Or.inr (c ▸ hkv)) (hm e)) e h

theorem amGet_overrideWith {β : Type} (u1 u2 : List (Nat × β)) (h1 : Sorted u1) (h2 : Sorted u2) (k : Nat) :
    amGet (overrideWith u1 u2) k = (amGet u2 k).orElse (fun _ => amGet u1 k) := by
  rw [overrideWith, read_foldl (P := Sorted) (rd := amGet) (g := fun _ v => some v)
    (hP := fun _ _ h => sorted_amSet _ _ _ h) (hf := fun s kv k h => amGet_amSet s kv.1 kv.2 k h)
    _ u2 u1 h2 h1 k]
  cases amGet u2 k <;> rfl

theorem overrideWith_nil {β : Type} (u : List (Nat × β)) (h : Sorted u) : overrideWith [] u = u :=
  sorted_ext _ _ (sorted_overrideWith [] u Sorted.nil) h fun k => by
    rw [amGet_overrideWith [] u Sorted.nil h k]; cases amGet u k <;> rfl

end PV.C25
