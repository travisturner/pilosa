/-
The block cursor of Blocks computes a plain recursion over the bucket (`blockList`); on ascending ids
the runs it cuts off with takeWhile / dropWhile are the entries of one block number, so every block is
checksummed over exactly its entries.
-/
import PV.C25.Abstraction
namespace PV.C25
open List

/-- a predicate that is downward closed along the list cuts out a prefix -/
theorem takeWhile_dropWhile_filter {α : Type} (p : α → Bool) (l : List α)
    (h : l.Pairwise (fun a b => p b = true → p a = true)) :
    l.takeWhile p = l.filter p ∧ l.dropWhile p = l.filter (fun x => !p x) := by
  induction l with
  | nil => exact ⟨rfl, rfl⟩
  | cons x xs ih =>
    obtain ⟨hx, hxs⟩ := pairwise_cons.mp h
    obtain ⟨i1, i2⟩ := ih hxs
    cases c : p x with
    | true => simp [c, i1, i2]
    | false =>
      have hall : ∀ y ∈ xs, p y = false := fun y hy =>
        Bool.eq_false_iff.mpr fun hp => Bool.false_ne_true (c ▸ hx y hy hp)
      have f1 : xs.filter p = [] := filter_eq_nil_iff.mpr fun y hy => by simp [hall y hy]
      have f2 : xs.filter (fun x => !p x) = xs := filter_eq_self.mpr fun y hy => by simp [hall y hy]
      simp [c, f1, f2]

theorem Sorted.takeWhile_dropWhile_lt {β : Type} {l : List (Nat × β)} (hs : Sorted l) (c : Nat) :
    l.takeWhile (fun e => decide (e.1 < c)) = l.filter (fun e => decide (e.1 < c)) ∧
    l.dropWhile (fun e => decide (e.1 < c)) = l.filter (fun e => !decide (e.1 < c)) :=
  takeWhile_dropWhile_filter _ l
    (hs.imp fun hab hb => decide_eq_true (Nat.lt_trans hab (of_decide_eq_true hb)))

def blk (e : Nat × Enc) : Nat := e.1 / attrBlockSize

/-- "not past the block": the test of blockCursor.next -/
def inBlk (base : Nat) (e : Nat × Enc) : Bool := decide (¬ e.1 / attrBlockSize > base)

def curAfter (base : Nat) : List (Nat × Enc) → Cur
  | [] => ⟨[], base, none, false⟩
  | x :: xs => ⟨xs, base, some x, true⟩

theorem drain_unfilled (rest : List (Nat × Enc)) : ∀ (base : Nat) (bk : Option (Nat × Enc))
    (acc : List (Nat × Enc)) (fuel : Nat), rest.length + 1 ≤ fuel →
    Cur.drain fuel ⟨rest, base, bk, false⟩ acc =
      (curAfter base (rest.dropWhile (inBlk base)), acc ++ rest.takeWhile (inBlk base)) := by
  induction rest with
  | nil =>
    intro base bk acc fuel hf
    cases fuel with
    | zero => omega
    | succ fuel => simp [Cur.drain, Cur.next, curAfter]
  | cons e rest ih =>
    intro base bk acc fuel hf
    cases fuel with
    | zero => omega
    | succ fuel =>
      simp only [length_cons] at hf
      by_cases c : e.1 / attrBlockSize > base
      · have : inBlk base e = false := by simp [inBlk, c]
        simp [Cur.drain, Cur.next, c, this, curAfter]
      · have : inBlk base e = true := by simp [inBlk, c]
        simp only [Cur.drain, Cur.next, c, if_false, Bool.false_eq_true, takeWhile_cons, dropWhile_cons, this, if_true]
        rw [ih base bk (acc ++ [e]) fuel (by omega), append_assoc]; rfl

theorem drain_filled (rest : List (Nat × Enc)) (base : Nat) (e : Nat × Enc) (fuel : Nat)
    (hf : rest.length + 2 ≤ fuel) :
    Cur.drain fuel ⟨rest, base, some e, true⟩ [] =
      (curAfter base (rest.dropWhile (inBlk base)), e :: rest.takeWhile (inBlk base)) := by
  cases fuel with
  | zero => omega
  | succ fuel =>
    simp only [Cur.drain, Cur.next, if_true]
    exact drain_unfilled rest base (some e) [e] fuel (by omega)

/-- what Blocks computes, as a plain recursion over the bucket -/
def blockList {χ : Type} (H : List (Nat × Enc) → χ) : List (Nat × Enc) → List (Block χ)
  | [] => []
  | e :: rest =>
    ⟨blk e, H (e :: rest.takeWhile (inBlk (blk e)))⟩ :: blockList H (rest.dropWhile (inBlk (blk e)))
termination_by l => l.length
decreasing_by
  simp only [length_cons]
  have := (dropWhile_sublist (inBlk (blk e)) (l := rest)).length_le
  omega

theorem blocksLoop_blockList {χ : Type} (H : List (Nat × Enc) → χ) (l : List (Nat × Enc)) :
    ∀ (b : Nat) (acc : List (Block χ)) (fuel : Nat), l.length + 1 ≤ fuel →
    blocksLoop H fuel (curAfter b l) acc = acc ++ blockList H l := by
  fun_induction blockList H l with
  | case1 =>
    intro b acc fuel hf
    cases fuel with
    | zero => omega
    | succ fuel => simp [blocksLoop, curAfter, Cur.nextBlock]
  | case2 e rest ih =>
    intro b acc fuel hf
    cases fuel with
    | zero => omega
    | succ fuel =>
      simp only [length_cons] at hf
      have hd := (dropWhile_sublist (inBlk (blk e)) (l := rest)).length_le
      simp only [blocksLoop, curAfter, Cur.nextBlock]
      rw [drain_filled rest (e.1 / attrBlockSize) e _ (by omega)]
      exact (ih (blk e) _ fuel (by omega)).trans (append_assoc _ _ _)

theorem blocksLoop_spec {χ : Type} (H : List (Nat × Enc) → χ) : ∀ (n : Nat) (l : List (Nat × Enc)),
    l.length ≤ n → ∀ (b : Nat) (acc : List (Block χ)) (fuel : Nat), l.length + 1 ≤ fuel →
    blocksLoop H fuel (curAfter b l) acc = acc ++ blockList H l :=
  fun _ l _ => blocksLoop_blockList H l

theorem blocks_eq_blockList {χ : Type} (H : List (Nat × Enc) → χ) (db : List (Nat × Enc)) :
    blocks H db = blockList H db := by
  unfold blocks
  cases db with
  | nil => simp [blocksLoop, Cur.new, Cur.nextBlock, blockList]
  | cons e rest => exact blocksLoop_blockList H (e :: rest) 0 [] _ (Nat.le_refl _)

theorem blk_mono {a b : Nat × Enc} (h : a.1 < b.1) : blk a ≤ blk b :=
  Nat.div_le_div_right (Nat.le_of_lt h)

theorem inBlk_eq (base : Nat) (e : Nat × Enc) : inBlk base e = decide (blk e ≤ base) :=
  decide_eq_decide.mpr Nat.not_lt

/-- in a bucket with ascending ids the entries of the first entry's block are a prefix -/
theorem split_first_block (e : Nat × Enc) (rest : List (Nat × Enc)) (hs : Sorted (e :: rest)) :
    rest.takeWhile (inBlk (blk e)) = rest.filter (fun x => blk x = blk e) ∧
    rest.dropWhile (inBlk (blk e)) = rest.filter (fun x => blk e < blk x) := by
  obtain ⟨t1, t2⟩ := takeWhile_dropWhile_filter (inBlk (blk e)) rest (hs.tail.imp fun hab hb => by
    rw [inBlk_eq, decide_eq_true_eq] at hb ⊢
    exact Nat.le_trans (blk_mono hab) hb)
  rw [t1, t2]
  have hge : ∀ x ∈ rest, blk e ≤ blk x := fun x hx => blk_mono (hs.head_lt x hx)
  constructor
  · refine filter_congr fun x hx => ?_
    have := hge x hx
    rw [inBlk_eq, decide_eq_decide]
    omega
  · refine filter_congr fun x hx => ?_
    have := hge x hx
    rw [inBlk_eq, ← decide_not, decide_eq_decide]
    omega

theorem filter_later (rest : List (Nat × Enc)) (b i : Nat) (h : b < i) :
    (rest.filter (fun x => b < blk x)).filter (fun x => blk x = i) = rest.filter (fun x => blk x = i) := by
  rw [filter_filter]
  refine filter_congr fun x _ => ?_
  by_cases c : blk x = i <;> simp [c, h]

/-- Blocks on a bucket with ascending ids: one block per block number that occurs, in ascending
order, each checksummed over exactly the entries of that number. -/
theorem blockList_sorted {χ : Type} (H : List (Nat × Enc) → χ) (db : List (Nat × Enc)) (hs : Sorted db) :
    (∀ b ∈ blockList H db, (∃ e ∈ db, blk e = b.id) ∧ b.checksum = H (db.filter (fun x => blk x = b.id))) ∧
    (∀ e ∈ db, ∃ b ∈ blockList H db, b.id = blk e) ∧
    (blockList H db).Pairwise (fun a b => a.id < b.id) := by
  fun_induction blockList H db with
  | case1 => simp
  | case2 e rest ih =>
    obtain ⟨t1, t2⟩ := split_first_block e rest hs
    rw [t1]
    rw [t2] at ih ⊢
    obtain ⟨i1, i2, i3⟩ := ih (hs.tail.filter _)
    -- every later block holds an entry of `rest` with a larger block number
    have later : ∀ b ∈ blockList H (rest.filter (fun x => blk e < blk x)), blk e < b.id := fun b hb => by
      obtain ⟨⟨x, hx, hxb⟩, _⟩ := i1 b hb
      exact hxb ▸ of_decide_eq_true (mem_filter.mp hx).2
    refine ⟨fun b hb => ?_, fun x hx => ?_, pairwise_cons.mpr ⟨later, i3⟩⟩
    · rcases mem_cons.mp hb with rfl | hb
      · exact ⟨⟨e, mem_cons_self, rfl⟩, (congrArg H (filter_cons_of_pos (decide_eq_true rfl))).symm⟩
      · obtain ⟨⟨x, hx, hxb⟩, hc⟩ := i1 b hb
        refine ⟨⟨x, mem_cons_of_mem _ (mem_filter.mp hx).1, hxb⟩, ?_⟩
        rw [hc, filter_later rest _ _ (later b hb),
          filter_cons_of_neg (by simpa using Nat.ne_of_lt (later b hb))]
    · by_cases c : blk x = blk e
      · exact ⟨_, mem_cons_self, c.symm⟩
      · rcases mem_cons.mp hx with rfl | hx
        · exact absurd rfl c
        · have := blk_mono (hs.head_lt x hx)
          obtain ⟨b, hb, hbi⟩ := i2 x (mem_filter.mpr ⟨hx, decide_eq_true (by omega)⟩)
          exact ⟨b, mem_cons_of_mem _ hb, hbi⟩

/-- BlockData(i) on a bucket with ascending ids: exactly the entries with id / 100 = i -/
theorem blockData_sorted (db : List (Nat × Enc)) (i : Nat) (hs : Sorted db) :
    blockData db i = (db.filter (fun e => blk e = i)).map (fun (e : Nat × Enc) => (e.1, decodeAttrs e.2)) := by
  unfold blockData
  congr 1
  rw [(hs.takeWhile_dropWhile_lt _).2, ((hs.filter _).takeWhile_dropWhile_lt _).1, filter_filter]
  refine filter_congr fun x _ => ?_
  rw [blk, attrBlockSize, ← decide_not, ← Bool.decide_and, decide_eq_decide]
  omega

/-- `x` (a block of the first list) is reported: the second list has no block with the same id
and the same checksum -/
def keeps {χ : Type} [DecidableEq χ] (b : List (Block χ)) (x : Block χ) : Bool :=
  !(b.any (fun y => y.id = x.id ∧ y.checksum = x.checksum))

theorem keeps_nil {χ : Type} [DecidableEq χ] (x : Block χ) : keeps ([] : List (Block χ)) x = true := rfl

theorem keeps_cons {χ : Type} [DecidableEq χ] (b0 : Block χ) (b : List (Block χ)) (x : Block χ) :
    keeps (b0 :: b) x = (!decide (b0.id = x.id ∧ b0.checksum = x.checksum) && keeps b x) := by
  rw [keeps, any_cons, Bool.not_or]; rfl

theorem keeps_cons_ne {χ : Type} [DecidableEq χ] (b0 : Block χ) (b : List (Block χ)) (x : Block χ)
    (h : b0.id ≠ x.id) : keeps (b0 :: b) x = keeps b x := by
  rw [keeps_cons, decide_eq_false fun c => h c.1]; rfl

theorem keeps_of_lt {χ : Type} [DecidableEq χ] (b : List (Block χ)) (x : Block χ)
    (h : ∀ y ∈ b, x.id < y.id) : keeps b x = true := by
  induction b with
  | nil => rfl
  | cons b0 b ih =>
    rw [keeps_cons_ne b0 b x (Nat.ne_of_gt (h b0 mem_cons_self))]
    exact ih fun y hy => h y (mem_cons_of_mem _ hy)

theorem keeps_cons_eq {χ : Type} [DecidableEq χ] (b0 : Block χ) (b : List (Block χ)) (x : Block χ)
    (h : b0.id = x.id) (hb : ∀ y ∈ b, b0.id < y.id) :
    keeps (b0 :: b) x = decide (x.checksum ≠ b0.checksum) := by
  rw [keeps_cons, keeps_of_lt b x (h ▸ hb), Bool.and_true, ← decide_not, decide_eq_decide]
  exact ⟨fun c e => c ⟨h, e.symm⟩, fun c e => c e.2.symm⟩

/-- the blocks of `a` all lie behind `b0`: it plays no part in what is reported -/
theorem filter_keeps_cons {χ : Type} [DecidableEq χ] (b0 : Block χ) (b a : List (Block χ))
    (h : ∀ x ∈ a, b0.id < x.id) : a.filter (keeps (b0 :: b)) = a.filter (keeps b) :=
  filter_congr fun x hx => keeps_cons_ne b0 b x (Nat.ne_of_lt (h x hx))

theorem diff_eq {χ : Type} [DecidableEq χ] (a b : List (Block χ))
    (ha : a.Pairwise (fun x y => x.id < y.id)) (hb : b.Pairwise (fun x y => x.id < y.id)) :
    diff a b = (a.filter (keeps b)).map (·.id) := by
  fun_induction diff a b with
  | case1 => rfl
  | case2 a0 a ih => rw [ih ha.tail hb, filter_cons_of_pos (keeps_nil a0)]; rfl
  | case3 a0 a b0 b c1 ih =>
    have hk : keeps (b0 :: b) a0 = true := keeps_of_lt _ _ fun y hy =>
      (mem_cons.mp hy).elim (· ▸ c1) fun hy => Nat.lt_trans c1 ((pairwise_cons.mp hb).1 y hy)
    rw [ih ha.tail hb, filter_cons_of_pos hk]; rfl
  | case4 a0 a b0 b c1 c2 ih =>
    rw [ih ha hb.tail, filter_keeps_cons b0 b (a0 :: a) fun x hx =>
      (mem_cons.mp hx).elim (· ▸ c2) fun hx => Nat.lt_trans c2 ((pairwise_cons.mp ha).1 x hx)]
  | case5 a0 a b0 b c1 c2 c3 ih =>
    have heq : b0.id = a0.id := by omega
    have hk : keeps (b0 :: b) a0 = true := by
      rw [keeps_cons_eq b0 b a0 heq (pairwise_cons.mp hb).1]; exact decide_eq_true c3
    rw [ih ha.tail hb.tail, filter_cons_of_pos hk,
      filter_keeps_cons b0 b a fun x hx => heq ▸ (pairwise_cons.mp ha).1 x hx]; rfl
  | case6 a0 a b0 b c1 c2 c3 ih =>
    have heq : b0.id = a0.id := by omega
    have hk : ¬ keeps (b0 :: b) a0 = true := by
      rw [keeps_cons_eq b0 b a0 heq (pairwise_cons.mp hb).1]; simpa using c3
    rw [ih ha.tail hb.tail, filter_cons_of_neg hk,
      filter_keeps_cons b0 b a fun x hx => heq ▸ (pairwise_cons.mp ha).1 x hx]

theorem diff_spec {χ : Type} [DecidableEq χ] : ∀ (n : Nat) (a b : List (Block χ)), a.length + b.length ≤ n →
    a.Pairwise (fun x y => x.id < y.id) → b.Pairwise (fun x y => x.id < y.id) →
    diff a b = (a.filter (keeps b)).map (·.id) :=
  fun _ a b _ => diff_eq a b

/-- Blocks(i): the checksum reported for block `i`, if the block is listed -/
def checksumAt {χ : Type} (H : List (Nat × Enc) → χ) (db : List (Nat × Enc)) (i : Nat) : Option χ :=
  ((blocks H db).find? (fun b => b.id = i)).map (·.checksum)

theorem checksumAt_eq {χ : Type} (H : List (Nat × Enc) → χ) (db : List (Nat × Enc)) (i : Nat)
    (hs : Sorted db) :
    checksumAt H db i =
      if db.filter (fun x => blk x = i) = [] then none else some (H (db.filter (fun x => blk x = i))) := by
  obtain ⟨p1, p2, _⟩ := blockList_sorted H db hs
  rw [checksumAt, blocks_eq_blockList]
  cases hf : (blockList H db).find? (fun b => b.id = i) with
  | none =>
    -- block `i` is not listed, so no entry has that number
    rw [if_pos (filter_eq_nil_iff.mpr fun e he hei => ?_)]; rfl
    obtain ⟨b, hb, hbi⟩ := p2 e he
    exact find?_eq_none.mp hf b hb (decide_eq_true (hbi.trans (of_decide_eq_true hei)))
  | some b =>
    have hbi : b.id = i := by simpa using find?_some hf
    obtain ⟨⟨e, he, hei⟩, hc⟩ := p1 b (mem_of_find?_eq_some hf)
    rw [hbi] at hei hc
    rw [if_neg (ne_nil_of_mem (mem_filter.mpr ⟨he, decide_eq_true hei⟩)), Option.map_some, hc]

theorem filter_absDb (db : List (Nat × Enc)) (i : Nat) :
    Spec.blockData (absDb db) i = mapV decodeAttrs (db.filter (fun x => blk x = i)) := by
  simp only [Spec.blockData, absDb, mapV, filter_map]
  congr 1

/-- re-encoding recovers an entry from its decoded attributes -/
theorem mapV_decode_inj (l1 l2 : List (Nat × Enc))
    (h1 : ∀ e ∈ l1, encodeAttrs (decodeAttrs e.2) = e.2) (h2 : ∀ e ∈ l2, encodeAttrs (decodeAttrs e.2) = e.2)
    (h : mapV decodeAttrs l1 = mapV decodeAttrs l2) : l1 = l2 := by
  have back : ∀ l : List (Nat × Enc), (∀ e ∈ l, encodeAttrs (decodeAttrs e.2) = e.2) →
      mapV encodeAttrs (mapV decodeAttrs l) = l := fun l hl => by
    rw [mapV, mapV, map_map]
    conv => rhs; rw [← map_id l]
    exact map_congr_left fun e he => Prod.ext rfl (hl e he)
  rw [← back l1 h1, ← back l2 h2, h]

end PV.C25
