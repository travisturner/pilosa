/-
The bulk path of the executor (executeBulkSetRowAttrs): the calls of one query accumulated per row
(`mergeCalls`) and merged once equal the calls applied one after the other.
-/
import PV.C25.Abstraction
namespace PV.C25
open List

/-- the value of a key after an update that holds `v?` for it (`none`: key not mentioned) -/
def valueAfter (old : Option Val) : Option InVal → Option Val
  | none => old
  | some v => match coerce v with
    | .delete => none
    | .put x => some x
    | .invalid => old

theorem amGet_mergeStep (a : AttrMap) (ha : Sorted a) (kv : Nat × InVal) (k : Nat) :
    amGet (Spec.mergeStep a kv) k = if k = kv.1 then valueAfter (amGet a k) (some kv.2) else amGet a k := by
  obtain ⟨k0, v0⟩ := kv
  cases hc : coerce v0 with
  | delete => rw [mergeStep_delete a k0 v0 hc, amGet_amDel a k0 k ha]; simp [valueAfter, hc]
  | put x => rw [mergeStep_put a k0 v0 x hc, amGet_amSet a k0 x k ha]; simp [valueAfter, hc]
  | invalid => rw [mergeStep_invalid a k0 v0 hc]; simp [valueAfter, hc]

/-- reading a key after merging an update whose keys are distinct (a Go map) -/
theorem amGet_merge (u : List (Nat × InVal)) (a : AttrMap) (ha : Sorted a) (hu : Sorted u) (k : Nat) :
    amGet (Spec.merge a u) k = valueAfter (amGet a k) (amGet u k) := by
  rw [Spec.merge, read_foldl (P := Sorted) (rd := amGet) (g := fun old v => valueAfter old (some v))
    (hP := fun s kv h => sorted_mergeStep s h kv) (hf := fun s kv k h => amGet_mergeStep s h kv k) _ u a hu ha k]
  cases amGet u k <;> rfl

/-- two calls for one row: per key the later call wins, a later null deletes -/
theorem merge_overrideWith (a : AttrMap) (u1 u2 : List (Nat × InVal)) (ha : Sorted a) (h1 : Sorted u1)
    (h2 : Sorted u2) (hv2 : Spec.valid u2 = true) :
    Spec.merge a (overrideWith u1 u2) = Spec.merge (Spec.merge a u1) u2 := by
  apply sorted_ext _ _ (sorted_merge _ _ ha) (sorted_merge _ _ (sorted_merge _ _ ha))
  intro k
  rw [amGet_merge _ a ha (sorted_overrideWith u1 u2 h1), amGet_merge _ _ (sorted_merge _ _ ha) h2,
    amGet_merge _ a ha h1, amGet_overrideWith u1 u2 h1 h2 k]
  cases hg2 : amGet u2 k with
  | none => rfl
  | some v2 =>
    -- a supported value replaces or deletes whatever the key had before
    have := (valid_iff u2).mp hv2 _ (amGet_mem u2 k v2 hg2)
    cases hc : coerce v2 with
    | delete => simp [valueAfter, hc]
    | put x => simp [valueAfter, hc]
    | invalid => exact absurd hc this

theorem get_foldl_applyUpd (acc : List (Nat × List (Nat × InVal))) (st : Spec.SMap) (h : SpecOK st)
    (hs : Sorted acc) (r : Nat) :
    Spec.get (acc.foldl applyUpd st) r = (amGet acc r).elim (Spec.get st r) (Spec.merge (Spec.get st r)) := by
  refine read_foldl (P := SpecOK) (f := applyUpd) (rd := Spec.get) (g := Spec.merge)
    (hP := fun _ c h => h.applyUpd c) (hf := fun s c r h => ?_) acc st hs h r
  rw [applyUpd, h.get_put]
  split
  · next e => rw [e]
  · rfl

def AccOK (acc : List (Nat × List (Nat × InVal))) : Prop :=
  Sorted acc ∧ ∀ p ∈ acc, Sorted p.2 ∧ Spec.valid p.2 = true

/-- One more call of the query: accumulating it into its row = applying it after the accumulated
calls. -/
theorem AccOK.step {acc : List (Nat × List (Nat × InVal))} (hacc : AccOK acc) {st : Spec.SMap}
    (hst : SpecOK st) (row : Nat) (attrs : List (Nat × InVal)) (hs : Sorted attrs)
    (hv : Spec.valid attrs = true) :
    AccOK (amSet acc row (accRow acc row attrs)) ∧
      (amSet acc row (accRow acc row attrs)).foldl applyUpd st =
        applyUpd (acc.foldl applyUpd st) (row, attrs) := by
  have hrow : Sorted (accRow acc row attrs) ∧ Spec.valid (accRow acc row attrs) = true ∧
      Spec.merge (Spec.get st row) (accRow acc row attrs) =
        Spec.merge (Spec.get (acc.foldl applyUpd st) row) attrs := by
    rw [get_foldl_applyUpd acc st hst hacc.1, accRow]
    cases hg : amGet acc row with
    | none => exact ⟨hs, hv, rfl⟩
    | some a =>
      obtain ⟨ha, hva⟩ := hacc.2 _ (amGet_mem acc row a hg)
      exact ⟨sorted_overrideWith a attrs ha,
        (valid_iff _).mpr fun p hp =>
          (mem_overrideWith a attrs p hp).elim ((valid_iff a).mp hva p) ((valid_iff attrs).mp hv p),
        merge_overrideWith _ a attrs (hst.get_sorted row) ha hs hv⟩
  have hacc' : AccOK (amSet acc row (accRow acc row attrs)) := by
    refine ⟨sorted_amSet _ _ _ hacc.1, fun p hp => ?_⟩
    rcases mem_amSet _ _ _ _ hp with rfl | hp
    · exact ⟨hrow.1, hrow.2.1⟩
    · exact hacc.2 p hp
  refine ⟨hacc', SpecOK.ext (specOK_foldl hst _) ((specOK_foldl hst acc).applyUpd _) fun r => ?_⟩
  rw [get_foldl_applyUpd _ st hst hacc'.1, amGet_amSet acc row _ r hacc.1, applyUpd,
    (specOK_foldl hst acc).get_put]
  split
  · next e => rw [e]; exact hrow.2.2
  · exact (get_foldl_applyUpd acc st hst hacc.1 r).symm

/-- executeBulkSetRowAttrs on the specification state -/
theorem mergeCalls_spec (calls : List (Nat × List (Nat × InVal))) :
    ∀ (acc : List (Nat × List (Nat × InVal))) (st : Spec.SMap), SpecOK st → AccOK acc →
    (∀ c ∈ calls, Sorted c.2 ∧ Spec.valid c.2 = true) →
    AccOK (mergeCalls acc calls) ∧ (mergeCalls acc calls).foldl applyUpd st =
      calls.foldl (fun st c => (Spec.set st c.1 c.2).1) (acc.foldl applyUpd st) := by
  induction calls with
  | nil => exact fun acc st _ hacc _ => ⟨hacc, rfl⟩
  | cons c calls ih =>
    intro acc st hst hacc hc
    obtain ⟨hs, hv⟩ := hc c mem_cons_self
    obtain ⟨hacc', hstep⟩ := hacc.step hst c.1 c.2 hs hv
    rw [mergeCalls, foldl_cons, set_valid _ _ _ hv, ← hstep]
    exact ih _ st hst hacc' fun c' hc' => hc c' (mem_cons_of_mem _ hc')

end PV.C25
