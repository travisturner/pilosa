/-
C25 property theorems: attributes merge, persist and diff correctly.

Full-strength statements, all proved for the model of boltdb/attrstore.go + attr.go (Model.lean,
which follows the code after the two `fix:` commits of this round):
  * `C25_merge`         every history of SetAttrs / SetBulkAttrs / Attrs / reopen over any number of
                        stores, interleaved with arbitrary writes by callers into ANY map they were
                        handed earlier, answers exactly like the finite-map specification: reads
                        return the merge of all updates with value kinds preserved (nil deletes,
                        int/uint/uint64 become int64), unsupported types are refused without effect.
  * `C25_blocks`        on the bucket of any reachable store, Blocks lists one block per id/100
                        that occurs, ascending, checksummed over exactly the entries of that number,
                        and BlockData(i) lists exactly the ids of block i with their attributes.
  * `C25_checksum_iff`  with an injective checksum hash: two stores report the same checksum for
                        block i (or both do not list it) iff they hold the same attributes in it.
  * `C25_diff`          on ascending block lists Diff returns exactly the ids of the first list's
                        blocks for which the second list has no block of equal id and checksum.
  * `C25_bulk_sequential` the bulk path of the executor (`mergeCalls`, then one SetBulkAttrs) equals the
                        calls applied one after the other: per key the last writer wins, a later null deletes.
-/
import PV.C25.Store
import PV.C25.Blocks
import PV.C25.BulkPath
namespace PV.C25
open List

/-- Reads return the merged attributes whatever callers do to maps handed out earlier. -/
theorem C25_merge (n : Nat) (ops : List Op) (hok : ∀ op ∈ ops, OpOK n op) :
    World.run (World.init n) ops = Spec.run (List.replicate n []) ops :=
  run_ok ops (World.init n) _ (WInv.init n) (by simpa [World.init] using hok)

/-- a history with a caller writing into a map returned for an absent id and into one returned on
a cache miss, then reads — the shape of the two defects fixed in this round -/
example : ∀ op ∈ [Op.set 0 1 [(5, .int64 1)], .reopen 0, .get 0 1, .mutate 0 6 (some (.str [121])),
    .get 0 1, .get 0 3, .mutate 2 7 (some (.bool true)), .get 1 777, .set 0 1 [(5, .nil)], .get 0 1],
    OpOK 2 op := by
  simp only [forall_mem_cons, OpOK, not_mem_nil, false_imp_iff, implies_true]
  decide

/-- every bucket a history can produce has ascending ids and holds encodings of canonical
non-empty attribute maps -/
theorem C25_reachable_bucket (n : Nat) (ops : List Op) (hok : ∀ op ∈ ops, OpOK n op) (s : Nat) (hs : s < n) :
    DbOK ((World.exec (World.init n) ops).store s).db := by
  obtain ⟨sp', h, hl⟩ := exec_inv ops (World.init n) _ (WInv.init n) (by simpa [World.init] using hok)
  exact (h.stores s (by rw [hl]; simpa [World.init] using hs)).db

/-- Blocks and BlockData on a bucket with ascending ids (every reachable bucket, by
`C25_reachable_bucket`). -/
theorem C25_blocks {χ : Type} (H : List (Nat × Enc) → χ) (db : List (Nat × Enc)) (hs : Sorted db) :
    (∀ b ∈ blocks H db, (∃ e ∈ db, e.1 / 100 = b.id) ∧
        b.checksum = H (db.filter (fun x => x.1 / 100 = b.id))) ∧
    (∀ e ∈ db, ∃ b ∈ blocks H db, b.id = e.1 / 100) ∧
    (blocks H db).Pairwise (fun a b => a.id < b.id) ∧
    (∀ i, blockData db i = Spec.blockData (absDb db) i) := by
  obtain ⟨p1, p2, p3⟩ := blockList_sorted H db hs
  rw [blocks_eq_blockList]
  refine ⟨p1, p2, p3, fun i => ?_⟩
  rw [blockData_sorted db i hs, filter_absDb]; rfl

example : Sorted ([(99, [⟨1, 2, [], 5, false, 0⟩]), (100, [⟨1, 1, [97], 0, false, 0⟩]), (250, [])] : List (Nat × Enc)) := by
  unfold Sorted
  decide

/-- Equal checksums iff same attributes, block by block, for any two reachable buckets. -/
theorem C25_checksum_iff {χ : Type} (H : List (Nat × Enc) → χ) (hH : Function.Injective H)
    (da db : List (Nat × Enc)) (ha : DbOK da) (hb : DbOK db) (i : Nat) :
    checksumAt H da i = checksumAt H db i ↔
      Spec.blockData (absDb da) i = Spec.blockData (absDb db) i := by
  rw [checksumAt_eq H da i ha.1, checksumAt_eq H db i hb.1, filter_absDb, filter_absDb]
  have inj : mapV decodeAttrs (da.filter (fun x => blk x = i)) = mapV decodeAttrs (db.filter (fun x => blk x = i)) →
      da.filter (fun x => blk x = i) = db.filter (fun x => blk x = i) :=
    mapV_decode_inj _ _ (fun e he => ha.reencode e (mem_filter.mp he).1)
      (fun e he => hb.reencode e (mem_filter.mp he).1)
  constructor
  · intro h
    by_cases c1 : da.filter (fun x => blk x = i) = []
    · by_cases c2 : db.filter (fun x => blk x = i) = []
      · rw [c1, c2]
      · simp [c1, c2] at h
    · by_cases c2 : db.filter (fun x => blk x = i) = []
      · simp [c1, c2] at h
      · simp only [c1, c2, if_false, Option.some.injEq] at h
        rw [hH h]
  · intro h
    rw [inj h]

example : Function.Injective (fun (l : List (Nat × Enc)) => l) := fun _ _ h => h

/-- executeBulkSetRowAttrs = the calls of the query one after the other.  `calls` are the argument
maps of the SetRowAttrs calls of one field in call order (Go maps: distinct keys; supported value
types); rows may repeat in any pattern. -/
theorem C25_bulk_sequential (st : Spec.SMap) (hst : SpecOK st) (calls : List (Nat × List (Nat × InVal)))
    (hc : ∀ c ∈ calls, Sorted c.2 ∧ Spec.valid c.2 = true) :
    Spec.bulk st (mergeCalls [] calls) = (calls.foldl (fun st c => (Spec.set st c.1 c.2).1) st, true) := by
  obtain ⟨hacc, heq⟩ := mergeCalls_spec calls [] st hst ⟨Sorted.nil, nofun⟩ hc
  rw [bulk_valid st _ (all_eq_true.mpr fun p hp => (hacc.2 p hp).2), heq]
  rfl

/-- the row repeated with an overlapping key, a type change and a later null -/
example : ∀ c ∈ [((0 : Nat), [((5 : Nat), InVal.bool true)]), (0, [(5, .bool false), (6, .nil)]), (1, [(5, .str [97])]),
    (0, [(5, .nil)])], Sorted c.2 ∧ Spec.valid c.2 = true := by
  unfold Sorted
  decide

/-- Diff on ascending block lists. -/
theorem C25_diff {χ : Type} [DecidableEq χ] (a b : List (Block χ))
    (ha : a.Pairwise (fun x y => x.id < y.id)) (hb : b.Pairwise (fun x y => x.id < y.id)) :
    diff a b = (a.filter (fun x => !(b.any (fun y => y.id = x.id ∧ y.checksum = x.checksum)))).map (·.id) :=
  diff_eq a b ha hb

example : ([⟨0, 7⟩, ⟨1, 8⟩, ⟨4, 9⟩] : List (Block Nat)).Pairwise (fun x y => x.id < y.id) := by decide

end PV.C25
