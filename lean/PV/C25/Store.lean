/-
The attribute store over the heap of map objects: the invariant `WInv` ties the world (heap, stores,
caches, handed-out maps) to the specification state; every operation of a history keeps it and
answers like the specification.
-/
import PV.C25.Abstraction
namespace PV.C25
open List

/-! What `World.alloc`, `World.setStore` and writing a heap slot in place do to each component of the
world; the table is complete, whether or not a proof below reaches for an entry. -/

theorem stores_alloc (w : World) (m : AttrMap) : (w.alloc m).1.stores = w.stores := rfl
theorem held_alloc (w : World) (m : AttrMap) : (w.alloc m).1.held = w.held := rfl
theorem snd_alloc (w : World) (m : AttrMap) : (w.alloc m).2 = w.heap.length := rfl
theorem len_alloc (w : World) (m : AttrMap) : (w.alloc m).1.heap.length = w.heap.length + 1 := by
  simp [World.alloc]

theorem obj_alloc_old (w : World) (m : AttrMap) (h : Nat) (hh : h < w.heap.length) :
    (w.alloc m).1.obj h = w.obj h := by
  simp [World.alloc, World.obj, getD_eq_getElem?_getD, getElem?_append_left hh]

theorem obj_alloc_new (w : World) (m : AttrMap) : (w.alloc m).1.obj (w.alloc m).2 = m := by
  simp [World.alloc, World.obj, getD_eq_getElem?_getD]

theorem heap_setStore (w : World) (s : Nat) (st : Store) : (w.setStore s st).heap = w.heap := rfl
theorem held_setStore (w : World) (s : Nat) (st : Store) : (w.setStore s st).held = w.held := rfl
theorem obj_setStore (w : World) (s : Nat) (st : Store) (h : Nat) : (w.setStore s st).obj h = w.obj h := rfl
theorem len_setStore (w : World) (s : Nat) (st : Store) : (w.setStore s st).stores.length = w.stores.length := by
  simp [World.setStore]

theorem store_setStore_same (w : World) (s : Nat) (st : Store) (hs : s < w.stores.length) :
    (w.setStore s st).store s = st := by
  simp [World.setStore, World.store, getD_eq_getElem?_getD, getElem?_set_self hs]

theorem store_setStore_other (w : World) (s s' : Nat) (st : Store) (hne : s' ≠ s) :
    (w.setStore s st).store s' = w.store s' := by
  simp [World.setStore, World.store, getD_eq_getElem?_getD, getElem?_set_ne (Ne.symm hne)]

theorem obj_set_other (w : World) (h h' : Nat) (m : AttrMap) (hne : h' ≠ h) :
    ({ w with heap := w.heap.set h m } : World).obj h' = w.obj h' := by
  simp [World.obj, getD_eq_getElem?_getD, getElem?_set_ne (Ne.symm hne)]

theorem obj_set_same (w : World) (h : Nat) (m : AttrMap) (hh : h < w.heap.length) :
    ({ w with heap := w.heap.set h m } : World).obj h = m := by
  simp [World.obj, getD_eq_getElem?_getD, getElem?_set_self hh]

theorem alloc_set (w : World) (m m' : AttrMap) :
    ({ (w.alloc m).1 with heap := (w.alloc m).1.heap.set (w.alloc m).2 m' } : World) = (w.alloc m').1 := by
  simp [World.alloc]

theorem mem_cacheSet (c : List (Nat × Nat)) (id h : Nat) (p : Nat × Nat) (hp : p ∈ cacheSet c id h) :
    p = (id, h) ∨ (p ∈ c ∧ p.1 ≠ id) := by
  simp only [cacheSet, mem_cons, mem_filter] at hp
  exact hp.imp_right fun hp => ⟨hp.1, by simpa using hp.2⟩

theorem cacheGet_mem (c : List (Nat × Nat)) (id h : Nat) (hg : cacheGet c id = some h) : (id, h) ∈ c := by
  obtain ⟨c1, c2, rfl, -⟩ := lookup_eq_some_iff.mp hg
  exact mem_append_right _ mem_cons_self

theorem getD_replicate_self {α : Type} (n s : Nat) (a : α) : (replicate n a).getD s a = a := by
  rw [getD_eq_getElem?_getD, getElem?_replicate]
  split <;> rfl

theorem set_getD_self (sp : List Spec.SMap) (s : Nat) (hs : s < sp.length) :
    sp.set s (sp.getD s []) = sp := by
  rw [getD_eq_getElem?_getD, getElem?_eq_getElem hs, Option.getD_some, set_getElem_self]

/-- `w'` differs from `w` only by fresh objects and possibly in its stores: the same maps are
handed out, and the old objects are untouched. -/
structure HeapExt (w w' : World) : Prop where
  held : w'.held = w.held
  len : w.heap.length ≤ w'.heap.length
  old : ∀ h < w.heap.length, w'.obj h = w.obj h

theorem HeapExt.refl (w : World) : HeapExt w w := ⟨rfl, Nat.le_refl _, fun _ _ => rfl⟩

theorem HeapExt.trans {a b c : World} (h1 : HeapExt a b) (h2 : HeapExt b c) : HeapExt a c :=
  ⟨h2.held.trans h1.held, Nat.le_trans h1.len h2.len,
    fun h hh => (h2.old h (Nat.lt_of_lt_of_le hh h1.len)).trans (h1.old h hh)⟩

theorem HeapExt.alloc (w : World) (m : AttrMap) : HeapExt w (w.alloc m).1 :=
  ⟨rfl, (len_alloc w m).symm ▸ Nat.le_succ _, fun h hh => obj_alloc_old w m h hh⟩

theorem HeapExt.setStore (w : World) (s : Nat) (st : Store) : HeapExt w (w.setStore s st) :=
  ⟨rfl, Nat.le_refl _, fun _ _ => rfl⟩

theorem txUpdate_none (w : World) (db : List (Nat × Enc)) (id : Nat) (m : List (Nat × InVal))
    (hv : Spec.valid m = false) : txUpdateAttrs w db id m = none := by
  unfold txUpdateAttrs
  simp only [mergeInto_eq, hv]
  simp

/-- txUpdateAttrs works on a fresh object holding the id's attributes (never `emptyMap`), so after
the in-place merge the world is the old one plus one object: the merged map. -/
theorem txUpdateAttrs_eq (w : World) (db : List (Nat × Enc)) (id : Nat) (m : List (Nat × InVal))
    (h0 : w.obj 0 = []) (hdb : DbOK db) (hv : Spec.valid m = true) :
    txUpdateAttrs w db id m = some ((w.alloc (Spec.merge (Spec.get (absDb db) id) m)).1,
      (if (Spec.merge (Spec.get (absDb db) id) m).length = 0 then amDel db id
        else amSet db id (encodeAttrs (Spec.merge (Spec.get (absDb db) id) m))), w.heap.length) := by
  unfold txUpdateAttrs
  cases hg : amGet db id with
  | none =>
    have hget : Spec.get (absDb db) id = [] := by rw [get_absDb, hg]; rfl
    simp only [emptyMapH, h0, length_nil, if_true, obj_alloc_new, mergeInto_eq, hv, hget]
    exact congrArg (fun W => some (W, _, w.heap.length)) (alloc_set w _ _)
  | some e =>
    obtain ⟨m0, hm0, hne, henc⟩ := hdb.2 _ (amGet_mem db id e hg)
    have hdec : decodeAttrs e = m0 := by rw [show e = _ from henc, decode_encode m0 hm0]
    have hget : Spec.get (absDb db) id = m0 := by rw [get_absDb, hg]; exact hdec
    simp only [obj_alloc_new, hdec, length_eq_zero_iff, if_neg hne, mergeInto_eq, hv, if_true, hget]
    exact congrArg (fun W => some (W, _, w.heap.length)) (alloc_set w _ _)

theorem txUpdate_some (w : World) (db : List (Nat × Enc)) (id : Nat) (m : List (Nat × InVal))
    (h0 : w.obj 0 = []) (hdb : DbOK db) (hv : Spec.valid m = true) :
    ∃ w' attr, txUpdateAttrs w db id m = some (w',
        (if (Spec.merge (Spec.get (absDb db) id) m).length = 0 then amDel db id
          else amSet db id (encodeAttrs (Spec.merge (Spec.get (absDb db) id) m))), attr) ∧
      HeapExt w w' ∧ w'.stores = w.stores ∧ w.heap.length ≤ attr ∧ attr < w'.heap.length ∧
      w'.obj attr = Spec.merge (Spec.get (absDb db) id) m :=
  ⟨_, _, txUpdateAttrs_eq w db id m h0 hdb hv, HeapExt.alloc w _, rfl, Nat.le_refl _,
    by rw [len_alloc]; exact Nat.lt_succ_self _, obj_alloc_new w _⟩

/-- A store value agrees with the finite map `sm`, and its cache holds, per id, an object with the
id's current attributes that no caller holds. -/
structure StoreOK (w : World) (st : Store) (sm : Spec.SMap) : Prop where
  db : DbOK st.db
  abs : absDb st.db = sm
  cache : ∀ p ∈ st.cache, p.2 ∉ w.held ∧ p.2 < w.heap.length ∧ w.obj p.2 = Spec.get sm p.1

/-- The world agrees with the specification state `sp` (one finite map per store), `emptyMap` is
empty, and nothing a caller holds is `emptyMap` or a cached object. -/
structure WInv (w : World) (sp : List Spec.SMap) : Prop where
  n : w.stores.length = sp.length
  pos : 0 < w.heap.length
  empty : w.obj 0 = []
  held : ∀ h ∈ w.held, h ≠ 0 ∧ h < w.heap.length
  stores : ∀ s < w.stores.length, StoreOK w (w.store s) (sp.getD s [])

theorem StoreOK.spec {w : World} {st : Store} {sm : Spec.SMap} (h : StoreOK w st sm) : SpecOK sm :=
  h.abs ▸ h.db.spec

theorem StoreOK.get_eq {w : World} {st : Store} {sm : Spec.SMap} (h : StoreOK w st sm) (id : Nat) :
    Spec.get sm id = ((amGet st.db id).map decodeAttrs).getD [] := h.abs ▸ get_absDb st.db id

/-- a store value sees the world only through its cached objects -/
theorem StoreOK.world {w w' : World} {st : Store} {sm : Spec.SMap} (h : StoreOK w st sm)
    (hw : ∀ p ∈ st.cache, p.2 ∉ w.held → p.2 < w.heap.length →
      p.2 ∉ w'.held ∧ p.2 < w'.heap.length ∧ w'.obj p.2 = w.obj p.2) : StoreOK w' st sm :=
  ⟨h.db, h.abs, fun p hp =>
    have old := h.cache p hp
    have new := hw p hp old.1 old.2.1
    ⟨new.1, new.2.1, new.2.2.trans old.2.2⟩⟩

theorem StoreOK.of_heapExt {w w' : World} {st : Store} {sm : Spec.SMap} (h : StoreOK w st sm)
    (hx : HeapExt w w') : StoreOK w' st sm :=
  h.world fun p _ a b => ⟨hx.held ▸ a, Nat.lt_of_lt_of_le b hx.len, hx.old p.2 b⟩

theorem StoreOK.setCache {w : World} {st : Store} {sm : Spec.SMap} (h : StoreOK w st sm) (id x : Nat)
    (hx1 : x ∉ w.held) (hx2 : x < w.heap.length) (hx3 : w.obj x = Spec.get sm id) :
    StoreOK w { st with cache := cacheSet st.cache id x } sm :=
  ⟨h.db, h.abs, fun p hp => by
    rcases mem_cacheSet _ _ _ _ hp with rfl | ⟨hp, _⟩
    · exact ⟨hx1, hx2, hx3⟩
    · exact h.cache p hp⟩

theorem WInv.of_heapExt {w w' : World} {sp : List Spec.SMap} (h : WInv w sp) (hx : HeapExt w w')
    (hs : w'.stores = w.stores) : WInv w' sp where
  n := by rw [hs]; exact h.n
  pos := Nat.lt_of_lt_of_le h.pos hx.len
  empty := by rw [hx.old 0 h.pos]; exact h.empty
  held := fun x hxm => by
    rw [hx.held] at hxm
    exact ⟨(h.held x hxm).1, Nat.lt_of_lt_of_le (h.held x hxm).2 hx.len⟩
  stores := fun s hsl => by
    have hst : w'.store s = w.store s := by simp [World.store, hs]
    rw [hs] at hsl; rw [hst]; exact (h.stores s hsl).of_heapExt hx

theorem WInv.setStore {w : World} {sp : List Spec.SMap} (h : WInv w sp) (s : Nat) (st : Store)
    (sm : Spec.SMap) (hs : s < w.stores.length) (hst : StoreOK w st sm) :
    WInv (w.setStore s st) (sp.set s sm) := by
  refine ⟨by rw [len_setStore, h.n, length_set], h.pos, h.empty, h.held, fun s' hs' => ?_⟩
  rw [len_setStore] at hs'
  by_cases e : s' = s
  · subst e
    rw [store_setStore_same _ _ _ hs, getD_eq_getElem?_getD, getElem?_set_self (h.n ▸ hs)]
    exact hst.of_heapExt (HeapExt.setStore w s' st)
  · rw [store_setStore_other _ _ _ _ e, getD_eq_getElem?_getD, getElem?_set_ne (Ne.symm e),
      ← getD_eq_getElem?_getD]
    exact (h.stores s' hs').of_heapExt (HeapExt.setStore w s st)

theorem WInv.setStore_same {w : World} {sp : List Spec.SMap} (h : WInv w sp) (s : Nat) (st : Store)
    (hs : s < w.stores.length) (hst : StoreOK w st (sp.getD s [])) : WInv (w.setStore s st) sp := by
  have := h.setStore s st _ hs hst
  rwa [set_getD_self sp s (h.n ▸ hs)] at this

theorem WInv.setCache {w : World} {sp : List Spec.SMap} (h : WInv w sp) (s id x : Nat)
    (hs : s < w.stores.length) (hx1 : x ∉ w.held) (hx2 : x < w.heap.length)
    (hx3 : w.obj x = Spec.get (sp.getD s []) id) :
    WInv (w.setStore s { (w.store s) with cache := cacheSet (w.store s).cache id x }) sp :=
  h.setStore_same s _ hs ((h.stores s hs).setCache id x hx1 hx2 hx3)

def CacheBelow (w : World) (x : Nat) : Prop :=
  ∀ s < w.stores.length, ∀ p ∈ (w.store s).cache, p.2 < x

theorem WInv.cacheBelow {w : World} {sp : List Spec.SMap} (h : WInv w sp) : CacheBelow w w.heap.length :=
  fun s hs p hp => ((h.stores s hs).cache p hp).2.1

theorem WInv.init (n : Nat) : WInv (World.init n) (List.replicate n []) where
  n := by simp [World.init]
  pos := by simp [World.init]
  empty := by simp [World.init, World.obj]
  held := fun x hx => by simp [World.init] at hx
  stores := fun s _ => by
    rw [show (World.init n).store s = ⟨[], []⟩ from getD_replicate_self n s _,
      getD_replicate_self n s []]
    exact ⟨DbOK.empty, rfl, nofun⟩

/-- attrStore.Attrs: the caller gets a fresh object holding the id's attributes -/
theorem attrsObj_ok {w : World} {sp : List Spec.SMap} (h : WInv w sp) (s id : Nat)
    (hs : s < w.stores.length) :
    WInv (attrsObj w s id).1 sp ∧ HeapExt w (attrsObj w s id).1 ∧
      (attrsObj w s id).1.obj (attrsObj w s id).2 = Spec.get (sp.getD s []) id ∧
      w.heap.length ≤ (attrsObj w s id).2 ∧
      (attrsObj w s id).1.heap.length = (attrsObj w s id).2 + 1 ∧
      (attrsObj w s id).1.stores.length = w.stores.length ∧
      CacheBelow (attrsObj w s id).1 (attrsObj w s id).2 := by
  have hst := h.stores s hs
  -- Every path ends by handing out a copy of an object `x` holding the id's attributes, in a
  -- world `W` that still satisfies the invariant.
  have key : ∃ W x, attrsObj w s id = W.alloc (W.obj x) ∧ WInv W sp ∧ HeapExt w W ∧
      W.obj x = Spec.get (sp.getD s []) id := by
    cases hc : cacheGet (w.store s).cache id with
    | some x =>
      exact ⟨w, x, by simp [attrsObj, hc], h, HeapExt.refl w, (hst.cache _ (cacheGet_mem _ _ _ hc)).2.2⟩
    | none =>
      have hget := hst.get_eq id
      cases hg : amGet (w.store s).db id with
      | none =>
        rw [hg] at hget
        exact ⟨_, 0, by simp only [attrsObj, hc, hg]; rfl,
          h.setCache s id 0 hs (fun hm => (h.held 0 hm).1 rfl) h.pos (h.empty.trans hget.symm),
          HeapExt.setStore w s _, h.empty.trans hget.symm⟩
      | some e =>
        rw [hg] at hget
        exact ⟨_, w.heap.length, by simp only [attrsObj, hc, hg]; rfl,
          (h.of_heapExt (HeapExt.alloc w (decodeAttrs e)) rfl).setCache s id w.heap.length hs
            (fun hm => absurd (h.held _ hm).2 (Nat.lt_irrefl _))
            (Nat.lt_of_lt_of_eq (Nat.lt_succ_self _) (len_alloc w _).symm)
            ((obj_alloc_new w _).trans hget.symm),
          (HeapExt.alloc w _).trans (HeapExt.setStore _ s _), (obj_alloc_new w _).trans hget.symm⟩
  obtain ⟨W, x, e, hW, hx, ho⟩ := key
  rw [e]
  exact ⟨hW.of_heapExt (HeapExt.alloc W _) rfl, hx.trans (HeapExt.alloc W _), (obj_alloc_new W _).trans ho,
    hx.len, len_alloc W _, by rw [stores_alloc, hW.n, h.n], fun s' hs' p hp => hW.cacheBelow s' hs' p hp⟩

theorem StoreOK.tx {w : World} {st : Store} {sm : Spec.SMap} (h : StoreOK w st sm) (h0 : w.obj 0 = [])
    (hheld : ∀ x ∈ w.held, x < w.heap.length)
    (id : Nat) (m : List (Nat × InVal)) (hv : Spec.valid m = true) :
    ∃ w' db' attr, txUpdateAttrs w st.db id m = some (w', db', attr) ∧ HeapExt w w' ∧
      w'.stores = w.stores ∧
      StoreOK w' { db := db', cache := cacheSet st.cache id attr }
        (Spec.put sm id (Spec.merge (Spec.get sm id) m)) := by
  obtain ⟨w', attr, htx, hx, hst, ha1, ha2, ha3⟩ := txUpdate_some w st.db id m h0 h.db hv
  rw [h.abs] at htx ha3
  obtain ⟨u1, u2⟩ := h.db.update id _ (sorted_merge m _ (h.spec.get_sorted id))
  rw [h.abs] at u2
  refine ⟨w', _, attr, htx, hx, hst, ⟨u1, u2, fun p hp => ?_⟩⟩
  rcases mem_cacheSet _ _ _ _ hp with rfl | ⟨hp, hne⟩
  · refine ⟨?_, ha2, ?_⟩
    · rw [hx.held]; intro hm; have := hheld _ hm; omega
    · rw [ha3, h.spec.get_put, if_pos rfl]
  · obtain ⟨a, b, c⟩ := (h.of_heapExt hx).cache p hp
    exact ⟨a, b, by rw [c, h.spec.get_put, if_neg hne]⟩

theorem bulkLoop_none (m : List (Nat × List (Nat × InVal))) : ∀ (w : World) (db : List (Nat × Enc))
    (acc : List (Nat × Nat)), m.all (fun p => Spec.valid p.2) = false → bulkLoop w db m acc = none := by
  induction m with
  | nil => intro w db acc h; simp at h
  | cons p m ih =>
    intro w db acc h
    rw [all_cons] at h
    rw [bulkLoop]
    cases hv : Spec.valid p.2 with
    | false => rw [txUpdate_none w db p.1 p.2 hv]
    | true =>
      rw [hv, Bool.true_and] at h
      cases txUpdateAttrs w db p.1 p.2 with
      | none => rfl
      | some r => exact ih _ _ _ h

theorem bulkLoop_some (m : List (Nat × List (Nat × InVal))) : ∀ (w : World) (st : Store) (sm : Spec.SMap)
    (acc : List (Nat × Nat)), StoreOK w st sm → w.obj 0 = [] → 0 < w.heap.length →
    (∀ x ∈ w.held, x < w.heap.length) → m.all (fun p => Spec.valid p.2) = true →
    ∃ w' db' sets, bulkLoop w st.db m acc = some (w', db', acc ++ sets) ∧ HeapExt w w' ∧
      w'.stores = w.stores ∧
      StoreOK w' { db := db', cache := sets.foldl (fun c p => cacheSet c p.1 p.2) st.cache }
        (m.foldl applyUpd sm) := by
  induction m with
  | nil =>
    intro w st sm acc h _ _ _ _
    exact ⟨w, st.db, [], by simp [bulkLoop], HeapExt.refl w, rfl, h⟩
  | cons p m ih =>
    intro w st sm acc h h0 hpos hheld hv
    rw [all_cons, Bool.and_eq_true] at hv
    obtain ⟨w1, db1, attr, htx, hx1, hs1, hok1⟩ := h.tx h0 hheld p.1 p.2 hv.1
    obtain ⟨w2, db2, sets, hl, hx2, hs2, hok2⟩ := ih w1 { db := db1, cache := cacheSet st.cache p.1 attr } _
      (acc ++ [(p.1, attr)]) hok1 (by rw [hx1.old 0 hpos]; exact h0) (Nat.lt_of_lt_of_le hpos hx1.len)
      (fun x hx => by rw [hx1.held] at hx; exact Nat.lt_of_lt_of_le (hheld x hx) hx1.len) hv.2
    refine ⟨w2, db2, (p.1, attr) :: sets, ?_, hx1.trans hx2, hs2.trans hs1, hok2⟩
    simp only [bulkLoop, htx]
    rw [hl, append_assoc]; rfl

def OpOK (n : Nat) : Op → Prop
  | .set s _ _ => s < n
  | .bulk s _ => s < n
  | .get s _ => s < n
  | .mutate _ _ _ => True
  | .reopen s => s < n

/-- Attrs: the fresh copy may be handed out, since no cache refers to it -/
theorem attrs_ok {w : World} {sp : List Spec.SMap} (h : WInv w sp) (s id : Nat) (hs : s < w.stores.length) :
    WInv (attrs w s id).1 sp ∧ (attrs w s id).1.obj (attrs w s id).2 = Spec.get (sp.getD s []) id := by
  obtain ⟨h1, -, hobj, hfresh, hlen, -, hbelow⟩ := attrsObj_ok h s id hs
  simp only [attrs]
  generalize attrsObj w s id = r at h1 hobj hfresh hlen hbelow
  have hpos := h.pos
  refine ⟨⟨h1.n, h1.pos, h1.empty, fun x hxm => ?_, fun s' hs' => ?_⟩, hobj⟩
  · rcases mem_append.mp hxm with hxm | hxm
    · exact h1.held x hxm
    · rw [mem_singleton.mp hxm]
      exact ⟨by omega, by show _ < r.1.heap.length; omega⟩
  · refine (h1.stores s' hs').world fun p hp a b => ⟨fun hm => ?_, b, rfl⟩
    rcases mem_append.mp hm with hm | hm
    · exact a hm
    · have := hbelow s' hs' p hp; have := mem_singleton.mp hm; omega

/-- a caller writes into a map it holds: neither `emptyMap` nor a cached object -/
theorem mutate_ok {w : World} {sp : List Spec.SMap} (h : WInv w sp) (k key : Nat) (v : Option Val) :
    WInv ((mutate w k key v).getD w) sp := by
  unfold mutate
  cases hk : w.held[k]? with
  | none => exact h
  | some x =>
    have hxm : x ∈ w.held := mem_of_getElem? hk
    refine ⟨h.n, by simpa using h.pos, ?_, fun y hy => ⟨(h.held y hy).1, by simpa using (h.held y hy).2⟩,
      fun s' hs' => ?_⟩
    · exact (obj_set_other _ _ _ _ (Ne.symm (h.held x hxm).1)).trans h.empty
    · exact (h.stores s' hs').world fun p _ a b =>
        ⟨a, by simpa using b, obj_set_other w x p.2 _ fun e => a (e ▸ hxm)⟩

theorem reopen_ok {w : World} {sp : List Spec.SMap} (h : WInv w sp) (s : Nat) (hs : s < w.stores.length) :
    WInv (reopen w s) sp :=
  h.setStore_same s _ hs ⟨(h.stores s hs).db, (h.stores s hs).abs, nofun⟩

theorem setAttrs_ok {w : World} {sp : List Spec.SMap} (h : WInv w sp) (s id : Nat) (m : List (Nat × InVal))
    (hs : s < w.stores.length) :
    WInv (setAttrs w s id m).1 (sp.set s (Spec.set (sp.getD s []) id m).1) ∧
      (setAttrs w s id m).2 = (Spec.set (sp.getD s []) id m).2 := by
  have hsp := set_getD_self sp s (h.n ▸ hs)
  have hspec := (h.stores s hs).spec
  unfold setAttrs
  split
  · next hm =>
    rw [length_eq_zero_iff.mp hm, set_same hspec id [] rfl rfl, hsp]
    exact ⟨h, rfl⟩
  · obtain ⟨h1, -, hobj, -, -, hn, -⟩ := attrsObj_ok h s id hs
    generalize attrsObj w s id = r at h1 hobj hn
    obtain ⟨w1, x⟩ := r
    simp only at h1 hobj hn ⊢
    rw [hobj]
    split
    · next hc =>
      obtain ⟨v1, v2⟩ := mapContains_merge m _ (hspec.get_sorted id) hc
      rw [set_same hspec id m v1 v2, hsp]
      exact ⟨h1, rfl⟩
    · cases hv : Spec.valid m with
      | false =>
        rw [txUpdate_none _ _ _ _ hv, set_invalid _ _ _ hv, hsp]
        exact ⟨h1, rfl⟩
      | true =>
        have hs1 : s < w1.stores.length := hn ▸ hs
        obtain ⟨w2, db2, attr, htx, hx2, hst2, hok2⟩ :=
          (h1.stores s hs1).tx h1.empty (fun x hx => (h1.held x hx).2) id m hv
        rw [htx, set_valid _ _ _ hv]
        exact ⟨(h1.of_heapExt hx2 hst2).setStore s _ _ (hst2 ▸ hs1) hok2, rfl⟩

theorem setBulkAttrs_ok {w : World} {sp : List Spec.SMap} (h : WInv w sp) (s : Nat)
    (m : List (Nat × List (Nat × InVal))) (hs : s < w.stores.length) :
    WInv (setBulkAttrs w s m).1 (sp.set s (Spec.bulk (sp.getD s []) m).1) ∧
      (setBulkAttrs w s m).2 = (Spec.bulk (sp.getD s []) m).2 := by
  simp only [setBulkAttrs]
  cases hv : m.all (fun p => Spec.valid p.2) with
  | false =>
    rw [bulkLoop_none m _ _ _ hv]
    simp only [Spec.bulk, hv, Bool.not_false, if_true, set_getD_self sp s (h.n ▸ hs)]
    exact ⟨h, trivial⟩
  | true =>
    obtain ⟨w2, db2, sets, hl, hx2, hst2, hok2⟩ := bulkLoop_some m w (w.store s) _ []
      (h.stores s hs) h.empty h.pos (fun x hx => (h.held x hx).2) hv
    rw [nil_append] at hl
    rw [hl, bulk_valid _ _ hv]
    exact ⟨(h.of_heapExt hx2 hst2).setStore s _ _ (hst2 ▸ hs) hok2, rfl⟩

theorem Spec.step_length (sp : List Spec.SMap) (op : Op) : (Spec.step sp op).1.length = sp.length := by
  cases op with
  | set s id m => exact length_set
  | bulk s m => exact length_set
  | get _ _ | mutate _ _ _ | reopen _ => rfl

theorem step_ok {w : World} {sp : List Spec.SMap} (h : WInv w sp) (op : Op) (hop : OpOK w.stores.length op) :
    WInv (w.step op).1 (Spec.step sp op).1 ∧ (w.step op).2 = (Spec.step sp op).2 ∧
      (w.step op).1.stores.length = w.stores.length := by
  have main : WInv (w.step op).1 (Spec.step sp op).1 ∧ (w.step op).2 = (Spec.step sp op).2 := by
    cases op with
    | get s id => exact ⟨(attrs_ok h s id hop).1, congrArg Out.attrs (attrs_ok h s id hop).2⟩
    | mutate k key v => exact ⟨mutate_ok h k key v, rfl⟩
    | reopen s => exact ⟨reopen_ok h s hop, rfl⟩
    | set s id m => exact ⟨(setAttrs_ok h s id m hop).1, congrArg Out.done (setAttrs_ok h s id m hop).2⟩
    | bulk s m => exact ⟨(setBulkAttrs_ok h s m hop).1, congrArg Out.done (setBulkAttrs_ok h s m hop).2⟩
  -- both sides keep as many stores as the specification state has maps
  exact ⟨main.1, main.2, by rw [main.1.n, Spec.step_length, h.n]⟩

theorem run_ok (ops : List Op) : ∀ (w : World) (sp : List Spec.SMap), WInv w sp →
    (∀ op ∈ ops, OpOK w.stores.length op) → World.run w ops = Spec.run sp ops := by
  induction ops with
  | nil => intro _ _ _ _; rfl
  | cons op ops ih =>
    intro w sp h hok
    obtain ⟨h1, h2, h3⟩ := step_ok h op (hok op mem_cons_self)
    rw [World.run, Spec.run]
    exact congr (congrArg _ h2) (ih _ _ h1 fun o ho => h3 ▸ hok o (mem_cons_of_mem _ ho))

theorem exec_inv (ops : List Op) : ∀ (w : World) (sp : List Spec.SMap), WInv w sp →
    (∀ op ∈ ops, OpOK w.stores.length op) →
    ∃ sp', WInv (World.exec w ops) sp' ∧ (World.exec w ops).stores.length = w.stores.length := by
  induction ops with
  | nil => intro w sp h _; exact ⟨sp, h, rfl⟩
  | cons op ops ih =>
    intro w sp h hok
    obtain ⟨h1, _, h3⟩ := step_ok h op (hok op mem_cons_self)
    obtain ⟨sp', h4, h5⟩ := ih _ _ h1 fun o ho => h3 ▸ hok o (mem_cons_of_mem _ ho)
    exact ⟨sp', h4, h5.trans h3⟩

end PV.C25
