/-
C26 — written arguments and written calls (`LArg`, `LCall`: L for the literal text): key or call, text, the events
the grammar records and what the action machine makes of them; `ArgDenotes` / `CallDenotes` hide the events.
`mkCall_syn` / `mkCall_sem` are the step from children and arguments to the call, for grammar and machine.
-/
import PV.C26.LemmasVals
namespace PV.C26
open Gen

structure LArg where
  key : Key
  text : List Char
  evs : List Ev
  val : Val

/-- Syntax: `arg` reads the text whatever delimiter follows, and `Call` does not match on it. -/
def LArg.Syn (a : LArg) : Prop :=
  NoWs a.text ∧ a.text ≠ [] ∧ (∀ s, F (.ref R.Call) (a.text ++ s)) ∧
    ∀ d r, (d = ',' ∨ d = ')') → P (.ref R.arg) (a.text ++ d :: r) (d :: r) a.evs

def LArg.Sem (a : LArg) : Prop :=
  ∀ (q : QState) (e : Elem) (rest : List Elem) (evs' : List Ev),
    q.stack = e :: rest → q.cond = [] → ArgState e → lookup a.key e.args = none →
    ∃ t, exec (a.evs ++ evs') q =
      exec evs' { q with text := t, stack := { e with args := insert a.key a.val e.args } :: rest }

theorem largSem_iff (a : LArg) : a.Sem ↔ ∀ (q : QState) (e : Elem) (rest : List Elem),
    q.stack = e :: rest → q.cond = [] → ArgState e → lookup a.key e.args = none →
    Runs a.evs q { q with stack := { e with args := insert a.key a.val e.args } :: rest } := by
  simp only [runs_iff_cont]
  exact ⟨fun h q e rest h1 h2 h3 h4 evs' => h q e rest evs' h1 h2 h3 h4,
    fun h q e rest evs' h1 h2 h3 h4 => h q e rest h1 h2 h3 h4 evs'⟩

def LArg.kv (a : LArg) : Key × Val := (a.key, a.val)

/-- The text is read by `arg` and stores `v` under `k`. -/
def ArgDenotes (k : Key) (text : List Char) (v : Val) : Prop :=
  ∃ evs, (LArg.mk k text evs v).Syn ∧ (LArg.mk k text evs v).Sem

/-- The events chosen once: from `∀ x, ∃ evs` to one list of `LArg`. -/
theorem exists_largs {α : Type} (key : α → Key) (text : α → List Char) (val : α → Val) (args : List α)
    (h : ∀ x ∈ args, ArgDenotes (key x) (text x) (val x)) :
    ∃ as : List LArg, as.map (·.text) = args.map text ∧ as.map LArg.kv = args.map (fun x => (key x, val x)) ∧
      ∀ a ∈ as, a.Syn ∧ a.Sem := by
  induction args with
  | nil => exact ⟨[], rfl, rfl, fun _ h => nomatch h⟩
  | cons x rest ih =>
    obtain ⟨evs, h1, h2⟩ := h x (by simp)
    obtain ⟨as, ht, hkv, hok⟩ := ih (fun y hy => h y (by simp [hy]))
    refine ⟨⟨key x, text x, evs, val x⟩ :: as, by simp [ht], by simp [hkv, LArg.kv], fun a ha => ?_⟩
    rcases List.mem_cons.mp ha with rfl | ha
    · exact ⟨h1, h2⟩
    · exact hok a ha

/-- Between arguments no field, condition or list is pending: clearing them changes nothing. -/
theorem ArgState.restore {e : Elem} (he : ArgState e) (m : List (Key × Val)) :
    ({ e with args := m, lastField := [], lastCond := .ILLEGAL, inList := false } : Elem) = { e with args := m } := by
  obtain ⟨h1, h2, h3⟩ := he
  cases e
  simp_all

theorem kv_denotes {k : Key} {text : List Char} {v : Val} (hk : KeyName k) (h : ValueDenotes false text v) :
    ArgDenotes k (k ++ '=' :: text) v := by
  obtain ⟨evs, hr, hs⟩ := h
  refine ⟨[.text k, .act (.addField .text)] ++ evs, ⟨hk.noWs _, by simp, fun s => ?_, fun d r hd => ?_⟩, ?_⟩
  · rw [List.append_assoc]
    exact call_fails_key k _ '=' hk (by decide) (by decide)
  · show P _ ((k ++ '=' :: text) ++ d :: r) _ _
    rw [List.append_assoc]
    exact arg_eq_ok (vs := text ++ d :: r) hk (hr.1 _) (hr.2 d r hd)
  · refine (largSem_iff _).2 fun q e rest hq hqc he hl => (runs_field k hq he.1).append fun t => ?_
    have ht := hs { q with text := t, stack := { e with lastField := k } :: rest }
      { e with lastField := k } rest k rfl hqc rfl hk.ne_nil he.2.1 (fun _ => he.2.2) hl
    have hc : condWrap e.lastCond v = v := by rw [he.2.2]; rfl
    rw [show ({ e with lastField := k } : Elem).lastCond = e.lastCond from rfl, hc, he.restore] at ht
    exact ht

theorem kc_denotes {k : Key} {op : Op} {text : List Char} {v : Val} (hop : op ∈ cmpOps) (hk : KeyName k)
    (h : ValueDenotes true text v) : ArgDenotes k (k ++ ' ' :: (opText op ++ ' ' :: text)) (.cond op v) := by
  obtain ⟨evs, hr, hs⟩ := h
  have hne : op ≠ .ILLEGAL := by intro e'; subst e'; exact absurd hop (by decide)
  refine ⟨[.text k, .act (.addField .text), .act (.setCond op)] ++ evs,
    ⟨hk.noWs _, by simp, fun s => ?_, fun d r hd => ?_⟩, ?_⟩
  · rw [List.append_assoc]
    exact call_fails_key k _ ' ' hk (by decide) (by decide)
  · show P _ ((k ++ ' ' :: (opText op ++ ' ' :: text)) ++ d :: r) _ _
    rw [List.append_assoc, List.cons_append, List.append_assoc]
    exact arg_cond_ok op hop hk (vs := text ++ d :: r) (hr.1 _) (hr.2 d r hd)
  · refine (largSem_iff _).2 fun q e rest hq hqc he hl => (runs_field k hq he.1).append fun t => ?_
    have hs1 : stepAct { q with text := t, stack := { e with lastField := k } :: rest } (.setCond op) =
        .ok { q with text := t, stack := { e with lastField := k, lastCond := op } :: rest } := rfl
    have ht := hs { q with text := t, stack := { e with lastField := k, lastCond := op } :: rest }
      { e with lastField := k, lastCond := op } rest k rfl hqc rfl hk.ne_nil he.2.1 (fun h => nomatch h) hl
    have hc : condWrap op v = .cond op v := if_neg hne
    rw [show ({ e with lastField := k, lastCond := op } : Elem).lastCond = op from rfl, hc, he.restore] at ht
    exact .cons_act hs1 ht

/-- The integer texts `condint` accepts: `0`, or an optional `-`, a digit 1-9 and more digits. -/
def CondIntText (t : List Char) : Prop :=
  t = ['0'] ∨ ∃ neg c ds, t = signText neg ++ c :: ds ∧ ('1' ≤ c ∧ c ≤ '9') ∧ ∀ x ∈ ds, isDigit x = true

theorem intDigits_condIntText (i : Int) : CondIntText (intDigits i) := by
  by_cases h0 : i = 0
  · subst h0; left; decide
  · right
    have hpos : 0 < i.natAbs := by omega
    obtain ⟨c, t, hct, hc⟩ := digitsAux_head (i.natAbs + 1) i.natAbs [] (by omega) hpos
    have hall := (natDigits_spec i.natAbs).2.2
    refine ⟨decide (i < 0), c, t, ?_, hc, ?_⟩
    · rw [intDigits_shape]; simp only [natDigits, hct]
    · intro x hx; exact hall x (by simp [natDigits, hct, hx])

theorem pos_digit_facts {c : Char} (h : '1' ≤ c ∧ c ≤ '9') : c ≠ '-' ∧ isDigit c = true ∧ isAlpha c = false ∧ c ≠ '_' := by
  obtain ⟨h1, h2⟩ := h
  refine ⟨?_, ?_, ?_, ?_⟩
  · intro e; subst e; revert h1 h2; decide
  · simp only [isDigit, Bool.and_eq_true, decide_eq_true_eq]
    exact ⟨Char.le_trans (by decide) h1, h2⟩
  · simp only [isAlpha, isLower, isUpper, Bool.or_eq_false_iff, Bool.and_eq_false_iff, decide_eq_false_iff_not]
    constructor
    · left; intro h3; exact absurd (Char.le_trans h3 h2) (by decide)
    · left; intro h3; exact absurd (Char.le_trans h3 h2) (by decide)
  · intro e; subst e; revert h1 h2; decide

theorem condint_cap_ok (t r : List Char) (ht : CondIntText t) (hr : NotHead isDigit r) :
    P (.cap (.alt (.seq (.opt (.chr '-')) (.seq (.rng '1' '9') (.star (.rng '0' '9')))) (.chr '0')))
      (t ++ r) r [.text t] := by
  rcases ht with rfl | ⟨neg, c, ds, rfl, hc, hds⟩
  · have h : P (.alt (.seq (.opt (.chr '-')) (.seq (.rng '1' '9') (.star (.rng '0' '9')))) (.chr '0'))
        (['0'] ++ r) r [] :=
      Parses.alt_right (Fails.seq_right (Parses.opt_none (Fails.chr_ne _ (by decide)))
        (Fails.seq_left (Fails.rng_ne _ (by decide)))) (Parses.chr '0' r)
    simpa using Parses.cap_prefix h
  · obtain ⟨hm, _, _, _⟩ := pos_digit_facts hc
    have h1 := opt_minus neg (c :: ds ++ r) (by simpa [NotHead] using hm)
    have h2 : P (.rng '1' '9') (c :: (ds ++ r)) (ds ++ r) [] := Parses.rng _ hc
    have h3 := digitCls.star ds r hds hr
    have h := Parses.alt_left (b := .chr '0') (Parses.seq h1 (Parses.seq h2 h3))
    have := Parses.cap_prefix (w := signText neg ++ c :: ds) (r := r) (by simpa [List.append_assoc] using h)
    simpa using this

theorem condint_ok (t mid rest : List Char) (ht : CondIntText t) (hmid : NotHead isDigit mid)
    (hsp : P (.ref R.sp) mid rest []) :
    P (.ref R.condint) (t ++ mid) rest [.text t, .act .condAdd] :=
  Parses.ref (Parses.seq (condint_cap_ok t mid ht hmid) (Parses.seq hsp (Parses.act .condAdd rest)))

def ltText (strict : Bool) : List Char := if strict then ['<'] else ['<', '=']

theorem condLT_ok (strict : Bool) (rest : List Char) (hr : NoWs rest) :
    P (.ref R.condLT) (ltText strict ++ ' ' :: rest) rest [.text (ltText strict), .act .condAdd] := by
  have hcap : P (.cap (.alt (lit ['<', '=']) (.chr '<'))) (ltText strict ++ ' ' :: rest) (' ' :: rest)
      ([] ++ [.text (ltText strict)]) := by
    cases strict with
    | false => exact Parses.cap_prefix (Parses.alt_left (Parses.lit ['<', '='] (' ' :: rest)))
    | true =>
      exact Parses.cap_prefix (w := ['<']) (Parses.alt_right
        (Fails.lit _ _ (by simp) (by intro ⟨u, hu⟩; simp at hu)) (Parses.chr '<' _))
  exact Parses.ref (Parses.seq hcap (Parses.seq (sp_one hr) (Parses.act .condAdd rest)))

theorem condfield_ok (k rest : List Char) (hk : FieldName k) (hr : NoWs rest) :
    P (.ref R.condfield) (k ++ ' ' :: rest) rest [.text k, .act .condAdd] :=
  Parses.ref (Parses.seq (Parses.cap_prefix (fieldExpr_ok (w := k) (r := ' ' :: rest) hk (NotHead.of_head (by decide))))
    (Parses.seq (sp_one hr) (Parses.act .condAdd rest)))

theorem condIntText_head (t s : List Char) (ht : CondIntText t) :
    ∃ c u, t ++ s = c :: u ∧ isWs c = false ∧ isAlpha c = false ∧ c ≠ '_' := by
  rcases ht with rfl | ⟨neg, c, ds, rfl, hc, _⟩
  · exact ⟨'0', s, rfl, by decide⟩
  · cases neg with
    | true => exact ⟨'-', c :: ds ++ s, by simp [signText], by decide⟩
    | false =>
      obtain ⟨_, hd, ha, hu⟩ := pos_digit_facts hc
      exact ⟨c, ds ++ s, by simp [signText], notWs_of_digit hd, ha, hu⟩

theorem field_fails_head (c : Char) (u : List Char) (ha : isAlpha c = false) (hu : c ≠ '_') :
    F (.ref R.field) (c :: u) := by
  have hh : ∀ w : List Char, (∃ as, w = '_' :: as) → F (lit w) (c :: u) := fun w ⟨as, hw⟩ =>
    lit_fails_head w c u ⟨'_', as, hw, fun e => hu e.symm⟩
  exact Fails.ref (Fails.seq_left (Fails.cap (Fails.alt (fieldExpr_fails_head c u ha)
    (Fails.ref (Fails.alt (hh _ ⟨_, rfl⟩) (Fails.alt (hh _ ⟨_, rfl⟩) (Fails.alt (hh _ ⟨_, rfl⟩)
      (Fails.alt (hh _ ⟨_, rfl⟩) (Fails.alt (hh _ ⟨_, rfl⟩) (hh _ ⟨_, rfl⟩))))))))))

def betweenText (lo : List Char) (sl : Bool) (k : Key) (sh : Bool) (hi : List Char) : List Char :=
  lo ++ ' ' :: (ltText sl ++ ' ' :: (k ++ ' ' :: (ltText sh ++ ' ' :: hi)))

def betweenEvs (lo : List Char) (sl : Bool) (k : Key) (sh : Bool) (hi : List Char) : List Ev :=
  [.act .startConditional, .text lo, .act .condAdd, .text (ltText sl), .act .condAdd, .text k, .act .condAdd,
   .text (ltText sh), .act .condAdd, .text hi, .act .condAdd, .act .endConditional]

theorem ltText_noWs (s : Bool) (r : List Char) : NoWs (ltText s ++ r) := by
  cases s <;> exact NoWs.of_head (by decide)

theorem arg_between_ok (lo hi : List Char) (sl sh : Bool) (k : Key) (hlo : CondIntText lo) (hhi : CondIntText hi)
    (hk : FieldName k) (d : Char) (r : List Char) (hd : d = ',' ∨ d = ')') :
    P (.ref R.arg) (betweenText lo sl k sh hi ++ d :: r) (d :: r) (betweenEvs lo sl k sh hi) := by
  have hdws : NoWs (d :: r) := by rcases hd with rfl | rfl <;> exact NoWs.of_head (by decide)
  have hdd : NotHead isDigit (d :: r) := by rcases hd with rfl | rfl <;> exact NotHead.of_head (by decide)
  obtain ⟨c, u, htext, _, ha, hu⟩ := condIntText_head lo (' ' :: (ltText sl ++ ' ' :: (k ++ ' ' :: (ltText sh ++ ' ' :: (hi ++ d :: r))))) hlo
  have hff := field_fails_head c u ha hu
  obtain ⟨kc, kcs, rfl, hkc, hkcs⟩ := hk
  have hk' : FieldName (kc :: kcs) := ⟨kc, kcs, rfl, hkc, hkcs⟩
  obtain ⟨c5, u5, h5, hw5, _⟩ := condIntText_head hi (d :: r) hhi
  have hn5 : NoWs (hi ++ d :: r) := by rw [h5]; exact NoWs.of_head hw5
  have p5 := condint_ok hi (d :: r) (d :: r) hhi hdd (sp_nil hdws)
  have p4 := condLT_ok sh (hi ++ d :: r) hn5
  have p3 := condfield_ok (kc :: kcs) (ltText sh ++ ' ' :: (hi ++ d :: r)) hk' (ltText_noWs sh _)
  have hn3 : NoWs ((kc :: kcs) ++ ' ' :: (ltText sh ++ ' ' :: (hi ++ d :: r))) := NoWs.of_head (notWs_of_alpha hkc)
  have p2 := condLT_ok sl _ hn3
  have p1 := condint_ok lo (' ' :: (ltText sl ++ ' ' :: ((kc :: kcs) ++ ' ' :: (ltText sh ++ ' ' :: (hi ++ d :: r)))))
    _ hlo (NotHead.of_head (by decide)) (sp_one (ltText_noWs sl _))
  have hcond : P (.ref R.conditional)
      (lo ++ ' ' :: (ltText sl ++ ' ' :: ((kc :: kcs) ++ ' ' :: (ltText sh ++ ' ' :: (hi ++ d :: r))))) (d :: r)
      (betweenEvs lo sl (kc :: kcs) sh hi) :=
    Parses.ref (Parses.seq (Parses.act .startConditional _)
      (Parses.seq p1 (Parses.seq p2 (Parses.seq p3 (Parses.seq p4 (Parses.seq p5 (Parses.act .endConditional (d :: r))))))))
  have etext : betweenText lo sl (kc :: kcs) sh hi ++ d :: r =
      lo ++ ' ' :: (ltText sl ++ ' ' :: ((kc :: kcs) ++ ' ' :: (ltText sh ++ ' ' :: (hi ++ d :: r)))) := by
    simp [betweenText, List.append_assoc]
  rw [etext]
  rw [htext] at hcond ⊢
  exact Parses.ref (Parses.alt_right (Fails.seq_left hff) (Parses.alt_right (Fails.seq_left hff) hcond))

theorem clamp_intDigits (i : Int) (h1 : minInt64 ≤ i) (h2 : i ≤ maxInt64) : parseInt64Clamp (intDigits i) = i := by
  simp only [parseInt64Clamp, parseIntText_intDigits]
  rw [if_neg (by omega), if_neg (by omega)]

/-- `lo < key <= hi` written with int64 bounds: strict bounds are moved inwards by one (they must not
sit at the end of the int64 range, where ast.go wraps). -/
theorem between_denotes (lo hi : Int) (sl sh : Bool) (k : Key) (hk : FieldName k)
    (hlo : minInt64 ≤ lo ∧ lo ≤ maxInt64) (hhi : minInt64 ≤ hi ∧ hi ≤ maxInt64)
    (hsl : sl = true → lo < maxInt64) (hsh : sh = true → minInt64 < hi) :
    ArgDenotes k (betweenText (intDigits lo) sl k sh (intDigits hi))
      (.cond .BETWEEN (.list [.int (if sl then lo + 1 else lo), .int (if sh then hi - 1 else hi)])) := by
  refine ⟨betweenEvs (intDigits lo) sl k sh (intDigits hi), ⟨intDigits_noWs lo _, ?_, fun s => ?_,
    fun d r hd => arg_between_ok _ _ sl sh k (intDigits_condIntText lo) (intDigits_condIntText hi) hk d r hd⟩, ?_⟩
  · obtain ⟨c, u, h, _⟩ := condIntText_head (intDigits lo) [] (intDigits_condIntText lo)
    intro e
    simp only [betweenText] at e
    simp at e
  · obtain ⟨c, u, h, _, ha, _⟩ := condIntText_head (intDigits lo)
      (' ' :: (ltText sl ++ ' ' :: (k ++ ' ' :: (ltText sh ++ ' ' :: intDigits hi))) ++ s) (intDigits_condIntText lo)
    have e : betweenText (intDigits lo) sl k sh (intDigits hi) ++ s = c :: u := by
      rw [← h]; simp [betweenText, List.append_assoc]
    show F (.ref R.Call) (betweenText (intDigits lo) sl k sh (intDigits hi) ++ s)
    rw [e]
    exact call_fails_head c u ha
  · refine (largSem_iff _).2 fun q e rest hq hqc he hl => ⟨intDigits hi, ?_⟩
    have hlow : (if ltText sl = ['<'] then incWrap (parseInt64Clamp (intDigits lo)) else parseInt64Clamp (intDigits lo)) =
        (if sl then lo + 1 else lo) := by
      rw [clamp_intDigits lo hlo.1 hlo.2]
      cases sl with
      | false => simp [ltText]
      | true =>
        have := hsl rfl
        simp only [ltText, if_true, incWrap]
        rw [if_neg (by omega)]
    have hhigh : (if ltText sh = ['<'] then decWrap (parseInt64Clamp (intDigits hi)) else parseInt64Clamp (intDigits hi)) =
        (if sh then hi - 1 else hi) := by
      rw [clamp_intDigits hi hhi.1 hhi.2]
      cases sh with
      | false => simp [ltText]
      | true =>
        have := hsh rfl
        simp only [ltText, if_true, decWrap]
        rw [if_neg (by omega)]
    have hl' : (lookup k e.args).isSome = false := by
      have : lookup k e.args = none := hl
      simp [this]
    simp only [betweenEvs, exec, stepEv, stepAct, startConditional, endConditional, hq, hqc, List.nil_append,
      List.cons_append, hlow, hhigh, hl', Bool.false_eq_true, if_false]

theorem runs_largs (as : List LArg) (hsem : ∀ a ∈ as, a.Sem) (hs : (as.map (·.key)).Pairwise (· ≠ ·))
    (q : QState) (e : Elem) (rest : List Elem)
    (hq : q.stack = e :: rest) (hqc : q.cond = []) (he : ArgState e) (hl : ∀ a ∈ as, lookup a.key e.args = none) :
    Runs (as.flatMap (·.evs)) q
      { q with stack := { e with args := (as.map LArg.kv).foldl (fun m kv => insert kv.1 kv.2 m) e.args } :: rest } := by
  induction as generalizing q e with
  | nil => exact ⟨q.text, by cases q; cases e; simp_all [exec]⟩
  | cons a rest' ih =>
    simp only [List.map_cons, List.pairwise_cons] at hs
    refine ((largSem_iff a).1 (hsem a (by simp)) q e rest hq hqc he (hl a (by simp))).append fun t => ?_
    exact ih (fun x hx => hsem x (by simp [hx])) hs.2 _ { e with args := insert a.key a.val e.args } rfl hqc he
      fun x hx => by
        have hne : x.key ≠ a.key := fun e' => hs.1 x.key (List.mem_map_of_mem hx) e'.symm
        simp only [lookup_insert, hne, if_false]
        exact hl x (by simp [hx])

def argMap (as : List LArg) : List (Key × Val) :=
  (as.map LArg.kv).foldl (fun m kv => insert kv.1 kv.2 m) []

theorem largs_read (as : List LArg) (hne : as ≠ []) (hsyn : ∀ a ∈ as, a.Syn) :
    (∀ s, NoWs (joinWith [',', ' '] (as.map (·.text)) ++ s)) ∧
    (∀ s, F (.ref R.Call) (joinWith [',', ' '] (as.map (·.text)) ++ s)) ∧
    ∀ r, P (.ref R.args) (joinWith [',', ' '] (as.map (·.text)) ++ ')' :: r) (')' :: r) (as.flatMap (·.evs)) := by
  refine ⟨fun s => ?_, fun s => ?_, fun r => ?_⟩
  · cases as with
    | nil => exact absurd rfl hne
    | cons a rest =>
      rw [List.map_cons, joinWith_cons, List.append_assoc]
      exact noWs_append (hsyn a (by simp)).1 (hsyn a (by simp)).2.1
  · cases as with
    | nil => exact absurd rfl hne
    | cons a rest =>
      rw [List.map_cons, joinWith_cons, List.append_assoc]
      exact (hsyn a (by simp)).2.2.1 _
  · exact args_ok (·.text) (·.evs) as hne (fun a ha => ⟨(hsyn a ha).1, (hsyn a ha).2.1, (hsyn a ha).2.2.2⟩) r

/-- `evs`: up to (not including) the closing action. -/
structure LCall where
  text : List Char
  evs : List Ev
  call : Call

/-- Syntax: `Call` reads the text whatever follows and closes with `endCall`; `item` reads it as a value
and closes with `addVal(endCall())`. -/
def LCall.Syn (c : LCall) : Prop :=
  NoWs c.text ∧ c.text ≠ [] ∧ ∀ r, NoWs r →
    P (.ref R.Call) (c.text ++ r) r (c.evs ++ [.act .endCall]) ∧
    P (.ref R.item) (c.text ++ r) r (c.evs ++ [.act (.addVal .endCall)])

/-- Semantics: the finished call is linked where `startCall` decided: appended to the query, to the
children of the enclosing call, or stored under the pending key of the enclosing call. -/
def LCall.Sem (c : LCall) : Prop :=
  ∀ (q : QState), q.cond = [] →
    (q.stack = [] → Runs (c.evs ++ [.act .endCall]) q { q with calls := q.calls ++ [c.call] }) ∧
    (∀ p rest, q.stack = p :: rest → p.lastField = [] →
      Runs (c.evs ++ [.act .endCall]) q { q with stack := { p with children := p.children ++ [c.call] } :: rest }) ∧
    (∀ p rest, q.stack = p :: rest → p.lastField ≠ [] → p.inList = false → p.lastCond = .ILLEGAL →
      lookup p.lastField p.args = none →
      Runs (c.evs ++ [.act (.addVal .endCall)]) q
        { q with stack := { p with args := insert p.lastField (.call c.call) p.args, lastField := [],
                                   lastCond := .ILLEGAL } :: rest })

def CallDenotes (text : List Char) (c : Call) : Prop :=
  ∃ evs, (LCall.mk text evs c).Syn ∧ (LCall.mk text evs c).Sem

theorem exists_lcalls {α : Type} (text : α → List Char) (call : α → Call) (l : List α)
    (h : ∀ x ∈ l, CallDenotes (text x) (call x)) :
    ∃ cs : List LCall, cs.map (·.text) = l.map text ∧ cs.map (·.call) = l.map call ∧ ∀ c ∈ cs, c.Syn ∧ c.Sem := by
  induction l with
  | nil => exact ⟨[], rfl, rfl, fun _ h => nomatch h⟩
  | cons x rest ih =>
    obtain ⟨evs, h1, h2⟩ := h x (by simp)
    obtain ⟨cs, ht, hc, hok⟩ := ih (fun y hy => h y (by simp [hy]))
    refine ⟨⟨text x, evs, call x⟩ :: cs, by simp [ht], by simp [hc], fun c hc => ?_⟩
    rcases List.mem_cons.mp hc with rfl | hc
    · exact ⟨h1, h2⟩
    · exact hok c hc

/-- `key=Inner(..)`: the third clause of `LCall.Sem` is `Stores`. -/
theorem CallDenotes.value {text : List Char} {c : Call} (h : CallDenotes text c) :
    ValueDenotes false text (.call c) := by
  obtain ⟨evs, ⟨hnw, hne, hp⟩, hm⟩ := h
  refine ⟨evs ++ [.act (.addVal .endCall)], ⟨fun s => noWs_append hnw hne, fun d r hd => ?_⟩, ?_⟩
  · have hdws : NoWs (d :: r) := by rcases hd with rfl | rfl <;> exact NoWs.of_head (by decide)
    exact value_of_item (hp (d :: r) hdws).2
  · intro q e rest k hq hqc hf hk hin hc hl
    subst hf
    have hv : condWrap e.lastCond (.call c) = .call c := by rw [hc rfl]; rfl
    rw [hv, ← hin]
    exact (hm q hqc).2.2 e rest hq hk hin (hc rfl) hl

/-- The text between the parentheses, as `Call.String` lays it out. -/
def bodyText (cs : List LCall) (as : List LArg) : List Char :=
  joinWith [',', ' '] (cs.map (·.text)) ++
    ((if cs ≠ [] ∧ as ≠ [] then [',', ' '] else []) ++ joinWith [',', ' '] (as.map (·.text)))

def bodyEvs (cs : List LCall) (as : List LArg) : List Ev :=
  cs.flatMap (fun c => c.evs ++ [.act .endCall]) ++ as.flatMap (·.evs)

/-- `Name(children, arguments)`. -/
def mkCall (name : List Char) (cs : List LCall) (as : List LArg) : LCall :=
  ⟨name ++ '(' :: (bodyText cs as ++ [')']), [.text name, .act (.startCall .text)] ++ bodyEvs cs as,
    .mk name (argMap as) (cs.map (·.call))⟩

theorem star_children (cs : List LCall) (hok : ∀ c ∈ cs, c.Syn) (T : List Char) (hT : NoWs T)
    (hfail : F (.seq (.ref R.comma) (.ref R.Call)) T) :
    P (.star (.seq (.ref R.comma) (.ref R.Call))) (cs.flatMap (fun c => [',', ' '] ++ c.text) ++ T) T
      (cs.flatMap (fun c => c.evs ++ [.act .endCall])) := by
  induction cs with
  | nil => exact Parses.star_nil hfail
  | cons c rest ih =>
    obtain ⟨hws, hne, hp⟩ := hok c (by simp)
    have hnext : NoWs (rest.flatMap (fun c => [',', ' '] ++ c.text) ++ T) := by
      cases rest with
      | nil => exact hT
      | cons d ds => exact NoWs.of_head (by decide)
    have h := Parses.star_cons (Parses.seq (comma_sp (noWs_append hws hne)) (hp _ hnext).1)
      (ih (fun x hx => hok x (by simp [hx])))
    simpa [List.append_assoc] using h

theorem allargs_children (c : LCall) (cs : List LCall) (hok : ∀ x ∈ c :: cs, x.Syn) (T T' : List Char)
    (evsA : List Ev) (hT : NoWs T) (hfail : F (.seq (.ref R.comma) (.ref R.Call)) T)
    (hopt : P (.opt (.seq (.ref R.comma) (.ref R.args))) T T' evsA) :
    NoWs (joinWith [',', ' '] ((c :: cs).map (·.text)) ++ T) ∧
    P (.ref R.allargs) (joinWith [',', ' '] ((c :: cs).map (·.text)) ++ T) T'
      ((c :: cs).flatMap (fun c => c.evs ++ [.act .endCall]) ++ evsA) := by
  obtain ⟨hws, hne, hp⟩ := hok c (by simp)
  have hnext : NoWs (cs.flatMap (fun c => [',', ' '] ++ c.text) ++ T) := by
    cases cs with
    | nil => exact hT
    | cons d ds => exact NoWs.of_head (by decide)
  have h : P (.ref R.allargs) (c.text ++ (cs.flatMap (fun c => [',', ' '] ++ c.text) ++ T)) T' _ :=
    Parses.ref (Parses.alt_left (Parses.seq (hp _ hnext).1
      (Parses.seq (star_children cs (fun x hx => hok x (by simp [hx])) T hT hfail) hopt)))
  rw [List.map_cons, joinWith_cons]
  exact ⟨by rw [List.append_assoc]; exact noWs_append hws hne,
    by simpa [List.flatMap_map, List.append_assoc] using h⟩

theorem allargs_body (cs : List LCall) (as : List LArg) (hcs : ∀ c ∈ cs, c.Syn) (has : ∀ a ∈ as, a.Syn)
    (hne : as ≠ [] ∨ cs ≠ []) (r : List Char) :
    NoWs (bodyText cs as ++ ')' :: r) ∧
      P (.ref R.allargs) (bodyText cs as ++ ')' :: r) (')' :: r) (bodyEvs cs as) := by
  have hcf : F (.ref R.comma) (')' :: r) := comma_fails (NoWs.of_head (by decide)) (NotHead.of_head (by decide))
  cases cs with
  | nil =>
    obtain ⟨hnw, hcall, hargs⟩ := largs_read as (hne.resolve_right (fun h => h rfl)) has
    exact ⟨by simpa [bodyText, joinWith] using hnw (')' :: r),
      by simpa [bodyText, bodyEvs, joinWith] using allargs_of_args (hcall _) (hargs r)⟩
  | cons c cs' =>
    by_cases ha0 : as = []
    · subst ha0
      have h := allargs_children c cs' hcs (')' :: r) (')' :: r) [] (NoWs.of_head (by decide)) (Fails.seq_left hcf)
        (Parses.opt_none (Fails.seq_left hcf))
      simpa [bodyText, bodyEvs, joinWith] using h
    · obtain ⟨hnw, hcall, hargs⟩ := largs_read as ha0 has
      have hcomma := comma_sp (hnw (')' :: r))
      have h := allargs_children c cs' hcs _ (')' :: r) _ (NoWs.of_head (by decide))
        (Fails.seq_right hcomma (hcall _)) (Parses.opt_some (Parses.seq hcomma (hargs r)))
      simpa [bodyText, bodyEvs, ha0, List.append_assoc] using h

theorem identName_noWs {name : List Char} (hn : IdentName name) (s : List Char) : NoWs (name ++ s) := by
  obtain ⟨c, cs, rfl, hc, _⟩ := hn
  exact NoWs.of_head (notWs_of_alpha hc)

theorem mkCall_syn (name : List Char) (cs : List LCall) (as : List LArg) (hn : IdentName name)
    (hcs : ∀ c ∈ cs, c.Syn) (has : ∀ a ∈ as, a.Syn) (hne : as ≠ [] ∨ cs ≠ [])
    (hfree : ∀ s, SpecialFree name (bodyText cs as ++ s)) : (mkCall name cs as).Syn := by
  refine ⟨identName_noWs hn _, by simp [mkCall], fun r hr => ?_⟩
  obtain ⟨hws, hall⟩ := allargs_body cs as hcs has hne r
  have hc := call_generic_ok name (bodyText cs as) r _ hn (hfree _) hws hr hall
  have hi := item_call_ok name (bodyText cs as) r _ hn hws hr hall
  exact ⟨by simpa [mkCall, List.append_assoc] using hc, by simpa [mkCall, List.append_assoc] using hi⟩

theorem runs_children (cs : List LCall) (hch : ∀ c ∈ cs, c.Sem) (q : QState) (e : Elem) (rest : List Elem)
    (hq : q.stack = e :: rest) (hqc : q.cond = []) (he : e.lastField = []) :
    Runs (cs.flatMap (fun c => c.evs ++ [.act .endCall])) q
      { q with stack := { e with children := e.children ++ cs.map (·.call) } :: rest } := by
  induction cs generalizing q e with
  | nil => exact ⟨q.text, by cases q; cases e; simp_all [exec]⟩
  | cons c cs ih =>
    rw [List.map_cons, List.append_cons]
    refine ((hch c (by simp) q hqc).2.1 e rest hq he).append fun t => ?_
    exact ih (fun x hx => hch x (by simp [hx]))
      { q with text := t, stack := { e with children := e.children ++ [c.call] } :: rest } _ rfl hqc he

theorem mkCall_sem (name : List Char) (cs : List LCall) (as : List LArg) (hcs : ∀ c ∈ cs, c.Sem)
    (has : ∀ a ∈ as, a.Sem) (hkeys : (as.map (·.key)).Pairwise (· ≠ ·)) : (mkCall name cs as).Sem := by
  intro q hqc
  -- after `startCall` the new element sits on top of `q.stack`; children and arguments fill it
  have filled : ∀ (att : Attach),
      startCall { q with text := name } name =
        { q with text := name, stack := { name := name, attach := att } :: q.stack } →
      Runs (.text name :: .act (.startCall .text) :: bodyEvs cs as) q
        { q with stack := { name := name, attach := att, args := argMap as, children := cs.map (·.call) } :: q.stack } := by
    intro att hstart
    have hs : stepAct { q with text := name } (.startCall .text) =
        .ok { q with text := name, stack := { name := name, attach := att } :: q.stack } := by
      simp only [stepAct, sargText]; rw [hstart]
    refine .cons_text (.cons_act hs ((runs_children cs hcs
      { q with text := name, stack := { name := name, attach := att } :: q.stack } _ q.stack rfl hqc rfl).append fun t => ?_))
    exact runs_largs as has hkeys
      { q with text := t, stack := { name := name, attach := att, children := cs.map (·.call) } :: q.stack }
      { name := name, attach := att, children := cs.map (·.call) } q.stack rfl hqc ⟨rfl, rfl, rfl⟩ (by simp [lookup])
  refine ⟨?_, ?_, ?_⟩
  · intro hq
    refine (filled .top (by simp [startCall, hq])).append fun t => .act t ?_
    simp [stepAct, endCall, Elem.toCall, hq, mkCall]
    rfl
  · intro p rest hq hp
    refine (filled .child (by simp [startCall, hq, hp])).append fun t => .act t ?_
    simp [stepAct, endCall, Elem.toCall, hq, mkCall]
    rfl
  · intro p rest hq hp hin hc hl
    refine (filled .none (by simp [startCall, hq, hp])).append fun t => .act t ?_
    have hl' : (lookup p.lastField p.args).isSome = false := by simp [hl]
    simp [stepAct, endCall, Elem.toCall, hq, addVal, hp, hin, hc, hl', bind, Except.bind, mkCall]

/-- The parser's answer on a text, whatever the interpreter fuel: some fuel suffices, and no fuel
gives another answer. -/
def ParsesTo (s : List Char) (cs : List Call) : Prop :=
  (∃ n, parseFuel Gen.rule Gen.start n s = .ok cs) ∧
  (∀ n, parseFuel Gen.rule Gen.start n s = .error .fuel ∨ parseFuel Gen.rule Gen.start n s = .ok cs)

theorem parsesTo_of_run {s : List Char} {evs : List Ev} {c : Call} (hp : P (.ref Gen.start) s [] evs)
    (hx : Runs evs {} { calls := [c] }) : ParsesTo s [c] := by
  obtain ⟨n0, hn0⟩ := hp
  obtain ⟨t, ht⟩ := hx
  refine ⟨⟨n0, by simp [parseFuel, hn0, ht]⟩, fun n => ?_⟩
  rcases run_det Gen.rule hn0 (by simp) n with hf | ho
  · left; simp [parseFuel, hf]
  · right; simp [parseFuel, ho, ht]

theorem LCall.parsesTo {c : LCall} (hs : c.Syn) (hm : c.Sem) : ParsesTo c.text [c.call] := by
  have hp := (hs.2.2 [] trivial).1
  rw [List.append_nil] at hp
  exact parsesTo_of_run (calls_single _ _ hs.1 hp) ((hm {} rfl).1 rfl)

theorem CallDenotes.parsesTo {text : List Char} {c : Call} (h : CallDenotes text c) : ParsesTo text [c] :=
  let ⟨_, hs, hm⟩ := h
  LCall.parsesTo hs hm

def largsText (name : List Char) (as : List LArg) : List Char :=
  name ++ '(' :: (joinWith [',', ' '] (as.map (·.text)) ++ [')'])

theorem largs_parse (name : List Char) (as : List LArg) (hn : IdentName name) (hsp : name ∉ specialKws)
    (hne : as ≠ []) (hsyn : ∀ a ∈ as, a.Syn) (hsem : ∀ a ∈ as, a.Sem)
    (hs : (as.map (·.key)).Pairwise (· ≠ ·)) :
    (∃ n, parseFuel Gen.rule Gen.start n (largsText name as) = .ok [.mk name (argMap as) []]) ∧
    (∀ n, parseFuel Gen.rule Gen.start n (largsText name as) = .error .fuel ∨
          parseFuel Gen.rule Gen.start n (largsText name as) = .ok [.mk name (argMap as) []]) := by
  have h := LCall.parsesTo (mkCall_syn name [] as hn (fun _ h => nomatch h) hsyn (Or.inl hne) (fun _ => Or.inl hsp))
    (mkCall_sem name [] as (fun _ h => nomatch h) hsem hs)
  have e : (mkCall name [] as).text = largsText name as := by simp [mkCall, bodyText, largsText, joinWith]
  rw [← e]
  exact h

/-! `ClearRow(key=value)` and `Store(Child(..), key=value)` are read by their DEDICATED alternatives of `Call`: the
events differ from the generic ones (`startCall` gets the literal name), the resulting call is the same. -/

def clearRowKw : List Char := ['C', 'l', 'e', 'a', 'r', 'R', 'o', 'w']
def storeKw : List Char := ['S', 't', 'o', 'r', 'e']

theorem startCall_lit (kw : List Char) : stepAct ({} : QState) (.startCall (.lit kw)) =
    .ok { ({} : QState) with stack := [{ name := kw, attach := .top }] } := rfl

theorem clearrow_parsesTo {k : Key} {text : List Char} {v : Val} (h : ArgDenotes k text v) :
    ParsesTo (clearRowKw ++ '(' :: (text ++ [')'])) [.mk clearRowKw [(k, v)] []] := by
  obtain ⟨evs, ⟨hnw, hne, _, hp⟩, hsem⟩ := h
  have hws : NoWs (text ++ [')']) := noWs_append hnw hne
  -- the special forms before `ClearRow` in `Call` carry another keyword
  have ho := fun (kw : List Char) (hm : kw ∈ specialKws) (hne : kw ≠ clearRowKw) (a : Act) (more : PExpr) =>
    special_alt_fails kw a more clearRowKw _ ⟨'C', _, rfl, by decide, by decide⟩ hm hws (fun e => absurd e.symm hne)
  have h := Parses.seq (Parses.lit (rule := Gen.rule) clearRowKw ('(' :: (text ++ [')'])))
    (Parses.seq (Parses.act (.startCall (.lit clearRowKw)) _)
      (Parses.seq (open_ok hws) (Parses.seq (hp ')' [] (Or.inr rfl))
        (Parses.seq (close_ok (r := []) trivial) (Parses.act .endCall [])))))
  have hcall : P (.ref R.Call) (clearRowKw ++ '(' :: (text ++ [')'])) []
      ([.act (.startCall (.lit clearRowKw))] ++ evs ++ [.act .endCall]) :=
    Parses.ref (Parses.alt_right (ho _ (by decide) (by decide) _ _) (Parses.alt_right (ho _ (by decide) (by decide) _ _)
      (Parses.alt_right (ho _ (by decide) (by decide) _ _) (Parses.alt_right (ho _ (by decide) (by decide) _ _)
      (Parses.alt_left h)))))
  refine parsesTo_of_run (calls_single _ _ (NoWs.of_head (by decide)) hcall) ?_
  exact .cons_act (startCall_lit clearRowKw) (((largSem_iff _).1 hsem _ { name := clearRowKw, attach := .top } []
    rfl rfl ⟨rfl, rfl, rfl⟩ rfl).append fun t => .act t rfl)

theorem store_parsesTo {ctext : List Char} {c : Call} {k : Key} {text : List Char} {v : Val}
    (hc : CallDenotes ctext c) (h : ArgDenotes k text v) :
    ParsesTo (storeKw ++ '(' :: (ctext ++ ',' :: ' ' :: (text ++ [')']))) [.mk storeKw [(k, v)] [c]] := by
  obtain ⟨evs, ⟨hnw, hne, _, hp⟩, hsem⟩ := h
  obtain ⟨cevs, ⟨hcw, hcne, hcp⟩, hcm⟩ := hc
  have hws : NoWs (ctext ++ ',' :: ' ' :: (text ++ [')'])) := noWs_append hcw hcne
  have ho := fun (kw : List Char) (hm : kw ∈ specialKws) (hne : kw ≠ storeKw) (a : Act) (more : PExpr) =>
    special_alt_fails kw a more storeKw _ ⟨'S', _, rfl, by decide, by decide⟩ hm hws (fun e => absurd e.symm hne)
  have h := Parses.seq (Parses.lit (rule := Gen.rule) storeKw ('(' :: (ctext ++ ',' :: ' ' :: (text ++ [')']))))
    (Parses.seq (Parses.act (.startCall (.lit storeKw)) _)
      (Parses.seq (open_ok hws) (Parses.seq (hcp _ (NoWs.of_head (by decide))).1
        (Parses.seq (comma_sp (noWs_append hnw hne))
          (Parses.seq (hp ')' [] (Or.inr rfl)) (Parses.seq (close_ok (r := []) trivial) (Parses.act .endCall [])))))))
  have hcall : P (.ref R.Call) (storeKw ++ '(' :: (ctext ++ ',' :: ' ' :: (text ++ [')']))) []
      (.act (.startCall (.lit storeKw)) :: ((cevs ++ [.act .endCall]) ++ (evs ++ [.act .endCall]))) :=
    Parses.ref (Parses.alt_right (ho _ (by decide) (by decide) _ _) (Parses.alt_right (ho _ (by decide) (by decide) _ _)
      (Parses.alt_right (ho _ (by decide) (by decide) _ _) (Parses.alt_right (ho _ (by decide) (by decide) _ _)
      (Parses.alt_right (ho _ (by decide) (by decide) _ _) (Parses.alt_left h))))))
  refine parsesTo_of_run (calls_single _ _ (NoWs.of_head (by decide)) hcall) ?_
  refine .cons_act (startCall_lit storeKw) (((hcm _ rfl).2.1 { name := storeKw, attach := .top } [] rfl rfl).append
    fun t1 => ?_)
  exact ((largSem_iff _).1 hsem
    { ({} : QState) with stack := [{ name := storeKw, attach := .top, children := [c] }], text := t1 }
    { name := storeKw, attach := .top, children := [c] } [] rfl rfl ⟨rfl, rfl, rfl⟩ rfl).append fun t => .act t rfl

end PV.C26
