/-
C26 — the forward fragment: what `Call.String` prints denotes itself — scalars, lists, floats, arguments with
simple values, and calls of the nested fragment by induction on the depth (each step `mkCall_syn`/`mkCall_sem`).
-/
import PV.C26.LemmasArgs
namespace PV.C26
open Gen

/-- A scalar that may stand in a forwarded list (`TopN(.., attrValues=["a","b"])`, id lists as
`[]interface{}`). -/
def FwdScalar : Val → Prop
  | .int i => minInt64 ≤ i ∧ i ≤ maxInt64
  | .str bs => ∀ b ∈ bs, b < 256
  | .bool _ => True
  | .null => True
  | _ => False

def isKwVal : Val → Bool
  | .null => true
  | .bool _ => true
  | _ => false

/-- A printed string (any bytes): `strconv.Quote` writes a body that `doublequotedstring` walks and that
`strconv.Unquote` turns back into the bytes. -/
theorem str_denotes (isPrint : Char → Bool) (hnl : isPrint '\n' = false) (bs : Bytes) (h : ∀ b ∈ bs, b < 256) :
    ItemDenotes false false (quote isPrint bs) (.str bs) :=
  dq_denotes (quoteBody isPrint bs) bs (dqOk_quoteBody isPrint bs) (unquote_quote isPrint hnl bs h)

theorem fwdScalar_denotes (isPrint : Char → Bool) (hnl : isPrint '\n' = false) (v : Val) (h : FwdScalar v) :
    ItemDenotes (isKwVal v) false (fmtVal isPrint v) v :=
  match v, h with
  | .int i, h => (intDigits_denotes i h.1 h.2).mono id (fun e => nomatch e)
  | .str bs, h => str_denotes isPrint hnl bs h
  | .bool true, _ => bool_denotes true
  | .bool false, _ => bool_denotes false
  | .null, _ => null_denotes

theorem fmtVals_map (isPrint : Char → Bool) (vs : List Val) : fmtVals isPrint vs = vs.map (fmtVal isPrint) := by
  induction vs with
  | nil => rfl
  | cons v rest ih => simp [fmtVals, ih]

/-- A forwarded list: scalars, the last one not `null`/`true`/`false` (`list-last-keyword`). -/
def FwdList (vs : List Val) : Prop :=
  ∃ init last, vs = init ++ [last] ∧ (∀ v ∈ init, FwdScalar v) ∧ FwdScalar last ∧ isKwVal last = false

theorem fwdList_denotes (isPrint : Char → Bool) (hnl : isPrint '\n' = false) (vs : List Val) (h : FwdList vs) :
    ValueDenotes false (fmtVal isPrint (.list vs)) (.list vs) := by
  obtain ⟨init, last, rfl, h1, h2, h3⟩ := h
  have hl := fwdScalar_denotes isPrint hnl last h2
  rw [h3] at hl
  have := list_denotes (fmtVal isPrint) id false init last
    (fun v hv => (fwdScalar_denotes isPrint hnl v (h1 v hv)).mono (fun e => nomatch e) id) hl
  simpa [fmtVal, fmtVals_map] using this

/-- A list value under a condition: a non-empty list of int64. -/
def IntList (vs : List Val) : Prop :=
  ∃ xs : List Int, vs = xs.map Val.int ∧ xs ≠ [] ∧ ∀ x ∈ xs, minInt64 ≤ x ∧ x ≤ maxInt64

theorem intList_denotes (isPrint : Char → Bool) (vs : List Val) (h : IntList vs) :
    ValueDenotes true (fmtVal isPrint (.list vs)) (.list vs) := by
  obtain ⟨xs, rfl, hne, hr⟩ := h
  have hx : ∀ x ∈ xs.dropLast ++ [xs.getLast hne], minInt64 ≤ x ∧ x ≤ maxInt64 := by
    rw [List.dropLast_concat_getLast]; exact hr
  have := list_denotes intDigits Val.int true xs.dropLast (xs.getLast hne)
    (fun x hx' => (intDigits_denotes x (hx x (by simp [hx'])).1 (hx x (by simp [hx'])).2).mono (fun e => nomatch e) id)
    (intDigits_denotes _ (hx _ (by simp)).1 (hx _ (by simp)).2)
  rw [List.dropLast_concat_getLast] at this
  simpa [fmtVal, fmtVals_map, List.map_map, Function.comp_def] using this

theorem takeWhile_digits_dot (ip rest : List Char) (h : ∀ c ∈ ip, isDigit c = true) :
    (ip ++ '.' :: rest).takeWhile (· ≠ '.') = ip := by
  rw [List.takeWhile_append_of_pos (fun c hc => decide_eq_true (ne_of_class (h c hc) (by decide)))]
  simp

theorem dropWhile_digits_dot (ip rest : List Char) (h : ∀ c ∈ ip, isDigit c = true) :
    (ip ++ '.' :: rest).dropWhile (· ≠ '.') = '.' :: rest := by
  rw [List.dropWhile_append_of_pos (fun c hc => decide_eq_true (ne_of_class (h c hc) (by decide)))]
  simp

theorem stripLeading_ne (c : Char) (cs : List Char) (hc : c ≠ '0') : stripLeadingZeros (c :: cs) = c :: cs := by
  rw [stripLeadingZeros]
  intro cs' e; exact hc (by cases e; rfl)

theorem stripTrailing_id (fp : List Char) (h : ∀ t, fp ≠ t ++ ['0']) : stripTrailingZeros fp = fp := by
  simp only [stripTrailingZeros]
  have : stripLeadingZeros fp.reverse = fp.reverse := by
    cases hr : fp.reverse with
    | nil => rfl
    | cons c cs =>
      have hc : c ≠ '0' := by
        intro e; subst e
        have : fp = cs.reverse ++ ['0'] := by
          have := congrArg List.reverse hr; simpa using this
        exact h _ this
      exact stripLeading_ne c cs hc
  rw [this, List.reverse_reverse]

/-- `normDec` after the sign has been split off. -/
def normBody (neg : Bool) (body : List Char) : List Char :=
  let ip := body.takeWhile (· ≠ '.')
  let fp := (body.dropWhile (· ≠ '.')).drop 1
  let ip' := match stripLeadingZeros ip with
    | [] => ['0']
    | r => r
  let fp' := stripTrailingZeros fp
  (if neg then ['-'] else []) ++ ip' ++ (if fp' = [] then [] else '.' :: fp')

theorem normDec_neg (r : List Char) : normDec ('-' :: r) = normBody true r := rfl

theorem normDec_pos (c : Char) (r : List Char) (hc : c ≠ '-') : normDec (c :: r) = normBody false (c :: r) := by
  rw [normDec]
  · rfl
  · intro r' e; exact hc (by cases e; rfl)

theorem normBody_float (neg : Bool) (ip fp : List Char) (hip : ∀ c ∈ ip, isDigit c = true) (hne : ip ≠ [])
    (hlead : ip = ['0'] ∨ ∀ t, ip ≠ '0' :: t) (hfp : fp = ['0'] ∨ ∀ t, fp ≠ t ++ ['0']) :
    normBody neg (ip ++ '.' :: fp) =
      signText neg ++ ip ++ (if fp = ['0'] then [] else if fp = [] then [] else '.' :: fp) := by
  have hfp' : (if stripTrailingZeros fp = [] then [] else '.' :: stripTrailingZeros fp) =
      (if fp = ['0'] then [] else if fp = [] then ([] : List Char) else '.' :: fp) := by
    rcases hfp with rfl | hfp
    · simp [stripTrailingZeros, stripLeadingZeros]
    · rw [stripTrailing_id fp hfp]
      have : fp ≠ ['0'] := fun e => hfp [] (by simpa using e)
      simp [this]
  have hstrip : (match stripLeadingZeros ip with | [] => ['0'] | r => r) = ip := by
    cases ip with
    | nil => exact absurd rfl hne
    | cons c cs =>
      by_cases hc0 : c = '0'
      · rcases hlead with h | h
        · simp only [List.cons.injEq] at h
          obtain ⟨rfl, rfl⟩ := h
          rfl
        · exact absurd (by rw [hc0]) (h cs)
      · rw [stripLeading_ne c cs hc0]
  simp only [normBody, takeWhile_digits_dot ip fp hip, dropWhile_digits_dot ip fp hip, List.drop_succ_cons,
    List.drop_zero, hstrip, hfp', signText]

/-- The canonical decimal text of a float64 (the representation of `Val.float`; what `normDec` yields):
an optional `-`, an integer part without a redundant leading zero, and a fraction without a trailing
zero, absent when it is zero. -/
def CanonFloat (t : List Char) : Prop :=
  ∃ neg ip fp, t = signText neg ++ ip ++ (if fp = [] then [] else '.' :: fp) ∧ ip ≠ [] ∧
    (∀ c ∈ ip, isDigit c = true) ∧ (∀ c ∈ fp, isDigit c = true) ∧
    (ip = ['0'] ∨ ∀ u, ip ≠ '0' :: u) ∧ (∀ u, fp ≠ u ++ ['0'])

theorem normDec_floatText (neg : Bool) (ip fp : List Char) (hip : ∀ c ∈ ip, isDigit c = true) (hne : ip ≠ []) :
    normDec (floatText neg ip fp) = normBody neg (ip ++ '.' :: fp) := by
  cases neg with
  | true => exact normDec_neg _
  | false =>
    cases ip with
    | nil => exact absurd rfl hne
    | cons c cs => exact normDec_pos c _ (isDigit_ne_minus c (hip c List.mem_cons_self))

/-- `formatFloat` prints a canonical float as `-?d+.d+` (the first numeric alternative of `item`), and
the parser's `ParseFloat` (= `normDec` on the text) gives the same float back. -/
theorem float_roundtrip (t : List Char) (h : CanonFloat t) :
    ∃ neg ip fp', fmtFloat t = floatText neg ip fp' ∧ ip ≠ [] ∧ (∀ c ∈ ip, isDigit c = true) ∧
      (∀ c ∈ fp', isDigit c = true) ∧ normDec (fmtFloat t) = t := by
  obtain ⟨neg, ip, fp, rfl, hne, hip, hfp, hlead, htrail⟩ := h
  by_cases hf : fp = []
  · subst hf
    have hfmt : fmtFloat (signText neg ++ ip ++ (if ([] : List Char) = [] then [] else '.' :: [])) =
        floatText neg ip ['0'] := by
      have hm := signed_no_dot neg ip hip
      simp only [List.mem_append, not_or] at hm
      simp [fmtFloat, hm.1, hm.2, floatText]
    refine ⟨neg, ip, ['0'], hfmt, hne, hip, by simp [isDigit], ?_⟩
    rw [hfmt, normDec_floatText neg ip _ hip hne, normBody_float neg ip ['0'] hip hne hlead (Or.inl rfl)]
    simp
  · have hfmt : fmtFloat (signText neg ++ ip ++ (if fp = [] then [] else '.' :: fp)) = floatText neg ip fp := by
      simp [fmtFloat, hf, floatText]
    have hn0 : fp ≠ ['0'] := fun e => htrail [] (by simpa using e)
    refine ⟨neg, ip, fp, hfmt, hne, hip, hfp, ?_⟩
    rw [hfmt, normDec_floatText neg ip _ hip hne, normBody_float neg ip fp hip hne hlead (Or.inr htrail)]
    simp [hf, hn0]

theorem float_fwd_denotes (t : List Char) (h : CanonFloat t) : ItemDenotes false true (fmtFloat t) (.float t) := by
  obtain ⟨neg, ip, fp', hfmt, hne, hip, hfp, hnorm⟩ := float_roundtrip t h
  have := float_denotes neg ip fp' hip hfp (Or.inl hne)
  rwa [← hfmt, hnorm] at this

set_option linter.unusedVariables false in
/-- The simple values of the fragment: int64, float64 (canonical decimal text), nil, bool, ANY byte
string, lists of scalars whose last element is not a keyword, and a comparison (`== != < <= > >= ><`)
with an int64 or with a list of int64.  (`isPrint` is kept as a parameter for the callers.) -/
def SimpleVal (isPrint : Char → Bool) : Val → Prop
  | .int i => minInt64 ≤ i ∧ i ≤ maxInt64
  | .null => True
  | .bool _ => True
  | .str bs => ∀ b ∈ bs, b < 256
  | .cond op (.int i) => op ∈ cmpOps ∧ minInt64 ≤ i ∧ i ≤ maxInt64
  | .list vs => FwdList vs
  | .float t => CanonFloat t
  | .cond op (.list vs) => op ∈ cmpOps ∧ IntList vs
  | _ => False

/-- `key=value` / `key op value` as `Call.String` prints it. -/
def argText (isPrint : Char → Bool) (kv : Key × Val) : List Char :=
  match kv.2 with
  | .cond op v => kv.1 ++ ' ' :: (opText op ++ ' ' :: fmtVal isPrint v)
  | v => kv.1 ++ '=' :: fmtVal isPrint v

theorem simple_denotes (isPrint : Char → Bool) (hnl : isPrint '\n' = false) (k : Key) (v : Val) (hk : KeyName k)
    (hv : SimpleVal isPrint v) : ArgDenotes k (argText isPrint (k, v)) v :=
  match v, hv with
  | .int i, h => kv_denotes hk (intDigits_denotes i h.1 h.2).value
  | .null, _ => kv_denotes hk null_denotes.value
  | .bool true, _ => kv_denotes hk (bool_denotes true).value
  | .bool false, _ => kv_denotes hk (bool_denotes false).value
  | .str bs, h => kv_denotes hk (str_denotes isPrint hnl bs h).value
  | .float t, h => kv_denotes hk (float_fwd_denotes t h).value
  | .list vs, h => kv_denotes hk (fwdList_denotes isPrint hnl vs h)
  | .cond _ (.int i), h => kc_denotes h.1 hk (intDigits_denotes i h.2.1 h.2.2).value
  | .cond _ (.list vs), h => kc_denotes h.1 hk (intList_denotes isPrint vs h.2)

theorem argText_cases (isPrint : Char → Bool) (k : Key) (v : Val) :
    (∃ op w, v = .cond op w ∧ argText isPrint (k, v) = k ++ ' ' :: (opText op ++ ' ' :: fmtVal isPrint w)) ∨
    ((∀ op w, v ≠ .cond op w) ∧ argText isPrint (k, v) = k ++ '=' :: fmtVal isPrint v) := by
  cases v with
  | cond op w => exact Or.inl ⟨op, w, rfl, rfl⟩
  | _ => exact Or.inr ⟨fun _ _ e => (nomatch e), rfl⟩

theorem cond_op_of_simple (isPrint : Char → Bool) (op : Op) (v : Val) (h : SimpleVal isPrint (.cond op v)) :
    op ∈ cmpOps :=
  match v, h with
  | .int _, h => h.1
  | .list _, h => h.1

theorem fmtArgs_map (isPrint : Char → Bool) (as : List (Key × Val)) :
    fmtArgs isPrint as = as.map (argText isPrint) := by
  induction as with
  | nil => rfl
  | cons a rest ih =>
    obtain ⟨k, v⟩ := a
    cases v <;> simp only [fmtArgs, argText, List.map_cons, ih, List.append_assoc, List.cons_append, List.nil_append]

theorem fmtCalls_map (isPrint : Char → Bool) (cs : List Call) :
    fmtCalls isPrint cs = cs.map (fmtCall isPrint) := by
  induction cs with
  | nil => rfl
  | cons c rest ih => simp [fmtCalls, ih]

theorem fmtCall_mk (isPrint : Char → Bool) (name : List Char) (args : List (Key × Val)) (children : List Call)
    (hn : name ≠ []) :
    fmtCall isPrint (.mk name args children) =
      name ++ '(' :: (joinWith [',', ' '] (children.map (fmtCall isPrint)) ++
        ((if children ≠ [] ∧ args ≠ [] then [',', ' '] else []) ++
          (joinWith [',', ' '] (args.map (argText isPrint)) ++ [')']))) := by
  simp [fmtCall, hn, fmtArgs_map isPrint args, fmtCalls_map]

theorem ltKey_irrefl (k : Key) : ltKey k k = false := by
  induction k with
  | nil => rfl
  | cons c cs ih => simp [ltKey, ih, Char.lt_irrefl]

theorem ltKey_asymm (a b : Key) (h : ltKey a b = true) : ltKey b a = false := by
  induction a generalizing b with
  | nil => cases b <;> simp [ltKey] at h ⊢
  | cons x xs ih =>
    cases b with
    | nil => simp [ltKey] at h
    | cons y ys =>
      simp only [ltKey, Bool.or_eq_true, decide_eq_true_eq, Bool.and_eq_true] at h
      simp only [ltKey, Bool.or_eq_false_iff, decide_eq_false_iff_not, Bool.and_eq_false_iff]
      rcases h with h | ⟨rfl, h⟩
      · exact ⟨Char.lt_asymm h, Or.inl (fun e => by subst e; exact Char.lt_irrefl _ h)⟩
      · exact ⟨Char.lt_irrefl _, Or.inr (ih ys h)⟩

theorem ltKey_ne (a b : Key) (h : ltKey a b = true) : a ≠ b := by
  intro e; subst e; rw [ltKey_irrefl] at h; exact absurd h (by simp)

theorem insert_append (k : Key) (v : Val) (m : List (Key × Val))
    (h : ∀ p ∈ m, ltKey p.1 k = true) : insert k v m = m ++ [(k, v)] := by
  induction m with
  | nil => rfl
  | cons p rest ih =>
    obtain ⟨k0, v0⟩ := p
    have h0 : ltKey k0 k = true := h (k0, v0) (by simp)
    have hne : k0 ≠ k := ltKey_ne _ _ h0
    have hlt : ltKey k k0 = false := ltKey_asymm _ _ h0
    simp only [insert, hne, hlt, if_false, Bool.false_eq_true, List.cons_append]
    rw [ih (fun p hp => h p (by simp [hp]))]

/-- Keys strictly increasing (what `Call.String` prints and what a Go map holds: distinct keys). -/
def SortedKeys : List (Key × Val) → Prop
  | [] => True
  | [_] => True
  | a :: b :: rest => ltKey a.1 b.1 = true ∧ SortedKeys (b :: rest)

theorem ltKey_trans (a b c : Key) (h1 : ltKey a b = true) (h2 : ltKey b c = true) : ltKey a c = true := by
  induction a generalizing b c with
  | nil =>
    cases c with
    | nil => cases b <;> simp [ltKey] at h1 h2
    | cons z zs => rfl
  | cons x xs ih =>
    cases b with
    | nil => simp [ltKey] at h1
    | cons y ys =>
      cases c with
      | nil => simp [ltKey] at h2
      | cons z zs =>
        simp only [ltKey, Bool.or_eq_true, decide_eq_true_eq, Bool.and_eq_true] at h1 h2 ⊢
        rcases h1 with h1 | ⟨rfl, h1⟩
        · rcases h2 with h2 | ⟨rfl, h2⟩
          · exact Or.inl (Char.lt_trans h1 h2)
          · exact Or.inl h1
        · rcases h2 with h2 | ⟨rfl, h2⟩
          · exact Or.inl h2
          · exact Or.inr ⟨rfl, ih ys zs h1 h2⟩

theorem sorted_head_lt (a : Key × Val) (rest : List (Key × Val)) (h : SortedKeys (a :: rest)) :
    ∀ p ∈ rest, ltKey a.1 p.1 = true := by
  induction rest generalizing a with
  | nil => simp
  | cons b rest' ih =>
    obtain ⟨h1, h2⟩ := h
    intro p hp
    simp only [List.mem_cons] at hp
    rcases hp with rfl | hp
    · exact h1
    · exact ltKey_trans _ _ _ h1 (ih b h2 p hp)

theorem sorted_tail (a : Key × Val) (rest : List (Key × Val)) (h : SortedKeys (a :: rest)) : SortedKeys rest := by
  cases rest with
  | nil => trivial
  | cons b r => exact h.2

theorem foldl_insert_sorted (as acc : List (Key × Val)) (hs : SortedKeys as)
    (hacc : ∀ p ∈ acc, ∀ a ∈ as, ltKey p.1 a.1 = true) :
    as.foldl (fun m kv => insert kv.1 kv.2 m) acc = acc ++ as := by
  induction as generalizing acc with
  | nil => simp
  | cons a rest ih =>
    simp only [List.foldl_cons]
    rw [insert_append a.1 a.2 acc (fun p hp => hacc p hp a (by simp))]
    rw [ih (acc ++ [(a.1, a.2)]) (sorted_tail a rest hs)]
    · simp
    · intro p hp b hb
      simp only [List.mem_append, List.mem_singleton] at hp
      rcases hp with hp | rfl
      · exact hacc p hp b (by simp [hb])
      · exact sorted_head_lt a rest hs b hb

theorem sorted_pairwise (as : List (Key × Val)) (hs : SortedKeys as) : (as.map (·.1)).Pairwise (· ≠ ·) := by
  induction as with
  | nil => exact List.Pairwise.nil
  | cons a rest ih =>
    rw [List.map_cons, List.pairwise_cons]
    refine ⟨fun k hk => ?_, ih (sorted_tail a rest hs)⟩
    obtain ⟨p, hp, rfl⟩ := List.mem_map.mp hk
    exact ltKey_ne _ _ (sorted_head_lt a rest hs p hp)

/-- The nested fragment, by depth: a name other than `ClearRow`/`Store` (`Range`: see `RangeArgs`), children
that are again in the fragment, arguments with sorted keys (field names or reserved names) whose values are
simple or again a CALL of the fragment (`key=Inner(..)`), and at least one child or argument. -/
def Nested (isPrint : Char → Bool) : Nat → Call → Prop
  | 0, _ => False
  | d + 1, .mk name args children =>
    IdentName name ∧ (NameOk name ∧ RangeArgs name args children) ∧ (args ≠ [] ∨ children ≠ []) ∧
      (∀ kv ∈ args, KeyName kv.1 ∧ (SimpleVal isPrint kv.2 ∨ ∃ c, kv.2 = .call c ∧ Nested isPrint d c)) ∧
      SortedKeys args ∧ ∀ ch ∈ children, Nested isPrint d ch

def ArgOk (isPrint : Char → Bool) (d : Nat) (v : Val) : Prop :=
  SimpleVal isPrint v ∨ ∃ c, v = .call c ∧ Nested isPrint d c

theorem nested_name {isPrint : Char → Bool} {d : Nat} {name : List Char} {args : List (Key × Val)}
    {children : List Call} (h : Nested isPrint d (.mk name args children)) : IdentName name := by
  cases d with
  | zero => exact h.elim
  | succ d => exact h.1

/-- The printed body of a call of the fragment begins with a key followed by `=`, by ` op `, or by `(`. -/
theorem body_head (isPrint : Char → Bool) (d : Nat) (args : List (Key × Val)) (children : List Call)
    (hne : args ≠ [] ∨ children ≠ []) (hargs : ∀ kv ∈ args, KeyName kv.1 ∧ ArgOk isPrint d kv.2)
    (hch : ∀ ch ∈ children, Nested isPrint d ch) (s : List Char) :
    ∃ k x rest, joinWith [',', ' '] (children.map (fmtCall isPrint)) ++
        ((if children ≠ [] ∧ args ≠ [] then [',', ' '] else []) ++
          (joinWith [',', ' '] (args.map (argText isPrint)) ++ s)) = k ++ x :: rest ∧ KeyName k ∧
      ((x = '(' ∧ children ≠ []) ∨ (children = [] ∧ ∃ v tl, args = (k, v) :: tl ∧
        ((x = '=' ∧ ∀ op w, v ≠ .cond op w) ∨
          (x = ' ' ∧ ∃ op w, v = .cond op w ∧ op ∈ cmpOps ∧ ∃ tl', rest = opText op ++ ' ' :: tl')))) := by
  cases children with
  | cons ch chs =>
    obtain ⟨cn, cargs, cch⟩ := ch
    have hcn := nested_name (hch (.mk cn cargs cch) (by simp))
    obtain ⟨c, cs, rfl, hc, hcs⟩ := hcn
    obtain ⟨r1, hr1⟩ : ∃ r1, fmtCall isPrint (.mk (c :: cs) cargs cch) = (c :: cs) ++ '(' :: r1 :=
      ⟨_, fmtCall_mk isPrint _ _ _ (by simp)⟩
    refine ⟨c :: cs, '(', r1 ++ ((chs.map (fmtCall isPrint)).flatMap ([',', ' '] ++ ·) ++
        ((if Call.mk (c :: cs) cargs cch :: chs ≠ [] ∧ args ≠ [] then [',', ' '] else []) ++
          (joinWith [',', ' '] (args.map (argText isPrint)) ++ s))), ?_,
      Or.inl ⟨c, cs, rfl, hc, fun y hy => by simp [isFieldCh, hcs y hy]⟩, Or.inl ⟨rfl, by simp⟩⟩
    rw [List.map_cons, joinWith_cons, hr1]
    simp only [List.append_assoc, List.cons_append]
  | nil =>
    cases args with
    | nil => exact absurd rfl (hne.resolve_right (fun h => h rfl))
    | cons a tl =>
      obtain ⟨k, v⟩ := a
      obtain ⟨hk, hv⟩ := hargs (k, v) (by simp)
      have e : joinWith [',', ' '] (([] : List Call).map (fmtCall isPrint)) ++
          ((if ([] : List Call) ≠ [] ∧ (k, v) :: tl ≠ [] then [',', ' '] else []) ++
            (joinWith [',', ' '] (((k, v) :: tl).map (argText isPrint)) ++ s)) =
          argText isPrint (k, v) ++ (tl.flatMap (fun kv => [',', ' '] ++ argText isPrint kv) ++ s) := by
        rw [List.map_cons, joinWith_cons]; simp [joinWith, List.flatMap_map, List.append_assoc]
      rw [e]
      rcases argText_cases isPrint k v with ⟨op, w, rfl, ht⟩ | ⟨hno, ht⟩
      · have hop : op ∈ cmpOps := by
          rcases hv with hs | ⟨c, hc, _⟩
          · exact cond_op_of_simple isPrint op w hs
          · exact absurd hc (by simp)
        exact ⟨k, ' ', opText op ++ ' ' :: (fmtVal isPrint w ++ (tl.flatMap (fun kv => [',', ' '] ++ argText isPrint kv) ++ s)),
          by rw [ht]; simp [List.append_assoc], hk,
          Or.inr ⟨rfl, _, _, rfl, Or.inr ⟨rfl, op, w, rfl, hop, _, rfl⟩⟩⟩
      · exact ⟨k, '=', fmtVal isPrint v ++ (tl.flatMap (fun kv => [',', ' '] ++ argText isPrint kv) ++ s),
          by rw [ht]; simp [List.append_assoc], hk, Or.inr ⟨rfl, _, _, rfl, Or.inl ⟨rfl, hno⟩⟩⟩

theorem specialFree_body (isPrint : Char → Bool) (d : Nat) (name : List Char) (args : List (Key × Val))
    (children : List Call) (hsp : NameOk name ∧ RangeArgs name args children) (hne : args ≠ [] ∨ children ≠ [])
    (hargs : ∀ kv ∈ args, KeyName kv.1 ∧ ArgOk isPrint d kv.2) (hch : ∀ ch ∈ children, Nested isPrint d ch)
    (s : List Char) :
    SpecialFree name (joinWith [',', ' '] (children.map (fmtCall isPrint)) ++
      ((if children ≠ [] ∧ args ≠ [] then [',', ' '] else []) ++
        (joinWith [',', ' '] (args.map (argText isPrint)) ++ s))) := by
  obtain ⟨k, x, rest, hb, hk, hx⟩ := body_head isPrint d args children hne hargs hch s
  rw [hb]
  rcases nameOk_cases hsp.1 with h | h | h
  · exact Or.inl h
  · refine Or.inr (Or.inl ⟨h, k, x, rest, rfl, hk, ?_⟩)
    -- the body begins `Child(`, `k=`, or `k op `: in each case no comma follows the key
    rcases hx with ⟨rfl, _⟩ | ⟨_, v, tl, _, ⟨rfl, _⟩ | ⟨rfl, op, w, _, hop, tl', rfl⟩⟩
    · exact ⟨by decide, by decide, comma_fails (NoWs.of_head (by decide)) (NotHead.of_head (by decide))⟩
    · exact ⟨by decide, by decide, comma_fails (NoWs.of_head (by decide)) (NotHead.of_head (by decide))⟩
    · obtain ⟨c, t, hct, hcws, _⟩ := opText_head op hop
      have hcc : c ≠ ',' := by
        simp only [cmpOps, List.mem_cons, List.not_mem_nil, or_false] at hop
        rcases hop with rfl | rfl | rfl | rfl | rfl | rfl | rfl <;> (cases hct; decide)
      refine ⟨by decide, by decide, ?_⟩
      rw [hct]
      exact comma_fails_sp (NoWs.of_head hcws) (NotHead.of_head (by simpa using hcc))
  · refine Or.inr (Or.inr ⟨h, k, x, rest, rfl, hk, ?_⟩)
    -- `Range`: a child first, or no child and then (`RangeArgs`) a condition first
    rcases hx with ⟨rfl, _⟩ | ⟨hc0, v, tl, ha, hx⟩
    · exact Or.inl rfl
    · rcases hsp.2 h with hc | ⟨k', op, w, rest', e⟩
      · exact absurd hc0 hc
      · rw [ha] at e
        cases e
        rcases hx with ⟨_, hno⟩ | ⟨rfl, op', w', e', hop, tl', rfl⟩
        · exact absurd rfl (hno op w)
        · cases e'
          exact Or.inr ⟨rfl, op, hop, tl', rfl⟩

theorem argOk_denotes (isPrint : Char → Bool) (hnl : isPrint '\n' = false) (d : Nat) (kv : Key × Val)
    (hk : KeyName kv.1) (hv : ArgOk isPrint d kv.2)
    (ih : ∀ c, Nested isPrint d c → CallDenotes (fmtCall isPrint c) c) :
    ArgDenotes kv.1 (argText isPrint kv) kv.2 := by
  obtain ⟨k, v⟩ := kv
  rcases hv with hv | ⟨c, rfl, hn⟩
  · exact simple_denotes isPrint hnl k v hk hv
  · have := kv_denotes hk (ih c hn).value
    simpa [argText, fmtVal] using this

theorem nested_denotes (isPrint : Char → Bool) (hnl : isPrint '\n' = false) :
    ∀ (d : Nat) (c : Call), Nested isPrint d c → CallDenotes (fmtCall isPrint c) c := by
  intro d
  induction d with
  | zero => intro c h; exact h.elim
  | succ d ih =>
    intro c h
    obtain ⟨name, args, children⟩ := c
    obtain ⟨hn, hsp, hne, hargs, hsorted, hch⟩ := h
    -- written arguments `as` and children `cs` for the printed ones (induction hypothesis), assembled by `mkCall`;
    -- then `mkCall name cs as` IS the printed call: its text by `hbody`, its map by `hmap` (sorted keys), `hmk`
    obtain ⟨as, hat, hakv, haok⟩ := exists_largs (·.1) (argText isPrint) (·.2) args
      (fun kv hkv => argOk_denotes isPrint hnl d kv (hargs kv hkv).1 (hargs kv hkv).2 ih)
    obtain ⟨cs, hct, hcc, hcok⟩ := exists_lcalls (fmtCall isPrint) id children (fun ch hc => ih ch (hch ch hc))
    have hname : name ≠ [] := by obtain ⟨c, cs, rfl, _, _⟩ := hn; simp
    have has0 : (as = []) = (args = []) := by
      rw [← List.map_eq_nil_iff (f := (·.text)), hat, List.map_eq_nil_iff]
    have hcs0 : (cs = []) = (children = []) := by
      rw [← List.map_eq_nil_iff (f := (·.text)), hct, List.map_eq_nil_iff]
    have hbody : bodyText cs as = joinWith [',', ' '] (children.map (fmtCall isPrint)) ++
        ((if children ≠ [] ∧ args ≠ [] then [',', ' '] else []) ++ joinWith [',', ' '] (args.map (argText isPrint))) := by
      simp only [bodyText, hat, hct, ne_eq, has0, hcs0]
    have hkeys : (as.map (·.key)).Pairwise (· ≠ ·) := by
      have e : as.map (·.key) = (as.map LArg.kv).map (·.1) := by rw [List.map_map]; rfl
      rw [e, hakv, List.map_map]
      exact sorted_pairwise args hsorted
    have hmap : argMap as = args := by
      rw [argMap, hakv, List.map_id'' (fun x => rfl), foldl_insert_sorted args [] hsorted (by simp), List.nil_append]
    have hmk : mkCall name cs as = ⟨fmtCall isPrint (.mk name args children), (mkCall name cs as).evs,
        .mk name args children⟩ := by
      simp only [mkCall, hbody, hmap, hcc, List.map_id, fmtCall_mk isPrint name args children hname,
        List.append_assoc]
    have hsyn := mkCall_syn name cs as hn (fun c hc => (hcok c hc).1) (fun a ha => (haok a ha).1)
      (by rw [ne_eq, ne_eq, has0, hcs0]; exact hne)
      (fun s => by
        rw [hbody]
        simpa [List.append_assoc] using specialFree_body isPrint d name args children hsp hne hargs hch s)
    have hsem := mkCall_sem name cs as (fun c hc => (hcok c hc).2) (fun a ha => (haok a ha).2) hkeys
    rw [hmk] at hsyn hsem
    exact ⟨_, hsyn, hsem⟩

theorem wideKws_facts : ∀ kw ∈ wideKws, kw ∈ specialKws ∧ NameOk kw ∧ kw ≠ rangeKw := by decide

theorem identName_of_special {kw : List Char} (h : kw ∈ specialKws) : IdentName kw := by
  obtain ⟨hne, hall⟩ := specialKws_alpha kw h
  cases kw with
  | nil => exact absurd rfl hne
  | cons c cs => exact ⟨c, cs, rfl, hall c (by simp), fun x hx => by simp [isAlnum, hall x (by simp [hx])]⟩

theorem specialKws_hard_range : (∀ kw ∈ hardKws, kw ∈ specialKws) ∧ rangeKw ∈ specialKws := by decide

theorem nested_leaf {isPrint : Char → Bool} {d : Nat} {name : List Char} {k : Key} {v : Val} (hn : IdentName name)
    (hsp : name ∉ specialKws) (hk : KeyName k) (hv : SimpleVal isPrint v) :
    Nested isPrint (d + 1) (.mk name [(k, v)] []) :=
  ⟨hn, ⟨fun h => hsp (specialKws_hard_range.1 name h), fun e => absurd (e ▸ specialKws_hard_range.2) hsp⟩,
    Or.inl (List.cons_ne_nil _ _), List.forall_mem_singleton.mpr ⟨hk, Or.inl hv⟩, trivial, fun _ h => nomatch h⟩

/-- The flat fragment: `Name(k1=v1, ..)` with a name other than `ClearRow`/`Store` (`Range`: see `RangeArgs`), at
least one argument, keys (field names or reserved names) in strictly increasing order and simple values. -/
structure FlatCall (isPrint : Char → Bool) (name : List Char) (args : List (Key × Val)) : Prop where
  name_ok : IdentName name
  name_free : NameOk name ∧ RangeArgs name args []
  nonempty : args ≠ []
  args_ok : ∀ kv ∈ args, KeyName kv.1 ∧ SimpleVal isPrint kv.2
  sorted : SortedKeys args

theorem FlatCall.nested {isPrint : Char → Bool} {name : List Char} {args : List (Key × Val)}
    (h : FlatCall isPrint name args) : Nested isPrint 1 (.mk name args []) :=
  ⟨h.name_ok, h.name_free, Or.inl h.nonempty, fun kv hkv => ⟨(h.args_ok kv hkv).1, Or.inl (h.args_ok kv hkv).2⟩,
    h.sorted, fun _ hc => nomatch hc⟩

theorem fieldName_ne_nil {k : Key} (h : FieldName k) : k ≠ [] := by
  obtain ⟨c, cs, rfl, _, _⟩ := h; simp

theorem fmtCall_clearrow (isPrint : Char → Bool) (k : Key) (v : Val) :
    fmtCall isPrint (.mk clearRowKw [(k, v)] []) = clearRowKw ++ '(' :: (argText isPrint (k, v) ++ [')']) := by
  rw [fmtCall_mk isPrint _ _ _ (by decide)]
  rfl

theorem fmtCall_store (isPrint : Char → Bool) (ch : Call) (k : Key) (v : Val) :
    fmtCall isPrint (.mk storeKw [(k, v)] [ch]) =
      storeKw ++ '(' :: (fmtCall isPrint ch ++ ',' :: ' ' :: (argText isPrint (k, v) ++ [')'])) := by
  rw [fmtCall_mk isPrint _ _ _ (by decide)]
  simp [joinWith]

end PV.C26
