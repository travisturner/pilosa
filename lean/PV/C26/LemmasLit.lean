/-
C26 — written literals (Spec.lean) against the string functions of the model: the value of a well-formed
item is what strconv.Unquote returns for its text, the rule `doublequotedstring` reads an item as a unit,
and what strconv.Quote emits for one piece of a byte string is such an item.  The round trip
Unquote ∘ Quote and the acceptance of Quote's output by the grammar are corollaries.
-/
import PV.C26.LemmasPql
import PV.C26.Spec
namespace PV.C26
open Gen

theorem unoct_octDigit : ∀ d, d < 8 → unoct (octDigit d) = some d := by decide
theorem octDigit_ne : ∀ d, d < 8 → octDigit d ≠ '"' ∧ octDigit d ≠ '\\' := by decide

theorem unquoteBody_esc (c : Char) (h : c ∈ escLetters) (tail : List Char) :
    unquoteBody ('\\' :: c :: tail) = (escByte c :: ·) <$> unquoteBody tail := by
  simp only [escLetters, List.mem_cons, List.not_mem_nil, or_false] at h
  rcases h with rfl | rfl | rfl | rfl | rfl | rfl | rfl | rfl | rfl <;> rw [unquoteBody] <;> rfl

/-- The value of a well-formed item comes back from its written form (Go string-literal escapes). -/
theorem unquote_dqItem (it : DqItem) (hok : it.ok = true) (tail : List Char) :
    unquoteBody (it.write ++ tail) = (it.value ++ ·) <$> unquoteBody tail := by
  cases it with
  | ch c =>
    simp only [DqItem.ok, Bool.and_eq_true, decide_eq_true_eq, ne_eq] at hok
    exact unquoteBody_plain c tail hok.1.1 hok.2 hok.1.2
  | esc c => exact unquoteBody_esc c (List.contains_iff_mem.1 hok) tail
  | hex b => exact unquoteBody_hex2 b (of_decide_eq_true hok) tail
  | oct b =>
    have hb : b < 256 := of_decide_eq_true hok
    have e : (b / 64 % 8 * 8 + b / 8 % 8) * 8 + b % 8 = b := by omega
    have := unquoteBody_oct _ _ _ _ _ _ tail (unoct_octDigit (b / 64 % 8) (Nat.mod_lt _ (by decide)))
      (unoct_octDigit (b / 8 % 8) (Nat.mod_lt _ (by decide))) (unoct_octDigit (b % 8) (Nat.mod_lt _ (by decide)))
      (by rw [e]; exact Nat.le_of_lt_succ hb)
    rw [e] at this
    exact this
  | u4 cp =>
    simp only [DqItem.ok, Bool.and_eq_true, decide_eq_true_eq] at hok
    exact unquoteBody_hex4 cp hok.1 hok.2 tail
  | u8 cp => exact unquoteBody_hex8 cp hok tail

theorem unquote_dqItems (items : List DqItem) (hok : ∀ it ∈ items, it.ok = true) :
    unquote ('"' :: (items.flatMap DqItem.write ++ ['"'])) = some (items.flatMap DqItem.value) := by
  simp only [unquote]
  induction items with
  | nil => simp [unquoteBody]
  | cons it rest ih =>
    simp only [List.flatMap_cons, List.append_assoc]
    rw [unquote_dqItem it (hok it (by simp)), ih (fun x hx => hok x (by simp [hx]))]
    rfl

/-- All that the rule `doublequotedstring` needs of an item (weaker than `ok`: a raw newline passes). -/
def DqItem.plain : DqItem → Bool
  | .ch c => c ≠ '"' && c ≠ '\\'
  | _ => true

theorem DqItem.plain_of_ok {it : DqItem} (h : it.ok = true) : it.plain = true := by
  cases it with
  | ch c =>
    simp only [DqItem.ok, Bool.and_eq_true] at h
    simp only [DqItem.plain, Bool.and_eq_true]
    exact h.1
  | _ => rfl

/-- The written form of an item is a backslash, one character and plain characters, or one plain
character: `dqOk` steps over it. -/
theorem dqOk_dqItem (it : DqItem) (h : it.plain = true) (t : List Char) : dqOk (it.write ++ t) = dqOk t := by
  cases it with
  | ch c =>
    simp only [DqItem.plain, Bool.and_eq_true, decide_eq_true_eq] at h
    exact dqOk_plain c t h.1 h.2
  | esc c => exact dqOk_backslash c t
  | hex b => exact (dqOk_backslash 'x' _).trans (dqOk_hex2 b t)
  | oct b =>
    refine (dqOk_backslash _ _).trans (dqOk_append_plain [_, _] t ?_)
    simp only [List.forall_mem_cons]
    exact ⟨octDigit_ne _ (Nat.mod_lt _ (by decide)), octDigit_ne _ (Nat.mod_lt _ (by decide)), nofun⟩
  | u4 cp => exact (dqOk_backslash 'u' _).trans (dqOk_hex4 cp t)
  | u8 cp => exact (dqOk_backslash 'U' _).trans (dqOk_hex8 cp t)

theorem dqOk_plainItems (items : List DqItem) (h : ∀ it ∈ items, it.plain = true) :
    dqOk (items.flatMap DqItem.write) = true := by
  induction items with
  | nil => rfl
  | cons it rest ih =>
    rw [List.flatMap_cons, dqOk_dqItem it (h it (by simp))]
    exact ih (fun x hx => h x (by simp [hx]))

theorem dqOk_dqItems (items : List DqItem) (hok : ∀ it ∈ items, it.ok = true) :
    dqOk (items.flatMap DqItem.write) = true :=
  dqOk_plainItems items fun it h => DqItem.plain_of_ok (hok it h)

/-! ## strconv.Quote writes items -/

/-- What `strconv.Quote` emits for one piece is an item that denotes the bytes of the piece; the item is
well formed when no raw newline is printed and the piece is a byte. -/
theorem quotePiece_item (isPrint : Char → Bool) (p : Piece) :
    ∃ it : DqItem, it.write = quotePiece isPrint p ∧ it.value = pieceBytes p ∧ it.plain = true ∧
      (isPrint '\n' = false → (∀ b, p = .bad b → b < 256) → it.ok = true) := by
  cases p with
  | bad b => exact ⟨.hex b, rfl, rfl, rfl, fun _ hp => decide_eq_true (hp b rfl)⟩
  | rune c =>
    simp only [quotePiece, pieceBytes]
    by_cases h1 : c = '"' ∨ c = '\\'
    · simp only [h1, if_true]
      refine ⟨.esc c, rfl, ?_, rfl, fun _ _ => ?_⟩ <;> rcases h1 with rfl | rfl <;> rfl
    by_cases h2 : isPrint c = true
    · simp only [h1, h2, if_true, if_false]
      have hp : (c ≠ '"' ∧ c ≠ '\\') := ⟨fun e => h1 (Or.inl e), fun e => h1 (Or.inr e)⟩
      refine ⟨.ch c, rfl, rfl, by simp [DqItem.plain, hp], fun hnl _ => ?_⟩
      have hn : c ≠ '\n' := fun e => by rw [e, hnl] at h2; cases h2
      simp [DqItem.ok, hp, hn]
    simp only [h1, h2, if_false]
    by_cases e7 : c = Char.ofNat 7
    · subst e7; exact ⟨.esc 'a', rfl, rfl, rfl, fun _ _ => rfl⟩
    by_cases e8 : c = Char.ofNat 8
    · subst e8; exact ⟨.esc 'b', rfl, rfl, rfl, fun _ _ => rfl⟩
    by_cases e12 : c = Char.ofNat 12
    · subst e12; exact ⟨.esc 'f', rfl, rfl, rfl, fun _ _ => rfl⟩
    by_cases en : c = '\n'
    · subst en; exact ⟨.esc 'n', rfl, rfl, rfl, fun _ _ => rfl⟩
    by_cases er : c = '\r'
    · subst er; exact ⟨.esc 'r', rfl, rfl, rfl, fun _ _ => rfl⟩
    by_cases et : c = '\t'
    · subst et; exact ⟨.esc 't', rfl, rfl, rfl, fun _ _ => rfl⟩
    by_cases e11 : c = Char.ofNat 11
    · subst e11; exact ⟨.esc 'v', rfl, rfl, rfl, fun _ _ => rfl⟩
    simp only [e7, e8, e12, en, er, et, e11, if_false]
    by_cases hx : c.toNat < 0x20 ∨ c.toNat = 0x7f
    · simp only [hx, if_true]
      exact ⟨.hex c.toNat, rfl, (utf8_small c (by omega)).symm, rfl,
        fun _ _ => decide_eq_true (by omega : c.toNat < 256)⟩
    by_cases hu : c.toNat < 0x10000
    · simp only [hx, hu, if_true, if_false]
      refine ⟨.u4 c.toNat, rfl, by rw [DqItem.value, Char.ofNat_toNat], rfl, fun _ _ => ?_⟩
      simp only [DqItem.ok, hu, validRune_of_char, decide_true, Bool.and_self]
    · simp only [hx, hu, if_false]
      exact ⟨.u8 c.toNat, rfl, by rw [DqItem.value, Char.ofNat_toNat], rfl, fun _ _ => validRune_of_char c⟩

/-- Hence the body `strconv.Quote` writes is the text of a list of items that denote the bytes of the pieces:
what holds of written items holds of Quote's output. -/
theorem quotePieces_items (isPrint : Char → Bool) (ps : List Piece) :
    ∃ items : List DqItem, items.flatMap DqItem.write = ps.flatMap (quotePiece isPrint) ∧
      items.flatMap DqItem.value = ps.flatMap pieceBytes ∧ (∀ it ∈ items, it.plain = true) ∧
      (isPrint '\n' = false → (∀ p ∈ ps, ∀ b, p = .bad b → b < 256) → ∀ it ∈ items, it.ok = true) := by
  induction ps with
  | nil => exact ⟨[], rfl, rfl, List.forall_mem_nil _, fun _ _ => List.forall_mem_nil _⟩
  | cons p ps ih =>
    obtain ⟨it, hw, hv, hpl, hok⟩ := quotePiece_item isPrint p
    obtain ⟨its, hws, hvs, hpls, hoks⟩ := ih
    refine ⟨it :: its, ?_, ?_, List.forall_mem_cons.2 ⟨hpl, hpls⟩, fun hnl hp => ?_⟩
    · rw [List.flatMap_cons, List.flatMap_cons, hw, hws]
    · rw [List.flatMap_cons, List.flatMap_cons, hv, hvs]
    · exact List.forall_mem_cons.2 ⟨hok hnl (hp p List.mem_cons_self),
        hoks hnl (fun q hq => hp q (List.mem_cons_of_mem _ hq))⟩

theorem dqOk_quoteBody (isPrint : Char → Bool) (bs : Bytes) : dqOk (quoteBody isPrint bs) = true := by
  obtain ⟨items, hw, _, hpl, _⟩ := quotePieces_items isPrint (pieces bs.length bs)
  rw [quoteBody, ← hw]
  exact dqOk_plainItems items hpl

/-- `strconv.Unquote(strconv.Quote(s)) = s` for every byte string, whatever the table of printable
characters is (as long as a raw newline is never left unescaped). -/
theorem unquote_quote (isPrint : Char → Bool) (hnl : isPrint '\n' = false) (bs : Bytes)
    (wf : ∀ b ∈ bs, b < 256) : unquote (quote isPrint bs) = some bs := by
  obtain ⟨items, hw, hv, _, hok⟩ := quotePieces_items isPrint (pieces bs.length bs)
  rw [quote, quoteBody, ← hw, ← pieces_bytes bs.length bs (Nat.le_refl _), ← hv]
  exact unquote_dqItems items (hok hnl (pieces_bad_lt _ _ (Nat.le_refl _) wf))

end PV.C26
