/-
C26 — from the structural literals of Spec.lean (`Lit`, `WArg`) to the parser: the well-formedness
predicates (`Lit.Scalar`, `Lit.Ok`, `Lit.NumOk`, `WArg.Ok`), the statement that a well-formed literal,
value or argument denotes what Spec.lean says it denotes, and the call-level theorem `args_parse` for
any kind of argument that does.
-/
import PV.C26.LemmasFwd
namespace PV.C26
open Gen

/-- `null`, `true`, `false`: recognised only before `,` or `)` (finding `list-last-keyword`). -/
def Lit.isKw : Lit → Bool
  | .null => true
  | .bool _ => true
  | _ => false

def Lit.isNum : Lit → Bool
  | .int _ _ => true
  | .float _ _ _ => true
  | _ => false

/-- Well-formed scalar literals (the classes of C26_literals; what is left out is explicit). -/
def Lit.Scalar : Lit → Prop
  | .null => True
  | .bool _ => True
  | .int neg ds => ds ≠ [] ∧ (∀ c ∈ ds, isDigit c = true) ∧ minInt64 ≤ intOf neg ds ∧ intOf neg ds ≤ maxInt64
  | .float _ ip fp => (∀ c ∈ ip, isDigit c = true) ∧ (∀ c ∈ fp, isDigit c = true) ∧ (ip ≠ [] ∨ fp ≠ [])
  | .dq items => ∀ it ∈ items, it.ok = true
  | .sq items => ∀ it ∈ items, ∃ c, it = .ch c ∧ c ≠ '\'' ∧ c ≠ '\\'                    -- `sq-escape-kept`
  | .bare cs => BareWord cs
  | .ts _ cs => tsShape cs = true
  | .list _ => False

theorem sq_plain (items : List SqItem) (h : ∀ it ∈ items, ∃ c, it = .ch c ∧ c ≠ '\'' ∧ c ≠ '\\') :
    sqPlain (items.flatMap SqItem.write) ∧ items.flatMap SqItem.value = utf8s (items.flatMap SqItem.write) := by
  induction items with
  | nil => exact ⟨fun c hc => (nomatch hc), rfl⟩
  | cons it rest ih =>
    obtain ⟨c, rfl, h1, h2⟩ := h it (by simp)
    obtain ⟨ih1, ih2⟩ := ih (fun x hx => h x (by simp [hx]))
    constructor
    · intro x hx
      simp only [List.flatMap_cons, SqItem.write, List.cons_append, List.nil_append, List.mem_cons] at hx
      rcases hx with rfl | hx
      · exact ⟨h1, h2⟩
      · exact ih1 x hx
    · simp only [List.flatMap_cons, SqItem.write, SqItem.value, ih2]
      simp [utf8s]

theorem Lit.scalar_denotes (l : Lit) (h : l.Scalar) : ItemDenotes l.isKw l.isNum l.write l.value :=
  match l, h with
  | .null, _ => null_denotes
  | .bool true, _ => bool_denotes true
  | .bool false, _ => bool_denotes false
  | .int neg ds, h => int_denotes neg ds h.1 h.2.1 h.2.2
  | .float neg ip fp, h => by
    have := float_denotes neg ip fp h.1 h.2.1 h.2.2
    simpa [floatText, signText, Lit.write, Lit.value, Lit.isKw, Lit.isNum] using this
  | .dq items, h => dq_denotes _ _ (dqOk_dqItems items h) (unquote_dqItems items h)
  | .sq items, h => by
    have := sq_denotes _ (sq_plain items h).1
    rw [← (sq_plain items h).2] at this
    exact this
  | .bare cs, h => bare_denotes cs h
  | .ts st cs, h => ts_denotes st cs h

/-- A value: a scalar, or a non-empty list of scalars whose last element is not a keyword
(finding `list-last-keyword`). -/
def Lit.Ok : Lit → Prop
  | .list items => ∃ init last, items = init ++ [last] ∧ (∀ x ∈ init, x.Scalar) ∧ last.Scalar ∧ last.isKw = false
  | l => l.Scalar

/-- The operand of a condition: a scalar, or a non-empty list of numbers (`addVal` on a list under a
condition is a type-assertion panic in the parser: only `addNumVal` supports it). -/
def Lit.NumOk : Lit → Prop
  | .list items => items ≠ [] ∧ ∀ x ∈ items, x.Scalar ∧ x.isNum = true
  | l => l.Scalar

theorem Lit.list_or_scalar (l : Lit) :
    (∃ items, l = .list items) ∨ ((l.Ok → l.Scalar) ∧ (l.NumOk → l.Scalar)) := by
  cases l <;> first | exact Or.inl ⟨_, rfl⟩ | exact Or.inr ⟨id, id⟩

theorem writeList_join (items : List Lit) : Lit.writeList items = joinWith [','] (items.map Lit.write) := by
  match items with
  | [] => rfl
  | [x] => rfl
  | x :: y :: r =>
    have ih := writeList_join (y :: r)
    simp only [Lit.writeList, List.map_cons, joinWith] at ih ⊢
    rw [ih]

theorem values_map (items : List Lit) : Lit.values items = items.map Lit.value := by
  induction items with
  | nil => rfl
  | cons x xs ih => simp [Lit.values, ih]

theorem Lit.list_denotes (cnd : Bool) (init : List Lit) (last : Lit)
    (hinit : ∀ x ∈ init, ItemDenotes true cnd x.write x.value) (hlast : ItemDenotes false cnd last.write last.value) :
    ValueDenotes cnd (Lit.write (.list (init ++ [last]))) (Lit.value (.list (init ++ [last]))) := by
  have := PV.C26.list_denotes Lit.write Lit.value cnd init last hinit hlast
  simpa [Lit.write, Lit.value, writeList_join, values_map] using this

theorem Lit.ok_denotes (l : Lit) (h : l.Ok) : ValueDenotes false l.write l.value := by
  rcases l.list_or_scalar with ⟨items, rfl⟩ | ⟨hs, _⟩
  · obtain ⟨init, last, rfl, h1, h2, h3⟩ := h
    have hl := Lit.scalar_denotes last h2
    rw [h3] at hl
    exact Lit.list_denotes false init last
      (fun x hx => (Lit.scalar_denotes x (h1 x hx)).mono (fun e => nomatch e) (fun e => nomatch e))
      (hl.mono id (fun e => nomatch e))
  · exact (Lit.scalar_denotes l (hs h)).value

theorem Lit.isKw_of_isNum {x : Lit} (h : x.isNum = true) : x.isKw = false := by
  cases x <;> first | rfl | exact nomatch h

theorem Lit.numOk_denotes (l : Lit) (h : l.NumOk) : ValueDenotes true l.write l.value := by
  rcases l.list_or_scalar with ⟨items, rfl⟩ | ⟨_, hs⟩
  · obtain ⟨hne, h2⟩ := h
    have hnum : ∀ x ∈ items, ItemDenotes false true x.write x.value := fun x hx => by
      have := Lit.scalar_denotes x (h2 x hx).1
      rwa [(h2 x hx).2, Lit.isKw_of_isNum (h2 x hx).2] at this
    rw [← List.dropLast_concat_getLast hne] at hnum ⊢
    exact Lit.list_denotes true _ _ (fun x hx => (hnum x (by simp [hx])).mono (fun e => nomatch e) id)
      (hnum _ (by simp))
  · exact (Lit.scalar_denotes l (hs h)).value

def WArg.Ok : WArg → Prop
  | .kv k v => KeyName k ∧ v.Ok
  | .kc k op v => KeyName k ∧ op ∈ cmpOps ∧ v.NumOk
  | .between lo sl k sh hi => FieldName k ∧ (minInt64 ≤ lo ∧ lo ≤ maxInt64) ∧ (minInt64 ≤ hi ∧ hi ≤ maxInt64) ∧
      (sl = true → lo < maxInt64) ∧ (sh = true → minInt64 < hi)

theorem WArg.denotes (a : WArg) (h : a.Ok) : ArgDenotes a.key a.write a.value :=
  match a, h with
  | .kv k v, h => by
    have := kv_denotes h.1 (Lit.ok_denotes v h.2)
    simpa [WArg.write, WArg.key, WArg.value] using this
  | .kc k op v, h => by
    have := kc_denotes h.2.1 h.1 (Lit.numOk_denotes v h.2.2)
    simpa [WArg.write, WArg.key, WArg.value] using this
  | .between lo sl k sh hi, h => by
    have := between_denotes lo hi sl sh k h.1 h.2.1 h.2.2.1 h.2.2.2.1 h.2.2.2.2
    simpa [WArg.write, WArg.key, WArg.value, betweenText, ltText] using this

/-- `Name(arg, arg, ..)` for a generic name and arguments of any kind that denote a value under a key,
with pairwise distinct keys in any order: the parser returns the call whose argument map holds the values
under their keys. -/
theorem args_parse {α : Type} (key : α → Key) (text : α → List Char) (val : α → Val) (name : List Char)
    (args : List α) (hn : IdentName name) (hsp : name ∉ specialKws) (hne : args ≠ [])
    (hok : ∀ a ∈ args, ArgDenotes (key a) (text a) (val a)) (hd : (args.map key).Pairwise (· ≠ ·)) :
    ParsesTo (name ++ ['('] ++ joinWith [',', ' '] (args.map text) ++ [')'])
      [.mk name (args.foldl (fun m a => insert (key a) (val a) m) []) []] := by
  obtain ⟨as, ht, hkv, hasok⟩ := exists_largs key text val args hok
  have hkeys : as.map (·.key) = args.map key := by
    have e : as.map (·.key) = (as.map LArg.kv).map (·.1) := by rw [List.map_map]; rfl
    rw [e, hkv, List.map_map]; rfl
  have h := largs_parse name as hn hsp
    (fun e => hne (by rw [e] at ht; exact List.map_eq_nil_iff.mp ht.symm))
    (fun a ha => (hasok a ha).1) (fun a ha => (hasok a ha).2) (by rw [hkeys]; exact hd)
  have etext : largsText name as = name ++ ['('] ++ joinWith [',', ' '] (args.map text) ++ [')'] := by
    simp [largsText, ht]
  have emap : argMap as = args.foldl (fun m a => insert (key a) (val a) m) [] := by
    rw [argMap, hkv, List.foldl_map]
  rw [etext, emap] at h
  exact h

/-- An argument of a flat call: a written literal argument, or `key=<printed call>`. -/
inductive XArg where
  | lit (a : WArg)
  | call (k : Key) (c : Call)

def XArg.Ok (isPrint : Char → Bool) (d : Nat) : XArg → Prop
  | .lit a => a.Ok
  | .call k c => KeyName k ∧ Nested isPrint d c

def XArg.write (isPrint : Char → Bool) : XArg → List Char
  | .lit a => a.write
  | .call k c => k ++ ['='] ++ fmtCall isPrint c

def XArg.key : XArg → Key
  | .lit a => a.key
  | .call k _ => k

def XArg.value : XArg → Val
  | .lit a => a.value
  | .call _ c => .call c

theorem XArg.denotes (isPrint : Char → Bool) (hnl : isPrint '\n' = false) (d : Nat) (a : XArg)
    (h : a.Ok isPrint d) : ArgDenotes a.key (a.write isPrint) a.value :=
  match a, h with
  | .lit w, h => w.denotes h
  | .call k c, h => by
    have := kv_denotes h.1 (nested_denotes isPrint hnl d c h.2).value
    simpa [XArg.write, XArg.key, XArg.value] using this

end PV.C26
