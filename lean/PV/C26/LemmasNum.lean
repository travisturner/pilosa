/-
C26 — lemmas of the number layer: decimal printing and parsing of int64, through core's `Nat.toDigits` and
`Nat.ofDigitChars`.
-/
import PV.C26.Model
namespace PV.C26

theorem parseNatAux_eq (ds : List Char) (acc : Nat) : parseNatAux ds acc = Nat.ofDigitChars 10 ds acc := by
  induction ds generalizing acc with
  | nil => rfl
  | cons c cs ih => simp [parseNatAux, Nat.ofDigitChars_cons, ih, digitVal, Nat.mul_comm]

theorem digitChar_eq : ∀ d, d < 10 → digitChar d = Nat.digitChar d := by decide

theorem digitsAux_eq (f n : Nat) (acc : List Char) (h : n < f) : digitsAux f n acc = Nat.toDigitsCore 10 f n acc := by
  induction f generalizing n acc with
  | zero => omega
  | succ f ih =>
    simp only [digitsAux, Nat.toDigitsCore]
    by_cases h10 : n < 10
    · have : n / 10 = 0 := by omega
      simp [h10, this, Nat.mod_eq_of_lt h10, digitChar_eq n h10]
    · have : n / 10 ≠ 0 := by omega
      simp only [h10, this, if_false]
      rw [ih _ _ (by omega), digitChar_eq _ (by omega)]

/-- `strconv.FormatUint(n, 10)` is core's `Nat.toDigits 10`, `parseNat` its inverse `Nat.ofDigitChars 10`. -/
theorem natDigits_eq (n : Nat) : natDigits n = Nat.toDigits 10 n := digitsAux_eq _ _ _ (by omega)

theorem digitChar_pos : ∀ d, d < 10 → 0 < d → '1' ≤ digitChar d ∧ digitChar d ≤ '9' := by decide

theorem digitsAux_head (f n : Nat) (acc : List Char) (hf : n < f) (hn : 0 < n) :
    ∃ c t, digitsAux f n acc = c :: t ∧ '1' ≤ c ∧ c ≤ '9' := by
  induction f generalizing n acc with
  | zero => omega
  | succ f ih =>
    simp only [digitsAux]
    by_cases h : n < 10
    · simp only [h, if_true]
      exact ⟨_, _, rfl, digitChar_pos n h hn⟩
    · simp only [h, if_false]
      exact ih (n / 10) _ (by omega) (by omega)

theorem natDigits_spec (n : Nat) :
    parseNat (natDigits n) = n ∧ natDigits n ≠ [] ∧ (∀ c ∈ natDigits n, isDigit c = true) := by
  rw [natDigits_eq, parseNat, parseNatAux_eq]
  refine ⟨Nat.ofDigitChars_ten_toDigits, Nat.toDigits_ne_nil, fun c hc => ?_⟩
  have := Nat.isDigit_of_mem_toDigits (by decide) (by decide) hc
  simpa [isDigit, Char.isDigit, Char.le_def, UInt32.le_iff_toNat_le] using this

theorem isDigit_ne_minus (c : Char) (h : isDigit c = true) : c ≠ '-' := by
  intro e; subst e; simp [isDigit] at h

theorem parseIntText_intDigits (i : Int) : parseIntText (intDigits i) = i := by
  simp only [intDigits]
  by_cases h : i < 0
  · simp only [h, if_true, parseIntText]
    rw [(natDigits_spec _).1]; omega
  · simp only [h, if_false]
    obtain ⟨hv, hne, hd⟩ := natDigits_spec i.natAbs
    cases hds : natDigits i.natAbs with
    | nil => exact absurd hds hne
    | cons c cs =>
      have hc : c ≠ '-' := isDigit_ne_minus c (hd c (by simp [hds]))
      rw [parseIntText]
      · rw [← hds, hv]; omega
      · intro ds e; exact hc (by cases e; rfl)

theorem parseInt64_intDigits (i : Int) (h1 : minInt64 ≤ i) (h2 : i ≤ maxInt64) :
    parseInt64 (intDigits i) = some i := by
  simp [parseInt64, parseIntText_intDigits, h1, h2]

end PV.C26
