/-
C26 — generic lemmas about the PEG interpreter: fuel monotonicity and the composition rules of
`Parses` / `Fails` ("for some fuel the expression succeeds / fails").
-/
import PV.C26.Peg
namespace PV.C26
variable (rule : Nat → PExpr)

theorem run_zero (e : PExpr) (s : List Char) : run rule 0 e s = .fuel := rfl
theorem run_eps (n : Nat) (s : List Char) : run rule (n + 1) .eps s = .ok s [] := rfl
theorem run_chr (n : Nat) (c : Char) (s : List Char) :
    run rule (n + 1) (.chr c) s = (match s with | x :: t => if x = c then .ok t [] else .fail | [] => .fail) := rfl
theorem run_rng (n : Nat) (lo hi : Char) (s : List Char) :
    run rule (n + 1) (.rng lo hi) s =
      (match s with | x :: t => if lo ≤ x ∧ x ≤ hi then .ok t [] else .fail | [] => .fail) := rfl
theorem run_any (n : Nat) (s : List Char) :
    run rule (n + 1) .any s = (match s with | _ :: t => .ok t [] | [] => .fail) := rfl
theorem run_act (n : Nat) (a : Act) (s : List Char) : run rule (n + 1) (.act a) s = .ok s [.act a] := rfl
theorem run_ref (n : Nat) (i : Nat) (s : List Char) : run rule (n + 1) (.ref i) s = run rule n (rule i) s := rfl
theorem run_seq (n : Nat) (a b : PExpr) (s : List Char) :
    run rule (n + 1) (.seq a b) s =
      (match run rule n a s with
       | .ok s1 e1 => (match run rule n b s1 with | .ok s2 e2 => .ok s2 (e1 ++ e2) | r => r)
       | r => r) := rfl
theorem run_alt (n : Nat) (a b : PExpr) (s : List Char) :
    run rule (n + 1) (.alt a b) s = (match run rule n a s with | .fail => run rule n b s | r => r) := rfl
theorem run_star (n : Nat) (a : PExpr) (s : List Char) :
    run rule (n + 1) (.star a) s =
      (match run rule n a s with
       | .fail => .ok s []
       | .fuel => .fuel
       | .ok s1 e1 => (match run rule n (.star a) s1 with | .ok s2 e2 => .ok s2 (e1 ++ e2) | r => r)) := rfl
theorem run_opt (n : Nat) (a : PExpr) (s : List Char) :
    run rule (n + 1) (.opt a) s = (match run rule n a s with | .fail => .ok s [] | r => r) := rfl
theorem run_notP (n : Nat) (a : PExpr) (s : List Char) :
    run rule (n + 1) (.notP a) s =
      (match run rule n a s with | .fail => .ok s [] | .ok _ _ => .fail | .fuel => .fuel) := rfl
theorem run_andP (n : Nat) (a : PExpr) (s : List Char) :
    run rule (n + 1) (.andP a) s = (match run rule n a s with | .ok _ _ => .ok s [] | r => r) := rfl
theorem run_cap (n : Nat) (a : PExpr) (s : List Char) :
    run rule (n + 1) (.cap a) s =
      (match run rule n a s with
       | .ok s1 e1 => .ok s1 (e1 ++ [.text (s.take (s.length - s1.length))])
       | r => r) := rfl

/-- One more unit of fuel does not change a result that did not run out of fuel: every sub-run the
interpreter looks at has such a result itself. -/
theorem run_succ (n : Nat) : ∀ (e : PExpr) (s : List Char), run rule n e s ≠ .fuel →
    run rule (n + 1) e s = run rule n e s := by
  induction n with
  | zero => intro e s h; exact absurd rfl h
  | succ k ih =>
    intro e s h
    cases e with
    | eps | chr | rng | any | act => rfl
    | ref i => exact ih _ _ h
    | opt a | notP a | andP a | cap a =>
      simp only [run_opt, run_notP, run_andP, run_cap] at h ⊢
      cases h1 : run rule k a s with
      | fuel => rw [h1] at h; exact absurd rfl h
      | _ => rw [ih a s (by rw [h1]; nofun), h1]
    | alt a b =>
      rw [run_alt] at h
      rw [run_alt, run_alt]
      cases h1 : run rule k a s with
      | fuel => rw [h1] at h; exact absurd rfl h
      | ok s1 e1 => rw [ih a s (by rw [h1]; nofun), h1]
      | fail =>
        rw [ih a s (by rw [h1]; nofun), h1]
        rw [h1] at h
        exact ih b s h
    | seq a b =>
      rw [run_seq] at h
      rw [run_seq, run_seq]
      cases h1 : run rule k a s with
      | fuel => rw [h1] at h; exact absurd rfl h
      | fail => rw [ih a s (by rw [h1]; nofun), h1]
      | ok s1 e1 =>
        rw [ih a s (by rw [h1]; nofun), h1]
        rw [h1] at h
        simp only [] at h ⊢
        rw [ih b s1 (fun h2 => h (by rw [h2]))]
    | star a =>
      rw [run_star] at h
      rw [run_star, run_star]
      cases h1 : run rule k a s with
      | fuel => rw [h1] at h; exact absurd rfl h
      | fail => rw [ih a s (by rw [h1]; nofun), h1]
      | ok s1 e1 =>
        rw [ih a s (by rw [h1]; nofun), h1]
        rw [h1] at h
        simp only [] at h ⊢
        rw [ih _ s1 (fun h2 => h (by rw [h2]))]

theorem run_mono {n : Nat} {e : PExpr} {s : List Char} {r : Res} (h : run rule n e s = r) (hr : r ≠ .fuel) :
    ∀ m, n ≤ m → run rule m e s = r := by
  intro m hm
  induction m with
  | zero =>
    have : n = 0 := by omega
    subst this; exact h
  | succ k ih =>
    by_cases hk : n ≤ k
    · have := ih hk
      rw [run_succ rule k e s (by rw [this]; exact hr), this]
    · have : n = k + 1 := by omega
      subst this; exact h

/-- Two runs that do not run out of fuel can be made with the same fuel. -/
theorem run_max {n1 n2 : Nat} {e1 e2 : PExpr} {s1 s2 : List Char} {r1 r2 : Res}
    (h1 : run rule n1 e1 s1 = r1) (h2 : run rule n2 e2 s2 = r2) (hr1 : r1 ≠ .fuel) (hr2 : r2 ≠ .fuel) :
    run rule (max n1 n2) e1 s1 = r1 ∧ run rule (max n1 n2) e2 s2 = r2 :=
  ⟨run_mono rule h1 hr1 _ (Nat.le_max_left _ _), run_mono rule h2 hr2 _ (Nat.le_max_right _ _)⟩

/-- For some fuel `e` consumes `s` down to `s'` recording `evs`. -/
def Parses (e : PExpr) (s s' : List Char) (evs : List Ev) : Prop := ∃ n, run rule n e s = .ok s' evs

/-- For some fuel `e` fails on `s`. -/
def Fails (e : PExpr) (s : List Char) : Prop := ∃ n, run rule n e s = .fail

/-- A result reached with some fuel is the result for every fuel that does not run out. -/
theorem run_det {e : PExpr} {s : List Char} {r : Res} {n : Nat} (h : run rule n e s = r) (hr : r ≠ .fuel)
    (m : Nat) : run rule m e s = .fuel ∨ run rule m e s = r := by
  by_cases hm : run rule m e s = .fuel
  · exact Or.inl hm
  · obtain ⟨h1, h2⟩ := run_max rule h rfl hr hm
    exact Or.inr (h2.symm.trans h1)

variable {rule}

theorem Parses.eps (s : List Char) : Parses rule .eps s s [] := ⟨1, rfl⟩
theorem Parses.act (a : Act) (s : List Char) : Parses rule (.act a) s s [.act a] := ⟨1, rfl⟩
theorem Parses.chr (c : Char) (t : List Char) : Parses rule (.chr c) (c :: t) t [] :=
  ⟨1, by rw [run_chr]; simp⟩
theorem Fails.chr_nil (c : Char) : Fails rule (.chr c) [] := ⟨1, rfl⟩
theorem Fails.chr_ne {c x : Char} (t : List Char) (h : x ≠ c) : Fails rule (.chr c) (x :: t) :=
  ⟨1, by rw [run_chr]; simp [h]⟩
theorem Parses.rng {lo hi x : Char} (t : List Char) (h : lo ≤ x ∧ x ≤ hi) :
    Parses rule (.rng lo hi) (x :: t) t [] := ⟨1, by rw [run_rng]; simp [h]⟩
theorem Fails.rng_nil (lo hi : Char) : Fails rule (.rng lo hi) [] := ⟨1, rfl⟩
theorem Fails.rng_ne {lo hi x : Char} (t : List Char) (h : ¬ (lo ≤ x ∧ x ≤ hi)) :
    Fails rule (.rng lo hi) (x :: t) := ⟨1, by rw [run_rng]; simp [h]⟩
theorem Parses.any (x : Char) (t : List Char) : Parses rule .any (x :: t) t [] := ⟨1, rfl⟩
theorem Fails.any_nil : Fails rule .any [] := ⟨1, rfl⟩

/-- `r` does not start with a character satisfying `p`. -/
def NotHead (p : Char → Bool) : List Char → Prop
  | [] => True
  | c :: _ => p c = false

theorem NotHead.of_head {p : Char → Bool} {c : Char} {r : List Char} (h : p c = false) : NotHead p (c :: r) := h

theorem Fails.chr_notHead {c : Char} {s : List Char} (h : NotHead (· = c) s) : Fails rule (.chr c) s := by
  cases s with
  | nil => exact Fails.chr_nil c
  | cons x t => exact Fails.chr_ne t (of_decide_eq_false h)

theorem Parses.ref {i : Nat} {s s' : List Char} {evs : List Ev} (h : Parses rule (rule i) s s' evs) :
    Parses rule (.ref i) s s' evs := by
  obtain ⟨n, hn⟩ := h
  exact ⟨n + 1, by rw [run_ref]; exact hn⟩

theorem Fails.ref {i : Nat} {s : List Char} (h : Fails rule (rule i) s) : Fails rule (.ref i) s := by
  obtain ⟨n, hn⟩ := h
  exact ⟨n + 1, by rw [run_ref]; exact hn⟩

theorem Parses.seq {a b : PExpr} {s s1 s2 : List Char} {e1 e2 : List Ev}
    (ha : Parses rule a s s1 e1) (hb : Parses rule b s1 s2 e2) : Parses rule (.seq a b) s s2 (e1 ++ e2) := by
  obtain ⟨n1, h1⟩ := ha
  obtain ⟨n2, h2⟩ := hb
  obtain ⟨a1, a2⟩ := run_max rule h1 h2 (by simp) (by simp)
  exact ⟨max n1 n2 + 1, by simp only [run_seq, a1, a2]⟩

theorem Fails.seq_left {a b : PExpr} {s : List Char} (ha : Fails rule a s) : Fails rule (.seq a b) s := by
  obtain ⟨n, h⟩ := ha
  exact ⟨n + 1, by rw [run_seq, h]⟩

theorem Fails.seq_right {a b : PExpr} {s s1 : List Char} {e1 : List Ev}
    (ha : Parses rule a s s1 e1) (hb : Fails rule b s1) : Fails rule (.seq a b) s := by
  obtain ⟨n1, h1⟩ := ha
  obtain ⟨n2, h2⟩ := hb
  obtain ⟨a1, a2⟩ := run_max rule h1 h2 (by simp) (by simp)
  exact ⟨max n1 n2 + 1, by simp only [run_seq, a1, a2]⟩

theorem Parses.alt_left {a b : PExpr} {s s' : List Char} {evs : List Ev}
    (ha : Parses rule a s s' evs) : Parses rule (.alt a b) s s' evs := by
  obtain ⟨n, h⟩ := ha
  exact ⟨n + 1, by rw [run_alt, h]⟩

theorem Parses.alt_right {a b : PExpr} {s s' : List Char} {evs : List Ev}
    (ha : Fails rule a s) (hb : Parses rule b s s' evs) : Parses rule (.alt a b) s s' evs := by
  obtain ⟨n1, h1⟩ := ha
  obtain ⟨n2, h2⟩ := hb
  obtain ⟨a1, a2⟩ := run_max rule h1 h2 (by simp) (by simp)
  exact ⟨max n1 n2 + 1, by simp only [run_alt, a1, a2]⟩

theorem Fails.alt {a b : PExpr} {s : List Char} (ha : Fails rule a s) (hb : Fails rule b s) :
    Fails rule (.alt a b) s := by
  obtain ⟨n1, h1⟩ := ha
  obtain ⟨n2, h2⟩ := hb
  obtain ⟨a1, a2⟩ := run_max rule h1 h2 (by simp) (by simp)
  exact ⟨max n1 n2 + 1, by simp only [run_alt, a1, a2]⟩

theorem Parses.star_nil {a : PExpr} {s : List Char} (ha : Fails rule a s) : Parses rule (.star a) s s [] := by
  obtain ⟨n, h⟩ := ha
  exact ⟨n + 1, by rw [run_star, h]⟩

theorem Parses.star_cons {a : PExpr} {s s1 s2 : List Char} {e1 e2 : List Ev}
    (ha : Parses rule a s s1 e1) (hb : Parses rule (.star a) s1 s2 e2) :
    Parses rule (.star a) s s2 (e1 ++ e2) := by
  obtain ⟨n1, h1⟩ := ha
  obtain ⟨n2, h2⟩ := hb
  obtain ⟨a1, a2⟩ := run_max rule h1 h2 (by simp) (by simp)
  exact ⟨max n1 n2 + 1, by simp only [run_star, a1, a2]⟩

theorem Parses.opt_some {a : PExpr} {s s' : List Char} {evs : List Ev} (ha : Parses rule a s s' evs) :
    Parses rule (.opt a) s s' evs := by
  obtain ⟨n, h⟩ := ha
  exact ⟨n + 1, by rw [run_opt, h]⟩

theorem Parses.opt_none {a : PExpr} {s : List Char} (ha : Fails rule a s) : Parses rule (.opt a) s s [] := by
  obtain ⟨n, h⟩ := ha
  exact ⟨n + 1, by rw [run_opt, h]⟩

theorem Parses.notP {a : PExpr} {s : List Char} (ha : Fails rule a s) : Parses rule (.notP a) s s [] := by
  obtain ⟨n, h⟩ := ha
  exact ⟨n + 1, by rw [run_notP, h]⟩

theorem Fails.notP {a : PExpr} {s s' : List Char} {evs : List Ev} (ha : Parses rule a s s' evs) :
    Fails rule (.notP a) s := by
  obtain ⟨n, h⟩ := ha
  exact ⟨n + 1, by rw [run_notP, h]⟩

theorem Parses.andP {a : PExpr} {s s' : List Char} {evs : List Ev} (ha : Parses rule a s s' evs) :
    Parses rule (.andP a) s s [] := by
  obtain ⟨n, h⟩ := ha
  exact ⟨n + 1, by rw [run_andP, h]⟩

theorem Fails.andP {a : PExpr} {s : List Char} (ha : Fails rule a s) : Fails rule (.andP a) s := by
  obtain ⟨n, h⟩ := ha
  exact ⟨n + 1, by rw [run_andP, h]⟩

theorem Parses.cap {a : PExpr} {s s' : List Char} {evs : List Ev} (ha : Parses rule a s s' evs) :
    Parses rule (.cap a) s s' (evs ++ [.text (s.take (s.length - s'.length))]) := by
  obtain ⟨n, h⟩ := ha
  exact ⟨n + 1, by rw [run_cap, h]⟩

theorem Fails.cap {a : PExpr} {s : List Char} (ha : Fails rule a s) : Fails rule (.cap a) s := by
  obtain ⟨n, h⟩ := ha
  exact ⟨n + 1, by rw [run_cap, h]⟩

/-- The text a capture records when the expression consumed exactly the prefix `w`. -/
theorem Parses.cap_prefix {a : PExpr} {w r : List Char} {evs : List Ev} (ha : Parses rule a (w ++ r) r evs) :
    Parses rule (.cap a) (w ++ r) r (evs ++ [.text w]) := by
  have := Parses.cap ha
  simpa using this

theorem Parses.lit (w r : List Char) : Parses rule (lit w) (w ++ r) r [] := by
  induction w with
  | nil => exact Parses.eps r
  | cons c cs ih =>
    cases cs with
    | nil => exact Parses.chr c r
    | cons d ds =>
      have := Parses.seq (Parses.chr (rule := rule) c ((d :: ds) ++ r)) ih
      simpa [PV.C26.lit] using this

theorem Fails.lit (w s : List Char) (hw : w ≠ []) (h : ¬ w <+: s) : Fails rule (lit w) s := by
  induction w generalizing s with
  | nil => exact absurd rfl hw
  | cons c cs ih =>
    cases cs with
    | nil =>
      cases s with
      | nil => exact Fails.chr_nil c
      | cons x t =>
        refine Fails.chr_ne t ?_
        intro e; subst e; exact h ⟨t, rfl⟩
    | cons d ds =>
      simp only [PV.C26.lit]
      cases s with
      | nil => exact Fails.seq_left (Fails.chr_nil c)
      | cons x t =>
        by_cases e : x = c
        · subst e
          refine Fails.seq_right (Parses.chr x t) (ih t (by simp) ?_)
          intro ⟨u, hu⟩
          exact h ⟨u, by simp [hu]⟩
        · exact Fails.seq_left (Fails.chr_ne t e)

end PV.C26
