/-
C26 — the regenerated PQL grammar (`Gen.rule`) on the text `Call.String` prints.
The composition rules of LemmasPeg apply as they stand to rules written with `seqs [..]`, `alts [..]`,
`lit [..]` and `.ref R.x`: `alts (a :: b :: r)` is `.alt a (alts (b :: r))` by unfolding, likewise `seqs`,
and `Gen.rule R.x` unfolds to `e_x`.  So what a rule does is a term built from what its parts do.
-/
import PV.C26.LemmasPeg
import PV.C26.Gen
import PV.C26.Model
import PV.C26.Runs
import PV.C26.LemmasNum
import PV.C26.LemmasStr
namespace PV.C26
open Gen

abbrev P := Parses Gen.rule
abbrev F := Fails Gen.rule

/-- An expression that reads exactly one character of a class. -/
structure Cls where
  e : PExpr
  p : Char → Bool

def Cls.Ok (c : Cls) : Prop :=
  (∀ x t, c.p x = true → P c.e (x :: t) t []) ∧ F c.e [] ∧ (∀ x t, c.p x = false → F c.e (x :: t))

theorem Cls.Ok.chr (c : Char) : (⟨.chr c, fun x => x = c⟩ : Cls).Ok :=
  ⟨fun x t h => of_decide_eq_true h ▸ Parses.chr x t, Fails.chr_nil c,
   fun _ t h => Fails.chr_ne t (of_decide_eq_false h)⟩

theorem Cls.Ok.rng (lo hi : Char) : (⟨.rng lo hi, fun x => lo ≤ x && x ≤ hi⟩ : Cls).Ok :=
  ⟨fun _ t h => Parses.rng t (by simpa using h), Fails.rng_nil lo hi,
   fun _ t h => Fails.rng_ne t (fun hx => by simp [hx.1, hx.2] at h)⟩

theorem Cls.Ok.alt {a b : PExpr} {p q : Char → Bool} (ha : (⟨a, p⟩ : Cls).Ok) (hb : (⟨b, q⟩ : Cls).Ok) :
    (⟨.alt a b, fun x => p x || q x⟩ : Cls).Ok := by
  refine ⟨fun x t h => ?_, Fails.alt ha.2.1 hb.2.1, fun x t h => ?_⟩
  · cases hp : p x with
    | true => exact Parses.alt_left (ha.1 x t hp)
    | false => exact Parses.alt_right (ha.2.2 x t hp) (hb.1 x t (by simpa [hp] using h))
  · have h' : p x = false ∧ q x = false := by simpa using h
    exact Fails.alt (ha.2.2 x t h'.1) (hb.2.2 x t h'.2)

theorem Cls.Ok.congr {e : PExpr} {p q : Char → Bool} (h : (⟨e, p⟩ : Cls).Ok) (hpq : ∀ x, p x = q x) :
    (⟨e, q⟩ : Cls).Ok :=
  (funext hpq : p = q) ▸ h

theorem Cls.Ok.fails {c : Cls} (h : c.Ok) (s : List Char) (hs : NotHead c.p s) : F c.e s := by
  cases s with
  | nil => exact h.2.1
  | cons x t => exact h.2.2 x t hs

theorem Cls.Ok.star {c : Cls} (h : c.Ok) (w r : List Char) (hw : ∀ x ∈ w, c.p x = true)
    (hr : NotHead c.p r) : P (.star c.e) (w ++ r) r [] := by
  induction w with
  | nil => exact Parses.star_nil (h.fails r hr)
  | cons x xs ih =>
    exact Parses.star_cons (h.1 x (xs ++ r) (hw x (by simp))) (ih (fun y hy => hw y (by simp [hy])))

theorem Cls.Ok.star_dropWhile {c : Cls} (h : c.Ok) (l r : List Char) (hr : NotHead c.p r) :
    P (.star c.e) (l ++ r) (l.dropWhile c.p ++ r) [] := by
  induction l with
  | nil => exact Parses.star_nil (h.fails r hr)
  | cons x xs ih =>
    rw [List.dropWhile_cons]
    by_cases hx : c.p x = true
    · rw [if_pos hx]; exact Parses.star_cons (h.1 x (xs ++ r) hx) ih
    · rw [if_neg hx]; exact Parses.star_nil (h.2.2 x (xs ++ r) (eq_false_of_ne_true hx))

theorem ne_of_class {p : Char → Bool} {c x : Char} (hc : p c = true) (hx : p x = false) : c ≠ x :=
  fun e => by rw [e, hx] at hc; exact Bool.noConfusion hc

def isWs (c : Char) : Bool := c = ' ' || c = '\t' || c = '\n'

def NoWs : List Char → Prop
  | [] => True
  | c :: _ => isWs c = false

/-- For a concrete `c`: `.of_head (by decide)` (`decide` refuses `NoWs (c :: r)` itself because of the free `r`). -/
theorem NoWs.of_head {c : Char} {r : List Char} (h : isWs c = false) : NoWs (c :: r) := h

theorem NoWs.notHead {r : List Char} (h : NoWs r) : NotHead isWs r := by
  cases r with
  | nil => trivial
  | cons c t => exact h

theorem notWs_of_class {p : Char → Bool} {c : Char} (hc : p c = true)
    (h : p ' ' = false ∧ p '\t' = false ∧ p '\n' = false) : isWs c = false := by
  simp only [isWs, Bool.or_eq_false_iff, decide_eq_false_iff_not]
  exact ⟨⟨ne_of_class hc h.1, ne_of_class hc h.2.1⟩, ne_of_class hc h.2.2⟩

theorem wsCls : (⟨alts [.chr ' ', .chr '\t', .chr '\n'], isWs⟩ : Cls).Ok :=
  ((Cls.Ok.chr ' ').alt ((Cls.Ok.chr '\t').alt (Cls.Ok.chr '\n'))).congr (fun _ => (Bool.or_assoc _ _ _).symm)

theorem sp_ok (w : List Char) {r : List Char} (hw : ∀ x ∈ w, isWs x = true) (h : NoWs r) :
    P (.ref R.sp) (w ++ r) r [] :=
  Parses.ref (wsCls.star w r hw h.notHead)

theorem sp_nil {r : List Char} (h : NoWs r) : P (.ref R.sp) r r [] := sp_ok [] (List.forall_mem_nil _) h

theorem sp_one {r : List Char} (h : NoWs r) : P (.ref R.sp) (' ' :: r) r [] :=
  sp_ok [' '] (by simp [isWs]) h

theorem sp_total (s : List Char) : ∃ s', P (.ref R.sp) s s' [] := by
  have := Parses.ref (i := R.sp) (wsCls.star_dropWhile s [] trivial)
  rw [List.append_nil] at this
  exact ⟨_, this⟩

theorem comma_sp {r : List Char} (h : NoWs r) : P (.ref R.comma) (',' :: ' ' :: r) r [] :=
  Parses.ref (Parses.seq (sp_nil (.of_head (by decide))) (Parses.seq (Parses.chr ',' _) (sp_one h)))

theorem comma_nosp {r : List Char} (h : NoWs r) : P (.ref R.comma) (',' :: r) r [] :=
  Parses.ref (Parses.seq (sp_nil (.of_head (by decide))) (Parses.seq (Parses.chr ',' _) (sp_nil h)))

theorem comma_fails {r : List Char} (h : NoWs r) (hc : NotHead (· = ',') r) : F (.ref R.comma) r :=
  Fails.ref (Fails.seq_right (sp_nil h) (Fails.seq_left (Fails.chr_notHead hc)))

theorem comma_fails_sp {r : List Char} (h : NoWs r) (hc : NotHead (· = ',') r) : F (.ref R.comma) (' ' :: r) :=
  Fails.ref (Fails.seq_right (sp_one h) (Fails.seq_left (Fails.chr_notHead hc)))

theorem open_ok {r : List Char} (h : NoWs r) : P (.ref R.open') ('(' :: r) r [] :=
  Parses.ref (Parses.seq (Parses.chr '(' r) (sp_nil h))

theorem open_fails {r : List Char} (h : NotHead (· = '(') r) : F (.ref R.open') r :=
  Fails.ref (Fails.seq_left (Fails.chr_notHead h))

theorem close_ok {r : List Char} (h : NoWs r) : P (.ref R.close) (')' :: r) r [] :=
  Parses.ref (Parses.seq (Parses.chr ')' r) (sp_nil h))

theorem close_total (r : List Char) : ∃ r', P (.ref R.close) (')' :: r) r' [] :=
  (sp_total r).imp fun _ h => Parses.ref (Parses.seq (Parses.chr ')' r) h)

theorem close_fails {r : List Char} (h : NotHead (· = ')') r) : F (.ref R.close) r :=
  Fails.ref (Fails.seq_left (Fails.chr_notHead h))

def isLower (c : Char) : Bool := 'a' ≤ c && c ≤ 'z'
def isUpper (c : Char) : Bool := 'A' ≤ c && c ≤ 'Z'
def isAlpha (c : Char) : Bool := isLower c || isUpper c
def isAlnum (c : Char) : Bool := isAlpha c || isDigit c
def isFieldCh (c : Char) : Bool := isAlnum c || c = '_' || c = '-'

theorem alphaCls : (⟨alts [.rng 'a' 'z', .rng 'A' 'Z'], isAlpha⟩ : Cls).Ok :=
  (Cls.Ok.rng 'a' 'z').alt (Cls.Ok.rng 'A' 'Z')

theorem digitCls : (⟨.rng '0' '9', isDigit⟩ : Cls).Ok := Cls.Ok.rng '0' '9'

theorem alnumCls : (⟨alts [.rng 'a' 'z', .rng 'A' 'Z', .rng '0' '9'], isAlnum⟩ : Cls).Ok :=
  ((Cls.Ok.rng 'a' 'z').alt ((Cls.Ok.rng 'A' 'Z').alt (Cls.Ok.rng '0' '9'))).congr
    (fun _ => (Bool.or_assoc _ _ _).symm)

theorem fieldchCls :
    (⟨alts [.rng 'a' 'z', .rng 'A' 'Z', .rng '0' '9', .chr '_', .chr '-'], isFieldCh⟩ : Cls).Ok :=
  ((Cls.Ok.rng 'a' 'z').alt ((Cls.Ok.rng 'A' 'Z').alt ((Cls.Ok.rng '0' '9').alt
    ((Cls.Ok.chr '_').alt (Cls.Ok.chr '-'))))).congr
    (fun _ => by simp only [isFieldCh, isAlnum, isAlpha, isLower, isUpper, isDigit, Bool.or_assoc])

def IdentName (w : List Char) : Prop :=
  ∃ c cs, w = c :: cs ∧ isAlpha c = true ∧ ∀ x ∈ cs, isAlnum x = true

theorem ident_ok {w r : List Char} (hw : IdentName w) (hr : NotHead isAlnum r) :
    P (.ref R.IDENT) (w ++ r) r [] := by
  obtain ⟨c, cs, rfl, hc, hcs⟩ := hw
  exact Parses.ref (Parses.seq (alphaCls.1 c (cs ++ r) hc) (alnumCls.star cs r hcs hr))

theorem ident_fails {s : List Char} (h : NotHead isAlpha s) : F (.ref R.IDENT) s :=
  Fails.ref (Fails.seq_left (alphaCls.fails s h))

theorem ident_then_no_open (c : Char) (cs : List Char) (x : Char) (r : List Char) (hc : isAlpha c = true)
    (hcs : ∀ y ∈ cs, y ≠ '(') (hx1 : isAlnum x = false) (hx2 : x ≠ '(') :
    ∃ r1, P (.ref R.IDENT) (c :: cs ++ x :: r) r1 [] ∧ NotHead (· = '(') r1 := by
  refine ⟨cs.dropWhile isAlnum ++ x :: r,
    Parses.ref (Parses.seq (alphaCls.1 c _ hc) (alnumCls.star_dropWhile cs (x :: r) (.of_head hx1))), ?_⟩
  cases hdw : cs.dropWhile isAlnum with
  | nil => simpa [NotHead] using hx2
  | cons y ys =>
    have hy : y ∈ cs := (List.dropWhile_sublist _).subset (by rw [hdw]; simp)
    simpa [NotHead] using hcs y hy

/-- A field name: a letter followed by letters, digits, `_`, `-` (rule fieldExpr). -/
def FieldName (w : List Char) : Prop :=
  ∃ c cs, w = c :: cs ∧ isAlpha c = true ∧ ∀ x ∈ cs, isFieldCh x = true

theorem fieldExpr_ok {w r : List Char} (hw : FieldName w) (hr : NotHead isFieldCh r) :
    P (.ref R.fieldExpr) (w ++ r) r [] := by
  obtain ⟨c, cs, rfl, hc, hcs⟩ := hw
  exact Parses.ref (Parses.seq (alphaCls.1 c (cs ++ r) hc) (fieldchCls.star cs r hcs hr))

theorem fieldExpr_fails_head (c : Char) (t : List Char) (h : isAlpha c = false) : F (.ref R.fieldExpr) (c :: t) :=
  Fails.ref (Fails.seq_left (alphaCls.2.2 c t h))

/-- The reserved argument names of the grammar (`field <- <fieldExpr / reserved>`). -/
def reservedKws : List (List Char) :=
  [['_', 'r', 'o', 'w'], ['_', 'c', 'o', 'l'], ['_', 's', 't', 'a', 'r', 't'], ['_', 'e', 'n', 'd'],
   ['_', 't', 'i', 'm', 'e', 's', 't', 'a', 'm', 'p'], ['_', 'f', 'i', 'e', 'l', 'd']]

def KeyName (k : List Char) : Prop := FieldName k ∨ k ∈ reservedKws

theorem reserved_head {w : List Char} (h : w ∈ reservedKws) : ∃ t, w = '_' :: t := by
  simp only [reservedKws, List.mem_cons, List.not_mem_nil, or_false] at h
  rcases h with rfl | rfl | rfl | rfl | rfl | rfl <;> exact ⟨_, rfl⟩

theorem KeyName.head {k : List Char} (h : KeyName k) : ∃ c cs, k = c :: cs ∧ (isAlpha c = true ∨ c = '_') := by
  rcases h with ⟨c, cs, rfl, hc, _⟩ | h
  · exact ⟨c, cs, rfl, Or.inl hc⟩
  · obtain ⟨t, rfl⟩ := reserved_head h; exact ⟨'_', t, rfl, Or.inr rfl⟩

theorem KeyName.ne_nil {k : List Char} (h : KeyName k) : k ≠ [] := by
  obtain ⟨c, cs, rfl, _⟩ := h.head; simp

theorem KeyName.noWs {k : List Char} (h : KeyName k) (s : List Char) : NoWs (k ++ s) := by
  obtain ⟨c, cs, rfl, hc⟩ := h.head
  rcases hc with hc | rfl
  · exact notWs_of_class hc (by decide)
  · exact .of_head (by decide)

theorem lit_fails_second (a x y : Char) (v t : List Char) (h : x ≠ y) : F (lit (a :: x :: v)) (a :: y :: t) :=
  Fails.lit _ _ (by simp) (fun ⟨u, hu⟩ => h (by simp at hu; exact hu.1))

/-- The reserved names differ in their second character. -/
theorem reserved_ok {w : List Char} (r : List Char) (hw : w ∈ reservedKws) : P (.ref R.reserved) (w ++ r) r [] := by
  have no {x y : Char} (v t : List Char) (h : x ≠ y) : F (lit ('_' :: x :: v)) ('_' :: y :: t) :=
    lit_fails_second '_' x y v t h
  simp only [reservedKws, List.mem_cons, List.not_mem_nil, or_false] at hw
  refine Parses.ref ?_
  rcases hw with rfl | rfl | rfl | rfl | rfl | rfl
  · exact Parses.alt_left (Parses.lit _ r)
  · exact Parses.alt_right (no _ _ (by decide)) (Parses.alt_left (Parses.lit _ r))
  · exact Parses.alt_right (no _ _ (by decide)) (Parses.alt_right (no _ _ (by decide)) (Parses.alt_left (Parses.lit _ r)))
  · exact Parses.alt_right (no _ _ (by decide)) (Parses.alt_right (no _ _ (by decide))
      (Parses.alt_right (no _ _ (by decide)) (Parses.alt_left (Parses.lit _ r))))
  · exact Parses.alt_right (no _ _ (by decide)) (Parses.alt_right (no _ _ (by decide))
      (Parses.alt_right (no _ _ (by decide)) (Parses.alt_right (no _ _ (by decide))
      (Parses.alt_left (Parses.lit _ r)))))
  · exact Parses.alt_right (no _ _ (by decide)) (Parses.alt_right (no _ _ (by decide))
      (Parses.alt_right (no _ _ (by decide)) (Parses.alt_right (no _ _ (by decide))
      (Parses.alt_right (no _ _ (by decide)) (Parses.lit _ r)))))

theorem key_ok {w r : List Char} (hw : KeyName w) (hr : NotHead isFieldCh r) :
    P (.ref R.field) (w ++ r) r [.text w, .act (.addField .text)] := by
  have hcap : P (alts [.ref R.fieldExpr, .ref R.reserved]) (w ++ r) r [] := by
    rcases hw with hw | hw
    · exact Parses.alt_left (fieldExpr_ok hw hr)
    · obtain ⟨t, rfl⟩ := reserved_head hw
      exact Parses.alt_right (fieldExpr_fails_head '_' _ (by decide)) (reserved_ok r hw)
  exact Parses.ref (Parses.seq (Parses.cap_prefix hcap) (Parses.act _ r))

theorem lit_fails_head (w : List Char) (c : Char) (t : List Char) (hw : ∃ a as, w = a :: as ∧ a ≠ c) :
    F (lit w) (c :: t) := by
  obtain ⟨a, as, rfl, hne⟩ := hw
  exact Fails.lit _ _ (by simp) (fun ⟨u, hu⟩ => hne (by simp at hu; exact hu.1))

theorem lit_fails_nil (w : List Char) (hw : w ≠ []) : F (lit w) [] := by
  refine Fails.lit _ _ hw ?_
  intro ⟨u, hu⟩
  cases w with
  | nil => exact hw rfl
  | cons a as => simp at hu

theorem seq_digit_fails_nil {rest : PExpr} : F (.seq (.rng '0' '9') rest) [] :=
  Fails.seq_left (Fails.rng_nil _ _)

theorem seq_digit_fails_cons {rest : PExpr} {x : Char} {t : List Char}
    (h : isDigit x = true → F rest t) : F (.seq (.rng '0' '9') rest) (x :: t) := by
  cases hd : isDigit x with
  | true => exact Fails.seq_right (digitCls.1 x t hd) (h hd)
  | false => exact Fails.seq_left (digitCls.2.2 x t hd)

/-- `timestampbasicfmt` needs four digits and a dash first: enough for what is no timestamp by its first
characters (the whole shape: `tsHead` in LemmasItems). -/
def tsPrefix5 : List Char → Bool
  | [] => false
  | a :: s1 => isDigit a && (match s1 with
    | [] => false
    | b :: s2 => isDigit b && (match s2 with
      | [] => false
      | c :: s3 => isDigit c && (match s3 with
        | [] => false
        | d :: s4 => isDigit d && (match s4 with
          | [] => false
          | e :: _ => e = '-'))))

theorem tsbasic_fails {s : List Char} (h : tsPrefix5 s = false) : F (.ref R.timestampbasicfmt) s := by
  refine Fails.ref ?_
  match s with
  | [] => exact seq_digit_fails_nil
  | [_] => exact seq_digit_fails_cons fun _ => seq_digit_fails_nil
  | [_, _] => exact seq_digit_fails_cons fun _ => seq_digit_fails_cons fun _ => seq_digit_fails_nil
  | [_, _, _] =>
    exact seq_digit_fails_cons fun _ => seq_digit_fails_cons fun _ => seq_digit_fails_cons fun _ =>
      seq_digit_fails_nil
  | [_, _, _, _] =>
    exact seq_digit_fails_cons fun _ => seq_digit_fails_cons fun _ => seq_digit_fails_cons fun _ =>
      seq_digit_fails_cons fun _ => Fails.seq_left (Fails.chr_nil _)
  | a :: b :: c :: d :: e :: s5 =>
    refine seq_digit_fails_cons fun ha => seq_digit_fails_cons fun hb => seq_digit_fails_cons fun hc =>
      seq_digit_fails_cons fun hd => Fails.seq_left (Fails.chr_ne s5 ?_)
    simpa [tsPrefix5, ha, hb, hc, hd] using h

theorem tsfmt_fails {c : Char} {t : List Char} (h1 : c ≠ '"') (h2 : c ≠ '\'') (h : tsPrefix5 (c :: t) = false) :
    F (.ref R.timestampfmt) (c :: t) :=
  Fails.ref (Fails.alt (Fails.seq_left (Fails.chr_ne t h1))
    (Fails.alt (Fails.seq_left (Fails.chr_ne t h2)) (Fails.cap (tsbasic_fails h))))

/-! ### Numbers -/

theorem digits_plus (ds r : List Char) (hne : ds ≠ []) (hall : ∀ c ∈ ds, isDigit c = true)
    (hr : NotHead isDigit r) : P (plus (.rng '0' '9')) (ds ++ r) r [] := by
  cases ds with
  | nil => exact absurd rfl hne
  | cons d ds' =>
    exact Parses.seq (digitCls.1 d (ds' ++ r) (hall d (by simp))) (digitCls.star ds' r (fun c hc => hall c (by simp [hc])) hr)

def signText (neg : Bool) : List Char := if neg then ['-'] else []

theorem opt_minus (neg : Bool) (s : List Char) (hs : NotHead (· = '-') s) :
    P (.opt (.chr '-')) (signText neg ++ s) s [] := by
  cases neg with
  | true => exact Parses.opt_some (Parses.chr '-' s)
  | false => exact Parses.opt_none (Fails.chr_notHead hs)

theorem digits_head_not_minus (ds r : List Char) (hne : ds ≠ []) (hall : ∀ c ∈ ds, isDigit c = true) :
    NotHead (· = '-') (ds ++ r) := by
  cases ds with
  | nil => exact absurd rfl hne
  | cons d ds' =>
    simp only [List.cons_append, NotHead, decide_eq_false_iff_not]
    exact isDigit_ne_minus d (hall d (by simp))

/-- The first numeric alternative of `item` on an integer text: captures sign and digits. -/
theorem num_int_ok (neg : Bool) (ds r : List Char) (hne : ds ≠ []) (hall : ∀ c ∈ ds, isDigit c = true)
    (hr1 : NotHead isDigit r) (hr2 : NotHead (· = '.') r) :
    P (.cap (seqs [.opt (.chr '-'), plus (.rng '0' '9'), .opt (seqs [lit ['.'], .star (.rng '0' '9')])]))
      ((signText neg ++ ds) ++ r) r [.text (signText neg ++ ds)] := by
  have h3 : P (.opt (seqs [lit ['.'], .star (.rng '0' '9')])) r r [] :=
    Parses.opt_none (Fails.seq_left (Fails.chr_notHead hr2))
  refine Parses.cap_prefix (evs := []) ?_
  rw [List.append_assoc]
  exact Parses.seq (opt_minus neg (ds ++ r) (digits_head_not_minus ds r hne hall))
    (Parses.seq (digits_plus ds r hne hall hr1) h3)

/-- What follows a value in a printed call: `,` (next argument / element), `)` or `]`. -/
def Delim (d : Char) : Prop := d = ',' ∨ d = ')' ∨ d = ']'

theorem Delim.facts {d : Char} (h : Delim d) : isDigit d = false ∧ d ≠ '.' ∧ d ≠ '-' := by
  rcases h with rfl | rfl | rfl <;> decide

theorem num_text_head (neg : Bool) (ds s : List Char) (hne : ds ≠ []) (hall : ∀ c ∈ ds, isDigit c = true) :
    ∃ c t, signText neg ++ ds ++ s = c :: t ∧ (c = '-' ∨ isDigit c = true) := by
  cases neg with
  | true => exact ⟨'-', ds ++ s, rfl, Or.inl rfl⟩
  | false =>
    cases ds with
    | nil => exact absurd rfl hne
    | cons x xs => exact ⟨x, xs ++ s, rfl, Or.inr (hall x (by simp))⟩

/-- A digit is none of the characters the keyword and the quote alternatives of `item` begin with. -/
theorem digit_facts {c : Char} (h : isDigit c = true) : c ≠ 'n' ∧ c ≠ 't' ∧ c ≠ 'f' ∧ c ≠ '"' ∧ c ≠ '\'' :=
  ⟨ne_of_class h (by decide), ne_of_class h (by decide), ne_of_class h (by decide), ne_of_class h (by decide),
    ne_of_class h (by decide)⟩

theorem tsPrefix5_digits (ds : List Char) (d : Char) (r : List Char) (hall : ∀ c ∈ ds, isDigit c = true)
    (hd : isDigit d = false) (hm : d ≠ '-') : tsPrefix5 (ds ++ d :: r) = false := by
  match ds, hall with
  | [], _ => simp [tsPrefix5, hd]
  | [a], _ => simp [tsPrefix5, hd]
  | [a, b], _ => simp [tsPrefix5, hd]
  | [a, b, c], _ => simp [tsPrefix5, hd]
  | [a, b, c, e], _ => simp [tsPrefix5, hm]
  | a :: b :: c :: e :: f :: rest, hall =>
    have hf : f ≠ '-' := isDigit_ne_minus f (hall f (by simp))
    simp [tsPrefix5, hf]

abbrev kwLook : PExpr := .andP (alts [.ref R.comma, seqs [.ref R.sp, .ref R.close]])
abbrev altKw (kw : List Char) (v : VArg) : PExpr := seqs [lit kw, kwLook, .act (.addVal v)]
abbrev altTs : PExpr := seqs [.ref R.timestampfmt, .act (.addVal .text)]
abbrev altNum1 : PExpr :=
  seqs [.cap (seqs [.opt (.chr '-'), plus (.rng '0' '9'), .opt (seqs [lit ['.'], .star (.rng '0' '9')])]), .act .addNumVal]
abbrev altNum2 : PExpr := seqs [.cap (seqs [.opt (.chr '-'), lit ['.'], plus (.rng '0' '9')]), .act .addNumVal]
abbrev altCall : PExpr :=
  seqs [.cap (.ref R.IDENT), .act (.startCall .text), .ref R.open', .ref R.allargs, .opt (.ref R.comma), .ref R.close,
    .act (.addVal .endCall)]
abbrev bareCls : PExpr := alts [.rng 'a' 'z', .rng 'A' 'Z', .rng '0' '9', .chr '-', .chr '_', .chr ':']
abbrev altBare : PExpr := seqs [.cap (plus bareCls), .act (.addVal .text)]
abbrev altDq : PExpr := seqs [.cap (seqs [lit ['"'], .ref R.doublequotedstring, lit ['"']]), .act .addQuotedVal]
abbrev altSq : PExpr := seqs [lit ['\''], .cap (.ref R.singlequotedstring), lit ['\''], .act (.addVal .text)]

/-- `item` is the ordered choice of the ten (checked against the regenerated table by `Parses.ref`). -/
theorem item_of_alts {s s' : List Char} {evs : List Ev}
    (h : P (alts [altKw cl!"null" .null, altKw cl!"true" (.bool true), altKw cl!"false" (.bool false), altTs, altNum1,
      altNum2, altCall, altBare, altDq, altSq]) s s' evs) : P (.ref R.item) s s' evs :=
  Parses.ref h

theorem altKw_fails_head {kw : List Char} {v : VArg} {c : Char} {t : List Char} (h : ∃ a as, kw = a :: as ∧ a ≠ c) :
    F (altKw kw v) (c :: t) :=
  Fails.seq_left (lit_fails_head kw c t h)

theorem altTs_fails {c : Char} {t : List Char} (h1 : c ≠ '"') (h2 : c ≠ '\'') (h : tsPrefix5 (c :: t) = false) :
    F altTs (c :: t) :=
  Fails.seq_left (tsfmt_fails h1 h2 h)

theorem item_num1_fails {c : Char} {t : List Char} (hm : c ≠ '-') (hd : isDigit c = false) : F altNum1 (c :: t) :=
  Fails.seq_left (Fails.cap (Fails.seq_right (Parses.opt_none (Fails.chr_ne t hm))
    (Fails.seq_left (Fails.seq_left (digitCls.2.2 c t hd)))))

theorem item_num2_fails {c : Char} {t : List Char} (hm : c ≠ '-') (hp : c ≠ '.') : F altNum2 (c :: t) :=
  Fails.seq_left (Fails.cap (Fails.seq_right (Parses.opt_none (Fails.chr_ne t hm))
    (Fails.seq_left (Fails.chr_ne t hp))))

theorem item_call_fails {s : List Char} (h : NotHead isAlpha s) (more : PExpr) :
    F (.seq (.cap (.ref R.IDENT)) more) s :=
  Fails.seq_left (Fails.cap (ident_fails h))

def isBareCh (c : Char) : Bool := isAlnum c || c = '-' || c = '_' || c = ':'

theorem bareCls_ok : (⟨bareCls, isBareCh⟩ : Cls).Ok :=
  ((Cls.Ok.rng 'a' 'z').alt ((Cls.Ok.rng 'A' 'Z').alt ((Cls.Ok.rng '0' '9').alt
    ((Cls.Ok.chr '-').alt ((Cls.Ok.chr '_').alt (Cls.Ok.chr ':')))))).congr fun x => by
      simp only [isBareCh, isAlnum, isAlpha, isLower, isUpper, isDigit, Bool.or_assoc]

theorem item_bare_fails {c : Char} {t : List Char} (h : isBareCh c = false) : F altBare (c :: t) :=
  Fails.seq_left (Fails.cap (Fails.seq_left (bareCls_ok.2.2 c t h)))

/-- A text that begins like a number (`-`, `.` or a digit) and is not timestamp shaped goes to the numeric
alternatives and what follows them. -/
theorem item_of_number {c : Char} {t s' : List Char} {evs : List Ev}
    (hc : c ≠ 'n' ∧ c ≠ 't' ∧ c ≠ 'f' ∧ c ≠ '"' ∧ c ≠ '\'') (hts : tsPrefix5 (c :: t) = false)
    (h : P (alts [altNum1, altNum2, altCall, altBare, altDq, altSq]) (c :: t) s' evs) :
    P (.ref R.item) (c :: t) s' evs :=
  item_of_alts (Parses.alt_right (altKw_fails_head ⟨_, _, rfl, fun e => hc.1 e.symm⟩)
    (Parses.alt_right (altKw_fails_head ⟨_, _, rfl, fun e => hc.2.1 e.symm⟩)
    (Parses.alt_right (altKw_fails_head ⟨_, _, rfl, fun e => hc.2.2.1 e.symm⟩)
    (Parses.alt_right (altTs_fails hc.2.2.2.1 hc.2.2.2.2 hts) h))))

theorem item_of_quoted {q : Char} {t s' : List Char} {evs : List Ev} (hq : q = '"' ∨ q = '\'')
    (hts : F (.ref R.timestampfmt) (q :: t)) (h : P (alts [altDq, altSq]) (q :: t) s' evs) :
    P (.ref R.item) (q :: t) s' evs := by
  have hq' : q ≠ 'n' ∧ q ≠ 't' ∧ q ≠ 'f' ∧ q ≠ '-' ∧ q ≠ '.' ∧ isDigit q = false ∧ isAlpha q = false ∧
      isBareCh q = false := by rcases hq with rfl | rfl <;> decide
  obtain ⟨h1, h2, h3, h4, h5, h6, h7, h8⟩ := hq'
  exact item_of_alts (Parses.alt_right (altKw_fails_head ⟨_, _, rfl, fun e => h1 e.symm⟩)
    (Parses.alt_right (altKw_fails_head ⟨_, _, rfl, fun e => h2 e.symm⟩)
    (Parses.alt_right (altKw_fails_head ⟨_, _, rfl, fun e => h3 e.symm⟩)
    (Parses.alt_right (Fails.seq_left hts)
    (Parses.alt_right (item_num1_fails h4 h6) (Parses.alt_right (item_num2_fails h4 h5)
    (Parses.alt_right (item_call_fails (s := q :: t) h7 _) (Parses.alt_right (item_bare_fails h8) h))))))))

theorem item_int_ok (neg : Bool) (ds r : List Char) (d : Char) (hne : ds ≠ [])
    (hall : ∀ c ∈ ds, isDigit c = true) (hd : Delim d) :
    P (.ref R.item) ((signText neg ++ ds) ++ d :: r) (d :: r)
      [.text (signText neg ++ ds), .act .addNumVal] := by
  obtain ⟨f1, f2, f3⟩ := hd.facts
  obtain ⟨c, t, htext, hc⟩ := num_text_head neg ds (d :: r) hne hall
  have hcf : c ≠ 'n' ∧ c ≠ 't' ∧ c ≠ 'f' ∧ c ≠ '"' ∧ c ≠ '\'' := by
    rcases hc with rfl | hc
    · decide
    · exact digit_facts hc
  have hts : tsPrefix5 (c :: t) = false := by
    rw [← htext]
    cases neg with
    | true => rfl
    | false => exact tsPrefix5_digits ds d r hall f1 f3
  have hnum := Parses.seq (num_int_ok neg ds (d :: r) hne hall f1 (decide_eq_false f2)) (Parses.act .addNumVal (d :: r))
  rw [htext] at hnum ⊢
  exact item_of_number hcf hts (Parses.alt_left hnum)

theorem kw_lookahead (d : Char) (r : List Char) (hd : d = ',' ∨ d = ')') : P kwLook (d :: r) (d :: r) [] := by
  rcases hd with rfl | rfl
  · obtain ⟨r', hr'⟩ := sp_total r
    exact Parses.andP (Parses.alt_left (Parses.ref (i := R.comma)
      (Parses.seq (sp_nil (.of_head (by decide))) (Parses.seq (Parses.chr ',' r) hr'))))
  · obtain ⟨r', hr'⟩ := close_total r
    exact Parses.andP (Parses.alt_right (comma_fails (.of_head (by decide)) (.of_head (by decide)))
      (Parses.seq (sp_nil (.of_head (by decide))) hr'))

theorem altKw_ok (kw : List Char) (v : VArg) (d : Char) (r : List Char) (hd : d = ',' ∨ d = ')') :
    P (altKw kw v) (kw ++ d :: r) (d :: r) [.act (.addVal v)] :=
  Parses.seq (Parses.lit kw _) (Parses.seq (kw_lookahead d r hd) (Parses.act _ _))

theorem item_null_ok (d : Char) (r : List Char) (hd : d = ',' ∨ d = ')') :
    P (.ref R.item) (['n', 'u', 'l', 'l'] ++ d :: r) (d :: r) [.act (.addVal .null)] :=
  item_of_alts (Parses.alt_left (altKw_ok _ _ d r hd))

theorem item_true_ok (d : Char) (r : List Char) (hd : d = ',' ∨ d = ')') :
    P (.ref R.item) (['t', 'r', 'u', 'e'] ++ d :: r) (d :: r) [.act (.addVal (.bool true))] :=
  item_of_alts (Parses.alt_right (altKw_fails_head ⟨_, _, rfl, by decide⟩) (Parses.alt_left (altKw_ok _ _ d r hd)))

theorem item_false_ok (d : Char) (r : List Char) (hd : d = ',' ∨ d = ')') :
    P (.ref R.item) (['f', 'a', 'l', 's', 'e'] ++ d :: r) (d :: r) [.act (.addVal (.bool false))] :=
  item_of_alts (Parses.alt_right (altKw_fails_head ⟨_, _, rfl, by decide⟩)
    (Parses.alt_right (altKw_fails_head ⟨_, _, rfl, by decide⟩) (Parses.alt_left (altKw_ok _ _ d r hd))))

theorem item_fails_punct (c : Char) (t : List Char)
    (h : c ≠ 'n' ∧ c ≠ 't' ∧ c ≠ 'f' ∧ c ≠ '"' ∧ c ≠ '\'' ∧ c ≠ '-' ∧ c ≠ '.' ∧ c ≠ '_' ∧ c ≠ ':' ∧
      isAlnum c = false) : F (.ref R.item) (c :: t) := by
  obtain ⟨h1, h2, h3, h4, h5, h6, h7, h8, h9, h10⟩ := h
  have h11 : isAlpha c = false ∧ isDigit c = false := by simpa [isAlnum] using h10
  exact Fails.ref (Fails.alt (altKw_fails_head ⟨_, _, rfl, fun e => h1 e.symm⟩)
    (Fails.alt (altKw_fails_head ⟨_, _, rfl, fun e => h2 e.symm⟩)
    (Fails.alt (altKw_fails_head ⟨_, _, rfl, fun e => h3 e.symm⟩)
    (Fails.alt (altTs_fails h4 h5 (by simp [tsPrefix5, h11.2]))
    (Fails.alt (item_num1_fails h6 h11.2)
    (Fails.alt (item_num2_fails h6 h7)
    (Fails.alt (item_call_fails (s := c :: t) h11.1 _)
    (Fails.alt (item_bare_fails (by simp [isBareCh, h10, h6, h8, h9]))
    (Fails.alt (Fails.seq_left (Fails.cap (Fails.seq_left (Fails.chr_ne t h4))))
    (Fails.seq_left (Fails.chr_ne t h5)))))))))))

/-! ### Double-quoted strings -/

/-- The body of a double-quoted literal as the rule `doublequotedstring` walks it: `\"` and `\\` are
taken as pairs, every other character singly; it must not contain a bare `"` nor end in a lone `\`. -/
def dqOk : List Char → Bool
  | [] => true
  | '"' :: _ => false
  | '\\' :: '"' :: t => dqOk t
  | '\\' :: '\\' :: t => dqOk t
  | '\\' :: [] => false
  | '\\' :: c :: t => dqOk (c :: t)
  | _ :: t => dqOk t

theorem dqOk_plain (c : Char) (t : List Char) (h1 : c ≠ '"') (h2 : c ≠ '\\') : dqOk (c :: t) = dqOk t := by
  rw [dqOk]
  · exact h1
  · intro t1 e; exact absurd e h2
  · intro t1 e; exact absurd e h2
  · intro e; exact absurd e h2
  · intro c1 t1 e; exact absurd e h2

/-- Whatever follows a backslash is read together with it. -/
theorem dqOk_backslash (c : Char) (t : List Char) : dqOk ('\\' :: c :: t) = dqOk t := by
  by_cases h1 : c = '"'
  · subst h1; rw [dqOk]
  by_cases h2 : c = '\\'
  · subst h2; rw [dqOk]
  rw [dqOk]
  · exact dqOk_plain c t h1 h2
  · intro e; exact h1 (by rw [e])
  · intro e; exact h2 (by rw [e])

theorem dqOk_append_plain (w t : List Char) (h : ∀ x ∈ w, x ≠ '"' ∧ x ≠ '\\') : dqOk (w ++ t) = dqOk t := by
  induction w with
  | nil => rfl
  | cons x w ih =>
    rw [List.cons_append, dqOk_plain x _ (h x (by simp)).1 (h x (by simp)).2]
    exact ih (fun y hy => h y (by simp [hy]))

theorem dqOk_hex2 (n : Nat) (t : List Char) : dqOk (hex2 n ++ t) = dqOk t :=
  dqOk_append_plain _ t (by simp only [hex2, List.forall_mem_cons]; exact ⟨hexDigit_plain _, hexDigit_plain _, nofun⟩)

theorem dqOk_hex4 (n : Nat) (t : List Char) : dqOk (hex4 n ++ t) = dqOk t :=
  dqOk_append_plain _ t (by
    simp only [hex4, List.forall_mem_cons]
    exact ⟨hexDigit_plain _, hexDigit_plain _, hexDigit_plain _, hexDigit_plain _, nofun⟩)

theorem dqOk_hex8 (n : Nat) (t : List Char) : dqOk (hex8 n ++ t) = dqOk t := by
  rw [hex8, List.append_assoc, dqOk_append_plain _ _ (by
    simp only [List.forall_mem_cons]
    exact ⟨hexDigit_plain _, hexDigit_plain _, hexDigit_plain _, hexDigit_plain _, nofun⟩)]
  exact dqOk_hex4 n t

abbrev dqClass : PExpr := alts [lit ['\\', '"'], lit ['\\', '\\'], seqs [.notP (.chr '"'), .any]]

/-- `doublequotedstring` consumes a well-formed body up to the closing quote: one step of the star for
each clause of `dqOk`. -/
theorem dqstring_ok (w r : List Char) (h : dqOk w = true) :
    P (.ref R.doublequotedstring) (w ++ '"' :: r) ('"' :: r) [] := by
  have any (c : Char) (t : List Char) (hc : c ≠ '"') : P (seqs [.notP (.chr '"'), .any]) (c :: t) t [] :=
    Parses.seq (Parses.notP (Fails.chr_ne t hc)) (Parses.any c t)
  have not {c x : Char} (t : List Char) (hx : x ≠ c) : F (lit ['\\', c]) ('\\' :: x :: t) :=
    lit_fails_second '\\' c x [] t hx.symm
  refine Parses.ref (i := R.doublequotedstring) ?_
  show P (.star dqClass) _ _ _
  induction w using dqOk.induct with
  | case1 =>
    exact Parses.star_nil (Fails.alt (Fails.seq_left (Fails.chr_ne r (by decide)))
      (Fails.alt (Fails.seq_left (Fails.chr_ne r (by decide)))
        (Fails.seq_left (Fails.notP (Parses.chr '"' r)))))
  | case2 t => cases h
  | case3 t ih => exact Parses.star_cons (Parses.alt_left (Parses.lit ['\\', '"'] _)) (ih h)
  | case4 t ih =>
    exact Parses.star_cons (Parses.alt_right (not _ (by decide)) (Parses.alt_left (Parses.lit ['\\', '\\'] _))) (ih h)
  | case5 => cases h
  | case6 c t hc1 hc2 ih =>
    have c1 : c ≠ '"' := fun e => hc1 (by rw [e])
    have c2 : c ≠ '\\' := fun e => hc2 (by rw [e])
    rw [dqOk_backslash c t, ← dqOk_plain c t c1 c2] at h
    exact Parses.star_cons (Parses.alt_right (not _ c1) (Parses.alt_right (not _ c2) (any '\\' _ (by decide)))) (ih h)
  | case7 c t hq hb1 hb2 hb3 hb4 ih =>
    have cb : c ≠ '\\' := by
      intro e
      cases t with
      | nil => exact hb3 e rfl
      | cons x xs => exact hb4 x xs e rfl
    rw [dqOk_plain c t hq cb] at h
    exact Parses.star_cons (Parses.alt_right (Fails.seq_left (Fails.chr_ne _ cb))
      (Parses.alt_right (Fails.seq_left (Fails.chr_ne _ cb)) (any c _ hq))) (ih h)

theorem item_dq_of_ts_fails (w r : List Char) (h : dqOk w = true)
    (hts : F (.ref R.timestampfmt) ('"' :: (w ++ '"' :: r))) :
    P (.ref R.item) ('"' :: (w ++ '"' :: r)) r [.text ('"' :: (w ++ ['"'])), .act .addQuotedVal] := by
  have hcap : P (.cap (seqs [lit ['"'], .ref R.doublequotedstring, lit ['"']])) (('"' :: (w ++ ['"'])) ++ r) r
      ([] ++ [.text ('"' :: (w ++ ['"']))]) := by
    refine Parses.cap_prefix ?_
    rw [List.cons_append, List.append_assoc]
    exact Parses.seq (Parses.chr '"' _) (Parses.seq (dqstring_ok w r h) (Parses.chr '"' r))
  rw [List.cons_append, List.append_assoc] at hcap
  exact item_of_quoted (Or.inl rfl) hts (Parses.alt_left (Parses.seq hcap (Parses.act .addQuotedVal r)))

/-- The closing quote ends a possible timestamp prefix: what follows it does not matter. -/
theorem tsPrefix5_quote (w s : List Char) : tsPrefix5 (w ++ '"' :: s) = tsPrefix5 (w ++ ['"']) := by
  match w with
  | [] => simp [tsPrefix5, isDigit]
  | [a] => simp [tsPrefix5, isDigit]
  | [a, b] => simp [tsPrefix5, isDigit]
  | [a, b, c] => simp [tsPrefix5, isDigit]
  | [a, b, c, d] => simp [tsPrefix5]
  | a :: b :: c :: d :: e :: rest => simp [tsPrefix5]

theorem item_dq_ok (w r : List Char) (d : Char) (h : dqOk w = true)
    (hts0 : tsPrefix5 (w ++ ['"']) = false) (_hd : Delim d) :
    P (.ref R.item) ('"' :: (w ++ '"' :: d :: r)) (d :: r)
      [.text ('"' :: (w ++ ['"'])), .act .addQuotedVal] := by
  refine item_dq_of_ts_fails w (d :: r) h (Fails.ref ?_)
  exact Fails.alt (Fails.seq_right (Parses.chr '"' _)
      (Fails.seq_left (Fails.cap (tsbasic_fails ((tsPrefix5_quote w (d :: r)).trans hts0)))))
    (Fails.alt (Fails.seq_left (Fails.chr_ne _ (by decide))) (Fails.cap (tsbasic_fails rfl)))

theorem value_of_item {s s' : List Char} {evs : List Ev} (h : P (.ref R.item) s s' evs) :
    P (.ref R.value) s s' evs :=
  Parses.ref (Parses.alt_left h)

/-- `field = value`: the first alternative of `arg`. -/
theorem arg_eq_ok {key vs rest : List Char} {evs : List Ev} (hk : KeyName key) (hv : NoWs vs)
    (h : P (.ref R.value) vs rest evs) :
    P (.ref R.arg) (key ++ '=' :: vs) rest ([.text key, .act (.addField .text)] ++ evs) :=
  Parses.ref (Parses.alt_left (Parses.seq (key_ok hk (.of_head (by decide))) (Parses.seq (sp_nil (.of_head (by decide)))
    (Parses.seq (Parses.chr '=' vs) (Parses.seq (sp_nil hv) h)))))

theorem append_eq_split (kw t w : List Char) (x : Char) (rest : List Char) (hx : x ∉ kw)
    (h : kw ++ t = w ++ x :: rest) : ∃ u, w = kw ++ u ∧ t = u ++ x :: rest := by
  induction kw generalizing w with
  | nil => exact ⟨w, rfl, by simpa using h⟩
  | cons k ks ih =>
    cases w with
    | nil =>
      simp only [List.cons_append, List.nil_append, List.cons.injEq] at h
      exact absurd (by simp [h.1]) hx
    | cons c cs =>
      simp only [List.cons_append, List.cons.injEq] at h
      obtain ⟨u, hu1, hu2⟩ := ih cs (fun m => hx (by simp [m])) h.2
      exact ⟨u, by rw [h.1, hu1]; rfl, hu2⟩

theorem special_fails (kw : List Char) (a : Act) (more : PExpr) (s : List Char) (hkw : kw ≠ [])
    (h : ∀ t, s = kw ++ t → NotHead (· = '(') t) :
    F (.seq (lit kw) (.seq (.act a) (.seq (.ref R.open') more))) s := by
  by_cases hp : kw <+: s
  · obtain ⟨t, rfl⟩ := hp
    exact Fails.seq_right (Parses.lit kw t)
      (Fails.seq_right (Parses.act a t) (Fails.seq_left (open_fails (h t rfl))))
  · exact Fails.seq_left (Fails.lit kw s hkw hp)

/-- The keywords of the special call forms of the grammar. -/
def specialKws : List (List Char) :=
  [cl!"Set", cl!"SetRowAttrs", cl!"SetColumnAttrs", cl!"Clear", cl!"ClearRow", cl!"Store", cl!"TopN", cl!"Rows", cl!"Range"]

theorem specialKws_alpha : ∀ kw ∈ specialKws, kw ≠ [] ∧ ∀ c ∈ kw, isAlpha c = true := by decide

/-- The alternatives of `Call` are the special forms, one for each of `specialKws` in this order, and the
generic form. -/
theorem call_fails (s : List Char)
    (hsp : ∀ kw ∈ specialKws, ∀ t, s = kw ++ t → NotHead (· = '(') t)
    (hgen : F (.ref R.IDENT) s ∨ ∃ r1, P (.ref R.IDENT) s r1 [] ∧ NotHead (· = '(') r1) :
    F (.ref R.Call) s := by
  have hs : ∀ kw ∈ specialKws, ∀ a more, F (.seq (lit kw) (.seq (.act a) (.seq (.ref R.open') more))) s :=
    fun kw hm a more => special_fails kw a more s (specialKws_alpha kw hm).1 (hsp kw hm)
  have hg : ∀ more, F (.seq (.cap (.ref R.IDENT)) (.seq (.act (.startCall .text)) (.seq (.ref R.open') more))) s := by
    intro more
    rcases hgen with hf | ⟨r1, hp, hr1⟩
    · exact Fails.seq_left (Fails.cap hf)
    · exact Fails.seq_right (Parses.cap hp) (Fails.seq_right (Parses.act _ _) (Fails.seq_left (open_fails hr1)))
  simp only [specialKws, List.forall_mem_cons] at hs
  obtain ⟨h1, h2, h3, h4, h5, h6, h7, h8, h9, -⟩ := hs
  exact Fails.ref (Fails.alt (h1 _ _) (Fails.alt (h2 _ _) (Fails.alt (h3 _ _) (Fails.alt (h4 _ _)
    (Fails.alt (h5 _ _) (Fails.alt (h6 _ _) (Fails.alt (h7 _ _) (Fails.alt (h8 _ _)
    (Fails.alt (h9 _ _) (hg _))))))))))

theorem noWs_append {a b : List Char} (ha : NoWs a) (hne : a ≠ []) : NoWs (a ++ b) := by
  cases a with
  | nil => exact absurd rfl hne
  | cons x xs => exact ha

theorem joinWith_cons (sep x : List Char) (xs : List (List Char)) :
    joinWith sep (x :: xs) = x ++ xs.flatMap (sep ++ ·) := by
  induction xs generalizing x with
  | nil => simp [joinWith]
  | cons y ys ih => simp [joinWith, ih]

theorem args_ok {α : Type} (text : α → List Char) (evs : α → List Ev) (as : List α) (hne : as ≠ [])
    (hok : ∀ a ∈ as, NoWs (text a) ∧ text a ≠ [] ∧
      ∀ d r, (d = ',' ∨ d = ')') → P (.ref R.arg) (text a ++ d :: r) (d :: r) (evs a)) (r : List Char) :
    P (.ref R.args) (joinWith [',', ' '] (as.map text) ++ ')' :: r) (')' :: r) (as.flatMap evs) := by
  induction as with
  | nil => exact absurd rfl hne
  | cons a rest ih =>
    obtain ⟨-, -, hp⟩ := hok a (by simp)
    cases rest with
    | nil =>
      have h := Parses.ref (i := R.args) (Parses.seq (hp ')' r (Or.inr rfl)) (Parses.seq
        (Parses.opt_none (Fails.seq_left (comma_fails (r := ')' :: r) (.of_head (by decide)) (.of_head (by decide))))) (sp_nil (.of_head (by decide)))))
      simpa [joinWith] using h
    | cons b rest' =>
      obtain ⟨hwsb, hbne, -⟩ := hok b (by simp)
      have hnw : NoWs (joinWith [',', ' '] ((b :: rest').map text) ++ ')' :: r) := by
        rw [List.map_cons, joinWith_cons, List.append_assoc]; exact noWs_append hwsb hbne
      have h := Parses.ref (i := R.args) (Parses.seq (hp ',' _ (Or.inl rfl)) (Parses.seq
        (Parses.opt_some (Parses.seq (comma_sp hnw) (ih (by simp) (fun x hx => hok x (by simp [hx])))))
        (sp_nil (r := ')' :: r) (.of_head (by decide)))))
      simpa [joinWith, List.append_assoc] using h

theorem alpha_of_mem_kw {kw : List Char} (hm : kw ∈ specialKws) {c : Char} (hc : c ∈ kw) : isAlpha c = true :=
  (specialKws_alpha kw hm).2 c hc

theorem kw_no_open {kw : List Char} (hm : kw ∈ specialKws) (w : List Char) (x : Char) (rest : List Char)
    (hw : ∀ y ∈ w, y ≠ '(') (hx : isAlpha x = false) (hlast : w = kw → x ≠ '(') (t : List Char)
    (e : w ++ x :: rest = kw ++ t) : NotHead (· = '(') t := by
  have hxkw : x ∉ kw := fun hmem => by
    have := alpha_of_mem_kw hm hmem; rw [hx] at this; exact absurd this (by simp)
  obtain ⟨u, hu1, hu2⟩ := append_eq_split kw t w x rest hxkw e.symm
  subst hu2
  cases u with
  | nil => simpa [NotHead] using hlast (by simpa using hu1)
  | cons y ys => simpa [NotHead] using hw y (by rw [hu1]; simp)

theorem call_fails_field (key rest : List Char) (x : Char) (hk : FieldName key)
    (hx1 : isAlnum x = false) (hx2 : x ≠ '(') : F (.ref R.Call) (key ++ x :: rest) := by
  obtain ⟨c, cs, rfl, hc, hcs⟩ := hk
  have hxa : isAlpha x = false := by
    simp only [isAlnum, Bool.or_eq_false_iff] at hx1; exact hx1.1
  have hall : ∀ y ∈ c :: cs, y ≠ '(' := List.forall_mem_cons.2
    ⟨ne_of_class hc (by decide), fun y hy => ne_of_class (hcs y hy) (by decide)⟩
  exact call_fails _ (fun kw hm => kw_no_open hm _ x rest hall hxa (fun _ => hx2))
    (Or.inr (ident_then_no_open c cs x rest hc (List.forall_mem_cons.1 hall).2 hx1 hx2))

theorem call_fails_head (c : Char) (u : List Char) (ha : isAlpha c = false) : F (.ref R.Call) (c :: u) :=
  call_fails _ (fun kw hm => kw_no_open hm [] c u (List.forall_mem_nil _) ha
    (fun e => absurd e.symm (specialKws_alpha kw hm).1)) (Or.inl (ident_fails ha))

theorem call_fails_nil : F (.ref R.Call) [] :=
  call_fails [] (fun kw hm t e => by
    have := (specialKws_alpha kw hm).1
    cases kw with
    | nil => exact absurd rfl this
    | cons a as => cases e) (Or.inl (ident_fails trivial))

theorem call_fails_key (key rest : List Char) (x : Char) (hk : KeyName key)
    (hx1 : isAlnum x = false) (hx2 : x ≠ '(') : F (.ref R.Call) (key ++ x :: rest) := by
  rcases hk with hk | hk
  · exact call_fails_field key rest x hk hx1 hx2
  · obtain ⟨t, rfl⟩ := reserved_head hk
    exact call_fails_head '_' _ (by decide)

theorem allargs_of_args {s s' : List Char} {evs : List Ev} (hc : F (.ref R.Call) s)
    (h : P (.ref R.args) s s' evs) : P (.ref R.allargs) s s' evs :=
  Parses.ref (Parses.alt_right (Fails.seq_left hc) (Parses.alt_left h))

theorem identName_alnum {name : List Char} (h : IdentName name) : ∀ y ∈ name, isAlnum y = true := by
  obtain ⟨c, cs, rfl, hc, hcs⟩ := h
  intro y hy
  simp only [List.mem_cons] at hy
  rcases hy with rfl | hy
  · simp [isAlnum, hc]
  · exact hcs y hy

theorem value_fails_eq (t : List Char) : F (.ref R.value) ('=' :: t) :=
  Fails.ref (Fails.alt (item_fails_punct '=' t (by decide))
    (Fails.seq_left (Fails.ref (i := R.lbrack) (Fails.seq_left (Fails.chr_ne _ (by decide))))))

/-- The operators `Condition.String` prints. -/
def cmpOps : List Op := [.EQ, .NEQ, .LT, .LTE, .GT, .GTE, .BETWEEN]

/-- `COND` on a printed operator followed by a space: the alternatives before the operator's own differ
from the text in the first or second character. -/
theorem cond_ok (op : Op) (hop : op ∈ cmpOps) (r : List Char) :
    P (.ref R.COND) (opText op ++ ' ' :: r) (' ' :: r) [.act (.setCond op)] := by
  have two (a b : Char) (o : Op) (s : List Char) :
      P (seqs [lit [a, b], .act (.setCond o)]) (a :: b :: s) s [.act (.setCond o)] :=
    Parses.seq (Parses.lit [a, b] s) (Parses.act (.setCond o) s)
  have one (a : Char) (o : Op) (s : List Char) : P (seqs [lit [a], .act (.setCond o)]) (a :: s) s [.act (.setCond o)] :=
    Parses.seq (Parses.chr a s) (Parses.act (.setCond o) s)
  have f1 {a b x : Char} {o : Op} (s : List Char) (h : a ≠ x) : F (seqs [lit [a, b], .act (.setCond o)]) (x :: s) :=
    Fails.seq_left (lit_fails_head _ x s ⟨a, _, rfl, h⟩)
  have f2 {a b y : Char} {o : Op} (s : List Char) (h : b ≠ y) :
      F (seqs [lit [a, b], .act (.setCond o)]) (a :: y :: s) :=
    Fails.seq_left (lit_fails_second a b y [] s h)
  have g1 {a x : Char} {o : Op} (s : List Char) (h : a ≠ x) : F (seqs [lit [a], .act (.setCond o)]) (x :: s) :=
    Fails.seq_left (Fails.chr_ne s h.symm)
  simp only [cmpOps, List.mem_cons, List.not_mem_nil, or_false] at hop
  refine Parses.ref ?_
  rcases hop with rfl | rfl | rfl | rfl | rfl | rfl | rfl
  · -- ==
    exact Parses.alt_right (f1 _ (by decide)) (Parses.alt_right (f1 _ (by decide))
      (Parses.alt_right (f1 _ (by decide)) (Parses.alt_left (two _ _ _ _))))
  · -- !=
    exact Parses.alt_right (f1 _ (by decide)) (Parses.alt_right (f1 _ (by decide))
      (Parses.alt_right (f1 _ (by decide)) (Parses.alt_right (f1 _ (by decide))
        (Parses.alt_left (two _ _ _ _)))))
  · -- <
    exact Parses.alt_right (f1 _ (by decide)) (Parses.alt_right (f2 _ (by decide))
      (Parses.alt_right (f1 _ (by decide)) (Parses.alt_right (f1 _ (by decide))
        (Parses.alt_right (f1 _ (by decide)) (Parses.alt_left (one _ _ _))))))
  · -- <=
    exact Parses.alt_right (f1 _ (by decide)) (Parses.alt_left (two _ _ _ _))
  · -- >
    exact Parses.alt_right (f2 _ (by decide)) (Parses.alt_right (f1 _ (by decide))
      (Parses.alt_right (f2 _ (by decide)) (Parses.alt_right (f1 _ (by decide))
        (Parses.alt_right (f1 _ (by decide)) (Parses.alt_right (g1 _ (by decide)) (one _ _ _))))))
  · -- >=
    exact Parses.alt_right (f2 _ (by decide)) (Parses.alt_right (f1 _ (by decide))
      (Parses.alt_left (two _ _ _ _)))
  · -- ><
    exact Parses.alt_left (two _ _ _ _)

theorem opText_head (op : Op) (hop : op ∈ cmpOps) :
    ∃ c t, opText op = c :: t ∧ isWs c = false ∧ (c = '=' → op = .EQ) := by
  simp only [cmpOps, List.mem_cons, List.not_mem_nil, or_false] at hop
  rcases hop with rfl | rfl | rfl | rfl | rfl | rfl | rfl <;> exact ⟨_, _, rfl, by decide, by decide⟩

/-- After a key and a space, `'=' sp v` fails on a printed operator when `v` reads no text that begins with
`=`: the operator does not begin with `=`, or it is `==`. -/
theorem eq_value_fails (op : Op) (hop : op ∈ cmpOps) (tl : List Char) (v : PExpr) (hv : ∀ t, F v ('=' :: t)) :
    NoWs (opText op ++ ' ' :: tl) ∧ F (.seq (.chr '=') (.seq (.ref R.sp) v)) (opText op ++ ' ' :: tl) := by
  obtain ⟨c, t, hct, hcws, hceq⟩ := opText_head op hop
  refine ⟨by rw [hct]; exact hcws, ?_⟩
  by_cases he : c = '='
  · cases hceq he
    exact Fails.seq_right (Parses.chr '=' _) (Fails.seq_right (sp_nil (.of_head (by decide))) (hv _))
  · rw [hct]; exact Fails.seq_left (Fails.chr_ne _ he)

/-- `field op value`: the second alternative of `arg` (the first one fails). -/
theorem arg_cond_ok {key vs rest : List Char} {evs : List Ev} (op : Op) (hop : op ∈ cmpOps)
    (hk : KeyName key) (hv : NoWs vs) (h : P (.ref R.value) vs rest evs) :
    P (.ref R.arg) (key ++ ' ' :: (opText op ++ ' ' :: vs)) rest
      ([.text key, .act (.addField .text), .act (.setCond op)] ++ evs) := by
  obtain ⟨hnw, hno⟩ := eq_value_fails op hop vs _ value_fails_eq
  have h1 := key_ok (r := ' ' :: (opText op ++ ' ' :: vs)) hk (.of_head (by decide))
  have h2 := Parses.seq h1 (Parses.seq (sp_one hnw) (Parses.seq (cond_ok op hop vs) (Parses.seq (sp_one hv) h)))
  exact Parses.ref (Parses.alt_right (Fails.seq_right h1 (Fails.seq_right (sp_one hnw) hno)) (Parses.alt_left h2))

theorem intDigits_no_dot (i : Int) : '.' ∉ intDigits i := by
  have hd := (natDigits_spec i.natAbs).2.2
  have hdot : '.' ∉ natDigits i.natAbs := fun hm => by
    have := hd _ hm; simp [isDigit] at this
  simp only [intDigits]
  split
  · simp only [List.mem_cons, not_or]; exact ⟨by decide, hdot⟩
  · exact hdot

theorem numVal_intDigits (i : Int) (h1 : minInt64 ≤ i) (h2 : i ≤ maxInt64) :
    numVal (intDigits i) = .ok (.int i) := by
  simp [numVal, intDigits_no_dot i, parseInt64_intDigits i h1 h2]

theorem intDigits_shape (i : Int) :
    intDigits i = signText (decide (i < 0)) ++ natDigits i.natAbs := by
  simp only [intDigits, signText]
  split <;> simp_all

/-- A printed list element: an int64 (the elements of id lists and of BETWEEN ranges). -/
def intItemText (i : Int) : List Char := intDigits i

theorem intDigits_head (i : Int) (s : List Char) :
    ∃ c t, intDigits i ++ s = c :: t ∧ (c = '-' ∨ isDigit c = true) := by
  obtain ⟨_, hne, hall⟩ := natDigits_spec i.natAbs
  rw [intDigits_shape]
  exact num_text_head _ _ s hne hall

theorem intDigits_noWs (i : Int) (s : List Char) : NoWs (intDigits i ++ s) := by
  obtain ⟨c, t, hx, hc⟩ := intDigits_head i s
  rw [hx]
  rcases hc with rfl | hd
  · exact .of_head (by decide)
  · exact notWs_of_class hd (by decide)

theorem item_intDigits (i : Int) (d : Char) (r : List Char) (hd : Delim d) :
    P (.ref R.item) (intDigits i ++ d :: r) (d :: r) [.text (intDigits i), .act .addNumVal] := by
  obtain ⟨_, hne, hall⟩ := natDigits_spec i.natAbs
  have h := item_int_ok (decide (i < 0)) (natDigits i.natAbs) r d hne hall hd
  rw [← intDigits_shape] at h
  exact h

/-- `lookup` compares the stored key with the sought one; the lemmas below put the sought key first. -/
theorem lookup_cons (k k0 : Key) (v0 : Val) (m : List (Key × Val)) :
    lookup k ((k0, v0) :: m) = if k = k0 then some v0 else lookup k m := by
  by_cases h : k0 = k
  · rw [lookup, if_pos h, if_pos h.symm]
  · rw [lookup, if_neg h, if_neg (fun e => h e.symm)]

theorem lookup_insert (k k' : Key) (v : Val) (m : List (Key × Val)) :
    lookup k' (insert k v m) = if k' = k then some v else lookup k' m := by
  induction m with
  | nil => exact lookup_cons k' k v []
  | cons p rest ih =>
    obtain ⟨k0, v0⟩ := p
    rw [insert]
    by_cases h0 : k0 = k
    · subst h0
      rw [if_pos rfl, lookup_cons, lookup_cons]
      split <;> rfl
    · rw [if_neg h0]
      by_cases hl : ltKey k k0 = true
      · rw [if_pos hl]; exact lookup_cons k' k v _
      · rw [if_neg hl, lookup_cons, lookup_cons, ih]
        by_cases a : k' = k0
        · rw [if_pos a, if_neg (fun b => h0 (a.symm.trans b)), if_pos a]
        · rw [if_neg a, if_neg a]

theorem lookup_insert_self (k : Key) (v : Val) (m : List (Key × Val)) : lookup k (insert k v m) = some v := by
  rw [lookup_insert]; simp

theorem insert_insert (k : Key) (v1 v2 : Val) (m : List (Key × Val)) :
    insert k v2 (insert k v1 m) = insert k v2 m := by
  induction m with
  | nil => simp [insert]
  | cons p rest ih =>
    obtain ⟨k0, v0⟩ := p
    simp only [insert]
    by_cases h0 : k0 = k
    · simp [h0, insert]
    · simp only [h0, if_false]
      by_cases hl : ltKey k k0 = true
      · simp [hl, insert]
      · simp only [hl, Bool.false_eq_true, if_false, insert, h0, ih]

/-- The stack element while the arguments of a call are being added. -/
def ArgState (e : Elem) : Prop := e.lastField = [] ∧ e.inList = false ∧ e.lastCond = .ILLEGAL

theorem runs_field (k : Key) {q : QState} {e : Elem} {rest : List Elem} (hq : q.stack = e :: rest)
    (he : e.lastField = []) :
    Runs [.text k, .act (.addField .text)] q { q with stack := { e with lastField := k } :: rest } := by
  refine .cons_text (.act k ?_)
  simp only [stepAct, sargText, addField, hq, he]
  simp

/-- The value under construction while a list is read: a plain list, or a condition on a list. -/
def wrapList (op : Op) (vs : List Val) : Val :=
  if op = .ILLEGAL then .list vs else .cond op (.list vs)

/-- `Call.String` prints every call as `Name(children, key=value, ..)`.  For these names the dedicated alternative
of `Call` starts with a positional `col` / `posfield` and fails on such a text, so the generic alternative reads it.
(`Range`: when the body begins with a condition or a child; `ClearRow`, `Store`: read through their own alternatives.) -/
def wideKws : List (List Char) :=
  [['S', 'e', 't'], ['S', 'e', 't', 'R', 'o', 'w', 'A', 't', 't', 'r', 's'],
   ['S', 'e', 't', 'C', 'o', 'l', 'u', 'm', 'n', 'A', 't', 't', 'r', 's'], ['C', 'l', 'e', 'a', 'r'],
   ['T', 'o', 'p', 'N'], ['R', 'o', 'w', 's']]

/-- `ClearRow`, `Store`: their dedicated alternative can match a printed call. -/
def hardKws : List (List Char) :=
  [['C', 'l', 'e', 'a', 'r', 'R', 'o', 'w'], ['S', 't', 'o', 'r', 'e']]

def rangeKw : List Char := ['R', 'a', 'n', 'g', 'e']

/-- The call names that the generic alternative of `Call` reads back. -/
def NameOk (name : List Char) : Prop := name ∉ hardKws

instance (name : List Char) : Decidable (NameOk name) := by unfold NameOk; infer_instance

theorem specialKws_split : ∀ kw ∈ specialKws, kw ∈ hardKws ∨ kw ∈ wideKws ∨ kw = rangeKw := by decide

theorem nameOk_cases {name : List Char} (h : NameOk name) :
    name ∉ specialKws ∨ name ∈ wideKws ∨ name = rangeKw := by
  by_cases hs : name ∈ specialKws
  · exact Or.inr ((specialKws_split name hs).resolve_left h)
  · exact Or.inl hs

/-- The call does not use the name `Range` with a first argument `key=value` and no child. -/
def RangeArgs (name : List Char) (args : List (Key × Val)) (children : List Call) : Prop :=
  name = rangeKw → children ≠ [] ∨ ∃ k op v rest, args = (k, .cond op v) :: rest

/-- The printed body begins with a child call or with a condition `key op ..`. -/
def RangeBody (body : List Char) : Prop :=
  ∃ k x rest, body = k ++ x :: rest ∧ KeyName k ∧
    (x = '(' ∨ (x = ' ' ∧ ∃ op, op ∈ cmpOps ∧ ∃ tl, rest = opText op ++ ' ' :: tl))

/-- The printed body begins with a key followed by something that is no comma (`=`, ` op`, `(`). -/
def FirstKey (body : List Char) : Prop :=
  ∃ k x rest, body = k ++ x :: rest ∧ KeyName k ∧ isFieldCh x = false ∧ x ≠ ')' ∧ F (.ref R.comma) (x :: rest)

def SpecialFree (name body : List Char) : Prop :=
  name ∉ specialKws ∨ (name ∈ wideKws ∧ FirstKey body) ∨ (name = rangeKw ∧ RangeBody body)

/-- `col` fails on a key: a letter or `_` is neither a digit nor a quote. -/
theorem col_fails_key {k : List Char} (hk : KeyName k) (s : List Char) : F (.ref R.col) (k ++ s) := by
  obtain ⟨c, cs, rfl, hc⟩ := hk.head
  have h : ¬ ('1' ≤ c ∧ c ≤ '9') ∧ c ≠ '0' ∧ c ≠ '\'' ∧ c ≠ '"' := by
    rcases hc with hc | rfl
    · simp only [isAlpha, isLower, isUpper, Bool.or_eq_true, Bool.and_eq_true, decide_eq_true_eq] at hc
      refine ⟨fun h => ?_, ?_, ?_, ?_⟩
      · rcases hc with ⟨h1, _⟩ | ⟨h1, _⟩ <;> exact absurd (Char.le_trans h1 h.2) (by decide)
      all_goals (rintro rfl; revert hc; decide)
    · decide
  exact Fails.ref (Fails.alt (Fails.seq_left (Fails.cap (Fails.ref (i := R.uint)
      (Fails.alt (Fails.seq_left (Fails.rng_ne _ h.1)) (Fails.chr_ne _ h.2.1)))))
    (Fails.alt (Fails.seq_left (Fails.chr_ne _ h.2.2.1)) (Fails.seq_left (Fails.chr_ne _ h.2.2.2))))

theorem posfield_fails_us (t : List Char) : F (.ref R.posfield) ('_' :: t) :=
  Fails.ref (Fails.seq_left (Fails.cap (fieldExpr_fails_head '_' t (by decide))))

theorem posfield_ok {w r : List Char} (hw : FieldName w) (hr : NotHead isFieldCh r) :
    P (.ref R.posfield) (w ++ r) r [.text w, .act (.addPosStr ['_', 'f', 'i', 'e', 'l', 'd'])] :=
  Parses.ref (Parses.seq (Parses.cap_prefix (fieldExpr_ok hw hr)) (Parses.act _ r))

/-- `posfield more` on a body that begins with a key: `posfield` fails (reserved key), or reads the key
and `more` fails on what follows it. -/
theorem posfield_then_fails {body : List Char} (h : FirstKey body) (more : PExpr)
    (hmore : ∀ x rest, x ≠ ')' → F (.ref R.comma) (x :: rest) → F more (x :: rest)) :
    F (.seq (.ref R.posfield) more) body := by
  obtain ⟨k, x, rest, rfl, hk, hx, hxc, hcm⟩ := h
  rcases hk with hk | hk
  · exact Fails.seq_right (posfield_ok hk hx) (hmore x rest hxc hcm)
  · obtain ⟨t, rfl⟩ := reserved_head hk; exact Fails.seq_left (posfield_fails_us _)

/-- One special-form alternative on `name(body`: it fails when the keyword is another name, and when
it is this name and what follows `(` fails on the body. -/
theorem special_alt_fails (kw : List Char) (a : Act) (more : PExpr) (name body : List Char)
    (hn : IdentName name) (hkw : kw ∈ specialKws) (hws : NoWs body) (hmore : name = kw → F more body) :
    F (.seq (lit kw) (.seq (.act a) (.seq (.ref R.open') more))) (name ++ '(' :: body) := by
  by_cases e : name = kw
  · subst e
    exact Fails.seq_right (Parses.lit name _) (Fails.seq_right (Parses.act a _)
      (Fails.seq_right (open_ok hws) (hmore rfl)))
  · exact special_fails kw a more _ (specialKws_alpha kw hkw).1 (kw_no_open hkw name '(' body
      (fun y hy => ne_of_class (identName_alnum hn y hy) (by decide)) (by decide) (fun e' => absurd e' e))

/-- What follows `(` in the `Range` alternative (`field sp '=' sp value ..`) fails on a body that begins
with a child call or with a condition. -/
theorem range_more_fails (body : List Char) (h : RangeBody body) (more : PExpr) :
    F (.seq (.ref R.field) (.seq (.ref R.sp) (.seq (.chr '=') (.seq (.ref R.sp) (.seq (.ref R.value) more))))) body := by
  obtain ⟨k, x, rest, rfl, hk, hx⟩ := h
  rcases hx with rfl | ⟨rfl, op, hop, tl, rfl⟩
  · exact Fails.seq_right (key_ok hk (.of_head (by decide)))
      (Fails.seq_right (sp_nil (.of_head (by decide))) (Fails.seq_left (Fails.chr_ne _ (by decide))))
  · obtain ⟨hnw, hno⟩ := eq_value_fails op hop tl _ (fun t => Fails.seq_left (b := more) (value_fails_eq t))
    exact Fails.seq_right (key_ok hk (.of_head (by decide))) (Fails.seq_right (sp_one hnw) hno)

/-- The generic alternative of `Call` on `Name(args)`.  The dedicated alternatives fail (`SpecialFree`):
another keyword; a wide keyword, whose `col` / `posfield ,` / `posfield )` does not read a body that begins
with a key; `Range`, whose `field = value` does not read a child call or a condition. -/
theorem call_generic_ok (name atext r : List Char) (evs : List Ev) (hn : IdentName name)
    (hsp : SpecialFree name (atext ++ ')' :: r)) (hws : NoWs (atext ++ ')' :: r)) (hr : NoWs r)
    (ha : P (.ref R.allargs) (atext ++ ')' :: r) (')' :: r) evs) :
    P (.ref R.Call) (name ++ '(' :: (atext ++ ')' :: r)) r
      ([.text name, .act (.startCall .text)] ++ evs ++ [.act .endCall]) := by
  have hcase : ∀ kw ∈ specialKws, name = kw →
      (kw ∈ wideKws ∧ FirstKey (atext ++ ')' :: r)) ∨ (kw = rangeKw ∧ RangeBody (atext ++ ')' :: r)) := by
    rintro kw hm rfl
    exact hsp.resolve_left (not_not_intro hm)
  -- what the part of a special form after `(` has to do on the body, by the kind of its keyword
  have hs : ∀ kw ∈ specialKws, ∀ a more,
      (kw ∈ wideKws → FirstKey (atext ++ ')' :: r) → F more (atext ++ ')' :: r)) →
      (kw = rangeKw → RangeBody (atext ++ ')' :: r) → F more (atext ++ ')' :: r)) →
      F (.seq (lit kw) (.seq (.act a) (.seq (.ref R.open') more))) (name ++ '(' :: (atext ++ ')' :: r)) :=
    fun kw hm a more h1 h2 => special_alt_fails kw a more name _ hn hm hws fun e =>
      (hcase kw hm e).elim (fun h => h1 h.1 h.2) (fun h => h2 h.1 h.2)
  have col (more : PExpr) (h : FirstKey (atext ++ ')' :: r)) : F (.seq (.ref R.col) more) (atext ++ ')' :: r) := by
    obtain ⟨k, x, rest, hb, hk, -⟩ := h
    rw [hb]; exact Fails.seq_left (col_fails_key hk _)
  have pos1 (more : PExpr) (h : FirstKey (atext ++ ')' :: r)) :
      F (.seq (.ref R.posfield) (.seq (.ref R.comma) more)) (atext ++ ')' :: r) :=
    posfield_then_fails h _ fun _ _ _ hcm => Fails.seq_left hcm
  have pos2 (more : PExpr) (h : FirstKey (atext ++ ')' :: r)) :
      F (.seq (.ref R.posfield) (.seq (.opt (.seq (.ref R.comma) (.ref R.allargs))) (.seq (.ref R.close) more)))
        (atext ++ ')' :: r) :=
    posfield_then_fails h _ fun _ _ hxc hcm =>
      Fails.seq_right (Parses.opt_none (Fails.seq_left hcm)) (Fails.seq_left (close_fails (by simpa [NotHead] using hxc)))
  have hgen := Parses.seq (Parses.cap_prefix (ident_ok hn (r := '(' :: (atext ++ ')' :: r)) (.of_head (by decide))))
    (Parses.seq (Parses.act (.startCall .text) _) (Parses.seq (open_ok hws) (Parses.seq ha
      (Parses.seq (Parses.opt_none (comma_fails (r := ')' :: r) (.of_head (by decide)) (.of_head (by decide))))
        (Parses.seq (close_ok hr) (Parses.act .endCall r))))))
  simp only [specialKws, List.forall_mem_cons] at hs
  obtain ⟨hSet, hSetRow, hSetCol, hClear, hClearRow, hStore, hTopN, hRows, hRange, -⟩ := hs
  exact Parses.ref (Parses.alt_right (hSet _ _ (fun _ => col _) (fun e => absurd e (by decide)))
    (Parses.alt_right (hSetRow _ _ (fun _ => pos1 _) (fun e => absurd e (by decide)))
    (Parses.alt_right (hSetCol _ _ (fun _ => col _) (fun e => absurd e (by decide)))
    (Parses.alt_right (hClear _ _ (fun _ => col _) (fun e => absurd e (by decide)))
    (Parses.alt_right (hClearRow _ _ (fun m => absurd m (by decide)) (fun e => absurd e (by decide)))
    (Parses.alt_right (hStore _ _ (fun m => absurd m (by decide)) (fun e => absurd e (by decide)))
    (Parses.alt_right (hTopN _ _ (fun _ => pos2 _) (fun e => absurd e (by decide)))
    (Parses.alt_right (hRows _ _ (fun _ => pos2 _) (fun e => absurd e (by decide)))
    (Parses.alt_right (hRange _ _ (fun m => absurd m (by decide)) (fun _ hb => range_more_fails _ hb _))
    hgen)))))))))

theorem calls_single (ctext : List Char) (evs : List Ev) (hws : NoWs ctext)
    (h : P (.ref R.Call) ctext [] evs) : P (.ref R.Calls) ctext [] evs := by
  have hstar : P (.star (seqs [.ref R.Call, .ref R.sp])) ctext [] (evs ++ [] ++ []) :=
    Parses.star_cons (Parses.seq h (sp_nil trivial)) (Parses.star_nil (Fails.seq_left call_fails_nil))
  simpa using Parses.ref (i := R.Calls) (Parses.seq (sp_nil hws) (Parses.seq hstar (Parses.notP Fails.any_nil)))

end PV.C26
