/-
C26 — lemmas of the string layer: the UTF-8 decoder inverts the encoder, a byte string is recovered from
the pieces `strconv.Quote` walks, and what `strconv.Unquote` does on plain characters and on the
numeric escapes.
-/
import PV.C26.Model
namespace PV.C26

theorem toNat_ofNat_valid (n : Nat) (h : n.isValidChar) : (Char.ofNat n).toNat = n := by
  simp [Char.ofNat, h, Char.toNat, Char.ofNatAux]

theorem isCont_iff (b : Nat) : isCont b = true ↔ 0x80 ≤ b ∧ b < 0xC0 := by
  simp [isCont]

/-! ## The encoder on a code point given by its 6-bit groups

The code point is written `((a * 64 + b) * 64 + c) * 64 + d`: `/ 64` and `% 64` peel off one group
(`div64`, `mod64`), and the divisions by 4096 and 262144 of `utf8` are iterated divisions by 64. -/

theorem div64 (x d : Nat) (h : d < 64) : (x * 64 + d) / 64 = x := by omega
theorem mod64 (x d : Nat) (h : d < 64) : (x * 64 + d) % 64 = d := by omega
theorem div4096 (n : Nat) : n / 4096 = n / 64 / 64 := by rw [Nat.div_div_eq_div_mul]
theorem div262144 (n : Nat) : n / 262144 = n / 64 / 64 / 64 := by
  rw [Nat.div_div_eq_div_mul, Nat.div_div_eq_div_mul]

theorem utf8_ofNat1 (a : Nat) (ha : a < 0x80) : utf8 (Char.ofNat a) = [a] := by
  have hv : a.isValidChar := Or.inl (by omega)
  simp only [utf8, toNat_ofNat_valid a hv, ha, if_true]

theorem utf8_ofNat2 (a b : Nat) (ha : 2 ≤ a) (ha' : a < 32) (hb : b < 64) :
    utf8 (Char.ofNat (a * 64 + b)) = [0xC0 + a, 0x80 + b] := by
  have h1 : ¬ a * 64 + b < 0x80 := by omega
  have h2 : a * 64 + b < 0x800 := by omega
  have hv : (a * 64 + b).isValidChar := Or.inl (by omega)
  simp only [utf8, toNat_ofNat_valid _ hv, h1, h2, if_true, if_false, div64, mod64, hb]

/-- `hlo`: no overlong form; `hsur`: no surrogate. -/
theorem utf8_ofNat3 (a b c : Nat) (ha : a < 16) (hb : b < 64) (hc : c < 64)
    (hlo : a = 0 → 32 ≤ b) (hsur : a = 13 → b < 32) :
    utf8 (Char.ofNat ((a * 64 + b) * 64 + c)) = [0xE0 + a, 0x80 + b, 0x80 + c] := by
  have hx : 32 ≤ a * 64 + b := by
    by_cases h : a = 0
    · have := hlo h; omega
    · omega
  have hv : ((a * 64 + b) * 64 + c).isValidChar := by
    by_cases h : a * 64 + b < 0x360
    · exact Or.inl (by omega)
    · by_cases h' : a = 13
      · have := hsur h'; omega
      · exact Or.inr (by omega)
  have h2 : ¬ (a * 64 + b) * 64 + c < 0x800 := by omega
  have h1 : ¬ (a * 64 + b) * 64 + c < 0x80 := fun h => h2 (Nat.lt_trans h (by decide))
  have h3 : (a * 64 + b) * 64 + c < 0x10000 := by omega
  simp only [utf8, toNat_ofNat_valid _ hv, h1, h2, h3, if_true, if_false, div4096, div64, mod64, hb, hc]

/-- `hlo`: no overlong form; `hhi`: at most U+10FFFF. -/
theorem utf8_ofNat4 (a b c d : Nat) (hb : b < 64) (hc : c < 64) (hd : d < 64)
    (hlo : a = 0 → 16 ≤ b) (hhi : a < 4 ∨ a = 4 ∧ b < 16) :
    utf8 (Char.ofNat (((a * 64 + b) * 64 + c) * 64 + d)) = [0xF0 + a, 0x80 + b, 0x80 + c, 0x80 + d] := by
  have hx : 16 ≤ a * 64 + b := by
    by_cases h : a = 0
    · have := hlo h; omega
    · omega
  have hx' : a * 64 + b < 0x110 := by omega
  have hv : (((a * 64 + b) * 64 + c) * 64 + d).isValidChar := Or.inr (by omega)
  have h3 : ¬ ((a * 64 + b) * 64 + c) * 64 + d < 0x10000 := by omega
  have h2 : ¬ ((a * 64 + b) * 64 + c) * 64 + d < 0x800 := fun h => h3 (Nat.lt_trans h (by decide))
  have h1 : ¬ ((a * 64 + b) * 64 + c) * 64 + d < 0x80 := fun h => h3 (Nat.lt_trans h (by decide))
  simp only [utf8, toNat_ofNat_valid _ hv, h1, h2, h3, if_false, div262144, div4096, div64, mod64, hb, hc, hd]

/-! ## The decoder inverts the encoder -/

theorem exists_add_of_not_lt {b k : Nat} (h : ¬ b < k) : ∃ a, b = k + a :=
  ⟨b - k, by omega⟩

theorem exists_cont {b : Nat} (h : isCont b = true) : ∃ a, b = 0x80 + a ∧ a < 64 := by
  rw [isCont_iff] at h; exact ⟨b - 0x80, by omega, by omega⟩

/-- The second byte of a three- or four-byte form is bounded by Go's accept ranges, which lie inside the
continuation bytes. -/
theorem isCont_of_accept {p q : Prop} [Decidable p] [Decidable q] {lo hi b : Nat} (hlo : 0x80 ≤ lo) (hhi : hi ≤ 0xBF)
    (h1 : (if p then lo else 0x80) ≤ b) (h2 : b ≤ (if q then hi else 0xBF)) : isCont b = true := by
  rw [isCont_iff]; constructor
  · split at h1 <;> omega
  · split at h2 <;> omega

theorem decodeRune_spec (bs : Bytes) (cp w : Nat) (h : decodeRune bs = some (cp, w)) :
    1 ≤ w ∧ w ≤ bs.length ∧ utf8 (Char.ofNat cp) = bs.take w := by
  cases bs with
  | nil => cases h
  | cons b0 rest =>
    unfold decodeRune at h
    by_cases c1 : b0 < 0x80
    · simp only [c1, if_true, Option.some.injEq, Prod.mk.injEq] at h
      obtain ⟨rfl, rfl⟩ := h
      exact ⟨Nat.le_refl _, by simp, utf8_ofNat1 b0 c1⟩
    by_cases c2 : b0 < 0xC2
    · simp only [c1, c2, if_true, if_false] at h; cases h
    by_cases c3 : b0 < 0xE0
    · obtain ⟨a, rfl⟩ := exists_add_of_not_lt (k := 0xC0) (by omega : ¬ b0 < 0xC0)
      simp only [c1, c2, c3, if_true, if_false, Nat.add_sub_cancel_left] at h
      match rest, h with
      | [], h => cases h
      | b1 :: r, h =>
        simp only [Option.ite_none_right_eq_some, Option.some.injEq, Prod.mk.injEq] at h
        obtain ⟨k, rfl, rfl⟩ := h
        obtain ⟨b, rfl, hb⟩ := exists_cont k
        simp only [Nat.add_sub_cancel_left]
        exact ⟨by decide, by simp, utf8_ofNat2 a b (by omega) (by omega) hb⟩
    by_cases c4 : b0 < 0xF0
    · obtain ⟨a, rfl⟩ := exists_add_of_not_lt c3
      simp only [c1, c2, c3, c4, if_true, if_false, Nat.add_sub_cancel_left] at h
      match rest, h with
      | [], h => cases h
      | [_], h => cases h
      | b1 :: b2 :: r, h =>
        simp only [Option.ite_none_right_eq_some, Bool.and_eq_true, decide_eq_true_eq, Option.some.injEq,
          Prod.mk.injEq] at h
        obtain ⟨⟨⟨k1, k2⟩, k3⟩, rfl, rfl⟩ := h
        obtain ⟨c, rfl, hc⟩ := exists_cont k3
        obtain ⟨b, rfl, hb⟩ := exists_cont (isCont_of_accept (by decide) (by decide) k1 k2)
        simp only [Nat.add_sub_cancel_left]
        refine ⟨by decide, by simp, ?_⟩
        have e : a * 4096 + b * 64 + c = (a * 64 + b) * 64 + c := by omega
        rw [e]
        refine utf8_ofNat3 a b c (by omega) hb hc (fun h0 => ?_) (fun h13 => ?_)
        · subst h0; simp only [if_true] at k1; omega
        · subst h13; simp only [if_true] at k2; omega
    by_cases c5 : b0 < 0xF5
    · obtain ⟨a, rfl⟩ := exists_add_of_not_lt c4
      simp only [c1, c2, c3, c4, c5, if_true, if_false, Nat.add_sub_cancel_left] at h
      match rest, h with
      | [], h => cases h
      | [_], h => cases h
      | [_, _], h => cases h
      | b1 :: b2 :: b3 :: r, h =>
        simp only [Option.ite_none_right_eq_some, Bool.and_eq_true, decide_eq_true_eq, Option.some.injEq,
          Prod.mk.injEq] at h
        obtain ⟨⟨⟨⟨k1, k2⟩, k3⟩, k4⟩, rfl, rfl⟩ := h
        obtain ⟨c, rfl, hc⟩ := exists_cont k3
        obtain ⟨d, rfl, hd⟩ := exists_cont k4
        obtain ⟨b, rfl, hb⟩ := exists_cont (isCont_of_accept (by decide) (by decide) k1 k2)
        simp only [Nat.add_sub_cancel_left]
        refine ⟨by decide, by simp, ?_⟩
        have e : a * 262144 + b * 4096 + c * 64 + d = ((a * 64 + b) * 64 + c) * 64 + d := by omega
        rw [e]
        refine utf8_ofNat4 a b c d hb hc hd (fun h0 => ?_) ?_
        · subst h0; simp only [if_true] at k1; omega
        · by_cases h4 : a = 4
          · subst h4; simp only [if_true] at k2; omega
          · omega
    · simp only [c1, c2, c3, c4, c5, if_false] at h; cases h

theorem utf8_small (c : Char) (h : c.toNat < 0x80) : utf8 c = [c.toNat] := by
  simp [utf8, h]

/-! ## The byte string is recovered from its pieces -/

def pieceBytes : Piece → Bytes
  | .rune c => utf8 c
  | .bad b => [b]

theorem pieces_bytes (n : Nat) (bs : Bytes) (hn : bs.length ≤ n) :
    (pieces n bs).flatMap pieceBytes = bs := by
  induction n generalizing bs with
  | zero =>
    cases bs with
    | nil => rfl
    | cons b r => simp at hn
  | succ f ih =>
    cases bs with
    | nil => rfl
    | cons b rest =>
      simp only [pieces]
      cases hd : decodeRune (b :: rest) with
      | none =>
        simp only [List.flatMap_cons, pieceBytes]
        rw [ih rest (by simp at hn; omega)]
        rfl
      | some p =>
        obtain ⟨cp, w⟩ := p
        obtain ⟨hw1, hw2, henc⟩ := decodeRune_spec _ _ _ hd
        simp only [List.flatMap_cons, pieceBytes, henc]
        rw [ih (rest.drop (w - 1)) (by simp at hn ⊢; omega)]
        have : (b :: rest).drop w = rest.drop (w - 1) := by
          cases w with
          | zero => omega
          | succ k => simp
        rw [← this, List.take_append_drop]

theorem pieces_bad_lt (n : Nat) (bs : Bytes) (hn : bs.length ≤ n) (wf : ∀ b ∈ bs, b < 256) :
    ∀ p ∈ pieces n bs, ∀ b, p = .bad b → b < 256 := by
  intro p hp b e
  refine wf b ?_
  rw [← pieces_bytes n bs hn]
  exact List.mem_flatMap.2 ⟨p, hp, by rw [e]; exact List.mem_singleton.2 rfl⟩

theorem unhex_hexDigit : ∀ d, d < 16 → unhex (hexDigit d) = some d := by decide

theorem unhex_hexDigit_mod (n : Nat) : unhex (hexDigit (n % 16)) = some (n % 16) :=
  unhex_hexDigit _ (Nat.mod_lt _ (by decide))

theorem hexDigit_ne_quote : ∀ d, d < 16 → hexDigit d ≠ '"' ∧ hexDigit d ≠ '\\' := by decide

theorem hexDigit_plain (n : Nat) : hexDigit (n % 16) ≠ '"' ∧ hexDigit (n % 16) ≠ '\\' :=
  hexDigit_ne_quote _ (Nat.mod_lt _ (by decide))

/-- One step of putting a number together from its hexadecimal digits, most significant first. -/
theorem hex_horner (n d e : Nat) (he : e = d * 16) : n / e * 16 + n / d % 16 = n / d := by
  rw [he, ← Nat.div_div_eq_div_mul, Nat.div_add_mod']

/-! ## What `unquoteBody` does on a plain character and on the numeric escapes -/

theorem unquoteBody_plain (c : Char) (tail : List Char) (h1 : c ≠ '"') (h2 : c ≠ '\n') (h3 : c ≠ '\\') :
    unquoteBody (c :: tail) = (utf8 c ++ ·) <$> unquoteBody tail := by
  rw [unquoteBody]
  · exact h1
  · exact h2
  · exact h3

/-- An escape that begins with an octal digit is none of the letter escapes. -/
theorem unquoteBody_oct (o1 o2 o3 : Char) (a b c : Nat) (tail : List Char)
    (h1 : unoct o1 = some a) (h2 : unoct o2 = some b) (h3 : unoct o3 = some c) (hv : (a * 8 + b) * 8 + c ≤ 255) :
    unquoteBody ('\\' :: o1 :: o2 :: o3 :: tail) = (((a * 8 + b) * 8 + c) :: ·) <$> unquoteBody tail := by
  have ho : '0' ≤ o1 ∧ o1 ≤ '7' := by
    unfold unoct at h1; split at h1
    · assumption
    · cases h1
  rw [unquoteBody]
  · simp only [h1, h2, h3, hv, if_true]
  all_goals (intros; subst o1; exact absurd ho (by decide))

theorem validRune_of_char (c : Char) : validRune c.toNat = true := by
  have : c.toNat < 0xD800 ∨ (0xDFFF < c.toNat ∧ c.toNat < 0x110000) := c.valid
  simp only [validRune, Bool.or_eq_true, Bool.and_eq_true, decide_eq_true_eq]
  omega

theorem validRune_lt {n : Nat} (h : validRune n = true) : n < 0x110000 := by
  simp only [validRune, Bool.or_eq_true, Bool.and_eq_true, decide_eq_true_eq] at h; omega

theorem unquoteBody_hex2 (n : Nat) (h : n < 256) (tail : List Char) :
    unquoteBody ('\\' :: 'x' :: (hex2 n ++ tail)) = (n :: ·) <$> unquoteBody tail := by
  simp only [hex2, List.cons_append, List.nil_append]
  rw [unquoteBody]
  simp only [unhex_hexDigit_mod]
  rw [Nat.mod_eq_of_lt (Nat.div_lt_of_lt_mul h : n / 16 < 16), Nat.div_add_mod']

theorem unquoteBody_hex4 (cp : Nat) (h : cp < 0x10000) (hv : validRune cp = true) (tail : List Char) :
    unquoteBody ('\\' :: 'u' :: (hex4 cp ++ tail)) = (utf8 (Char.ofNat cp) ++ ·) <$> unquoteBody tail := by
  simp only [hex4, List.cons_append, List.nil_append]
  rw [unquoteBody]
  simp only [unhex_hexDigit_mod]
  rw [Nat.mod_eq_of_lt (Nat.div_lt_of_lt_mul h : cp / 4096 < 16), hex_horner cp 256 4096 rfl,
    hex_horner cp 16 256 rfl, Nat.div_add_mod', hv]
  rfl

theorem unquoteBody_hex8 (cp : Nat) (hv : validRune cp = true) (tail : List Char) :
    unquoteBody ('\\' :: 'U' :: (hex8 cp ++ tail)) = (utf8 (Char.ofNat cp) ++ ·) <$> unquoteBody tail := by
  have hlt : cp / 268435456 < 16 := Nat.div_lt_of_lt_mul (Nat.lt_trans (validRune_lt hv) (by decide))
  simp only [hex8, hex4, List.cons_append, List.nil_append]
  rw [unquoteBody]
  simp only [unhex_hexDigit_mod]
  rw [Nat.mod_eq_of_lt hlt, hex_horner cp 16777216 268435456 rfl, hex_horner cp 1048576 16777216 rfl,
    hex_horner cp 65536 1048576 rfl, hex_horner cp 4096 65536 rfl, hex_horner cp 256 4096 rfl,
    hex_horner cp 16 256 rfl, Nat.div_add_mod', hv]
  rfl

/-- The characters a double-quoted literal holds as they are (and a single-quoted one too). -/
def plainCh (c : Char) : Bool := c ≠ '"' && c ≠ '\'' && c ≠ '\\' && c ≠ '\n'

theorem unquote_plain (w : List Char) (hp : ∀ x ∈ w, plainCh x = true) :
    unquote ('"' :: (w ++ ['"'])) = some (utf8s w) := by
  simp only [unquote]
  induction w with
  | nil => simp [unquoteBody, utf8s]
  | cons x t ih =>
    have hx := hp x (by simp)
    simp only [plainCh, Bool.and_eq_true, decide_eq_true_eq] at hx
    rw [List.cons_append, unquoteBody_plain x _ hx.1.1.1 hx.2 hx.1.2, ih (fun y hy => hp y (by simp [hy]))]
    simp [utf8s]

end PV.C26
