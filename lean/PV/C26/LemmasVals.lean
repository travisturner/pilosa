/-
C26 — written values.  The grammar reads a text recording some events (`ItemReads`, `ValueReads`) and the action
machine, run on those events, stores a value (`Stores`) or appends it to the list under the pending key (`Appends`).
`ItemDenotes` / `ValueDenotes` say both of a text and a value; the events are only the witness linking the halves.
-/
import PV.C26.LemmasLit
import PV.C26.LemmasItems
namespace PV.C26
open Gen

/-- `item` reads the text before `,` and `)` and, unless `kw` (a keyword literal), before `]`. -/
def ItemReads (kw : Bool) (text : List Char) (evs : List Ev) : Prop :=
  (∀ s, NoWs (text ++ s)) ∧
  ∀ d r, (d = ',' ∨ d = ')' ∨ (kw = false ∧ d = ']')) → P (.ref R.item) (text ++ d :: r) (d :: r) evs

def ValueReads (text : List Char) (evs : List Ev) : Prop :=
  (∀ s, NoWs (text ++ s)) ∧ ∀ d r, (d = ',' ∨ d = ')') → P (.ref R.value) (text ++ d :: r) (d :: r) evs

def condWrap (c : Op) (v : Val) : Val := if c = .ILLEGAL then v else .cond c v

/-- `cnd`: also when a condition operator is pending.  `q.cond = []` (no BETWEEN range being read): a call as a
value needs it for its own arguments. -/
def Stores (cnd : Bool) (evs : List Ev) (v : Val) : Prop :=
  ∀ (q : QState) (e : Elem) (rest : List Elem) (k : Key),
    q.stack = e :: rest → q.cond = [] → e.lastField = k → k ≠ [] → e.inList = false →
    (cnd = false → e.lastCond = .ILLEGAL) → lookup k e.args = none →
    Runs evs q { q with stack := { e with args := insert k (condWrap e.lastCond v) e.args,
                                          lastField := [], lastCond := .ILLEGAL, inList := false } :: rest }

/-- `num`: also when the list is the operand of a condition, which only numeric elements support. -/
def Appends (num : Bool) (evs : List Ev) (vs : List Val) : Prop :=
  ∀ (q : QState) (e : Elem) (rest : List Elem) (k : Key) (m0 : List (Key × Val)) (acc : List Val),
    q.stack = e :: rest → e.lastField = k → k ≠ [] → e.inList = true → (num = false → e.lastCond = .ILLEGAL) →
    e.args = insert k (wrapList e.lastCond acc) m0 →
    Runs evs q { q with stack := { e with args := insert k (wrapList e.lastCond (acc ++ vs)) m0 } :: rest }

theorem ItemReads.value {kw : Bool} {text : List Char} {evs : List Ev} (h : ItemReads kw text evs) :
    ValueReads text evs :=
  ⟨h.1, fun d r hd => value_of_item (h.2 d r (by rcases hd with rfl | rfl <;> simp))⟩

theorem Stores.mono {cnd : Bool} {evs : List Ev} {v : Val} (h : Stores true evs v) : Stores cnd evs v :=
  fun q e rest k hq hqc hf hk hin _ hl => h q e rest k hq hqc hf hk hin (by simp) hl

theorem Appends.mono {num : Bool} {evs : List Ev} {vs : List Val} (h : Appends true evs vs) : Appends num evs vs :=
  fun q e rest k m0 acc hq hf hk hin _ ha => h q e rest k m0 acc hq hf hk hin (by simp) ha

theorem Appends.append {num : Bool} {evs1 evs2 : List Ev} {vs1 vs2 : List Val} (h1 : Appends num evs1 vs1)
    (h2 : Appends num evs2 vs2) : Appends num (evs1 ++ evs2) (vs1 ++ vs2) := by
  intro q e rest k m0 acc hq hf hk hin hc ha
  refine (h1 q e rest k m0 acc hq hf hk hin hc ha).append fun t => ?_
  rw [← List.append_assoc]
  exact h2 _ { e with args := insert k (wrapList e.lastCond (acc ++ vs1)) m0 } rest k m0 (acc ++ vs1) rfl hf hk hin hc rfl

def ItemDenotes (kw num : Bool) (text : List Char) (v : Val) : Prop :=
  ∃ evs, ItemReads kw text evs ∧ Stores true evs v ∧ Appends num evs [v]

def ValueDenotes (cnd : Bool) (text : List Char) (v : Val) : Prop :=
  ∃ evs, ValueReads text evs ∧ Stores cnd evs v

theorem ItemDenotes.value {kw num cnd : Bool} {text : List Char} {v : Val} (h : ItemDenotes kw num text v) :
    ValueDenotes cnd text v :=
  let ⟨evs, hr, hs, _⟩ := h
  ⟨evs, hr.value, hs.mono⟩

/-- Fewer delimiters to be read before (`kw`), fewer situations to be stored in (`num`). -/
theorem ItemDenotes.mono {kw num kw' num' : Bool} {text : List Char} {v : Val} (h : ItemDenotes kw num text v)
    (hk : kw' = false → kw = false) (hn : num' = true → num = true) : ItemDenotes kw' num' text v := by
  obtain ⟨evs, hr, hs, ha⟩ := h
  refine ⟨evs, ⟨hr.1, fun d r hd => hr.2 d r ?_⟩, hs, ?_⟩
  · rcases hd with hd | hd | ⟨hf, hd⟩
    · exact Or.inl hd
    · exact Or.inr (Or.inl hd)
    · exact Or.inr (Or.inr ⟨hk hf, hd⟩)
  · cases num' with
    | false => cases num with
      | false => exact ha
      | true => exact ha.mono
    | true => rw [hn rfl] at ha; exact ha

theorem addVal_stores {q : QState} {e : Elem} {rest : List Elem} {k : Key} (v : Val) (hq : q.stack = e :: rest)
    (hf : e.lastField = k) (hk : k ≠ []) (hin : e.inList = false) (hl : lookup k e.args = none) :
    addVal q v = .ok { q with stack := { e with args := insert k (condWrap e.lastCond v) e.args,
                                                 lastField := [], lastCond := .ILLEGAL, inList := false } :: rest } := by
  subst hf
  simp only [addVal, hq]
  by_cases hc : e.lastCond = .ILLEGAL <;> simp [hk, hin, hl, hc, condWrap]

theorem addVal_appends {q : QState} {e : Elem} {rest : List Elem} {k : Key} {m0 : List (Key × Val)} {acc : List Val}
    (v : Val) (hq : q.stack = e :: rest) (hf : e.lastField = k) (hk : k ≠ []) (hin : e.inList = true)
    (hc : e.lastCond = .ILLEGAL) (ha : e.args = insert k (wrapList e.lastCond acc) m0) :
    addVal q v = .ok { q with stack := { e with args := insert k (wrapList e.lastCond (acc ++ [v])) m0 } :: rest } := by
  subst hf
  simp [addVal, hq, hk, hin, hc, ha, wrapList, lookup_insert_self, insert_insert]

theorem addNumVal_stores {q : QState} {e : Elem} {rest : List Elem} {k : Key} {t : List Char} {nv : Val}
    (h : numVal t = .ok nv) (hq : q.stack = e :: rest) (hf : e.lastField = k) (hk : k ≠ []) (hin : e.inList = false)
    (hl : lookup k e.args = none) :
    addNumVal q t = .ok { q with stack := { e with args := insert k (condWrap e.lastCond nv) e.args,
                                                   lastField := [], lastCond := .ILLEGAL, inList := false } :: rest } := by
  subst hf
  simp only [addNumVal, hq, h]
  by_cases hc : e.lastCond = .ILLEGAL <;> simp [hk, hin, hl, hc, condWrap, bind, Except.bind]

theorem addNumVal_appends {q : QState} {e : Elem} {rest : List Elem} {k : Key} {m0 : List (Key × Val)}
    {acc : List Val} {t : List Char} {nv : Val} (h : numVal t = .ok nv) (hq : q.stack = e :: rest)
    (hf : e.lastField = k) (hk : k ≠ []) (hin : e.inList = true)
    (ha : e.args = insert k (wrapList e.lastCond acc) m0) :
    addNumVal q t = .ok { q with stack := { e with args := insert k (wrapList e.lastCond (acc ++ [nv])) m0 } :: rest } := by
  subst hf
  simp only [addNumVal, hq, h]
  by_cases hc : e.lastCond = .ILLEGAL <;>
    simp [hk, hin, hc, ha, wrapList, lookup_insert_self, insert_insert, bind, Except.bind]

theorem adds_act (a : Act) (v : Val) (h : ∀ q, stepAct q a = addVal q v) :
    Stores true [.act a] v ∧ Appends false [.act a] [v] :=
  ⟨fun q _ _ _ hq _ hf hk hin _ hl => .act q.text ((h q).trans (addVal_stores v hq hf hk hin hl)),
   fun q _ _ _ _ _ hq hf hk hin hc ha => .act q.text ((h q).trans (addVal_appends v hq hf hk hin (hc rfl) ha))⟩

theorem adds_text_act (t : List Char) (a : Act) (v : Val)
    (h : ∀ q : QState, q.text = t → stepAct q a = addVal q v) :
    Stores true [.text t, .act a] v ∧ Appends false [.text t, .act a] [v] :=
  ⟨fun q _ _ _ hq _ hf hk hin _ hl =>
      .cons_text (.act t ((h { q with text := t } rfl).trans (addVal_stores v hq hf hk hin hl))),
   fun q _ _ _ _ _ hq hf hk hin hc ha =>
      .cons_text (.act t ((h { q with text := t } rfl).trans (addVal_appends v hq hf hk hin (hc rfl) ha)))⟩

theorem adds_num (t : List Char) (nv : Val) (h : numVal t = .ok nv) :
    Stores true [.text t, .act .addNumVal] nv ∧ Appends true [.text t, .act .addNumVal] [nv] :=
  ⟨fun q _ _ _ hq _ hf hk hin _ hl =>
      .cons_text (.act t (addNumVal_stores (q := { q with text := t }) h hq hf hk hin hl)),
   fun q _ _ _ _ _ hq hf hk hin _ ha =>
      .cons_text (.act t (addNumVal_appends (q := { q with text := t }) h hq hf hk hin ha))⟩

theorem delim3 {d : Char} (hd : d = ',' ∨ d = ')' ∨ (false = false ∧ d = ']')) : Delim d := by
  rcases hd with rfl | rfl | ⟨_, rfl⟩ <;> simp [Delim]

theorem kwDelim {d : Char} (hd : d = ',' ∨ d = ')' ∨ (true = false ∧ d = ']')) : d = ',' ∨ d = ')' := by
  rcases hd with h | h | ⟨h, _⟩
  · exact Or.inl h
  · exact Or.inr h
  · exact absurd h (by decide)

def intOf (neg : Bool) (ds : List Char) : Int := if neg then - (parseNat ds : Int) else (parseNat ds : Int)

theorem signed_noWs (neg : Bool) (ds : List Char) (hne : ds ≠ []) (hall : ∀ c ∈ ds, isDigit c = true)
    (s : List Char) : NoWs (signText neg ++ ds ++ s) := by
  obtain ⟨x, t, hx, hxc⟩ := num_text_head neg ds s hne hall
  rw [hx]
  rcases hxc with rfl | hxd
  · exact NoWs.of_head (by decide)
  · exact NoWs.of_head (notWs_of_digit hxd)

theorem signed_no_dot (neg : Bool) (ds : List Char) (hall : ∀ c ∈ ds, isDigit c = true) :
    '.' ∉ signText neg ++ ds := by
  intro hm
  simp only [List.mem_append] at hm
  rcases hm with hm | hm
  · cases neg <;> simp [signText] at hm
  · have := hall _ hm; simp [isDigit] at this

theorem parseIntText_signed (neg : Bool) (ds : List Char) (hne : ds ≠ []) (hall : ∀ c ∈ ds, isDigit c = true) :
    parseIntText (signText neg ++ ds) = intOf neg ds := by
  cases neg with
  | true => simp [signText, parseIntText, intOf]
  | false =>
    cases ds with
    | nil => exact absurd rfl hne
    | cons c cs =>
      have hc : c ≠ '-' := isDigit_ne_minus c (hall c (by simp))
      simp only [signText, List.nil_append, Bool.false_eq_true, if_false, intOf]
      rw [parseIntText]
      intro ds' e; exact hc (by cases e; rfl)

theorem numVal_signed (neg : Bool) (ds : List Char) (hne : ds ≠ []) (hall : ∀ c ∈ ds, isDigit c = true)
    (hr : minInt64 ≤ intOf neg ds ∧ intOf neg ds ≤ maxInt64) :
    numVal (signText neg ++ ds) = .ok (.int (intOf neg ds)) := by
  simp [numVal, signed_no_dot neg ds hall, parseInt64, parseIntText_signed neg ds hne hall, hr.1, hr.2]

/-- Integers as written: an optional `-` and one or more digits (leading zeros, `-0` included), within the
int64 range. -/
theorem int_denotes (neg : Bool) (ds : List Char) (hne : ds ≠ []) (hall : ∀ c ∈ ds, isDigit c = true)
    (hr : minInt64 ≤ intOf neg ds ∧ intOf neg ds ≤ maxInt64) :
    ItemDenotes false true (signText neg ++ ds) (.int (intOf neg ds)) :=
  have hs := adds_num _ _ (numVal_signed neg ds hne hall hr)
  ⟨_, ⟨signed_noWs neg ds hne hall, fun d r hd => item_int_ok neg ds r d hne hall (delim3 hd)⟩, hs.1, hs.2⟩

/-- An int64 as `Call.String` prints it. -/
theorem intDigits_denotes (i : Int) (h1 : minInt64 ≤ i) (h2 : i ≤ maxInt64) :
    ItemDenotes false true (intDigits i) (.int i) :=
  have hs := adds_num _ _ (numVal_intDigits i h1 h2)
  ⟨_, ⟨intDigits_noWs i, fun d r hd => item_intDigits i d r (delim3 hd)⟩, hs.1, hs.2⟩

theorem numVal_float (neg : Bool) (ip fp : List Char) :
    numVal (floatText neg ip fp) = .ok (.float (normDec (floatText neg ip fp))) := by
  simp [numVal, floatText]

theorem floatText_noWs (neg : Bool) (ip fp s : List Char) (hip : ∀ c ∈ ip, isDigit c = true) :
    NoWs (floatText neg ip fp ++ s) := by
  cases neg with
  | true => exact NoWs.of_head (by decide)
  | false =>
    cases ip with
    | nil => exact NoWs.of_head (by decide)
    | cons x t => exact NoWs.of_head (notWs_of_digit (hip x (by simp)))

/-- Floats (`-?d+.d*`, `-?.d+`): the value is the written decimal, opaque (normalised text). -/
theorem float_denotes (neg : Bool) (ip fp : List Char) (hip : ∀ c ∈ ip, isDigit c = true)
    (hfp : ∀ c ∈ fp, isDigit c = true) (hne : ip ≠ [] ∨ fp ≠ []) :
    ItemDenotes false true (floatText neg ip fp) (.float (normDec (floatText neg ip fp))) := by
  have hs := adds_num _ _ (numVal_float neg ip fp)
  refine ⟨_, ⟨fun s => floatText_noWs neg ip fp s hip, fun d r hd => ?_⟩, hs.1, hs.2⟩
  by_cases h : ip = []
  · subst h
    exact item_float2_ok neg fp r d (hne.resolve_left (fun h => h rfl)) hfp (delim3 hd)
  · exact item_float1_ok neg ip fp r d h hip hfp (delim3 hd)

theorem null_denotes : ItemDenotes true false cl!"null" .null :=
  have hs := adds_act (.addVal .null) .null (fun _ => rfl)
  ⟨_, ⟨fun _ => NoWs.of_head (by decide), fun d r hd => item_null_ok d r (kwDelim hd)⟩, hs.1, hs.2⟩

theorem bool_denotes (b : Bool) : ItemDenotes true false (if b then cl!"true" else cl!"false") (.bool b) := by
  have hs := adds_act (.addVal (.bool b)) (.bool b) (fun _ => rfl)
  refine ⟨_, ?_, hs.1, hs.2⟩
  cases b with
  | true => exact ⟨fun _ => NoWs.of_head (by decide), fun d r hd => item_true_ok d r (kwDelim hd)⟩
  | false => exact ⟨fun _ => NoWs.of_head (by decide), fun d r hd => item_false_ok d r (kwDelim hd)⟩

theorem adds_textVal (w : List Char) :
    Stores true [.text w, .act (.addVal .text)] (.str (utf8s w)) ∧
      Appends false [.text w, .act (.addVal .text)] [.str (utf8s w)] :=
  adds_text_act w (.addVal .text) _ (fun q hq => by rw [← hq]; rfl)

/-- Timestamps `yyyy-mm-ddThh:mm`, bare or in either quote style: the sixteen characters. -/
theorem ts_denotes (st : TsStyle) (w : List Char) (h : tsShape w = true) :
    ItemDenotes false false (Lit.write (.ts st w)) (.str (utf8s w)) := by
  refine ⟨_, ⟨fun s => ?_, fun d r _ => item_ts_ok st w (d :: r) h⟩, (adds_textVal w).1, (adds_textVal w).2⟩
  obtain ⟨c, t, htext, _, _, _, hws⟩ := ts_write_head st w s h
  rw [htext]; exact NoWs.of_head hws

/-- Single-quoted strings without escapes: the characters between the quotes, all of Unicode. -/
theorem sq_denotes (w : List Char) (h : sqPlain w) :
    ItemDenotes false false ('\'' :: (w ++ ['\''])) (.str (utf8s w)) := by
  refine ⟨_, ⟨fun s => NoWs.of_head (by decide), fun d r _ => ?_⟩, (adds_textVal w).1, (adds_textVal w).2⟩
  simpa using item_sq_ok w (d :: r) h

/-- Double-quoted strings: a body the rule `doublequotedstring` walks, with the bytes `strconv.Unquote`
returns for the literal.  A body that is exactly a timestamp is read by the timestamp alternative, which
stores its characters: the same bytes. -/
theorem dq_denotes (w : List Char) (bs : Bytes) (hdq : dqOk w = true)
    (hun : unquote ('"' :: (w ++ ['"'])) = some bs) : ItemDenotes false false ('"' :: (w ++ ['"'])) (.str bs) := by
  cases hsh : tsShape w with
  | false =>
    have hs := adds_text_act ('"' :: (w ++ ['"'])) .addQuotedVal (.str bs)
      (fun q hq => by simp only [stepAct, hq, hun])
    refine ⟨_, ⟨fun s => NoWs.of_head (by decide), fun d r _ => ?_⟩, hs.1, hs.2⟩
    simpa using item_dq_not_ts w (d :: r) hdq hsh
  | true =>
    have hval : bs = utf8s w := Option.some.inj (hun.symm.trans (unquote_plain w (tsShape_plain w hsh)))
    rw [hval]
    exact ts_denotes .dq w hsh

theorem bare_denotes (w : List Char) (h : BareWord w) : ItemDenotes false false w (.str (utf8s w)) := by
  refine ⟨_, ⟨fun s => ?_, fun d r hd => item_bare_ok w r d h (delim3 hd)⟩, (adds_textVal w).1, (adds_textVal w).2⟩
  obtain ⟨c, cs, rfl, hc, _⟩ := h
  refine NoWs.of_head ?_
  rcases hc with hc | rfl | rfl
  · exact notWs_of_alpha hc
  · decide
  · decide

/-- The elements of a list, joined with ",": `list` reads them up to the closing `]` (the last one must
not be a keyword: `null`/`true`/`false` are only recognised before `,` and `)`), and the action machine
appends their values. -/
theorem list_body {α : Type} (f : α → List Char) (g : α → Val) (num : Bool) (init : List α) (last : α)
    (hinit : ∀ x ∈ init, ItemDenotes true num (f x) (g x)) (hlast : ItemDenotes false num (f last) (g last)) :
    ∃ evs, (∀ s, NoWs (joinWith [','] ((init ++ [last]).map f) ++ s)) ∧
      (∀ r, P (.ref R.list) (joinWith [','] ((init ++ [last]).map f) ++ ']' :: r) (']' :: r) evs) ∧
      Appends num evs ((init ++ [last]).map g) := by
  have hnone : ∀ r, P (.opt (.seq (.ref R.comma) (.ref R.list))) (']' :: r) (']' :: r) [] := fun r =>
    Parses.opt_none (Fails.seq_left (comma_fails (by simp [NoWs, isWs]) (by simp [NotHead])))
  induction init with
  | nil =>
    obtain ⟨evs, hr, _, ha⟩ := hlast
    refine ⟨evs, hr.1, fun r => ?_, ha⟩
    have := Parses.seq (hr.2 ']' r (by simp)) (hnone r)
    rw [List.append_nil] at this
    exact Parses.ref this
  | cons x init' ih =>
    obtain ⟨evx, hrx, _, hax⟩ := hinit x (by simp)
    obtain ⟨evs, hnw, hp, ha⟩ := ih (fun y hy => hinit y (by simp [hy]))
    have etext : ∀ s, joinWith [','] ((x :: init' ++ [last]).map f) ++ s =
        f x ++ ',' :: (joinWith [','] ((init' ++ [last]).map f) ++ s) := by
      intro s
      cases hl : (init' ++ [last]).map f with
      | nil => simp at hl
      | cons y ys => simp [joinWith, hl]
    refine ⟨evx ++ evs, fun s => by rw [etext]; exact hrx.1 _, fun r => ?_, hax.append ha⟩
    rw [etext]
    exact Parses.ref (Parses.seq (hrx.2 ',' _ (by simp))
      (Parses.opt_some (Parses.seq (comma_nosp (hnw _)) (hp r))))

theorem condWrap_list (c : Op) (vs : List Val) : condWrap c (.list vs) = wrapList c vs := by
  simp [condWrap, wrapList]

/-- `[a,b,..]` as a value: a list of any scalars under `key=`, a list of numbers also under a condition. -/
theorem list_denotes {α : Type} (f : α → List Char) (g : α → Val) (cnd : Bool) (init : List α) (last : α)
    (hinit : ∀ x ∈ init, ItemDenotes true cnd (f x) (g x)) (hlast : ItemDenotes false cnd (f last) (g last)) :
    ValueDenotes cnd ('[' :: (joinWith [','] ((init ++ [last]).map f) ++ [']'])) (.list ((init ++ [last]).map g)) := by
  obtain ⟨evs, hnw, hp, ha⟩ := list_body f g cnd init last hinit hlast
  refine ⟨.act .startList :: (evs ++ [.act .endList]), ⟨fun s => NoWs.of_head (by decide), fun d r hd => ?_⟩, ?_⟩
  · have hdws : NoWs (d :: r) := by rcases hd with rfl | rfl <;> exact NoWs.of_head (by decide)
    have h1 : P (.ref R.lbrack) ('[' :: (joinWith [','] ((init ++ [last]).map f) ++ ']' :: d :: r))
        (joinWith [','] ((init ++ [last]).map f) ++ ']' :: d :: r) ([] ++ []) :=
      Parses.ref (Parses.seq (Parses.chr '[' _) (sp_nil (hnw _)))
    have h4 : P (.ref R.rbrack) (']' :: d :: r) (d :: r) ([] ++ ([] ++ [])) :=
      Parses.ref (Parses.seq (sp_nil (NoWs.of_head (by decide)))
        (Parses.seq (Parses.chr ']' (d :: r)) (sp_nil hdws)))
    have h := Parses.alt_right (item_fails_punct '[' _ (by decide)) (Parses.seq h1
      (Parses.seq (Parses.act .startList _) (Parses.seq (hp (d :: r)) (Parses.seq h4 (Parses.act .endList (d :: r))))))
    show P _ (('[' :: (joinWith [','] ((init ++ [last]).map f) ++ [']'])) ++ d :: r) _ _
    rw [List.cons_append, List.append_assoc]
    exact Parses.ref h
  · intro q e rest k hq _ hf hk hin hc hl
    have hs : stepAct q .startList =
        .ok { q with stack := { e with args := insert k (wrapList e.lastCond []) e.args, inList := true } :: rest } := by
      subst hf
      simp only [stepAct, startList, hq, hl]
      by_cases hc : e.lastCond = .ILLEGAL <;> simp [hc, wrapList]
    refine .cons_act hs ((ha _ { e with args := insert k (wrapList e.lastCond []) e.args, inList := true } rest
      k e.args [] rfl hf hk rfl hc rfl).append fun t => ?_)
    rw [condWrap_list]
    exact .act t rfl

end PV.C26
