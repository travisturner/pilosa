/-
C26 — `Runs evs q q'`: `Execute` walks the events from `q` to `q'`.  The `text` register is scratch space
(every capture overwrites it, and an action reads it only directly after the capture), so the target state
is given up to it.
-/
import PV.C26.Model
namespace PV.C26

theorem exec_text (cs : List Char) (evs : List Ev) (q : QState) :
    exec (.text cs :: evs) q = exec evs { q with text := cs } := rfl

theorem exec_act_ok {a : Act} {q q' : QState} (evs : List Ev) (h : stepAct q a = .ok q') :
    exec (.act a :: evs) q = exec evs q' := by
  simp only [exec, stepEv, h]

theorem exec_append (a b : List Ev) (q : QState) : exec (a ++ b) q = (exec a q).bind (exec b) := by
  induction a generalizing q with
  | nil => rfl
  | cons ev a ih =>
    simp only [List.cons_append, exec]
    cases stepEv q ev with
    | ok q' => exact ih q'
    | error e => rfl

def Runs (evs : List Ev) (q q' : QState) : Prop := ∃ t, exec evs q = .ok { q' with text := t }

theorem Runs.cons_text {cs : List Char} {evs : List Ev} {q q' : QState} (h : Runs evs { q with text := cs } q') :
    Runs (.text cs :: evs) q q' := h

theorem Runs.cons_act {a : Act} {evs : List Ev} {q q1 q' : QState} (hs : stepAct q a = .ok q1) (h : Runs evs q1 q') :
    Runs (.act a :: evs) q q' :=
  h.imp fun _ ht => (exec_act_ok evs hs).trans ht

theorem Runs.act {a : Act} {q q' : QState} (t : List Char) (hs : stepAct q a = .ok { q' with text := t }) :
    Runs [.act a] q q' :=
  ⟨t, (exec_act_ok [] hs).trans rfl⟩

/-- The second run starts from whatever the first left in `text`. -/
theorem Runs.append {a b : List Ev} {q q1 q2 : QState} (ha : Runs a q q1) (hb : ∀ t, Runs b { q1 with text := t } q2) :
    Runs (a ++ b) q q2 := by
  obtain ⟨t, ht⟩ := ha
  obtain ⟨t', ht'⟩ := hb t
  exact ⟨t', by rw [exec_append, ht]; exact ht'⟩

/-- The same with the rest of the event list carried along. -/
theorem runs_iff_cont (evs : List Ev) (q q' : QState) :
    Runs evs q q' ↔ ∀ evs', ∃ t, exec (evs ++ evs') q = exec evs' { q' with text := t } := by
  constructor
  · rintro ⟨t, ht⟩ evs'
    exact ⟨t, by rw [exec_append, ht]; rfl⟩
  · intro h
    obtain ⟨t, ht⟩ := h []
    exact ⟨t, by simpa [exec] using ht⟩

end PV.C26
