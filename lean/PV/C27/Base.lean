/-
* `Tree`: the universal value syntax of the protocol lines (driver and harness print/parse it).
* The types the translator does not derive from struct definitions: attribute maps
  (`map[string]interface{}`), `*pilosa.Row` (unexported segments; observed through `Columns()`),
  `*roaring.Bitmap` (observed through `Slice()`), `map[string][]byte`.
-/
import PV.C27.Outcome
namespace PV.C27

inductive Tree where
  | atom (s : String)
  | node (kids : List Tree)
  deriving Repr, Inhabited

mutual
def Tree.show : Tree → String
  | .atom s => s
  | .node kids => "(" ++ Tree.showList kids ++ ")"
def Tree.showList : List Tree → String
  | [] => ""
  | [t] => t.show
  | t :: ts => t.show ++ " " ++ Tree.showList ts
end

/-- Parse space-separated tokens `(`, `)`, atoms. Fuel = number of tokens. -/
def Tree.parseToks : Nat → List String → List (List Tree) → Option Tree
  | 0, _, _ => none
  | _ + 1, [], _ => none
  | f + 1, t :: ts, stack =>
    if t = "(" then Tree.parseToks f ts ([] :: stack)
    else if t = ")" then
      match stack with
      | top :: parent :: rest => Tree.parseToks f ts ((parent ++ [.node top]) :: rest)
      | [top] => if ts = [] then some (.node top) else none
      | [] => none
    else
      match stack with
      | top :: rest => Tree.parseToks f ts ((top ++ [.atom t]) :: rest)
      | [] => if ts = [] then some (.atom t) else none

def Tree.parse (ts : List String) : Option Tree := Tree.parseToks (ts.length + 1) ts []

def hexDigitC (d : Nat) : Char :=
  if d < 10 then Char.ofNat (48 + d) else Char.ofNat (87 + d)

def hexOfBytes (bs : List UInt8) : String :=
  String.ofList (bs.flatMap (fun b => [hexDigitC (b.toNat / 16), hexDigitC (b.toNat % 16)]))

def unhexC (c : Char) : Option Nat :=
  if '0' ≤ c ∧ c ≤ '9' then some (c.toNat - 48)
  else if 'a' ≤ c ∧ c ≤ 'f' then some (c.toNat - 87)
  else none

def bytesOfHexAux : List Char → Option (List UInt8)
  | [] => some []
  | a :: b :: r => do
    let x ← unhexC a
    let y ← unhexC b
    let rest ← bytesOfHexAux r
    pure ((x * 16 + y).toUInt8 :: rest)
  | _ => none

/-- Strings travel as `s<hex of the UTF-8 bytes>` so that every atom is one token. -/
def strAtom (s : String) : Tree := .atom ("s" ++ hexOfBytes s.toUTF8.toList)

def strOfAtom : Tree → Option String
  | .atom a =>
    match a.toList with
    | 's' :: r => do
      let bs ← bytesOfHexAux r
      String.fromUTF8? (ByteArray.mk bs.toArray)
    | _ => none
  | _ => none

def natOfAtom : Tree → Option Nat
  | .atom a => a.toNat?
  | _ => none

def intOfAtom : Tree → Option Int
  | .atom a => a.toInt?
  | _ => none

def boolAtom (b : Bool) : Tree := .atom (if b then "T" else "F")

def boolOfAtom : Tree → Option Bool
  | .atom "T" => some true
  | .atom "F" => some false
  | _ => none

/-- float64 travels as its IEEE bits. -/
def floatAtom (f : Float) : Tree := .atom ("f" ++ toString f.toBits.toNat)

def floatOfAtom : Tree → Option Float
  | .atom a =>
    match a.toList with
    | 'f' :: r => (String.ofList r).toNat?.map (fun n => Float.ofBits n.toUInt64)
    | _ => none
  | _ => none

def bytesAtom (bs : List UInt8) : Tree := .atom ("x" ++ hexOfBytes bs)

def bytesOfAtom : Tree → Option (List UInt8)
  | .atom a =>
    match a.toList with
    | 'x' :: r => bytesOfHexAux r
    | _ => none
  | _ => none

def listTree {α : Type} (f : α → Tree) (xs : List α) : Tree := .node (xs.map f)

def listOfTree {α : Type} (f : Tree → Option α) : Tree → Option (List α)
  | .node kids => kids.mapM f
  | _ => none

def optTree {α : Type} (f : α → Tree) : Option α → Tree
  | none => .node []
  | some a => .node [f a]

def optOfTree {α : Type} (f : Tree → Option α) : Tree → Option (Option α)
  | .node [] => some none
  | .node [t] => (f t).map some
  | _ => none

/-- The dynamic value of an attribute (`interface{}` in `map[string]interface{}`). -/
inductive AttrVal where
  | str (s : String)
  | int (i : Int64)
  | uint (u : UInt64)
  | bool (b : Bool)
  | float (f : Float)
  | null                    -- nil or any other dynamic type: encodeAttr leaves Type = 0
  deriving Inhabited

/-- `map[string]interface{}` as an association list sorted by key, keys distinct. -/
abbrev Attrs := List (String × AttrVal)

/-- `map[string][]byte` of ImportRoaringRequest.Views, sorted by key. -/
abbrev ViewsMap := List (String × List UInt8)

/-- `*roaring.Bitmap`, observed through `Slice()` (ascending, distinct); `roaring.NewBitmap(xs...)`
builds the set of `xs`.  The roaring layer itself is C01/C04's subject. -/
abbrev Bitmap := List UInt64

def insertSorted (x : UInt64) : List UInt64 → List UInt64
  | [] => [x]
  | y :: ys => if x < y then x :: y :: ys else if x = y then y :: ys else y :: insertSorted x ys

/-- `roaring.NewBitmap(xs...)` / a Row built with `SetBit` for every element. -/
def setOfList (xs : List UInt64) : List UInt64 := xs.foldl (fun acc x => insertSorted x acc) []

def sortedStrict : List UInt64 → Bool
  | [] => true
  | [_] => true
  | x :: y :: r => x < y && sortedStrict (y :: r)

def keysSortedStrict {α : Type} : List (String × α) → Bool
  | [] => true
  | [_] => true
  | (k1, _) :: (k2, v) :: r => k1 < k2 && keysSortedStrict ((k2, v) :: r)

def insertKey {α : Type} (k : String) (v : α) : List (String × α) → List (String × α)
  | [] => [(k, v)]
  | (k', v') :: r =>
    if k = k' then (k, v) :: r
    else if k < k' then (k, v) :: (k', v') :: r
    else (k', v') :: insertKey k v r

end PV.C27
