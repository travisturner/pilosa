/-
GENERATED by harness/extract/codec from encoding/proto/proto.go — do not edit.
Every encodeX/decodeX translated from its Go body, the structural canonical forms, the tree
printers/readers of the protocol, and the round-trip / no-panic theorems of every codec pair.
-/
import PV.C27.Hand
namespace PV.C27
open PV.C27.C

set_option linter.unusedVariables false
set_option linter.unusedSimpArgs false

def decodeBlockDataRequest (pb : (Option I.BlockDataRequest)) (m : P.BlockDataRequest) : Outcome P.BlockDataRequest :=
  match pb with
  | none => throw (.panic "decodeBlockDataRequest: nil pointer dereference of pb")
  | some pb =>
    do
    let m := { m with Index := pb.Index }
    let m := { m with Field := pb.Field }
    let m := { m with View := pb.View }
    let m := { m with Shard := pb.Shard }
    let m := { m with Block := pb.Block }
    pure m

def decodeBlockDataResponse (pb : (Option I.BlockDataResponse)) (m : P.BlockDataResponse) : Outcome P.BlockDataResponse :=
  match pb with
  | none => throw (.panic "decodeBlockDataResponse: nil pointer dereference of pb")
  | some pb =>
    do
    let m := { m with RowIDs := pb.RowIDs }
    let m := { m with ColumnIDs := pb.ColumnIDs }
    pure m

def decodeURI (i : (Option I.URI)) (m : P.URI) : Outcome P.URI :=
  match i with
  | none => pure m
  | some i =>
    do
    let m := { m with Scheme := i.Scheme }
    let m := { m with Host := i.Host }
    let m := { m with Port := i.Port.toUInt16 }
    pure m

def decodeNode (node : (Option I.Node)) (m : P.Node) : Outcome P.Node :=
  match node with
  | none => pure m
  | some node =>
    do
    let m := { m with ID := node.ID }
    let r1 ← decodeURI node.URI m.URI
    let m := { m with URI := r1 }
    let m := { m with IsCoordinator := node.IsCoordinator }
    let m := { m with State := node.State }
    pure m

def decodeNodes (a : (List I.Node)) : Outcome (List P.Node) :=
  do
  a.mapM (fun x => do
      let e : P.Node := {}
      let e := ({} : P.Node)
      let e ← decodeNode (some x) e
      pure e)

def decodeClusterStatus (cs : (Option I.ClusterStatus)) (m : P.ClusterStatus) : Outcome P.ClusterStatus :=
  match cs with
  | none => pure m
  | some cs =>
    do
    let m := { m with State := cs.State }
    let m := { m with ClusterID := cs.ClusterID }
    let r1 ← decodeNodes cs.Nodes
    let m := { m with Nodes := r1 }
    pure m

def decodeColumnAttrSet (pb : (Option I.ColumnAttrSet)) (m : P.ColumnAttrSet) : Outcome P.ColumnAttrSet :=
  match pb with
  | none => throw (.panic "decodeColumnAttrSet: nil pointer dereference of pb")
  | some pb =>
    do
    let m := { m with ID := pb.ID }
    let m := { m with Key := pb.Key }
    let r1 ← decodeAttrs pb.Attrs
    let m := { m with Attrs := r1 }
    pure m

def decodeColumnAttrSets (pb : (List I.ColumnAttrSet)) : Outcome (List P.ColumnAttrSet) :=
  do
  pb.mapM (fun x => do
      let e : P.ColumnAttrSet := {}
      let e := ({} : P.ColumnAttrSet)
      let e ← decodeColumnAttrSet (some x) e
      pure e)

def decodeFieldOptions (options : (Option I.FieldOptions)) (m : P.FieldOptions) : Outcome P.FieldOptions :=
  match options with
  | none => pure m
  | some options =>
    do
    let m := { m with Type_ := options.Type_ }
    let m := { m with CacheType := options.CacheType }
    let m := { m with CacheSize := options.CacheSize }
    let m := { m with Min := options.Min }
    let m := { m with Max := options.Max }
    let m := { m with Base := options.Base }
    let m := { m with BitDepth := options.BitDepth }
    let m := { m with TimeQuantum := options.TimeQuantum }
    let m := { m with Keys := options.Keys }
    let m := { m with NoStandardView := options.NoStandardView }
    pure m

def decodeCreateFieldMessage (pb : (Option I.CreateFieldMessage)) (m : P.CreateFieldMessage) : Outcome P.CreateFieldMessage :=
  match pb with
  | none => throw (.panic "decodeCreateFieldMessage: nil pointer dereference of pb")
  | some pb =>
    do
    let m := { m with Index := pb.Index }
    let m := { m with Field := pb.Field }
    let r1 ← decodeFieldOptions pb.Meta ({} : P.FieldOptions)
    let m := { m with Meta := (some r1) }
    pure m

def decodeIndexMeta (pb : (Option I.IndexMeta)) (m : P.IndexOptions) : Outcome P.IndexOptions :=
  match pb with
  | none => pure m
  | some pb =>
    do
    let m := { m with Keys := pb.Keys }
    let m := { m with TrackExistence := pb.TrackExistence }
    pure m

def decodeCreateIndexMessage (pb : (Option I.CreateIndexMessage)) (m : P.CreateIndexMessage) : Outcome P.CreateIndexMessage :=
  match pb with
  | none => throw (.panic "decodeCreateIndexMessage: nil pointer dereference of pb")
  | some pb =>
    do
    let m := { m with Index := pb.Index }
    let r1 ← decodeIndexMeta pb.Meta ({} : P.IndexOptions)
    let m := { m with Meta := r1 }
    pure m

def decodeCreateShardMessage (pb : (Option I.CreateShardMessage)) (m : P.CreateShardMessage) : Outcome P.CreateShardMessage :=
  match pb with
  | none => throw (.panic "decodeCreateShardMessage: nil pointer dereference of pb")
  | some pb =>
    do
    let m := { m with Index := pb.Index }
    let m := { m with Field := pb.Field }
    let m := { m with Shard := pb.Shard }
    pure m

def decodeCreateViewMessage (pb : (Option I.CreateViewMessage)) (m : P.CreateViewMessage) : Outcome P.CreateViewMessage :=
  match pb with
  | none => throw (.panic "decodeCreateViewMessage: nil pointer dereference of pb")
  | some pb =>
    do
    let m := { m with Index := pb.Index }
    let m := { m with Field := pb.Field }
    let m := { m with View := pb.View }
    pure m

def decodeDeleteAvailableShardMessage (pb : (Option I.DeleteAvailableShardMessage)) (m : P.DeleteAvailableShardMessage) : Outcome P.DeleteAvailableShardMessage :=
  match pb with
  | none => throw (.panic "decodeDeleteAvailableShardMessage: nil pointer dereference of pb")
  | some pb =>
    do
    let m := { m with Index := pb.Index }
    let m := { m with Field := pb.Field }
    let m := { m with ShardID := pb.ShardID }
    pure m

def decodeDeleteFieldMessage (pb : (Option I.DeleteFieldMessage)) (m : P.DeleteFieldMessage) : Outcome P.DeleteFieldMessage :=
  match pb with
  | none => throw (.panic "decodeDeleteFieldMessage: nil pointer dereference of pb")
  | some pb =>
    do
    let m := { m with Index := pb.Index }
    let m := { m with Field := pb.Field }
    pure m

def decodeDeleteIndexMessage (pb : (Option I.DeleteIndexMessage)) (m : P.DeleteIndexMessage) : Outcome P.DeleteIndexMessage :=
  match pb with
  | none => throw (.panic "decodeDeleteIndexMessage: nil pointer dereference of pb")
  | some pb =>
    do
    let m := { m with Index := pb.Index }
    pure m

def decodeDeleteViewMessage (pb : (Option I.DeleteViewMessage)) (m : P.DeleteViewMessage) : Outcome P.DeleteViewMessage :=
  match pb with
  | none => throw (.panic "decodeDeleteViewMessage: nil pointer dereference of pb")
  | some pb =>
    do
    let m := { m with Index := pb.Index }
    let m := { m with Field := pb.Field }
    let m := { m with View := pb.View }
    pure m

def decodeField (f : (Option I.Field)) (m : P.FieldInfo) : Outcome P.FieldInfo :=
  match f with
  | none => throw (.panic "decodeField: nil pointer dereference of f")
  | some f =>
    do
    let m := { m with Name := f.Name }
    let r1 ← decodeFieldOptions f.Meta ({} : P.FieldOptions)
    let m := { m with Options := r1 }
    let m := { m with Views := (f.Views.map (fun viewname => ({ Name := viewname } : P.ViewInfo))) }
    pure m

def decodeFieldRows (a : (List I.FieldRow)) : Outcome (List P.FieldRow) :=
  do
  a.mapM (fun x => do
      let e : P.FieldRow := {}
      let e := { e with Field := x.Field }
      let e := if x.RowKey = "" then
        let e := { e with RowID := x.RowID }
        e
        else
        let e := { e with RowKey := x.RowKey }
        e
      pure e)

def decodeFieldStatus (pb : (Option I.FieldStatus)) (m : P.FieldStatus) : Outcome P.FieldStatus :=
  match pb with
  | none => throw (.panic "decodeFieldStatus: nil pointer dereference of pb")
  | some pb =>
    do
    let m := { m with Name := pb.Name }
    let m := { m with AvailableShards := (setOfList pb.AvailableShards) }
    pure m

def decodeFieldStatuses (a : (List I.FieldStatus)) : Outcome (List P.FieldStatus) :=
  do
  a.mapM (fun x => do
      let e : P.FieldStatus := ({} : P.FieldStatus)
      let e ← decodeFieldStatus (some x) e
      pure e)

def decodeFields (fs : (List I.Field)) : Outcome (List P.FieldInfo) :=
  do
  fs.mapM (fun x => do
      let e : P.FieldInfo := {}
      let e := ({} : P.FieldInfo)
      let e ← decodeField (some x) e
      pure e)

def decodeGroupCounts (a : (List I.GroupCount)) : Outcome (List P.GroupCount) :=
  do
  a.mapM (fun x => do
      let e : P.GroupCount := {}
      let r1 ← decodeFieldRows x.Group
      let e := ({ Group := r1, Count := x.Count } : P.GroupCount)
      pure e)

def decodeImportRequest (pb : (Option I.ImportRequest)) (m : P.ImportRequest) : Outcome P.ImportRequest :=
  match pb with
  | none => throw (.panic "decodeImportRequest: nil pointer dereference of pb")
  | some pb =>
    do
    let m := { m with Index := pb.Index }
    let m := { m with Field := pb.Field }
    let m := { m with Shard := pb.Shard }
    let m := { m with RowIDs := pb.RowIDs }
    let m := { m with ColumnIDs := pb.ColumnIDs }
    let m := { m with RowKeys := pb.RowKeys }
    let m := { m with ColumnKeys := pb.ColumnKeys }
    let m := { m with Timestamps := pb.Timestamps }
    pure m

def decodeImportResponse (pb : (Option I.ImportResponse)) (m : P.ImportResponse) : Outcome P.ImportResponse :=
  match pb with
  | none => throw (.panic "decodeImportResponse: nil pointer dereference of pb")
  | some pb =>
    do
    let m := { m with Err := pb.Err }
    pure m

def decodeImportValueRequest (pb : (Option I.ImportValueRequest)) (m : P.ImportValueRequest) : Outcome P.ImportValueRequest :=
  match pb with
  | none => throw (.panic "decodeImportValueRequest: nil pointer dereference of pb")
  | some pb =>
    do
    let m := { m with Index := pb.Index }
    let m := { m with Field := pb.Field }
    let m := { m with Shard := pb.Shard }
    let m := { m with ColumnIDs := pb.ColumnIDs }
    let m := { m with ColumnKeys := pb.ColumnKeys }
    let m := { m with Values := pb.Values }
    pure m

def decodeIndex (idx : (Option I.Index)) (m : P.IndexInfo) : Outcome P.IndexInfo :=
  match idx with
  | none => throw (.panic "decodeIndex: nil pointer dereference of idx")
  | some idx =>
    do
    let m := { m with Name := idx.Name }
    let r1 ← decodeFields idx.Fields
    let m := { m with Fields := r1 }
    pure m

def decodeIndexStatus (pb : (Option I.IndexStatus)) (m : P.IndexStatus) : Outcome P.IndexStatus :=
  match pb with
  | none => throw (.panic "decodeIndexStatus: nil pointer dereference of pb")
  | some pb =>
    do
    let m := { m with Name := pb.Name }
    let r1 ← decodeFieldStatuses pb.Fields
    let m := { m with Fields := r1 }
    pure m

def decodeIndexStatuses (a : (List I.IndexStatus)) : Outcome (List P.IndexStatus) :=
  do
  a.mapM (fun x => do
      let e : P.IndexStatus := ({} : P.IndexStatus)
      let e ← decodeIndexStatus (some x) e
      pure e)

def decodeIndexes (idxs : (List I.Index)) : Outcome (List P.IndexInfo) :=
  do
  idxs.mapM (fun x => do
      let e : P.IndexInfo := {}
      let e := ({} : P.IndexInfo)
      let e ← decodeIndex (some x) e
      pure e)

def decodeNodeEventMessage (pb : (Option I.NodeEventMessage)) (m : P.NodeEvent) : Outcome P.NodeEvent :=
  match pb with
  | none => throw (.panic "decodeNodeEventMessage: nil pointer dereference of pb")
  | some pb =>
    do
    let m := { m with Event := pb.Event }
    let r1 ← decodeNode pb.Node ({} : P.Node)
    let m := { m with Node := r1 }
    pure m

def decodeNodeStateMessage (pb : (Option I.NodeStateMessage)) (m : P.NodeStateMessage) : Outcome P.NodeStateMessage :=
  match pb with
  | none => throw (.panic "decodeNodeStateMessage: nil pointer dereference of pb")
  | some pb =>
    do
    let m := { m with NodeID := pb.NodeID }
    let m := { m with State := pb.State }
    pure m

def decodeSchema (s : (Option I.Schema)) (m : P.Schema) : Outcome P.Schema :=
  match s with
  | none => pure m
  | some s =>
    do
    let r1 ← decodeIndexes s.Indexes
    let m := { m with Indexes := r1 }
    pure m

def decodeNodeStatus (pb : (Option I.NodeStatus)) (m : P.NodeStatus) : Outcome P.NodeStatus :=
  match pb with
  | none => pure m
  | some pb =>
    do
    let r1 ← decodeNode pb.Node ({} : P.Node)
    let m := { m with Node := r1 }
    let r2 ← decodeIndexStatuses pb.Indexes
    let m := { m with Indexes := r2 }
    let r3 ← decodeSchema pb.Schema ({} : P.Schema)
    let m := { m with Schema := r3 }
    pure m

def decodePair (pb : (Option I.Pair)) : Outcome P.Pair :=
  match pb with
  | none => throw (.panic "decodePair: nil pointer dereference of pb")
  | some pb =>
    do
    pure ({ ID := pb.ID, Key := pb.Key, Count := pb.Count } : P.Pair)

def decodePairs (a : (List I.Pair)) : Outcome (List P.Pair) :=
  do
  a.mapM (fun x => do
      let e : P.Pair := {}
      let r1 ← decodePair (some x)
      let e := r1
      pure e)

def decodeQueryRequest (pb : (Option I.QueryRequest)) (m : P.QueryRequest) : Outcome P.QueryRequest :=
  match pb with
  | none => throw (.panic "decodeQueryRequest: nil pointer dereference of pb")
  | some pb =>
    do
    let m := { m with Query := pb.Query }
    let m := { m with Shards := pb.Shards }
    let m := { m with ColumnAttrs := pb.ColumnAttrs }
    let m := { m with Remote := pb.Remote }
    let m := { m with ExcludeRowAttrs := pb.ExcludeRowAttrs }
    let m := { m with ExcludeColumns := pb.ExcludeColumns }
    pure m

def decodeRowIdentifiers (a : (Option I.RowIdentifiers)) : Outcome P.RowIdentifiers :=
  match a with
  | none => pure ({} : P.RowIdentifiers)
  | some a =>
    do
    pure ({ Rows := a.Rows, Keys := a.Keys } : P.RowIdentifiers)

def decodeValCount (pb : (Option I.ValCount)) : Outcome P.ValCount :=
  match pb with
  | none => pure ({} : P.ValCount)
  | some pb =>
    do
    pure ({ Val := pb.Val, Count := pb.Count } : P.ValCount)

def decodeQueryResult (pb : (Option I.QueryResult)) : Outcome P.Result :=
  match pb with
  | none => throw (.panic "decodeQueryResult: nil pointer dereference of pb")
  | some pb =>
    do
    if pb.Type_ = C.queryResultTypeRow then
      do
        let r1 ← decodeRow pb.Row
        pure (.row r1)
    else if pb.Type_ = C.queryResultTypePairs then
      do
        let r1 ← decodePairs pb.Pairs
        pure (.pairs r1)
    else if pb.Type_ = C.queryResultTypeValCount then
      do
        let r1 ← decodeValCount pb.ValCount
        pure (.valCount r1)
    else if pb.Type_ = C.queryResultTypeUint64 then
      pure (.uint64 pb.N)
    else if pb.Type_ = C.queryResultTypeBool then
      pure (.bool pb.Changed)
    else if pb.Type_ = C.queryResultTypeNil then
      pure .nil
    else if pb.Type_ = C.queryResultTypeRowIDs then
      pure (.rowIDs pb.RowIDs)
    else if pb.Type_ = C.queryResultTypeRowIdentifiers then
      do
        let r1 ← decodeRowIdentifiers pb.RowIdentifiers
        pure (.rowIdentifiersPtr r1)
    else if pb.Type_ = C.queryResultTypeGroupCounts then
      do
        let r1 ← decodeGroupCounts pb.GroupCounts
        pure (.groupCounts r1)
    else if pb.Type_ = C.queryResultTypePair then
      match pb.Pairs with
      | [] => throw (.error "decodeQueryResult: empty pb.Pairs")
      | x0 :: _ => do
          let r1 ← decodePair (some x0)
          pure (.pair r1)
    else throw (.error "decodeQueryResult: unknown type")

def decodeQueryResults (pb : (List I.QueryResult)) : Outcome (List P.Result) :=
  do
  pb.mapM (fun x => do
      let e : P.Result := .nil
      let r1 ← decodeQueryResult (some x)
      let e := r1
      pure e)

def decodeQueryResponse (pb : (Option I.QueryResponse)) (m : P.QueryResponse) : Outcome P.QueryResponse :=
  match pb with
  | none => throw (.panic "decodeQueryResponse: nil pointer dereference of pb")
  | some pb =>
    do
    let r1 ← decodeColumnAttrSets pb.ColumnAttrSets
    let m := { m with ColumnAttrSets := r1 }
    let m := if pb.Err = "" then
      let m := { m with Err := none }
      m
      else
      let m := { m with Err := (some pb.Err) }
      m
    let r2 ← decodeQueryResults pb.Results
    let m := { m with Results := r2 }
    pure m

def decodeRecalculateCaches (pb : (Option I.RecalculateCaches)) (m : P.RecalculateCaches) : Outcome P.RecalculateCaches :=
  match pb with
  | none => throw (.panic "decodeRecalculateCaches: nil pointer dereference of pb")
  | some pb =>
    do
    pure m

def decodeResizeSource (rs : (Option I.ResizeSource)) (m : P.ResizeSource) : Outcome P.ResizeSource :=
  match rs with
  | none => throw (.panic "decodeResizeSource: nil pointer dereference of rs")
  | some rs =>
    do
    let r1 ← decodeNode rs.Node ({} : P.Node)
    let m := { m with Node := r1 }
    let m := { m with Index := rs.Index }
    let m := { m with Field := rs.Field }
    let m := { m with View := rs.View }
    let m := { m with Shard := rs.Shard }
    pure m

def decodeResizeSources (srcs : (List I.ResizeSource)) : Outcome (List P.ResizeSource) :=
  do
  srcs.mapM (fun x => do
      let e : P.ResizeSource := {}
      let e := ({} : P.ResizeSource)
      let e ← decodeResizeSource (some x) e
      pure e)

def decodeResizeInstruction (ri : (Option I.ResizeInstruction)) (m : P.ResizeInstruction) : Outcome P.ResizeInstruction :=
  match ri with
  | none => throw (.panic "decodeResizeInstruction: nil pointer dereference of ri")
  | some ri =>
    do
    let m := { m with JobID := ri.JobID }
    let r1 ← decodeNode ri.Node ({} : P.Node)
    let m := { m with Node := r1 }
    let r2 ← decodeNode ri.Coordinator ({} : P.Node)
    let m := { m with Coordinator := r2 }
    let r3 ← decodeResizeSources ri.Sources
    let m := { m with Sources := r3 }
    let r4 ← decodeNodeStatus ri.NodeStatus ({} : P.NodeStatus)
    let m := { m with NodeStatus := r4 }
    let r5 ← decodeClusterStatus ri.ClusterStatus ({} : P.ClusterStatus)
    let m := { m with ClusterStatus := r5 }
    pure m

def decodeResizeInstructionComplete (pb : (Option I.ResizeInstructionComplete)) (m : P.ResizeInstructionComplete) : Outcome P.ResizeInstructionComplete :=
  match pb with
  | none => throw (.panic "decodeResizeInstructionComplete: nil pointer dereference of pb")
  | some pb =>
    do
    let m := { m with JobID := pb.JobID }
    let r1 ← decodeNode pb.Node ({} : P.Node)
    let m := { m with Node := r1 }
    let m := { m with Error := pb.Error }
    pure m

def decodeSetCoordinatorMessage (pb : (Option I.SetCoordinatorMessage)) (m : P.SetCoordinatorMessage) : Outcome P.SetCoordinatorMessage :=
  match pb with
  | none => throw (.panic "decodeSetCoordinatorMessage: nil pointer dereference of pb")
  | some pb =>
    do
    let r1 ← decodeNode pb.New ({} : P.Node)
    let m := { m with New := r1 }
    pure m

def decodeTranslateKeysRequest (pb : (Option I.TranslateKeysRequest)) (m : P.TranslateKeysRequest) : Outcome P.TranslateKeysRequest :=
  match pb with
  | none => throw (.panic "decodeTranslateKeysRequest: nil pointer dereference of pb")
  | some pb =>
    do
    let m := { m with Index := pb.Index }
    let m := { m with Field := pb.Field }
    let m := { m with Keys := pb.Keys }
    pure m

def decodeTranslateKeysResponse (pb : (Option I.TranslateKeysResponse)) (m : P.TranslateKeysResponse) : Outcome P.TranslateKeysResponse :=
  match pb with
  | none => throw (.panic "decodeTranslateKeysResponse: nil pointer dereference of pb")
  | some pb =>
    do
    let m := { m with IDs := pb.IDs }
    pure m

def decodeUpdateCoordinatorMessage (pb : (Option I.UpdateCoordinatorMessage)) (m : P.UpdateCoordinatorMessage) : Outcome P.UpdateCoordinatorMessage :=
  match pb with
  | none => throw (.panic "decodeUpdateCoordinatorMessage: nil pointer dereference of pb")
  | some pb =>
    do
    let r1 ← decodeNode pb.New ({} : P.Node)
    let m := { m with New := r1 }
    pure m

def encodeBlockDataRequest (m : P.BlockDataRequest) : I.BlockDataRequest :=
  ({ Index := m.Index, Field := m.Field, View := m.View, Shard := m.Shard, Block := m.Block } : I.BlockDataRequest)

def encodeBlockDataResponse (m : P.BlockDataResponse) : I.BlockDataResponse :=
  ({ RowIDs := m.RowIDs, ColumnIDs := m.ColumnIDs } : I.BlockDataResponse)

def encodeURI (u : P.URI) : I.URI :=
  ({ Scheme := u.Scheme, Host := u.Host, Port := u.Port.toUInt32 } : I.URI)

def encodeNode (n : P.Node) : I.Node :=
  ({ ID := n.ID, URI := (some (encodeURI n.URI)), IsCoordinator := n.IsCoordinator, State := n.State } : I.Node)

def encodeNodes (a : (List P.Node)) : (List I.Node) :=
  a.map (fun x =>
      let e : I.Node := {}
      let e := (encodeNode x)
      e)

def encodeClusterStatus (m : P.ClusterStatus) : I.ClusterStatus :=
  ({ State := m.State, ClusterID := m.ClusterID, Nodes := (encodeNodes m.Nodes) } : I.ClusterStatus)

def encodeColumnAttrSet (set : P.ColumnAttrSet) : I.ColumnAttrSet :=
  ({ ID := set.ID, Key := set.Key, Attrs := (encodeAttrs set.Attrs) } : I.ColumnAttrSet)

def encodeColumnAttrSets (a : (List P.ColumnAttrSet)) : (List I.ColumnAttrSet) :=
  a.map (fun x =>
      let e : I.ColumnAttrSet := {}
      let e := (encodeColumnAttrSet x)
      e)

def encodeFieldOptions (o : (Option P.FieldOptions)) : (Option I.FieldOptions) :=
  match o with
  | none => none
  | some o =>
    (some ({ Type_ := o.Type_, CacheType := o.CacheType, CacheSize := o.CacheSize, Min := o.Min, Max := o.Max, Base := o.Base, BitDepth := o.BitDepth, TimeQuantum := o.TimeQuantum, Keys := o.Keys, NoStandardView := o.NoStandardView } : I.FieldOptions))

def encodeCreateFieldMessage (m : P.CreateFieldMessage) : I.CreateFieldMessage :=
  ({ Index := m.Index, Field := m.Field, Meta := (encodeFieldOptions m.Meta) } : I.CreateFieldMessage)

def encodeIndexMeta (m : P.IndexOptions) : I.IndexMeta :=
  ({ Keys := m.Keys, TrackExistence := m.TrackExistence } : I.IndexMeta)

def encodeCreateIndexMessage (m : P.CreateIndexMessage) : I.CreateIndexMessage :=
  ({ Index := m.Index, Meta := (some (encodeIndexMeta m.Meta)) } : I.CreateIndexMessage)

def encodeCreateShardMessage (m : P.CreateShardMessage) : I.CreateShardMessage :=
  ({ Index := m.Index, Field := m.Field, Shard := m.Shard } : I.CreateShardMessage)

def encodeCreateViewMessage (m : P.CreateViewMessage) : I.CreateViewMessage :=
  ({ Index := m.Index, Field := m.Field, View := m.View } : I.CreateViewMessage)

def encodeDeleteAvailableShardMessage (m : P.DeleteAvailableShardMessage) : I.DeleteAvailableShardMessage :=
  ({ Index := m.Index, Field := m.Field, ShardID := m.ShardID } : I.DeleteAvailableShardMessage)

def encodeDeleteFieldMessage (m : P.DeleteFieldMessage) : I.DeleteFieldMessage :=
  ({ Index := m.Index, Field := m.Field } : I.DeleteFieldMessage)

def encodeDeleteIndexMessage (m : P.DeleteIndexMessage) : I.DeleteIndexMessage :=
  ({ Index := m.Index } : I.DeleteIndexMessage)

def encodeDeleteViewMessage (m : P.DeleteViewMessage) : I.DeleteViewMessage :=
  ({ Index := m.Index, Field := m.Field, View := m.View } : I.DeleteViewMessage)

def encodeFieldInfo (f : P.FieldInfo) : I.Field :=
  let ifield := ({ Name := f.Name, Meta := (encodeFieldOptions (some f.Options)), Views := [] } : I.Field)
  let ifield := { ifield with Views := (ifield.Views ++ (f.Views.map (fun viewinfo => viewinfo.Name))) }
  ifield

def encodeFieldInfos (fs : (List P.FieldInfo)) : (List I.Field) :=
  fs.map (fun x =>
      let e : I.Field := (encodeFieldInfo x)
      e)

def encodeFieldRows (a : (List P.FieldRow)) : (List I.FieldRow) :=
  a.map (fun x =>
      let e : I.FieldRow := {}
      let e := if x.RowKey = "" then
        let e := ({ Field := x.Field, RowID := x.RowID } : I.FieldRow)
        e
        else
        let e := ({ Field := x.Field, RowKey := x.RowKey } : I.FieldRow)
        e
      e)

def encodeFieldStatus (m : P.FieldStatus) : I.FieldStatus :=
  ({ Name := m.Name, AvailableShards := m.AvailableShards } : I.FieldStatus)

def encodeFieldStatuses (a : (List P.FieldStatus)) : (List I.FieldStatus) :=
  a.map (fun x =>
      let e : I.FieldStatus := {}
      let e := (encodeFieldStatus x)
      e)

def encodeGroupCounts (counts : (List P.GroupCount)) : (List I.GroupCount) :=
  counts.map (fun x =>
      let e : I.GroupCount := {}
      let e := ({ Group := (encodeFieldRows x.Group), Count := x.Count } : I.GroupCount)
      e)

def encodeImportRequest (m : P.ImportRequest) : I.ImportRequest :=
  ({ Index := m.Index, Field := m.Field, Shard := m.Shard, RowIDs := m.RowIDs, ColumnIDs := m.ColumnIDs, RowKeys := m.RowKeys, ColumnKeys := m.ColumnKeys, Timestamps := m.Timestamps } : I.ImportRequest)

def encodeImportResponse (m : P.ImportResponse) : I.ImportResponse :=
  ({ Err := m.Err } : I.ImportResponse)

def encodeImportValueRequest (m : P.ImportValueRequest) : I.ImportValueRequest :=
  ({ Index := m.Index, Field := m.Field, Shard := m.Shard, ColumnIDs := m.ColumnIDs, ColumnKeys := m.ColumnKeys, Values := m.Values } : I.ImportValueRequest)

def encodeIndexInfo (idx : P.IndexInfo) : I.Index :=
  ({ Name := idx.Name, Fields := (encodeFieldInfos idx.Fields) } : I.Index)

def encodeIndexInfos (idxs : (List P.IndexInfo)) : (List I.Index) :=
  idxs.map (fun x =>
      let e : I.Index := (encodeIndexInfo x)
      e)

def encodeIndexStatus (m : P.IndexStatus) : I.IndexStatus :=
  ({ Name := m.Name, Fields := (encodeFieldStatuses m.Fields) } : I.IndexStatus)

def encodeIndexStatuses (a : (List P.IndexStatus)) : (List I.IndexStatus) :=
  a.map (fun x =>
      let e : I.IndexStatus := {}
      let e := (encodeIndexStatus x)
      e)

def encodeNodeEventMessage (m : P.NodeEvent) : I.NodeEventMessage :=
  ({ Event := m.Event, Node := (some (encodeNode m.Node)) } : I.NodeEventMessage)

def encodeNodeStateMessage (m : P.NodeStateMessage) : I.NodeStateMessage :=
  ({ NodeID := m.NodeID, State := m.State } : I.NodeStateMessage)

def encodeSchema (m : P.Schema) : I.Schema :=
  ({ Indexes := (encodeIndexInfos m.Indexes) } : I.Schema)

def encodeNodeStatus (m : P.NodeStatus) : I.NodeStatus :=
  ({ Node := (some (encodeNode m.Node)), Indexes := (encodeIndexStatuses m.Indexes), Schema := (some (encodeSchema m.Schema)) } : I.NodeStatus)

def encodePair (p : P.Pair) : I.Pair :=
  ({ ID := p.ID, Key := p.Key, Count := p.Count } : I.Pair)

def encodePairs (a : (List P.Pair)) : (List I.Pair) :=
  a.map (fun x =>
      let e : I.Pair := {}
      let e := (encodePair x)
      e)

def encodeQueryRequest (m : P.QueryRequest) : I.QueryRequest :=
  ({ Query := m.Query, Shards := m.Shards, ColumnAttrs := m.ColumnAttrs, Remote := m.Remote, ExcludeRowAttrs := m.ExcludeRowAttrs, ExcludeColumns := m.ExcludeColumns } : I.QueryRequest)

def encodeRowIdentifiers (r : P.RowIdentifiers) : I.RowIdentifiers :=
  ({ Rows := r.Rows, Keys := r.Keys } : I.RowIdentifiers)

def encodeValCount (vc : P.ValCount) : I.ValCount :=
  ({ Val := vc.Val, Count := vc.Count } : I.ValCount)

/-- The body of the loop over `m.Results` in encodeQueryResponse: one result by its dynamic type. -/
def encodeQueryResult (x : P.Result) : Outcome I.QueryResult :=
  do
      let e : I.QueryResult := {}
      match x with
      | .row result =>
        let e := { e with Type_ := C.queryResultTypeRow }
        let e := { e with Row := (encodeRow result) }
        pure e
      | .pairs result =>
        let e := { e with Type_ := C.queryResultTypePairs }
        let e := { e with Pairs := (encodePairs result) }
        pure e
      | .valCount result =>
        let e := { e with Type_ := C.queryResultTypeValCount }
        let e := { e with ValCount := (some (encodeValCount result)) }
        pure e
      | .uint64 result =>
        let e := { e with Type_ := C.queryResultTypeUint64 }
        let e := { e with N := result }
        pure e
      | .bool result =>
        let e := { e with Type_ := C.queryResultTypeBool }
        let e := { e with Changed := result }
        pure e
      | .rowIDs result =>
        let e := { e with Type_ := C.queryResultTypeRowIDs }
        let e := { e with RowIDs := result }
        pure e
      | .groupCounts result =>
        let e := { e with Type_ := C.queryResultTypeGroupCounts }
        let e := { e with GroupCounts := (encodeGroupCounts result) }
        pure e
      | .rowIdentifiers result =>
        let e := { e with Type_ := C.queryResultTypeRowIdentifiers }
        let e := { e with RowIdentifiers := (some (encodeRowIdentifiers result)) }
        pure e
      | .pair result =>
        let e := { e with Type_ := C.queryResultTypePair }
        let e := { e with Pairs := [(encodePair result)] }
        pure e
      | .nil =>
        let e := { e with Type_ := C.queryResultTypeNil }
        pure e
      | _ => throw (.panic "encodeQueryResponse: unknown result type")

def encodeQueryResponse (m : P.QueryResponse) : Outcome I.QueryResponse :=
  do
  let pb := ({ ColumnAttrSets := (encodeColumnAttrSets m.ColumnAttrSets) } : I.QueryResponse)
  let rs ← m.Results.mapM encodeQueryResult
  let pb := { pb with Results := rs }
  let pb := if m.Err.isSome then
      let pb := { pb with Err := (m.Err.getD "") }
      pb
    else pb
  pure pb

def encodeRecalculateCaches (_p0 : P.RecalculateCaches) : I.RecalculateCaches :=
  ({} : I.RecalculateCaches)

def encodeResizeSource (m : P.ResizeSource) : I.ResizeSource :=
  ({ Node := (some (encodeNode m.Node)), Index := m.Index, Field := m.Field, View := m.View, Shard := m.Shard } : I.ResizeSource)

def encodeResizeSources (srcs : (List P.ResizeSource)) : (List I.ResizeSource) :=
  srcs.map (fun x =>
      let e : I.ResizeSource := (encodeResizeSource x)
      e)

def encodeResizeInstruction (m : P.ResizeInstruction) : I.ResizeInstruction :=
  ({ JobID := m.JobID, Node := (some (encodeNode m.Node)), Coordinator := (some (encodeNode m.Coordinator)), Sources := (encodeResizeSources m.Sources), NodeStatus := (some (encodeNodeStatus m.NodeStatus)), ClusterStatus := (some (encodeClusterStatus m.ClusterStatus)) } : I.ResizeInstruction)

def encodeResizeInstructionComplete (m : P.ResizeInstructionComplete) : I.ResizeInstructionComplete :=
  ({ JobID := m.JobID, Node := (some (encodeNode m.Node)), Error := m.Error } : I.ResizeInstructionComplete)

def encodeSetCoordinatorMessage (m : P.SetCoordinatorMessage) : I.SetCoordinatorMessage :=
  ({ New := (some (encodeNode m.New)) } : I.SetCoordinatorMessage)

def encodeTranslateKeysRequest (request : P.TranslateKeysRequest) : I.TranslateKeysRequest :=
  ({ Index := request.Index, Field := request.Field, Keys := request.Keys } : I.TranslateKeysRequest)

def encodeTranslateKeysResponse (response : P.TranslateKeysResponse) : I.TranslateKeysResponse :=
  ({ IDs := response.IDs } : I.TranslateKeysResponse)

def encodeUpdateCoordinatorMessage (m : P.UpdateCoordinatorMessage) : I.UpdateCoordinatorMessage :=
  ({ New := (some (encodeNode m.New)) } : I.UpdateCoordinatorMessage)

/-! ## Canonical forms (identity except for the hooks defined in Hand.lean) -/

def canon_BlockDataRequest (code : Bool) (v : P.BlockDataRequest) : P.BlockDataRequest :=
  v

def canon_BlockDataResponse (code : Bool) (v : P.BlockDataResponse) : P.BlockDataResponse :=
  v

def canon_URI (code : Bool) (v : P.URI) : P.URI :=
  v

def canon_Node (code : Bool) (v : P.Node) : P.Node :=
  { v with URI := (canon_URI code v.URI) }

def canon_ClusterStatus (code : Bool) (v : P.ClusterStatus) : P.ClusterStatus :=
  { v with Nodes := (v.Nodes.map (canon_Node code)) }

def canon_ColumnAttrSet (code : Bool) (v : P.ColumnAttrSet) : P.ColumnAttrSet :=
  hook_ColumnAttrSet code v

def canon_FieldOptions (code : Bool) (v : P.FieldOptions) : P.FieldOptions :=
  v

def canon_CreateFieldMessage (code : Bool) (v : P.CreateFieldMessage) : P.CreateFieldMessage :=
  hook_CreateFieldMessage code { v with Meta := (v.Meta.map (canon_FieldOptions code)) }

def canon_IndexOptions (code : Bool) (v : P.IndexOptions) : P.IndexOptions :=
  v

def canon_CreateIndexMessage (code : Bool) (v : P.CreateIndexMessage) : P.CreateIndexMessage :=
  { v with Meta := (canon_IndexOptions code v.Meta) }

def canon_CreateShardMessage (code : Bool) (v : P.CreateShardMessage) : P.CreateShardMessage :=
  v

def canon_CreateViewMessage (code : Bool) (v : P.CreateViewMessage) : P.CreateViewMessage :=
  v

def canon_DeleteAvailableShardMessage (code : Bool) (v : P.DeleteAvailableShardMessage) : P.DeleteAvailableShardMessage :=
  v

def canon_DeleteFieldMessage (code : Bool) (v : P.DeleteFieldMessage) : P.DeleteFieldMessage :=
  v

def canon_DeleteIndexMessage (code : Bool) (v : P.DeleteIndexMessage) : P.DeleteIndexMessage :=
  v

def canon_DeleteViewMessage (code : Bool) (v : P.DeleteViewMessage) : P.DeleteViewMessage :=
  v

def canon_ViewInfo (code : Bool) (v : P.ViewInfo) : P.ViewInfo :=
  v

def canon_FieldInfo (code : Bool) (v : P.FieldInfo) : P.FieldInfo :=
  { v with Options := (canon_FieldOptions code v.Options), Views := (v.Views.map (canon_ViewInfo code)) }

def canon_FieldRow (code : Bool) (v : P.FieldRow) : P.FieldRow :=
  hook_FieldRow code v

def canon_FieldStatus (code : Bool) (v : P.FieldStatus) : P.FieldStatus :=
  hook_FieldStatus code v

def canon_GroupCount (code : Bool) (v : P.GroupCount) : P.GroupCount :=
  { v with Group := (v.Group.map (canon_FieldRow code)) }

def canon_ImportRequest (code : Bool) (v : P.ImportRequest) : P.ImportRequest :=
  v

def canon_ImportResponse (code : Bool) (v : P.ImportResponse) : P.ImportResponse :=
  v

def canon_ImportRoaringRequest (code : Bool) (v : P.ImportRoaringRequest) : P.ImportRoaringRequest :=
  hook_ImportRoaringRequest code v

def canon_ImportValueRequest (code : Bool) (v : P.ImportValueRequest) : P.ImportValueRequest :=
  v

def canon_IndexInfo (code : Bool) (v : P.IndexInfo) : P.IndexInfo :=
  hook_IndexInfo code { v with Options := (canon_IndexOptions code v.Options), Fields := (v.Fields.map (canon_FieldInfo code)) }

def canon_IndexStatus (code : Bool) (v : P.IndexStatus) : P.IndexStatus :=
  { v with Fields := (v.Fields.map (canon_FieldStatus code)) }

def canon_NodeEvent (code : Bool) (v : P.NodeEvent) : P.NodeEvent :=
  { v with Node := (canon_Node code v.Node) }

def canon_NodeStateMessage (code : Bool) (v : P.NodeStateMessage) : P.NodeStateMessage :=
  v

def canon_Schema (code : Bool) (v : P.Schema) : P.Schema :=
  { v with Indexes := (v.Indexes.map (canon_IndexInfo code)) }

def canon_NodeStatus (code : Bool) (v : P.NodeStatus) : P.NodeStatus :=
  { v with Node := (canon_Node code v.Node), Indexes := (v.Indexes.map (canon_IndexStatus code)), Schema := (canon_Schema code v.Schema) }

def canon_Pair (code : Bool) (v : P.Pair) : P.Pair :=
  v

def canon_QueryRequest (code : Bool) (v : P.QueryRequest) : P.QueryRequest :=
  hook_QueryRequest code v

def canon_RecalculateCaches (code : Bool) (v : P.RecalculateCaches) : P.RecalculateCaches :=
  v

def canon_ResizeSource (code : Bool) (v : P.ResizeSource) : P.ResizeSource :=
  { v with Node := (canon_Node code v.Node) }

def canon_ResizeInstruction (code : Bool) (v : P.ResizeInstruction) : P.ResizeInstruction :=
  { v with Node := (canon_Node code v.Node), Coordinator := (canon_Node code v.Coordinator), Sources := (v.Sources.map (canon_ResizeSource code)), NodeStatus := (canon_NodeStatus code v.NodeStatus), ClusterStatus := (canon_ClusterStatus code v.ClusterStatus) }

def canon_ResizeInstructionComplete (code : Bool) (v : P.ResizeInstructionComplete) : P.ResizeInstructionComplete :=
  { v with Node := (canon_Node code v.Node) }

def canon_RowIdentifiers (code : Bool) (v : P.RowIdentifiers) : P.RowIdentifiers :=
  v

def canon_SetCoordinatorMessage (code : Bool) (v : P.SetCoordinatorMessage) : P.SetCoordinatorMessage :=
  { v with New := (canon_Node code v.New) }

def canon_TranslateKeysRequest (code : Bool) (v : P.TranslateKeysRequest) : P.TranslateKeysRequest :=
  v

def canon_TranslateKeysResponse (code : Bool) (v : P.TranslateKeysResponse) : P.TranslateKeysResponse :=
  v

def canon_UpdateCoordinatorMessage (code : Bool) (v : P.UpdateCoordinatorMessage) : P.UpdateCoordinatorMessage :=
  { v with New := (canon_Node code v.New) }

def canon_ValCount (code : Bool) (v : P.ValCount) : P.ValCount :=
  v

def canon_Result (code : Bool) : P.Result → P.Result
  | .row v => hook_Result code (.row v)
  | .pairs v => hook_Result code (.pairs (v.map (canon_Pair code)))
  | .valCount v => hook_Result code (.valCount (canon_ValCount code v))
  | .uint64 v => hook_Result code (.uint64 v)
  | .bool v => hook_Result code (.bool v)
  | .rowIDs v => hook_Result code (.rowIDs v)
  | .groupCounts v => hook_Result code (.groupCounts (v.map (canon_GroupCount code)))
  | .rowIdentifiers v => hook_Result code (.rowIdentifiers (canon_RowIdentifiers code v))
  | .pair v => hook_Result code (.pair (canon_Pair code v))
  | .nil => hook_Result code .nil
  | .rowIdentifiersPtr v => hook_Result code (.rowIdentifiersPtr (canon_RowIdentifiers code v))

def canon_QueryResponse (code : Bool) (v : P.QueryResponse) : P.QueryResponse :=
  hook_QueryResponse code { v with Results := (v.Results.map (canon_Result code)), ColumnAttrSets := (v.ColumnAttrSets.map (canon_ColumnAttrSet code)) }

/-! ## Protocol trees -/

def toTree_P_BlockDataRequest (v : P.BlockDataRequest) : Tree :=
  .node [strAtom v.Index,
    strAtom v.Field,
    strAtom v.View,
    .atom (toString v.Shard.toNat),
    .atom (toString v.Block.toNat)]

def ofTree_P_BlockDataRequest : Tree → Option P.BlockDataRequest
  | .node [t0, t1, t2, t3, t4] => do
    let f0 ← strOfAtom t0
    let f1 ← strOfAtom t1
    let f2 ← strOfAtom t2
    let f3 ← (fun t => (natOfAtom t).map Nat.toUInt64) t3
    let f4 ← (fun t => (natOfAtom t).map Nat.toUInt64) t4
    pure { Index := f0, Field := f1, View := f2, Shard := f3, Block := f4 }
  | _ => none

def toTree_P_BlockDataResponse (v : P.BlockDataResponse) : Tree :=
  .node [listTree (fun v => .atom (toString v.toNat)) v.RowIDs,
    listTree (fun v => .atom (toString v.toNat)) v.ColumnIDs]

def ofTree_P_BlockDataResponse : Tree → Option P.BlockDataResponse
  | .node [t0, t1] => do
    let f0 ← (listOfTree (fun t => (natOfAtom t).map Nat.toUInt64)) t0
    let f1 ← (listOfTree (fun t => (natOfAtom t).map Nat.toUInt64)) t1
    pure { RowIDs := f0, ColumnIDs := f1 }
  | _ => none

def toTree_P_URI (v : P.URI) : Tree :=
  .node [strAtom v.Scheme,
    strAtom v.Host,
    .atom (toString v.Port.toNat)]

def ofTree_P_URI : Tree → Option P.URI
  | .node [t0, t1, t2] => do
    let f0 ← strOfAtom t0
    let f1 ← strOfAtom t1
    let f2 ← (fun t => (natOfAtom t).map Nat.toUInt16) t2
    pure { Scheme := f0, Host := f1, Port := f2 }
  | _ => none

def toTree_P_Node (v : P.Node) : Tree :=
  .node [strAtom v.ID,
    toTree_P_URI v.URI,
    boolAtom v.IsCoordinator,
    strAtom v.State]

def ofTree_P_Node : Tree → Option P.Node
  | .node [t0, t1, t2, t3] => do
    let f0 ← strOfAtom t0
    let f1 ← ofTree_P_URI t1
    let f2 ← boolOfAtom t2
    let f3 ← strOfAtom t3
    pure { ID := f0, URI := f1, IsCoordinator := f2, State := f3 }
  | _ => none

def toTree_P_ClusterStatus (v : P.ClusterStatus) : Tree :=
  .node [strAtom v.ClusterID,
    strAtom v.State,
    listTree (fun v => toTree_P_Node v) v.Nodes]

def ofTree_P_ClusterStatus : Tree → Option P.ClusterStatus
  | .node [t0, t1, t2] => do
    let f0 ← strOfAtom t0
    let f1 ← strOfAtom t1
    let f2 ← (listOfTree ofTree_P_Node) t2
    pure { ClusterID := f0, State := f1, Nodes := f2 }
  | _ => none

def toTree_P_ColumnAttrSet (v : P.ColumnAttrSet) : Tree :=
  .node [.atom (toString v.ID.toNat),
    strAtom v.Key,
    attrsTree v.Attrs]

def ofTree_P_ColumnAttrSet : Tree → Option P.ColumnAttrSet
  | .node [t0, t1, t2] => do
    let f0 ← (fun t => (natOfAtom t).map Nat.toUInt64) t0
    let f1 ← strOfAtom t1
    let f2 ← attrsOfTree t2
    pure { ID := f0, Key := f1, Attrs := f2 }
  | _ => none

def toTree_P_FieldOptions (v : P.FieldOptions) : Tree :=
  .node [.atom (toString v.Base.toInt),
    .atom (toString v.BitDepth.toNat),
    .atom (toString v.Min.toInt),
    .atom (toString v.Max.toInt),
    boolAtom v.Keys,
    boolAtom v.NoStandardView,
    .atom (toString v.CacheSize.toNat),
    strAtom v.CacheType,
    strAtom v.Type_,
    strAtom v.TimeQuantum]

def ofTree_P_FieldOptions : Tree → Option P.FieldOptions
  | .node [t0, t1, t2, t3, t4, t5, t6, t7, t8, t9] => do
    let f0 ← (fun t => (intOfAtom t).map Int.toInt64) t0
    let f1 ← (fun t => (natOfAtom t).map Nat.toUInt64) t1
    let f2 ← (fun t => (intOfAtom t).map Int.toInt64) t2
    let f3 ← (fun t => (intOfAtom t).map Int.toInt64) t3
    let f4 ← boolOfAtom t4
    let f5 ← boolOfAtom t5
    let f6 ← (fun t => (natOfAtom t).map Nat.toUInt32) t6
    let f7 ← strOfAtom t7
    let f8 ← strOfAtom t8
    let f9 ← strOfAtom t9
    pure { Base := f0, BitDepth := f1, Min := f2, Max := f3, Keys := f4, NoStandardView := f5, CacheSize := f6, CacheType := f7, Type_ := f8, TimeQuantum := f9 }
  | _ => none

def toTree_P_CreateFieldMessage (v : P.CreateFieldMessage) : Tree :=
  .node [strAtom v.Index,
    strAtom v.Field,
    optTree (fun v => toTree_P_FieldOptions v) v.Meta]

def ofTree_P_CreateFieldMessage : Tree → Option P.CreateFieldMessage
  | .node [t0, t1, t2] => do
    let f0 ← strOfAtom t0
    let f1 ← strOfAtom t1
    let f2 ← (optOfTree ofTree_P_FieldOptions) t2
    pure { Index := f0, Field := f1, Meta := f2 }
  | _ => none

def toTree_P_IndexOptions (v : P.IndexOptions) : Tree :=
  .node [boolAtom v.Keys,
    boolAtom v.TrackExistence]

def ofTree_P_IndexOptions : Tree → Option P.IndexOptions
  | .node [t0, t1] => do
    let f0 ← boolOfAtom t0
    let f1 ← boolOfAtom t1
    pure { Keys := f0, TrackExistence := f1 }
  | _ => none

def toTree_P_CreateIndexMessage (v : P.CreateIndexMessage) : Tree :=
  .node [strAtom v.Index,
    toTree_P_IndexOptions v.Meta]

def ofTree_P_CreateIndexMessage : Tree → Option P.CreateIndexMessage
  | .node [t0, t1] => do
    let f0 ← strOfAtom t0
    let f1 ← ofTree_P_IndexOptions t1
    pure { Index := f0, Meta := f1 }
  | _ => none

def toTree_P_CreateShardMessage (v : P.CreateShardMessage) : Tree :=
  .node [strAtom v.Index,
    strAtom v.Field,
    .atom (toString v.Shard.toNat)]

def ofTree_P_CreateShardMessage : Tree → Option P.CreateShardMessage
  | .node [t0, t1, t2] => do
    let f0 ← strOfAtom t0
    let f1 ← strOfAtom t1
    let f2 ← (fun t => (natOfAtom t).map Nat.toUInt64) t2
    pure { Index := f0, Field := f1, Shard := f2 }
  | _ => none

def toTree_P_CreateViewMessage (v : P.CreateViewMessage) : Tree :=
  .node [strAtom v.Index,
    strAtom v.Field,
    strAtom v.View]

def ofTree_P_CreateViewMessage : Tree → Option P.CreateViewMessage
  | .node [t0, t1, t2] => do
    let f0 ← strOfAtom t0
    let f1 ← strOfAtom t1
    let f2 ← strOfAtom t2
    pure { Index := f0, Field := f1, View := f2 }
  | _ => none

def toTree_P_DeleteAvailableShardMessage (v : P.DeleteAvailableShardMessage) : Tree :=
  .node [strAtom v.Index,
    strAtom v.Field,
    .atom (toString v.ShardID.toNat)]

def ofTree_P_DeleteAvailableShardMessage : Tree → Option P.DeleteAvailableShardMessage
  | .node [t0, t1, t2] => do
    let f0 ← strOfAtom t0
    let f1 ← strOfAtom t1
    let f2 ← (fun t => (natOfAtom t).map Nat.toUInt64) t2
    pure { Index := f0, Field := f1, ShardID := f2 }
  | _ => none

def toTree_P_DeleteFieldMessage (v : P.DeleteFieldMessage) : Tree :=
  .node [strAtom v.Index,
    strAtom v.Field]

def ofTree_P_DeleteFieldMessage : Tree → Option P.DeleteFieldMessage
  | .node [t0, t1] => do
    let f0 ← strOfAtom t0
    let f1 ← strOfAtom t1
    pure { Index := f0, Field := f1 }
  | _ => none

def toTree_P_DeleteIndexMessage (v : P.DeleteIndexMessage) : Tree :=
  .node [strAtom v.Index]

def ofTree_P_DeleteIndexMessage : Tree → Option P.DeleteIndexMessage
  | .node [t0] => do
    let f0 ← strOfAtom t0
    pure { Index := f0 }
  | _ => none

def toTree_P_DeleteViewMessage (v : P.DeleteViewMessage) : Tree :=
  .node [strAtom v.Index,
    strAtom v.Field,
    strAtom v.View]

def ofTree_P_DeleteViewMessage : Tree → Option P.DeleteViewMessage
  | .node [t0, t1, t2] => do
    let f0 ← strOfAtom t0
    let f1 ← strOfAtom t1
    let f2 ← strOfAtom t2
    pure { Index := f0, Field := f1, View := f2 }
  | _ => none

def toTree_P_ViewInfo (v : P.ViewInfo) : Tree :=
  .node [strAtom v.Name]

def ofTree_P_ViewInfo : Tree → Option P.ViewInfo
  | .node [t0] => do
    let f0 ← strOfAtom t0
    pure { Name := f0 }
  | _ => none

def toTree_P_FieldInfo (v : P.FieldInfo) : Tree :=
  .node [strAtom v.Name,
    toTree_P_FieldOptions v.Options,
    listTree (fun v => toTree_P_ViewInfo v) v.Views]

def ofTree_P_FieldInfo : Tree → Option P.FieldInfo
  | .node [t0, t1, t2] => do
    let f0 ← strOfAtom t0
    let f1 ← ofTree_P_FieldOptions t1
    let f2 ← (listOfTree ofTree_P_ViewInfo) t2
    pure { Name := f0, Options := f1, Views := f2 }
  | _ => none

def toTree_P_FieldRow (v : P.FieldRow) : Tree :=
  .node [strAtom v.Field,
    .atom (toString v.RowID.toNat),
    strAtom v.RowKey]

def ofTree_P_FieldRow : Tree → Option P.FieldRow
  | .node [t0, t1, t2] => do
    let f0 ← strOfAtom t0
    let f1 ← (fun t => (natOfAtom t).map Nat.toUInt64) t1
    let f2 ← strOfAtom t2
    pure { Field := f0, RowID := f1, RowKey := f2 }
  | _ => none

def toTree_P_FieldStatus (v : P.FieldStatus) : Tree :=
  .node [strAtom v.Name,
    listTree (fun v => .atom (toString v.toNat)) v.AvailableShards]

def ofTree_P_FieldStatus : Tree → Option P.FieldStatus
  | .node [t0, t1] => do
    let f0 ← strOfAtom t0
    let f1 ← (listOfTree (fun t => (natOfAtom t).map Nat.toUInt64)) t1
    pure { Name := f0, AvailableShards := f1 }
  | _ => none

def toTree_P_GroupCount (v : P.GroupCount) : Tree :=
  .node [listTree (fun v => toTree_P_FieldRow v) v.Group,
    .atom (toString v.Count.toNat)]

def ofTree_P_GroupCount : Tree → Option P.GroupCount
  | .node [t0, t1] => do
    let f0 ← (listOfTree ofTree_P_FieldRow) t0
    let f1 ← (fun t => (natOfAtom t).map Nat.toUInt64) t1
    pure { Group := f0, Count := f1 }
  | _ => none

def toTree_P_ImportRequest (v : P.ImportRequest) : Tree :=
  .node [strAtom v.Index,
    strAtom v.Field,
    .atom (toString v.Shard.toNat),
    listTree (fun v => .atom (toString v.toNat)) v.RowIDs,
    listTree (fun v => .atom (toString v.toNat)) v.ColumnIDs,
    listTree (fun v => strAtom v) v.RowKeys,
    listTree (fun v => strAtom v) v.ColumnKeys,
    listTree (fun v => .atom (toString v.toInt)) v.Timestamps]

def ofTree_P_ImportRequest : Tree → Option P.ImportRequest
  | .node [t0, t1, t2, t3, t4, t5, t6, t7] => do
    let f0 ← strOfAtom t0
    let f1 ← strOfAtom t1
    let f2 ← (fun t => (natOfAtom t).map Nat.toUInt64) t2
    let f3 ← (listOfTree (fun t => (natOfAtom t).map Nat.toUInt64)) t3
    let f4 ← (listOfTree (fun t => (natOfAtom t).map Nat.toUInt64)) t4
    let f5 ← (listOfTree strOfAtom) t5
    let f6 ← (listOfTree strOfAtom) t6
    let f7 ← (listOfTree (fun t => (intOfAtom t).map Int.toInt64)) t7
    pure { Index := f0, Field := f1, Shard := f2, RowIDs := f3, ColumnIDs := f4, RowKeys := f5, ColumnKeys := f6, Timestamps := f7 }
  | _ => none

def toTree_P_ImportResponse (v : P.ImportResponse) : Tree :=
  .node [strAtom v.Err]

def ofTree_P_ImportResponse : Tree → Option P.ImportResponse
  | .node [t0] => do
    let f0 ← strOfAtom t0
    pure { Err := f0 }
  | _ => none

def toTree_P_ImportRoaringRequest (v : P.ImportRoaringRequest) : Tree :=
  .node [boolAtom v.Clear,
    viewsTree v.Views]

def ofTree_P_ImportRoaringRequest : Tree → Option P.ImportRoaringRequest
  | .node [t0, t1] => do
    let f0 ← boolOfAtom t0
    let f1 ← viewsOfTree t1
    pure { Clear := f0, Views := f1 }
  | _ => none

def toTree_P_ImportValueRequest (v : P.ImportValueRequest) : Tree :=
  .node [strAtom v.Index,
    strAtom v.Field,
    .atom (toString v.Shard.toNat),
    listTree (fun v => .atom (toString v.toNat)) v.ColumnIDs,
    listTree (fun v => strAtom v) v.ColumnKeys,
    listTree (fun v => .atom (toString v.toInt)) v.Values]

def ofTree_P_ImportValueRequest : Tree → Option P.ImportValueRequest
  | .node [t0, t1, t2, t3, t4, t5] => do
    let f0 ← strOfAtom t0
    let f1 ← strOfAtom t1
    let f2 ← (fun t => (natOfAtom t).map Nat.toUInt64) t2
    let f3 ← (listOfTree (fun t => (natOfAtom t).map Nat.toUInt64)) t3
    let f4 ← (listOfTree strOfAtom) t4
    let f5 ← (listOfTree (fun t => (intOfAtom t).map Int.toInt64)) t5
    pure { Index := f0, Field := f1, Shard := f2, ColumnIDs := f3, ColumnKeys := f4, Values := f5 }
  | _ => none

def toTree_P_IndexInfo (v : P.IndexInfo) : Tree :=
  .node [strAtom v.Name,
    toTree_P_IndexOptions v.Options,
    listTree (fun v => toTree_P_FieldInfo v) v.Fields,
    .atom (toString v.ShardWidth.toNat)]

def ofTree_P_IndexInfo : Tree → Option P.IndexInfo
  | .node [t0, t1, t2, t3] => do
    let f0 ← strOfAtom t0
    let f1 ← ofTree_P_IndexOptions t1
    let f2 ← (listOfTree ofTree_P_FieldInfo) t2
    let f3 ← (fun t => (natOfAtom t).map Nat.toUInt64) t3
    pure { Name := f0, Options := f1, Fields := f2, ShardWidth := f3 }
  | _ => none

def toTree_P_IndexStatus (v : P.IndexStatus) : Tree :=
  .node [strAtom v.Name,
    listTree (fun v => toTree_P_FieldStatus v) v.Fields]

def ofTree_P_IndexStatus : Tree → Option P.IndexStatus
  | .node [t0, t1] => do
    let f0 ← strOfAtom t0
    let f1 ← (listOfTree ofTree_P_FieldStatus) t1
    pure { Name := f0, Fields := f1 }
  | _ => none

def toTree_P_NodeEvent (v : P.NodeEvent) : Tree :=
  .node [.atom (toString v.Event.toNat),
    toTree_P_Node v.Node]

def ofTree_P_NodeEvent : Tree → Option P.NodeEvent
  | .node [t0, t1] => do
    let f0 ← (fun t => (natOfAtom t).map Nat.toUInt32) t0
    let f1 ← ofTree_P_Node t1
    pure { Event := f0, Node := f1 }
  | _ => none

def toTree_P_NodeStateMessage (v : P.NodeStateMessage) : Tree :=
  .node [strAtom v.NodeID,
    strAtom v.State]

def ofTree_P_NodeStateMessage : Tree → Option P.NodeStateMessage
  | .node [t0, t1] => do
    let f0 ← strOfAtom t0
    let f1 ← strOfAtom t1
    pure { NodeID := f0, State := f1 }
  | _ => none

def toTree_P_Schema (v : P.Schema) : Tree :=
  .node [listTree (fun v => toTree_P_IndexInfo v) v.Indexes]

def ofTree_P_Schema : Tree → Option P.Schema
  | .node [t0] => do
    let f0 ← (listOfTree ofTree_P_IndexInfo) t0
    pure { Indexes := f0 }
  | _ => none

def toTree_P_NodeStatus (v : P.NodeStatus) : Tree :=
  .node [toTree_P_Node v.Node,
    listTree (fun v => toTree_P_IndexStatus v) v.Indexes,
    toTree_P_Schema v.Schema]

def ofTree_P_NodeStatus : Tree → Option P.NodeStatus
  | .node [t0, t1, t2] => do
    let f0 ← ofTree_P_Node t0
    let f1 ← (listOfTree ofTree_P_IndexStatus) t1
    let f2 ← ofTree_P_Schema t2
    pure { Node := f0, Indexes := f1, Schema := f2 }
  | _ => none

def toTree_P_Pair (v : P.Pair) : Tree :=
  .node [.atom (toString v.ID.toNat),
    strAtom v.Key,
    .atom (toString v.Count.toNat)]

def ofTree_P_Pair : Tree → Option P.Pair
  | .node [t0, t1, t2] => do
    let f0 ← (fun t => (natOfAtom t).map Nat.toUInt64) t0
    let f1 ← strOfAtom t1
    let f2 ← (fun t => (natOfAtom t).map Nat.toUInt64) t2
    pure { ID := f0, Key := f1, Count := f2 }
  | _ => none

def toTree_P_QueryRequest (v : P.QueryRequest) : Tree :=
  .node [strAtom v.Index,
    strAtom v.Query,
    listTree (fun v => .atom (toString v.toNat)) v.Shards,
    boolAtom v.ColumnAttrs,
    boolAtom v.ExcludeRowAttrs,
    boolAtom v.ExcludeColumns,
    boolAtom v.Remote]

def ofTree_P_QueryRequest : Tree → Option P.QueryRequest
  | .node [t0, t1, t2, t3, t4, t5, t6] => do
    let f0 ← strOfAtom t0
    let f1 ← strOfAtom t1
    let f2 ← (listOfTree (fun t => (natOfAtom t).map Nat.toUInt64)) t2
    let f3 ← boolOfAtom t3
    let f4 ← boolOfAtom t4
    let f5 ← boolOfAtom t5
    let f6 ← boolOfAtom t6
    pure { Index := f0, Query := f1, Shards := f2, ColumnAttrs := f3, ExcludeRowAttrs := f4, ExcludeColumns := f5, Remote := f6 }
  | _ => none

def toTree_P_RecalculateCaches (v : P.RecalculateCaches) : Tree :=
  .node []

def ofTree_P_RecalculateCaches : Tree → Option P.RecalculateCaches
  | .node [] => some {}
  | _ => none

def toTree_P_ResizeSource (v : P.ResizeSource) : Tree :=
  .node [toTree_P_Node v.Node,
    strAtom v.Index,
    strAtom v.Field,
    strAtom v.View,
    .atom (toString v.Shard.toNat)]

def ofTree_P_ResizeSource : Tree → Option P.ResizeSource
  | .node [t0, t1, t2, t3, t4] => do
    let f0 ← ofTree_P_Node t0
    let f1 ← strOfAtom t1
    let f2 ← strOfAtom t2
    let f3 ← strOfAtom t3
    let f4 ← (fun t => (natOfAtom t).map Nat.toUInt64) t4
    pure { Node := f0, Index := f1, Field := f2, View := f3, Shard := f4 }
  | _ => none

def toTree_P_ResizeInstruction (v : P.ResizeInstruction) : Tree :=
  .node [.atom (toString v.JobID.toInt),
    toTree_P_Node v.Node,
    toTree_P_Node v.Coordinator,
    listTree (fun v => toTree_P_ResizeSource v) v.Sources,
    toTree_P_NodeStatus v.NodeStatus,
    toTree_P_ClusterStatus v.ClusterStatus]

def ofTree_P_ResizeInstruction : Tree → Option P.ResizeInstruction
  | .node [t0, t1, t2, t3, t4, t5] => do
    let f0 ← (fun t => (intOfAtom t).map Int.toInt64) t0
    let f1 ← ofTree_P_Node t1
    let f2 ← ofTree_P_Node t2
    let f3 ← (listOfTree ofTree_P_ResizeSource) t3
    let f4 ← ofTree_P_NodeStatus t4
    let f5 ← ofTree_P_ClusterStatus t5
    pure { JobID := f0, Node := f1, Coordinator := f2, Sources := f3, NodeStatus := f4, ClusterStatus := f5 }
  | _ => none

def toTree_P_ResizeInstructionComplete (v : P.ResizeInstructionComplete) : Tree :=
  .node [.atom (toString v.JobID.toInt),
    toTree_P_Node v.Node,
    strAtom v.Error]

def ofTree_P_ResizeInstructionComplete : Tree → Option P.ResizeInstructionComplete
  | .node [t0, t1, t2] => do
    let f0 ← (fun t => (intOfAtom t).map Int.toInt64) t0
    let f1 ← ofTree_P_Node t1
    let f2 ← strOfAtom t2
    pure { JobID := f0, Node := f1, Error := f2 }
  | _ => none

def toTree_P_RowIdentifiers (v : P.RowIdentifiers) : Tree :=
  .node [listTree (fun v => .atom (toString v.toNat)) v.Rows,
    listTree (fun v => strAtom v) v.Keys]

def ofTree_P_RowIdentifiers : Tree → Option P.RowIdentifiers
  | .node [t0, t1] => do
    let f0 ← (listOfTree (fun t => (natOfAtom t).map Nat.toUInt64)) t0
    let f1 ← (listOfTree strOfAtom) t1
    pure { Rows := f0, Keys := f1 }
  | _ => none

def toTree_P_SetCoordinatorMessage (v : P.SetCoordinatorMessage) : Tree :=
  .node [toTree_P_Node v.New]

def ofTree_P_SetCoordinatorMessage : Tree → Option P.SetCoordinatorMessage
  | .node [t0] => do
    let f0 ← ofTree_P_Node t0
    pure { New := f0 }
  | _ => none

def toTree_P_TranslateKeysRequest (v : P.TranslateKeysRequest) : Tree :=
  .node [strAtom v.Index,
    strAtom v.Field,
    listTree (fun v => strAtom v) v.Keys]

def ofTree_P_TranslateKeysRequest : Tree → Option P.TranslateKeysRequest
  | .node [t0, t1, t2] => do
    let f0 ← strOfAtom t0
    let f1 ← strOfAtom t1
    let f2 ← (listOfTree strOfAtom) t2
    pure { Index := f0, Field := f1, Keys := f2 }
  | _ => none

def toTree_P_TranslateKeysResponse (v : P.TranslateKeysResponse) : Tree :=
  .node [listTree (fun v => .atom (toString v.toNat)) v.IDs]

def ofTree_P_TranslateKeysResponse : Tree → Option P.TranslateKeysResponse
  | .node [t0] => do
    let f0 ← (listOfTree (fun t => (natOfAtom t).map Nat.toUInt64)) t0
    pure { IDs := f0 }
  | _ => none

def toTree_P_UpdateCoordinatorMessage (v : P.UpdateCoordinatorMessage) : Tree :=
  .node [toTree_P_Node v.New]

def ofTree_P_UpdateCoordinatorMessage : Tree → Option P.UpdateCoordinatorMessage
  | .node [t0] => do
    let f0 ← ofTree_P_Node t0
    pure { New := f0 }
  | _ => none

def toTree_P_ValCount (v : P.ValCount) : Tree :=
  .node [.atom (toString v.Val.toInt),
    .atom (toString v.Count.toInt)]

def ofTree_P_ValCount : Tree → Option P.ValCount
  | .node [t0, t1] => do
    let f0 ← (fun t => (intOfAtom t).map Int.toInt64) t0
    let f1 ← (fun t => (intOfAtom t).map Int.toInt64) t1
    pure { Val := f0, Count := f1 }
  | _ => none

def toTree_Result : P.Result → Tree
  | .row v => .node [.atom "row", optTree rowTree v]
  | .pairs v => .node [.atom "pairs", listTree (fun v => toTree_P_Pair v) v]
  | .valCount v => .node [.atom "valCount", toTree_P_ValCount v]
  | .uint64 v => .node [.atom "uint64", .atom (toString v.toNat)]
  | .bool v => .node [.atom "bool", boolAtom v]
  | .rowIDs v => .node [.atom "rowIDs", listTree (fun v => .atom (toString v.toNat)) v]
  | .groupCounts v => .node [.atom "groupCounts", listTree (fun v => toTree_P_GroupCount v) v]
  | .rowIdentifiers v => .node [.atom "rowIdentifiers", toTree_P_RowIdentifiers v]
  | .pair v => .node [.atom "pair", toTree_P_Pair v]
  | .nil => .node [.atom "nil"]
  | .rowIdentifiersPtr v => .node [.atom "rowIdentifiersPtr", toTree_P_RowIdentifiers v]

def ofTree_Result : Tree → Option P.Result
  | .node [.atom "row", t] => (optOfTree rowOfTree t).map .row
  | .node [.atom "pairs", t] => ((listOfTree ofTree_P_Pair) t).map .pairs
  | .node [.atom "valCount", t] => (ofTree_P_ValCount t).map .valCount
  | .node [.atom "uint64", t] => ((fun t => (natOfAtom t).map Nat.toUInt64) t).map .uint64
  | .node [.atom "bool", t] => (boolOfAtom t).map .bool
  | .node [.atom "rowIDs", t] => ((listOfTree (fun t => (natOfAtom t).map Nat.toUInt64)) t).map .rowIDs
  | .node [.atom "groupCounts", t] => ((listOfTree ofTree_P_GroupCount) t).map .groupCounts
  | .node [.atom "rowIdentifiers", t] => (ofTree_P_RowIdentifiers t).map .rowIdentifiers
  | .node [.atom "pair", t] => (ofTree_P_Pair t).map .pair
  | .node [.atom "nil"] => some .nil
  | .node [.atom "rowIdentifiersPtr", t] => (ofTree_P_RowIdentifiers t).map .rowIdentifiersPtr
  | _ => none

def toTree_P_QueryResponse (v : P.QueryResponse) : Tree :=
  .node [listTree toTree_Result v.Results,
    listTree (fun v => toTree_P_ColumnAttrSet v) v.ColumnAttrSets,
    optTree strAtom v.Err]

def ofTree_P_QueryResponse : Tree → Option P.QueryResponse
  | .node [t0, t1, t2] => do
    let f0 ← (listOfTree ofTree_Result) t0
    let f1 ← (listOfTree ofTree_P_ColumnAttrSet) t1
    let f2 ← (optOfTree strOfAtom) t2
    pure { Results := f0, ColumnAttrSets := f1, Err := f2 }
  | _ => none

/-! ## Trees of the protobuf-side structs (for `dec` lines: arbitrary internal values) -/

def toTree_I_Attr (v : I.Attr) : Tree :=
  .node [strAtom v.Key,
    .atom (toString v.Type_.toNat),
    strAtom v.StringValue,
    .atom (toString v.IntValue.toInt),
    boolAtom v.BoolValue,
    floatAtom v.FloatValue]

def ofTree_I_Attr : Tree → Option I.Attr
  | .node [t0, t1, t2, t3, t4, t5] => do
    let f0 ← strOfAtom t0
    let f1 ← (fun t => (natOfAtom t).map Nat.toUInt64) t1
    let f2 ← strOfAtom t2
    let f3 ← (fun t => (intOfAtom t).map Int.toInt64) t3
    let f4 ← boolOfAtom t4
    let f5 ← floatOfAtom t5
    pure { Key := f0, Type_ := f1, StringValue := f2, IntValue := f3, BoolValue := f4, FloatValue := f5 }
  | _ => none

def toTree_I_BlockDataRequest (v : I.BlockDataRequest) : Tree :=
  .node [strAtom v.Index,
    strAtom v.Field,
    strAtom v.View,
    .atom (toString v.Shard.toNat),
    .atom (toString v.Block.toNat)]

def ofTree_I_BlockDataRequest : Tree → Option I.BlockDataRequest
  | .node [t0, t1, t2, t3, t4] => do
    let f0 ← strOfAtom t0
    let f1 ← strOfAtom t1
    let f2 ← strOfAtom t2
    let f3 ← (fun t => (natOfAtom t).map Nat.toUInt64) t3
    let f4 ← (fun t => (natOfAtom t).map Nat.toUInt64) t4
    pure { Index := f0, Field := f1, View := f2, Shard := f3, Block := f4 }
  | _ => none

def toTree_I_BlockDataResponse (v : I.BlockDataResponse) : Tree :=
  .node [listTree (fun v => .atom (toString v.toNat)) v.RowIDs,
    listTree (fun v => .atom (toString v.toNat)) v.ColumnIDs]

def ofTree_I_BlockDataResponse : Tree → Option I.BlockDataResponse
  | .node [t0, t1] => do
    let f0 ← (listOfTree (fun t => (natOfAtom t).map Nat.toUInt64)) t0
    let f1 ← (listOfTree (fun t => (natOfAtom t).map Nat.toUInt64)) t1
    pure { RowIDs := f0, ColumnIDs := f1 }
  | _ => none

def toTree_I_URI (v : I.URI) : Tree :=
  .node [strAtom v.Scheme,
    strAtom v.Host,
    .atom (toString v.Port.toNat)]

def ofTree_I_URI : Tree → Option I.URI
  | .node [t0, t1, t2] => do
    let f0 ← strOfAtom t0
    let f1 ← strOfAtom t1
    let f2 ← (fun t => (natOfAtom t).map Nat.toUInt32) t2
    pure { Scheme := f0, Host := f1, Port := f2 }
  | _ => none

def toTree_I_Node (v : I.Node) : Tree :=
  .node [strAtom v.ID,
    optTree (fun v => toTree_I_URI v) v.URI,
    boolAtom v.IsCoordinator,
    strAtom v.State]

def ofTree_I_Node : Tree → Option I.Node
  | .node [t0, t1, t2, t3] => do
    let f0 ← strOfAtom t0
    let f1 ← (optOfTree ofTree_I_URI) t1
    let f2 ← boolOfAtom t2
    let f3 ← strOfAtom t3
    pure { ID := f0, URI := f1, IsCoordinator := f2, State := f3 }
  | _ => none

def toTree_I_ClusterStatus (v : I.ClusterStatus) : Tree :=
  .node [strAtom v.ClusterID,
    strAtom v.State,
    listTree (fun v => toTree_I_Node v) v.Nodes]

def ofTree_I_ClusterStatus : Tree → Option I.ClusterStatus
  | .node [t0, t1, t2] => do
    let f0 ← strOfAtom t0
    let f1 ← strOfAtom t1
    let f2 ← (listOfTree ofTree_I_Node) t2
    pure { ClusterID := f0, State := f1, Nodes := f2 }
  | _ => none

def toTree_I_ColumnAttrSet (v : I.ColumnAttrSet) : Tree :=
  .node [.atom (toString v.ID.toNat),
    strAtom v.Key,
    listTree (fun v => toTree_I_Attr v) v.Attrs]

def ofTree_I_ColumnAttrSet : Tree → Option I.ColumnAttrSet
  | .node [t0, t1, t2] => do
    let f0 ← (fun t => (natOfAtom t).map Nat.toUInt64) t0
    let f1 ← strOfAtom t1
    let f2 ← (listOfTree ofTree_I_Attr) t2
    pure { ID := f0, Key := f1, Attrs := f2 }
  | _ => none

def toTree_I_FieldOptions (v : I.FieldOptions) : Tree :=
  .node [strAtom v.Type_,
    strAtom v.CacheType,
    .atom (toString v.CacheSize.toNat),
    strAtom v.TimeQuantum,
    boolAtom v.Keys,
    boolAtom v.NoStandardView,
    .atom (toString v.Base.toInt),
    .atom (toString v.BitDepth.toNat),
    .atom (toString v.Min.toInt),
    .atom (toString v.Max.toInt)]

def ofTree_I_FieldOptions : Tree → Option I.FieldOptions
  | .node [t0, t1, t2, t3, t4, t5, t6, t7, t8, t9] => do
    let f0 ← strOfAtom t0
    let f1 ← strOfAtom t1
    let f2 ← (fun t => (natOfAtom t).map Nat.toUInt32) t2
    let f3 ← strOfAtom t3
    let f4 ← boolOfAtom t4
    let f5 ← boolOfAtom t5
    let f6 ← (fun t => (intOfAtom t).map Int.toInt64) t6
    let f7 ← (fun t => (natOfAtom t).map Nat.toUInt64) t7
    let f8 ← (fun t => (intOfAtom t).map Int.toInt64) t8
    let f9 ← (fun t => (intOfAtom t).map Int.toInt64) t9
    pure { Type_ := f0, CacheType := f1, CacheSize := f2, TimeQuantum := f3, Keys := f4, NoStandardView := f5, Base := f6, BitDepth := f7, Min := f8, Max := f9 }
  | _ => none

def toTree_I_CreateFieldMessage (v : I.CreateFieldMessage) : Tree :=
  .node [strAtom v.Index,
    strAtom v.Field,
    optTree (fun v => toTree_I_FieldOptions v) v.Meta]

def ofTree_I_CreateFieldMessage : Tree → Option I.CreateFieldMessage
  | .node [t0, t1, t2] => do
    let f0 ← strOfAtom t0
    let f1 ← strOfAtom t1
    let f2 ← (optOfTree ofTree_I_FieldOptions) t2
    pure { Index := f0, Field := f1, Meta := f2 }
  | _ => none

def toTree_I_IndexMeta (v : I.IndexMeta) : Tree :=
  .node [boolAtom v.Keys,
    boolAtom v.TrackExistence]

def ofTree_I_IndexMeta : Tree → Option I.IndexMeta
  | .node [t0, t1] => do
    let f0 ← boolOfAtom t0
    let f1 ← boolOfAtom t1
    pure { Keys := f0, TrackExistence := f1 }
  | _ => none

def toTree_I_CreateIndexMessage (v : I.CreateIndexMessage) : Tree :=
  .node [strAtom v.Index,
    optTree (fun v => toTree_I_IndexMeta v) v.Meta]

def ofTree_I_CreateIndexMessage : Tree → Option I.CreateIndexMessage
  | .node [t0, t1] => do
    let f0 ← strOfAtom t0
    let f1 ← (optOfTree ofTree_I_IndexMeta) t1
    pure { Index := f0, Meta := f1 }
  | _ => none

def toTree_I_CreateShardMessage (v : I.CreateShardMessage) : Tree :=
  .node [strAtom v.Index,
    strAtom v.Field,
    .atom (toString v.Shard.toNat)]

def ofTree_I_CreateShardMessage : Tree → Option I.CreateShardMessage
  | .node [t0, t1, t2] => do
    let f0 ← strOfAtom t0
    let f1 ← strOfAtom t1
    let f2 ← (fun t => (natOfAtom t).map Nat.toUInt64) t2
    pure { Index := f0, Field := f1, Shard := f2 }
  | _ => none

def toTree_I_CreateViewMessage (v : I.CreateViewMessage) : Tree :=
  .node [strAtom v.Index,
    strAtom v.Field,
    strAtom v.View]

def ofTree_I_CreateViewMessage : Tree → Option I.CreateViewMessage
  | .node [t0, t1, t2] => do
    let f0 ← strOfAtom t0
    let f1 ← strOfAtom t1
    let f2 ← strOfAtom t2
    pure { Index := f0, Field := f1, View := f2 }
  | _ => none

def toTree_I_DeleteAvailableShardMessage (v : I.DeleteAvailableShardMessage) : Tree :=
  .node [strAtom v.Index,
    strAtom v.Field,
    .atom (toString v.ShardID.toNat)]

def ofTree_I_DeleteAvailableShardMessage : Tree → Option I.DeleteAvailableShardMessage
  | .node [t0, t1, t2] => do
    let f0 ← strOfAtom t0
    let f1 ← strOfAtom t1
    let f2 ← (fun t => (natOfAtom t).map Nat.toUInt64) t2
    pure { Index := f0, Field := f1, ShardID := f2 }
  | _ => none

def toTree_I_DeleteFieldMessage (v : I.DeleteFieldMessage) : Tree :=
  .node [strAtom v.Index,
    strAtom v.Field]

def ofTree_I_DeleteFieldMessage : Tree → Option I.DeleteFieldMessage
  | .node [t0, t1] => do
    let f0 ← strOfAtom t0
    let f1 ← strOfAtom t1
    pure { Index := f0, Field := f1 }
  | _ => none

def toTree_I_DeleteIndexMessage (v : I.DeleteIndexMessage) : Tree :=
  .node [strAtom v.Index]

def ofTree_I_DeleteIndexMessage : Tree → Option I.DeleteIndexMessage
  | .node [t0] => do
    let f0 ← strOfAtom t0
    pure { Index := f0 }
  | _ => none

def toTree_I_DeleteViewMessage (v : I.DeleteViewMessage) : Tree :=
  .node [strAtom v.Index,
    strAtom v.Field,
    strAtom v.View]

def ofTree_I_DeleteViewMessage : Tree → Option I.DeleteViewMessage
  | .node [t0, t1, t2] => do
    let f0 ← strOfAtom t0
    let f1 ← strOfAtom t1
    let f2 ← strOfAtom t2
    pure { Index := f0, Field := f1, View := f2 }
  | _ => none

def toTree_I_Field (v : I.Field) : Tree :=
  .node [strAtom v.Name,
    optTree (fun v => toTree_I_FieldOptions v) v.Meta,
    listTree (fun v => strAtom v) v.Views]

def ofTree_I_Field : Tree → Option I.Field
  | .node [t0, t1, t2] => do
    let f0 ← strOfAtom t0
    let f1 ← (optOfTree ofTree_I_FieldOptions) t1
    let f2 ← (listOfTree strOfAtom) t2
    pure { Name := f0, Meta := f1, Views := f2 }
  | _ => none

def toTree_I_FieldRow (v : I.FieldRow) : Tree :=
  .node [strAtom v.Field,
    .atom (toString v.RowID.toNat),
    strAtom v.RowKey]

def ofTree_I_FieldRow : Tree → Option I.FieldRow
  | .node [t0, t1, t2] => do
    let f0 ← strOfAtom t0
    let f1 ← (fun t => (natOfAtom t).map Nat.toUInt64) t1
    let f2 ← strOfAtom t2
    pure { Field := f0, RowID := f1, RowKey := f2 }
  | _ => none

def toTree_I_FieldStatus (v : I.FieldStatus) : Tree :=
  .node [strAtom v.Name,
    listTree (fun v => .atom (toString v.toNat)) v.AvailableShards]

def ofTree_I_FieldStatus : Tree → Option I.FieldStatus
  | .node [t0, t1] => do
    let f0 ← strOfAtom t0
    let f1 ← (listOfTree (fun t => (natOfAtom t).map Nat.toUInt64)) t1
    pure { Name := f0, AvailableShards := f1 }
  | _ => none

def toTree_I_GroupCount (v : I.GroupCount) : Tree :=
  .node [listTree (fun v => toTree_I_FieldRow v) v.Group,
    .atom (toString v.Count.toNat)]

def ofTree_I_GroupCount : Tree → Option I.GroupCount
  | .node [t0, t1] => do
    let f0 ← (listOfTree ofTree_I_FieldRow) t0
    let f1 ← (fun t => (natOfAtom t).map Nat.toUInt64) t1
    pure { Group := f0, Count := f1 }
  | _ => none

def toTree_I_ImportRequest (v : I.ImportRequest) : Tree :=
  .node [strAtom v.Index,
    strAtom v.Field,
    .atom (toString v.Shard.toNat),
    listTree (fun v => .atom (toString v.toNat)) v.RowIDs,
    listTree (fun v => .atom (toString v.toNat)) v.ColumnIDs,
    listTree (fun v => strAtom v) v.RowKeys,
    listTree (fun v => strAtom v) v.ColumnKeys,
    listTree (fun v => .atom (toString v.toInt)) v.Timestamps]

def ofTree_I_ImportRequest : Tree → Option I.ImportRequest
  | .node [t0, t1, t2, t3, t4, t5, t6, t7] => do
    let f0 ← strOfAtom t0
    let f1 ← strOfAtom t1
    let f2 ← (fun t => (natOfAtom t).map Nat.toUInt64) t2
    let f3 ← (listOfTree (fun t => (natOfAtom t).map Nat.toUInt64)) t3
    let f4 ← (listOfTree (fun t => (natOfAtom t).map Nat.toUInt64)) t4
    let f5 ← (listOfTree strOfAtom) t5
    let f6 ← (listOfTree strOfAtom) t6
    let f7 ← (listOfTree (fun t => (intOfAtom t).map Int.toInt64)) t7
    pure { Index := f0, Field := f1, Shard := f2, RowIDs := f3, ColumnIDs := f4, RowKeys := f5, ColumnKeys := f6, Timestamps := f7 }
  | _ => none

def toTree_I_ImportResponse (v : I.ImportResponse) : Tree :=
  .node [strAtom v.Err]

def ofTree_I_ImportResponse : Tree → Option I.ImportResponse
  | .node [t0] => do
    let f0 ← strOfAtom t0
    pure { Err := f0 }
  | _ => none

def toTree_I_ImportRoaringRequestView (v : I.ImportRoaringRequestView) : Tree :=
  .node [strAtom v.Name,
    bytesAtom v.Data]

def ofTree_I_ImportRoaringRequestView : Tree → Option I.ImportRoaringRequestView
  | .node [t0, t1] => do
    let f0 ← strOfAtom t0
    let f1 ← bytesOfAtom t1
    pure { Name := f0, Data := f1 }
  | _ => none

def toTree_I_ImportRoaringRequest (v : I.ImportRoaringRequest) : Tree :=
  .node [boolAtom v.Clear,
    listTree (fun v => toTree_I_ImportRoaringRequestView v) v.Views]

def ofTree_I_ImportRoaringRequest : Tree → Option I.ImportRoaringRequest
  | .node [t0, t1] => do
    let f0 ← boolOfAtom t0
    let f1 ← (listOfTree ofTree_I_ImportRoaringRequestView) t1
    pure { Clear := f0, Views := f1 }
  | _ => none

def toTree_I_ImportValueRequest (v : I.ImportValueRequest) : Tree :=
  .node [strAtom v.Index,
    strAtom v.Field,
    .atom (toString v.Shard.toNat),
    listTree (fun v => .atom (toString v.toNat)) v.ColumnIDs,
    listTree (fun v => strAtom v) v.ColumnKeys,
    listTree (fun v => .atom (toString v.toInt)) v.Values]

def ofTree_I_ImportValueRequest : Tree → Option I.ImportValueRequest
  | .node [t0, t1, t2, t3, t4, t5] => do
    let f0 ← strOfAtom t0
    let f1 ← strOfAtom t1
    let f2 ← (fun t => (natOfAtom t).map Nat.toUInt64) t2
    let f3 ← (listOfTree (fun t => (natOfAtom t).map Nat.toUInt64)) t3
    let f4 ← (listOfTree strOfAtom) t4
    let f5 ← (listOfTree (fun t => (intOfAtom t).map Int.toInt64)) t5
    pure { Index := f0, Field := f1, Shard := f2, ColumnIDs := f3, ColumnKeys := f4, Values := f5 }
  | _ => none

def toTree_I_Index (v : I.Index) : Tree :=
  .node [strAtom v.Name,
    listTree (fun v => toTree_I_Field v) v.Fields]

def ofTree_I_Index : Tree → Option I.Index
  | .node [t0, t1] => do
    let f0 ← strOfAtom t0
    let f1 ← (listOfTree ofTree_I_Field) t1
    pure { Name := f0, Fields := f1 }
  | _ => none

def toTree_I_IndexStatus (v : I.IndexStatus) : Tree :=
  .node [strAtom v.Name,
    listTree (fun v => toTree_I_FieldStatus v) v.Fields]

def ofTree_I_IndexStatus : Tree → Option I.IndexStatus
  | .node [t0, t1] => do
    let f0 ← strOfAtom t0
    let f1 ← (listOfTree ofTree_I_FieldStatus) t1
    pure { Name := f0, Fields := f1 }
  | _ => none

def toTree_I_NodeEventMessage (v : I.NodeEventMessage) : Tree :=
  .node [.atom (toString v.Event.toNat),
    optTree (fun v => toTree_I_Node v) v.Node]

def ofTree_I_NodeEventMessage : Tree → Option I.NodeEventMessage
  | .node [t0, t1] => do
    let f0 ← (fun t => (natOfAtom t).map Nat.toUInt32) t0
    let f1 ← (optOfTree ofTree_I_Node) t1
    pure { Event := f0, Node := f1 }
  | _ => none

def toTree_I_NodeStateMessage (v : I.NodeStateMessage) : Tree :=
  .node [strAtom v.NodeID,
    strAtom v.State]

def ofTree_I_NodeStateMessage : Tree → Option I.NodeStateMessage
  | .node [t0, t1] => do
    let f0 ← strOfAtom t0
    let f1 ← strOfAtom t1
    pure { NodeID := f0, State := f1 }
  | _ => none

def toTree_I_Schema (v : I.Schema) : Tree :=
  .node [listTree (fun v => toTree_I_Index v) v.Indexes]

def ofTree_I_Schema : Tree → Option I.Schema
  | .node [t0] => do
    let f0 ← (listOfTree ofTree_I_Index) t0
    pure { Indexes := f0 }
  | _ => none

def toTree_I_NodeStatus (v : I.NodeStatus) : Tree :=
  .node [optTree (fun v => toTree_I_Node v) v.Node,
    optTree (fun v => toTree_I_Schema v) v.Schema,
    listTree (fun v => toTree_I_IndexStatus v) v.Indexes]

def ofTree_I_NodeStatus : Tree → Option I.NodeStatus
  | .node [t0, t1, t2] => do
    let f0 ← (optOfTree ofTree_I_Node) t0
    let f1 ← (optOfTree ofTree_I_Schema) t1
    let f2 ← (listOfTree ofTree_I_IndexStatus) t2
    pure { Node := f0, Schema := f1, Indexes := f2 }
  | _ => none

def toTree_I_Pair (v : I.Pair) : Tree :=
  .node [.atom (toString v.ID.toNat),
    strAtom v.Key,
    .atom (toString v.Count.toNat)]

def ofTree_I_Pair : Tree → Option I.Pair
  | .node [t0, t1, t2] => do
    let f0 ← (fun t => (natOfAtom t).map Nat.toUInt64) t0
    let f1 ← strOfAtom t1
    let f2 ← (fun t => (natOfAtom t).map Nat.toUInt64) t2
    pure { ID := f0, Key := f1, Count := f2 }
  | _ => none

def toTree_I_QueryRequest (v : I.QueryRequest) : Tree :=
  .node [strAtom v.Query,
    listTree (fun v => .atom (toString v.toNat)) v.Shards,
    boolAtom v.ColumnAttrs,
    boolAtom v.Remote,
    boolAtom v.ExcludeRowAttrs,
    boolAtom v.ExcludeColumns]

def ofTree_I_QueryRequest : Tree → Option I.QueryRequest
  | .node [t0, t1, t2, t3, t4, t5] => do
    let f0 ← strOfAtom t0
    let f1 ← (listOfTree (fun t => (natOfAtom t).map Nat.toUInt64)) t1
    let f2 ← boolOfAtom t2
    let f3 ← boolOfAtom t3
    let f4 ← boolOfAtom t4
    let f5 ← boolOfAtom t5
    pure { Query := f0, Shards := f1, ColumnAttrs := f2, Remote := f3, ExcludeRowAttrs := f4, ExcludeColumns := f5 }
  | _ => none

def toTree_I_Row (v : I.Row) : Tree :=
  .node [listTree (fun v => .atom (toString v.toNat)) v.Columns,
    listTree (fun v => strAtom v) v.Keys,
    listTree (fun v => toTree_I_Attr v) v.Attrs]

def ofTree_I_Row : Tree → Option I.Row
  | .node [t0, t1, t2] => do
    let f0 ← (listOfTree (fun t => (natOfAtom t).map Nat.toUInt64)) t0
    let f1 ← (listOfTree strOfAtom) t1
    let f2 ← (listOfTree ofTree_I_Attr) t2
    pure { Columns := f0, Keys := f1, Attrs := f2 }
  | _ => none

def toTree_I_ValCount (v : I.ValCount) : Tree :=
  .node [.atom (toString v.Val.toInt),
    .atom (toString v.Count.toInt)]

def ofTree_I_ValCount : Tree → Option I.ValCount
  | .node [t0, t1] => do
    let f0 ← (fun t => (intOfAtom t).map Int.toInt64) t0
    let f1 ← (fun t => (intOfAtom t).map Int.toInt64) t1
    pure { Val := f0, Count := f1 }
  | _ => none

def toTree_I_RowIdentifiers (v : I.RowIdentifiers) : Tree :=
  .node [listTree (fun v => .atom (toString v.toNat)) v.Rows,
    listTree (fun v => strAtom v) v.Keys]

def ofTree_I_RowIdentifiers : Tree → Option I.RowIdentifiers
  | .node [t0, t1] => do
    let f0 ← (listOfTree (fun t => (natOfAtom t).map Nat.toUInt64)) t0
    let f1 ← (listOfTree strOfAtom) t1
    pure { Rows := f0, Keys := f1 }
  | _ => none

def toTree_I_QueryResult (v : I.QueryResult) : Tree :=
  .node [.atom (toString v.Type_.toNat),
    optTree (fun v => toTree_I_Row v) v.Row,
    .atom (toString v.N.toNat),
    listTree (fun v => toTree_I_Pair v) v.Pairs,
    boolAtom v.Changed,
    optTree (fun v => toTree_I_ValCount v) v.ValCount,
    listTree (fun v => .atom (toString v.toNat)) v.RowIDs,
    listTree (fun v => toTree_I_GroupCount v) v.GroupCounts,
    optTree (fun v => toTree_I_RowIdentifiers v) v.RowIdentifiers]

def ofTree_I_QueryResult : Tree → Option I.QueryResult
  | .node [t0, t1, t2, t3, t4, t5, t6, t7, t8] => do
    let f0 ← (fun t => (natOfAtom t).map Nat.toUInt32) t0
    let f1 ← (optOfTree ofTree_I_Row) t1
    let f2 ← (fun t => (natOfAtom t).map Nat.toUInt64) t2
    let f3 ← (listOfTree ofTree_I_Pair) t3
    let f4 ← boolOfAtom t4
    let f5 ← (optOfTree ofTree_I_ValCount) t5
    let f6 ← (listOfTree (fun t => (natOfAtom t).map Nat.toUInt64)) t6
    let f7 ← (listOfTree ofTree_I_GroupCount) t7
    let f8 ← (optOfTree ofTree_I_RowIdentifiers) t8
    pure { Type_ := f0, Row := f1, N := f2, Pairs := f3, Changed := f4, ValCount := f5, RowIDs := f6, GroupCounts := f7, RowIdentifiers := f8 }
  | _ => none

def toTree_I_QueryResponse (v : I.QueryResponse) : Tree :=
  .node [strAtom v.Err,
    listTree (fun v => toTree_I_QueryResult v) v.Results,
    listTree (fun v => toTree_I_ColumnAttrSet v) v.ColumnAttrSets]

def ofTree_I_QueryResponse : Tree → Option I.QueryResponse
  | .node [t0, t1, t2] => do
    let f0 ← strOfAtom t0
    let f1 ← (listOfTree ofTree_I_QueryResult) t1
    let f2 ← (listOfTree ofTree_I_ColumnAttrSet) t2
    pure { Err := f0, Results := f1, ColumnAttrSets := f2 }
  | _ => none

def toTree_I_RecalculateCaches (v : I.RecalculateCaches) : Tree :=
  .node []

def ofTree_I_RecalculateCaches : Tree → Option I.RecalculateCaches
  | .node [] => some {}
  | _ => none

def toTree_I_ResizeSource (v : I.ResizeSource) : Tree :=
  .node [optTree (fun v => toTree_I_Node v) v.Node,
    strAtom v.Index,
    strAtom v.Field,
    strAtom v.View,
    .atom (toString v.Shard.toNat)]

def ofTree_I_ResizeSource : Tree → Option I.ResizeSource
  | .node [t0, t1, t2, t3, t4] => do
    let f0 ← (optOfTree ofTree_I_Node) t0
    let f1 ← strOfAtom t1
    let f2 ← strOfAtom t2
    let f3 ← strOfAtom t3
    let f4 ← (fun t => (natOfAtom t).map Nat.toUInt64) t4
    pure { Node := f0, Index := f1, Field := f2, View := f3, Shard := f4 }
  | _ => none

def toTree_I_ResizeInstruction (v : I.ResizeInstruction) : Tree :=
  .node [.atom (toString v.JobID.toInt),
    optTree (fun v => toTree_I_Node v) v.Node,
    optTree (fun v => toTree_I_Node v) v.Coordinator,
    listTree (fun v => toTree_I_ResizeSource v) v.Sources,
    optTree (fun v => toTree_I_NodeStatus v) v.NodeStatus,
    optTree (fun v => toTree_I_ClusterStatus v) v.ClusterStatus]

def ofTree_I_ResizeInstruction : Tree → Option I.ResizeInstruction
  | .node [t0, t1, t2, t3, t4, t5] => do
    let f0 ← (fun t => (intOfAtom t).map Int.toInt64) t0
    let f1 ← (optOfTree ofTree_I_Node) t1
    let f2 ← (optOfTree ofTree_I_Node) t2
    let f3 ← (listOfTree ofTree_I_ResizeSource) t3
    let f4 ← (optOfTree ofTree_I_NodeStatus) t4
    let f5 ← (optOfTree ofTree_I_ClusterStatus) t5
    pure { JobID := f0, Node := f1, Coordinator := f2, Sources := f3, NodeStatus := f4, ClusterStatus := f5 }
  | _ => none

def toTree_I_ResizeInstructionComplete (v : I.ResizeInstructionComplete) : Tree :=
  .node [.atom (toString v.JobID.toInt),
    optTree (fun v => toTree_I_Node v) v.Node,
    strAtom v.Error]

def ofTree_I_ResizeInstructionComplete : Tree → Option I.ResizeInstructionComplete
  | .node [t0, t1, t2] => do
    let f0 ← (fun t => (intOfAtom t).map Int.toInt64) t0
    let f1 ← (optOfTree ofTree_I_Node) t1
    let f2 ← strOfAtom t2
    pure { JobID := f0, Node := f1, Error := f2 }
  | _ => none

def toTree_I_SetCoordinatorMessage (v : I.SetCoordinatorMessage) : Tree :=
  .node [optTree (fun v => toTree_I_Node v) v.New]

def ofTree_I_SetCoordinatorMessage : Tree → Option I.SetCoordinatorMessage
  | .node [t0] => do
    let f0 ← (optOfTree ofTree_I_Node) t0
    pure { New := f0 }
  | _ => none

def toTree_I_TranslateKeysRequest (v : I.TranslateKeysRequest) : Tree :=
  .node [strAtom v.Index,
    strAtom v.Field,
    listTree (fun v => strAtom v) v.Keys]

def ofTree_I_TranslateKeysRequest : Tree → Option I.TranslateKeysRequest
  | .node [t0, t1, t2] => do
    let f0 ← strOfAtom t0
    let f1 ← strOfAtom t1
    let f2 ← (listOfTree strOfAtom) t2
    pure { Index := f0, Field := f1, Keys := f2 }
  | _ => none

def toTree_I_TranslateKeysResponse (v : I.TranslateKeysResponse) : Tree :=
  .node [listTree (fun v => .atom (toString v.toNat)) v.IDs]

def ofTree_I_TranslateKeysResponse : Tree → Option I.TranslateKeysResponse
  | .node [t0] => do
    let f0 ← (listOfTree (fun t => (natOfAtom t).map Nat.toUInt64)) t0
    pure { IDs := f0 }
  | _ => none

def toTree_I_UpdateCoordinatorMessage (v : I.UpdateCoordinatorMessage) : Tree :=
  .node [optTree (fun v => toTree_I_Node v) v.New]

def ofTree_I_UpdateCoordinatorMessage : Tree → Option I.UpdateCoordinatorMessage
  | .node [t0] => do
    let f0 ← (optOfTree ofTree_I_Node) t0
    pure { New := f0 }
  | _ => none

/-! ## Driver entry: Serializer.Marshal then Serializer.Unmarshal into a fresh value -/

def showOutcome {α : Type} (f : α → Tree) : Outcome α → String
  | .ok v => (f v).show
  | .error (.panic _) => "panic:decode"
  | .error (.error _) => "err:decode"

/-- (model output, spec output, what the theorems say the codec returns) for message type `name` and
the value described by `t`. -/
def roundTrip (name : String) (t : Tree) : Option (String × String × String) :=
  if name = "CreateShardMessage" then
    (ofTree_P_CreateShardMessage t).map (fun v =>
      (showOutcome toTree_P_CreateShardMessage (decodeCreateShardMessage (some (encodeCreateShardMessage v)) {}), (toTree_P_CreateShardMessage (canon_CreateShardMessage false v)).show, (toTree_P_CreateShardMessage (canon_CreateShardMessage true v)).show))
  else   if name = "CreateIndexMessage" then
    (ofTree_P_CreateIndexMessage t).map (fun v =>
      (showOutcome toTree_P_CreateIndexMessage (decodeCreateIndexMessage (some (encodeCreateIndexMessage v)) {}), (toTree_P_CreateIndexMessage (canon_CreateIndexMessage false v)).show, (toTree_P_CreateIndexMessage (canon_CreateIndexMessage true v)).show))
  else   if name = "DeleteIndexMessage" then
    (ofTree_P_DeleteIndexMessage t).map (fun v =>
      (showOutcome toTree_P_DeleteIndexMessage (decodeDeleteIndexMessage (some (encodeDeleteIndexMessage v)) {}), (toTree_P_DeleteIndexMessage (canon_DeleteIndexMessage false v)).show, (toTree_P_DeleteIndexMessage (canon_DeleteIndexMessage true v)).show))
  else   if name = "CreateFieldMessage" then
    (ofTree_P_CreateFieldMessage t).map (fun v =>
      (showOutcome toTree_P_CreateFieldMessage (decodeCreateFieldMessage (some (encodeCreateFieldMessage v)) {}), (toTree_P_CreateFieldMessage (canon_CreateFieldMessage false v)).show, (toTree_P_CreateFieldMessage (canon_CreateFieldMessage true v)).show))
  else   if name = "DeleteFieldMessage" then
    (ofTree_P_DeleteFieldMessage t).map (fun v =>
      (showOutcome toTree_P_DeleteFieldMessage (decodeDeleteFieldMessage (some (encodeDeleteFieldMessage v)) {}), (toTree_P_DeleteFieldMessage (canon_DeleteFieldMessage false v)).show, (toTree_P_DeleteFieldMessage (canon_DeleteFieldMessage true v)).show))
  else   if name = "DeleteAvailableShardMessage" then
    (ofTree_P_DeleteAvailableShardMessage t).map (fun v =>
      (showOutcome toTree_P_DeleteAvailableShardMessage (decodeDeleteAvailableShardMessage (some (encodeDeleteAvailableShardMessage v)) {}), (toTree_P_DeleteAvailableShardMessage (canon_DeleteAvailableShardMessage false v)).show, (toTree_P_DeleteAvailableShardMessage (canon_DeleteAvailableShardMessage true v)).show))
  else   if name = "CreateViewMessage" then
    (ofTree_P_CreateViewMessage t).map (fun v =>
      (showOutcome toTree_P_CreateViewMessage (decodeCreateViewMessage (some (encodeCreateViewMessage v)) {}), (toTree_P_CreateViewMessage (canon_CreateViewMessage false v)).show, (toTree_P_CreateViewMessage (canon_CreateViewMessage true v)).show))
  else   if name = "DeleteViewMessage" then
    (ofTree_P_DeleteViewMessage t).map (fun v =>
      (showOutcome toTree_P_DeleteViewMessage (decodeDeleteViewMessage (some (encodeDeleteViewMessage v)) {}), (toTree_P_DeleteViewMessage (canon_DeleteViewMessage false v)).show, (toTree_P_DeleteViewMessage (canon_DeleteViewMessage true v)).show))
  else   if name = "ClusterStatus" then
    (ofTree_P_ClusterStatus t).map (fun v =>
      (showOutcome toTree_P_ClusterStatus (decodeClusterStatus (some (encodeClusterStatus v)) {}), (toTree_P_ClusterStatus (canon_ClusterStatus false v)).show, (toTree_P_ClusterStatus (canon_ClusterStatus true v)).show))
  else   if name = "ResizeInstruction" then
    (ofTree_P_ResizeInstruction t).map (fun v =>
      (showOutcome toTree_P_ResizeInstruction (decodeResizeInstruction (some (encodeResizeInstruction v)) {}), (toTree_P_ResizeInstruction (canon_ResizeInstruction false v)).show, (toTree_P_ResizeInstruction (canon_ResizeInstruction true v)).show))
  else   if name = "ResizeInstructionComplete" then
    (ofTree_P_ResizeInstructionComplete t).map (fun v =>
      (showOutcome toTree_P_ResizeInstructionComplete (decodeResizeInstructionComplete (some (encodeResizeInstructionComplete v)) {}), (toTree_P_ResizeInstructionComplete (canon_ResizeInstructionComplete false v)).show, (toTree_P_ResizeInstructionComplete (canon_ResizeInstructionComplete true v)).show))
  else   if name = "SetCoordinatorMessage" then
    (ofTree_P_SetCoordinatorMessage t).map (fun v =>
      (showOutcome toTree_P_SetCoordinatorMessage (decodeSetCoordinatorMessage (some (encodeSetCoordinatorMessage v)) {}), (toTree_P_SetCoordinatorMessage (canon_SetCoordinatorMessage false v)).show, (toTree_P_SetCoordinatorMessage (canon_SetCoordinatorMessage true v)).show))
  else   if name = "UpdateCoordinatorMessage" then
    (ofTree_P_UpdateCoordinatorMessage t).map (fun v =>
      (showOutcome toTree_P_UpdateCoordinatorMessage (decodeUpdateCoordinatorMessage (some (encodeUpdateCoordinatorMessage v)) {}), (toTree_P_UpdateCoordinatorMessage (canon_UpdateCoordinatorMessage false v)).show, (toTree_P_UpdateCoordinatorMessage (canon_UpdateCoordinatorMessage true v)).show))
  else   if name = "NodeStateMessage" then
    (ofTree_P_NodeStateMessage t).map (fun v =>
      (showOutcome toTree_P_NodeStateMessage (decodeNodeStateMessage (some (encodeNodeStateMessage v)) {}), (toTree_P_NodeStateMessage (canon_NodeStateMessage false v)).show, (toTree_P_NodeStateMessage (canon_NodeStateMessage true v)).show))
  else   if name = "RecalculateCaches" then
    (ofTree_P_RecalculateCaches t).map (fun v =>
      (showOutcome toTree_P_RecalculateCaches (decodeRecalculateCaches (some (encodeRecalculateCaches v)) {}), (toTree_P_RecalculateCaches (canon_RecalculateCaches false v)).show, (toTree_P_RecalculateCaches (canon_RecalculateCaches true v)).show))
  else   if name = "NodeEvent" then
    (ofTree_P_NodeEvent t).map (fun v =>
      (showOutcome toTree_P_NodeEvent (decodeNodeEventMessage (some (encodeNodeEventMessage v)) {}), (toTree_P_NodeEvent (canon_NodeEvent false v)).show, (toTree_P_NodeEvent (canon_NodeEvent true v)).show))
  else   if name = "NodeStatus" then
    (ofTree_P_NodeStatus t).map (fun v =>
      (showOutcome toTree_P_NodeStatus (decodeNodeStatus (some (encodeNodeStatus v)) {}), (toTree_P_NodeStatus (canon_NodeStatus false v)).show, (toTree_P_NodeStatus (canon_NodeStatus true v)).show))
  else   if name = "Node" then
    (ofTree_P_Node t).map (fun v =>
      (showOutcome toTree_P_Node (decodeNode (some (encodeNode v)) {}), (toTree_P_Node (canon_Node false v)).show, (toTree_P_Node (canon_Node true v)).show))
  else   if name = "QueryRequest" then
    (ofTree_P_QueryRequest t).map (fun v =>
      (showOutcome toTree_P_QueryRequest (decodeQueryRequest (some (encodeQueryRequest v)) {}), (toTree_P_QueryRequest (canon_QueryRequest false v)).show, (toTree_P_QueryRequest (canon_QueryRequest true v)).show))
  else   if name = "QueryResponse" then
    (ofTree_P_QueryResponse t).map (fun v =>
      (showOutcome toTree_P_QueryResponse (encodeQueryResponse v >>= fun pb => decodeQueryResponse (some pb) {}), (toTree_P_QueryResponse (canon_QueryResponse false v)).show, (toTree_P_QueryResponse (canon_QueryResponse true v)).show))
  else   if name = "ImportRequest" then
    (ofTree_P_ImportRequest t).map (fun v =>
      (showOutcome toTree_P_ImportRequest (decodeImportRequest (some (encodeImportRequest v)) {}), (toTree_P_ImportRequest (canon_ImportRequest false v)).show, (toTree_P_ImportRequest (canon_ImportRequest true v)).show))
  else   if name = "ImportValueRequest" then
    (ofTree_P_ImportValueRequest t).map (fun v =>
      (showOutcome toTree_P_ImportValueRequest (decodeImportValueRequest (some (encodeImportValueRequest v)) {}), (toTree_P_ImportValueRequest (canon_ImportValueRequest false v)).show, (toTree_P_ImportValueRequest (canon_ImportValueRequest true v)).show))
  else   if name = "ImportRoaringRequest" then
    (ofTree_P_ImportRoaringRequest t).map (fun v =>
      (showOutcome toTree_P_ImportRoaringRequest (decodeImportRoaringRequest (some (encodeImportRoaringRequest v)) {}), (toTree_P_ImportRoaringRequest (canon_ImportRoaringRequest false v)).show, (toTree_P_ImportRoaringRequest (canon_ImportRoaringRequest true v)).show))
  else   if name = "ImportResponse" then
    (ofTree_P_ImportResponse t).map (fun v =>
      (showOutcome toTree_P_ImportResponse (decodeImportResponse (some (encodeImportResponse v)) {}), (toTree_P_ImportResponse (canon_ImportResponse false v)).show, (toTree_P_ImportResponse (canon_ImportResponse true v)).show))
  else   if name = "BlockDataRequest" then
    (ofTree_P_BlockDataRequest t).map (fun v =>
      (showOutcome toTree_P_BlockDataRequest (decodeBlockDataRequest (some (encodeBlockDataRequest v)) {}), (toTree_P_BlockDataRequest (canon_BlockDataRequest false v)).show, (toTree_P_BlockDataRequest (canon_BlockDataRequest true v)).show))
  else   if name = "BlockDataResponse" then
    (ofTree_P_BlockDataResponse t).map (fun v =>
      (showOutcome toTree_P_BlockDataResponse (decodeBlockDataResponse (some (encodeBlockDataResponse v)) {}), (toTree_P_BlockDataResponse (canon_BlockDataResponse false v)).show, (toTree_P_BlockDataResponse (canon_BlockDataResponse true v)).show))
  else   if name = "TranslateKeysRequest" then
    (ofTree_P_TranslateKeysRequest t).map (fun v =>
      (showOutcome toTree_P_TranslateKeysRequest (decodeTranslateKeysRequest (some (encodeTranslateKeysRequest v)) {}), (toTree_P_TranslateKeysRequest (canon_TranslateKeysRequest false v)).show, (toTree_P_TranslateKeysRequest (canon_TranslateKeysRequest true v)).show))
  else   if name = "TranslateKeysResponse" then
    (ofTree_P_TranslateKeysResponse t).map (fun v =>
      (showOutcome toTree_P_TranslateKeysResponse (decodeTranslateKeysResponse (some (encodeTranslateKeysResponse v)) {}), (toTree_P_TranslateKeysResponse (canon_TranslateKeysResponse false v)).show, (toTree_P_TranslateKeysResponse (canon_TranslateKeysResponse true v)).show))
  else none

/-- Model output for Unmarshal of the wire form of the internal value described by `t`. -/
def decodeOnly (name : String) (t : Tree) : Option String :=
  if name = "CreateShardMessage" then
    (ofTree_I_CreateShardMessage t).map (fun pb => showOutcome toTree_P_CreateShardMessage (decodeCreateShardMessage (some pb) {}))
  else   if name = "CreateIndexMessage" then
    (ofTree_I_CreateIndexMessage t).map (fun pb => showOutcome toTree_P_CreateIndexMessage (decodeCreateIndexMessage (some pb) {}))
  else   if name = "DeleteIndexMessage" then
    (ofTree_I_DeleteIndexMessage t).map (fun pb => showOutcome toTree_P_DeleteIndexMessage (decodeDeleteIndexMessage (some pb) {}))
  else   if name = "CreateFieldMessage" then
    (ofTree_I_CreateFieldMessage t).map (fun pb => showOutcome toTree_P_CreateFieldMessage (decodeCreateFieldMessage (some pb) {}))
  else   if name = "DeleteFieldMessage" then
    (ofTree_I_DeleteFieldMessage t).map (fun pb => showOutcome toTree_P_DeleteFieldMessage (decodeDeleteFieldMessage (some pb) {}))
  else   if name = "DeleteAvailableShardMessage" then
    (ofTree_I_DeleteAvailableShardMessage t).map (fun pb => showOutcome toTree_P_DeleteAvailableShardMessage (decodeDeleteAvailableShardMessage (some pb) {}))
  else   if name = "CreateViewMessage" then
    (ofTree_I_CreateViewMessage t).map (fun pb => showOutcome toTree_P_CreateViewMessage (decodeCreateViewMessage (some pb) {}))
  else   if name = "DeleteViewMessage" then
    (ofTree_I_DeleteViewMessage t).map (fun pb => showOutcome toTree_P_DeleteViewMessage (decodeDeleteViewMessage (some pb) {}))
  else   if name = "ClusterStatus" then
    (ofTree_I_ClusterStatus t).map (fun pb => showOutcome toTree_P_ClusterStatus (decodeClusterStatus (some pb) {}))
  else   if name = "ResizeInstruction" then
    (ofTree_I_ResizeInstruction t).map (fun pb => showOutcome toTree_P_ResizeInstruction (decodeResizeInstruction (some pb) {}))
  else   if name = "ResizeInstructionComplete" then
    (ofTree_I_ResizeInstructionComplete t).map (fun pb => showOutcome toTree_P_ResizeInstructionComplete (decodeResizeInstructionComplete (some pb) {}))
  else   if name = "SetCoordinatorMessage" then
    (ofTree_I_SetCoordinatorMessage t).map (fun pb => showOutcome toTree_P_SetCoordinatorMessage (decodeSetCoordinatorMessage (some pb) {}))
  else   if name = "UpdateCoordinatorMessage" then
    (ofTree_I_UpdateCoordinatorMessage t).map (fun pb => showOutcome toTree_P_UpdateCoordinatorMessage (decodeUpdateCoordinatorMessage (some pb) {}))
  else   if name = "NodeStateMessage" then
    (ofTree_I_NodeStateMessage t).map (fun pb => showOutcome toTree_P_NodeStateMessage (decodeNodeStateMessage (some pb) {}))
  else   if name = "RecalculateCaches" then
    (ofTree_I_RecalculateCaches t).map (fun pb => showOutcome toTree_P_RecalculateCaches (decodeRecalculateCaches (some pb) {}))
  else   if name = "NodeEvent" then
    (ofTree_I_NodeEventMessage t).map (fun pb => showOutcome toTree_P_NodeEvent (decodeNodeEventMessage (some pb) {}))
  else   if name = "NodeStatus" then
    (ofTree_I_NodeStatus t).map (fun pb => showOutcome toTree_P_NodeStatus (decodeNodeStatus (some pb) {}))
  else   if name = "Node" then
    (ofTree_I_Node t).map (fun pb => showOutcome toTree_P_Node (decodeNode (some pb) {}))
  else   if name = "QueryRequest" then
    (ofTree_I_QueryRequest t).map (fun pb => showOutcome toTree_P_QueryRequest (decodeQueryRequest (some pb) {}))
  else   if name = "QueryResponse" then
    (ofTree_I_QueryResponse t).map (fun pb => showOutcome toTree_P_QueryResponse (decodeQueryResponse (some pb) {}))
  else   if name = "ImportRequest" then
    (ofTree_I_ImportRequest t).map (fun pb => showOutcome toTree_P_ImportRequest (decodeImportRequest (some pb) {}))
  else   if name = "ImportValueRequest" then
    (ofTree_I_ImportValueRequest t).map (fun pb => showOutcome toTree_P_ImportValueRequest (decodeImportValueRequest (some pb) {}))
  else   if name = "ImportRoaringRequest" then
    (ofTree_I_ImportRoaringRequest t).map (fun pb => showOutcome toTree_P_ImportRoaringRequest (decodeImportRoaringRequest (some pb) {}))
  else   if name = "ImportResponse" then
    (ofTree_I_ImportResponse t).map (fun pb => showOutcome toTree_P_ImportResponse (decodeImportResponse (some pb) {}))
  else   if name = "BlockDataRequest" then
    (ofTree_I_BlockDataRequest t).map (fun pb => showOutcome toTree_P_BlockDataRequest (decodeBlockDataRequest (some pb) {}))
  else   if name = "BlockDataResponse" then
    (ofTree_I_BlockDataResponse t).map (fun pb => showOutcome toTree_P_BlockDataResponse (decodeBlockDataResponse (some pb) {}))
  else   if name = "TranslateKeysRequest" then
    (ofTree_I_TranslateKeysRequest t).map (fun pb => showOutcome toTree_P_TranslateKeysRequest (decodeTranslateKeysRequest (some pb) {}))
  else   if name = "TranslateKeysResponse" then
    (ofTree_I_TranslateKeysResponse t).map (fun pb => showOutcome toTree_P_TranslateKeysResponse (decodeTranslateKeysResponse (some pb) {}))
  else none

/-! ## Round-trip and no-panic theorems of every codec pair

A decoder does not panic because the decoders it calls do not and it ends in `pure` or `throw (.error _)`:
the printed proof follows the body.  A round trip unfolds decoder and encoder and rewrites with the round
trips of the codecs called; what is left is the same record on both sides. -/

theorem rt_decodeBlockDataRequest (v : P.BlockDataRequest) (m : P.BlockDataRequest) : decodeBlockDataRequest (some (encodeBlockDataRequest v)) m = .ok (canon_BlockDataRequest true v) := rfl

theorem rt_decodeBlockDataResponse (v : P.BlockDataResponse) (m : P.BlockDataResponse) : decodeBlockDataResponse (some (encodeBlockDataResponse v)) m = .ok (canon_BlockDataResponse true v) := rfl

theorem total_decodeURI (i : (Option I.URI)) (m : P.URI) : NoPanic (decodeURI i m) :=
  match i with
  | none => noPanic_ok _
  | some _ => noPanic_ok _

theorem rt_decodeURI (v : P.URI) (m : P.URI) : decodeURI (some (encodeURI v)) m = .ok (canon_URI true v) := by
  simp [decodeURI, encodeURI, canon_URI]

theorem total_decodeNode (node : (Option I.Node)) (m : P.Node) : NoPanic (decodeNode node m) :=
  match node with
  | none => noPanic_ok _
  | some _ => noPanic_bind (total_decodeURI _ _) fun _ => noPanic_ok _

theorem rt_decodeNode (v : P.Node) (m : P.Node) : decodeNode (some (encodeNode v)) m = .ok (canon_Node true v) := by
  simp only [decodeNode, encodeNode, rt_decodeURI, Outcome.bind_ok]
  rfl

theorem total_decodeNodes (a : (List I.Node)) : NoPanic (decodeNodes a) :=
  noPanic_mapM fun _ => total_decodeNode _ _

theorem rt_decodeNodes (vs : List P.Node) : decodeNodes (encodeNodes vs) = .ok (vs.map (canon_Node true)) := by
  apply mapM_map_ok
  exact fun _ => rt_decodeNode _ _

theorem total_decodeClusterStatus (cs : (Option I.ClusterStatus)) (m : P.ClusterStatus) : NoPanic (decodeClusterStatus cs m) :=
  match cs with
  | none => noPanic_ok _
  | some _ => noPanic_bind (total_decodeNodes _) fun _ => noPanic_ok _

theorem rt_decodeClusterStatus (v : P.ClusterStatus) (m : P.ClusterStatus) : decodeClusterStatus (some (encodeClusterStatus v)) m = .ok (canon_ClusterStatus true v) := by
  simp only [decodeClusterStatus, encodeClusterStatus, rt_decodeNodes, Outcome.bind_ok]
  rfl

theorem total_decodeColumnAttrSet (pb : (I.ColumnAttrSet)) (m : P.ColumnAttrSet) : NoPanic (decodeColumnAttrSet (some pb) m) :=
  noPanic_bind (total_decodeAttrs _) fun _ => noPanic_ok _

theorem rt_decodeColumnAttrSet (v : P.ColumnAttrSet) (m : P.ColumnAttrSet) : decodeColumnAttrSet (some (encodeColumnAttrSet v)) m = .ok (canon_ColumnAttrSet true v) := by
  simp only [decodeColumnAttrSet, encodeColumnAttrSet, rt_decodeAttrs, Outcome.bind_ok]
  rfl

theorem total_decodeColumnAttrSets (pb : (List I.ColumnAttrSet)) : NoPanic (decodeColumnAttrSets pb) :=
  noPanic_mapM fun _ => total_decodeColumnAttrSet _ _

theorem rt_decodeColumnAttrSets (vs : List P.ColumnAttrSet) : decodeColumnAttrSets (encodeColumnAttrSets vs) = .ok (vs.map (canon_ColumnAttrSet true)) := by
  apply mapM_map_ok
  exact fun _ => rt_decodeColumnAttrSet _ _

theorem total_decodeFieldOptions (options : (Option I.FieldOptions)) (m : P.FieldOptions) : NoPanic (decodeFieldOptions options m) :=
  match options with
  | none => noPanic_ok _
  | some _ => noPanic_ok _

theorem rt_decodeFieldOptions (v : P.FieldOptions) (m : P.FieldOptions) : decodeFieldOptions (encodeFieldOptions (some v)) m = .ok (canon_FieldOptions true v) := rfl

theorem rt_decodeFieldOptions_none (m : P.FieldOptions) : decodeFieldOptions (encodeFieldOptions none) m = .ok m := rfl

theorem rt_decodeCreateFieldMessage (v : P.CreateFieldMessage) (m : P.CreateFieldMessage) : decodeCreateFieldMessage (some (encodeCreateFieldMessage v)) m = .ok (canon_CreateFieldMessage true v) := by
  cases v with
  | mk f_Index f_Field f_Meta =>
    cases f_Meta <;> simp only [decodeCreateFieldMessage, encodeCreateFieldMessage, rt_decodeFieldOptions, rt_decodeFieldOptions_none, Outcome.bind_ok] <;> rfl

theorem total_decodeIndexMeta (pb : (Option I.IndexMeta)) (m : P.IndexOptions) : NoPanic (decodeIndexMeta pb m) :=
  match pb with
  | none => noPanic_ok _
  | some _ => noPanic_ok _

theorem rt_decodeIndexMeta (v : P.IndexOptions) (m : P.IndexOptions) : decodeIndexMeta (some (encodeIndexMeta v)) m = .ok (canon_IndexOptions true v) := rfl

theorem rt_decodeCreateIndexMessage (v : P.CreateIndexMessage) (m : P.CreateIndexMessage) : decodeCreateIndexMessage (some (encodeCreateIndexMessage v)) m = .ok (canon_CreateIndexMessage true v) := by
  simp only [decodeCreateIndexMessage, encodeCreateIndexMessage, rt_decodeIndexMeta, Outcome.bind_ok]
  rfl

theorem rt_decodeCreateShardMessage (v : P.CreateShardMessage) (m : P.CreateShardMessage) : decodeCreateShardMessage (some (encodeCreateShardMessage v)) m = .ok (canon_CreateShardMessage true v) := rfl

theorem rt_decodeCreateViewMessage (v : P.CreateViewMessage) (m : P.CreateViewMessage) : decodeCreateViewMessage (some (encodeCreateViewMessage v)) m = .ok (canon_CreateViewMessage true v) := rfl

theorem rt_decodeDeleteAvailableShardMessage (v : P.DeleteAvailableShardMessage) (m : P.DeleteAvailableShardMessage) : decodeDeleteAvailableShardMessage (some (encodeDeleteAvailableShardMessage v)) m = .ok (canon_DeleteAvailableShardMessage true v) := rfl

theorem rt_decodeDeleteFieldMessage (v : P.DeleteFieldMessage) (m : P.DeleteFieldMessage) : decodeDeleteFieldMessage (some (encodeDeleteFieldMessage v)) m = .ok (canon_DeleteFieldMessage true v) := rfl

theorem rt_decodeDeleteIndexMessage (v : P.DeleteIndexMessage) (m : P.DeleteIndexMessage) : decodeDeleteIndexMessage (some (encodeDeleteIndexMessage v)) m = .ok (canon_DeleteIndexMessage true v) := rfl

theorem rt_decodeDeleteViewMessage (v : P.DeleteViewMessage) (m : P.DeleteViewMessage) : decodeDeleteViewMessage (some (encodeDeleteViewMessage v)) m = .ok (canon_DeleteViewMessage true v) := rfl

theorem total_decodeField (f : (I.Field)) (m : P.FieldInfo) : NoPanic (decodeField (some f) m) :=
  noPanic_bind (total_decodeFieldOptions _ _) fun _ => noPanic_ok _

theorem rt_decodeField (v : P.FieldInfo) (m : P.FieldInfo) : decodeField (some (encodeFieldInfo v)) m = .ok (canon_FieldInfo true v) := by
  simp [decodeField, encodeFieldInfo, canon_FieldInfo, rt_decodeFieldOptions, rt_decodeFieldOptions_none, canon_FieldOptions, canon_ViewInfo]

theorem total_decodeFieldRows (a : (List I.FieldRow)) : NoPanic (decodeFieldRows a) :=
  noPanic_mapM fun _ => noPanic_ok _

theorem rt_decodeFieldRows (vs : List P.FieldRow) : decodeFieldRows (encodeFieldRows vs) = .ok (vs.map (canon_FieldRow true)) := by
  apply mapM_map_ok
  exact fun x => by cases x; simp [decodeFieldRows, encodeFieldRows, canon_FieldRow, hook_FieldRow] <;> (try split) <;> simp_all

theorem total_decodeFieldStatus (pb : (I.FieldStatus)) (m : P.FieldStatus) : NoPanic (decodeFieldStatus (some pb) m) :=
  noPanic_ok _

theorem rt_decodeFieldStatus (v : P.FieldStatus) (m : P.FieldStatus) : decodeFieldStatus (some (encodeFieldStatus v)) m = .ok (canon_FieldStatus true v) := rfl

theorem total_decodeFieldStatuses (a : (List I.FieldStatus)) : NoPanic (decodeFieldStatuses a) :=
  noPanic_mapM fun _ => total_decodeFieldStatus _ _

theorem rt_decodeFieldStatuses (vs : List P.FieldStatus) : decodeFieldStatuses (encodeFieldStatuses vs) = .ok (vs.map (canon_FieldStatus true)) := by
  apply mapM_map_ok
  exact fun _ => rt_decodeFieldStatus _ _

theorem total_decodeFields (fs : (List I.Field)) : NoPanic (decodeFields fs) :=
  noPanic_mapM fun _ => total_decodeField _ _

theorem rt_decodeFields (vs : List P.FieldInfo) : decodeFields (encodeFieldInfos vs) = .ok (vs.map (canon_FieldInfo true)) := by
  apply mapM_map_ok
  exact fun _ => rt_decodeField _ _

theorem total_decodeGroupCounts (a : (List I.GroupCount)) : NoPanic (decodeGroupCounts a) :=
  noPanic_mapM fun _ => noPanic_bind (total_decodeFieldRows _) fun _ => noPanic_ok _

theorem rt_decodeGroupCounts (vs : List P.GroupCount) : decodeGroupCounts (encodeGroupCounts vs) = .ok (vs.map (canon_GroupCount true)) := by
  apply mapM_map_ok
  exact fun _ => Outcome.bind_of_eq_ok (rt_decodeFieldRows _) _

theorem rt_decodeImportRequest (v : P.ImportRequest) (m : P.ImportRequest) : decodeImportRequest (some (encodeImportRequest v)) m = .ok (canon_ImportRequest true v) := rfl

theorem rt_decodeImportResponse (v : P.ImportResponse) (m : P.ImportResponse) : decodeImportResponse (some (encodeImportResponse v)) m = .ok (canon_ImportResponse true v) := rfl

theorem rt_decodeImportValueRequest (v : P.ImportValueRequest) (m : P.ImportValueRequest) : decodeImportValueRequest (some (encodeImportValueRequest v)) m = .ok (canon_ImportValueRequest true v) := rfl

theorem total_decodeIndex (idx : (I.Index)) (m : P.IndexInfo) : NoPanic (decodeIndex (some idx) m) :=
  noPanic_bind (total_decodeFields _) fun _ => noPanic_ok _

theorem rt_decodeIndex (v : P.IndexInfo) : decodeIndex (some (encodeIndexInfo v)) ({} : P.IndexInfo) = .ok (canon_IndexInfo true v) := by
  simp only [decodeIndex, encodeIndexInfo, rt_decodeFields, Outcome.bind_ok]
  rfl

theorem total_decodeIndexStatus (pb : (I.IndexStatus)) (m : P.IndexStatus) : NoPanic (decodeIndexStatus (some pb) m) :=
  noPanic_bind (total_decodeFieldStatuses _) fun _ => noPanic_ok _

theorem rt_decodeIndexStatus (v : P.IndexStatus) (m : P.IndexStatus) : decodeIndexStatus (some (encodeIndexStatus v)) m = .ok (canon_IndexStatus true v) := by
  simp only [decodeIndexStatus, encodeIndexStatus, rt_decodeFieldStatuses, Outcome.bind_ok]
  rfl

theorem total_decodeIndexStatuses (a : (List I.IndexStatus)) : NoPanic (decodeIndexStatuses a) :=
  noPanic_mapM fun _ => total_decodeIndexStatus _ _

theorem rt_decodeIndexStatuses (vs : List P.IndexStatus) : decodeIndexStatuses (encodeIndexStatuses vs) = .ok (vs.map (canon_IndexStatus true)) := by
  apply mapM_map_ok
  exact fun _ => rt_decodeIndexStatus _ _

theorem total_decodeIndexes (idxs : (List I.Index)) : NoPanic (decodeIndexes idxs) :=
  noPanic_mapM fun _ => total_decodeIndex _ _

theorem rt_decodeIndexes (vs : List P.IndexInfo) : decodeIndexes (encodeIndexInfos vs) = .ok (vs.map (canon_IndexInfo true)) := by
  apply mapM_map_ok
  exact fun _ => rt_decodeIndex _

theorem rt_decodeNodeEventMessage (v : P.NodeEvent) (m : P.NodeEvent) : decodeNodeEventMessage (some (encodeNodeEventMessage v)) m = .ok (canon_NodeEvent true v) := by
  simp only [decodeNodeEventMessage, encodeNodeEventMessage, rt_decodeNode, Outcome.bind_ok]
  rfl

theorem rt_decodeNodeStateMessage (v : P.NodeStateMessage) (m : P.NodeStateMessage) : decodeNodeStateMessage (some (encodeNodeStateMessage v)) m = .ok (canon_NodeStateMessage true v) := rfl

theorem total_decodeSchema (s : (Option I.Schema)) (m : P.Schema) : NoPanic (decodeSchema s m) :=
  match s with
  | none => noPanic_ok _
  | some _ => noPanic_bind (total_decodeIndexes _) fun _ => noPanic_ok _

theorem rt_decodeSchema (v : P.Schema) (m : P.Schema) : decodeSchema (some (encodeSchema v)) m = .ok (canon_Schema true v) := by
  simp only [decodeSchema, encodeSchema, rt_decodeIndexes, Outcome.bind_ok]
  rfl

theorem total_decodeNodeStatus (pb : (Option I.NodeStatus)) (m : P.NodeStatus) : NoPanic (decodeNodeStatus pb m) :=
  match pb with
  | none => noPanic_ok _
  | some _ => noPanic_bind (total_decodeNode _ _) fun _ =>
    noPanic_bind (total_decodeIndexStatuses _) fun _ =>
    noPanic_bind (total_decodeSchema _ _) fun _ => noPanic_ok _

theorem rt_decodeNodeStatus (v : P.NodeStatus) (m : P.NodeStatus) : decodeNodeStatus (some (encodeNodeStatus v)) m = .ok (canon_NodeStatus true v) := by
  simp only [decodeNodeStatus, encodeNodeStatus, rt_decodeNode, rt_decodeIndexStatuses, rt_decodeSchema, Outcome.bind_ok]
  rfl

theorem total_decodePair (pb : (I.Pair)) : NoPanic (decodePair (some pb)) :=
  noPanic_ok _

theorem rt_decodePair (v : P.Pair) : decodePair (some (encodePair v)) = .ok (canon_Pair true v) := rfl

theorem total_decodePairs (a : (List I.Pair)) : NoPanic (decodePairs a) :=
  noPanic_mapM fun _ => noPanic_bind (total_decodePair _) fun _ => noPanic_ok _

theorem rt_decodePairs (vs : List P.Pair) : decodePairs (encodePairs vs) = .ok (vs.map (canon_Pair true)) := by
  apply mapM_map_ok
  exact fun _ => Outcome.bind_of_eq_ok (rt_decodePair _) _

theorem rt_decodeQueryRequest (v : P.QueryRequest) : decodeQueryRequest (some (encodeQueryRequest v)) ({} : P.QueryRequest) = .ok (canon_QueryRequest true v) := rfl

theorem total_decodeRowIdentifiers (a : (Option I.RowIdentifiers)) : NoPanic (decodeRowIdentifiers a) :=
  match a with
  | none => noPanic_ok _
  | some _ => noPanic_ok _

theorem rt_decodeRowIdentifiers (v : P.RowIdentifiers) : decodeRowIdentifiers (some (encodeRowIdentifiers v)) = .ok (canon_RowIdentifiers true v) := rfl

theorem total_decodeValCount (pb : (Option I.ValCount)) : NoPanic (decodeValCount pb) :=
  match pb with
  | none => noPanic_ok _
  | some _ => noPanic_ok _

theorem rt_decodeValCount (v : P.ValCount) : decodeValCount (some (encodeValCount v)) = .ok (canon_ValCount true v) := rfl

theorem total_decodeQueryResult (pb : (I.QueryResult)) : NoPanic (decodeQueryResult (some pb)) :=
  noPanic_ite (noPanic_bind (total_decodeRow _) fun _ => noPanic_ok _) <|
  noPanic_ite (noPanic_bind (total_decodePairs _) fun _ => noPanic_ok _) <|
  noPanic_ite (noPanic_bind (total_decodeValCount _) fun _ => noPanic_ok _) <|
  noPanic_ite (noPanic_ok _) <|
  noPanic_ite (noPanic_ok _) <|
  noPanic_ite (noPanic_ok _) <|
  noPanic_ite (noPanic_ok _) <|
  noPanic_ite (noPanic_bind (total_decodeRowIdentifiers _) fun _ => noPanic_ok _) <|
  noPanic_ite (noPanic_bind (total_decodeGroupCounts _) fun _ => noPanic_ok _) <|
  noPanic_ite (by
      split
      · exact noPanic_err _
      · exact noPanic_bind (total_decodePair _) fun _ => noPanic_ok _) <|
  noPanic_err _

theorem total_decodeQueryResults (pb : (List I.QueryResult)) : NoPanic (decodeQueryResults pb) :=
  noPanic_mapM fun _ => noPanic_bind (total_decodeQueryResult _) fun _ => noPanic_ok _

theorem total_decodeQueryResponse (pb : (I.QueryResponse)) (m : P.QueryResponse) : NoPanic (decodeQueryResponse (some pb) m) :=
  noPanic_bind (total_decodeColumnAttrSets _) fun _ =>
  noPanic_bind (total_decodeQueryResults _) fun _ => noPanic_ok _

theorem rt_decodeRecalculateCaches (v : P.RecalculateCaches) (m : P.RecalculateCaches) : decodeRecalculateCaches (some (encodeRecalculateCaches v)) m = .ok (canon_RecalculateCaches true v) := rfl

theorem total_decodeResizeSource (rs : (I.ResizeSource)) (m : P.ResizeSource) : NoPanic (decodeResizeSource (some rs) m) :=
  noPanic_bind (total_decodeNode _ _) fun _ => noPanic_ok _

theorem rt_decodeResizeSource (v : P.ResizeSource) (m : P.ResizeSource) : decodeResizeSource (some (encodeResizeSource v)) m = .ok (canon_ResizeSource true v) := by
  simp only [decodeResizeSource, encodeResizeSource, rt_decodeNode, Outcome.bind_ok]
  rfl

theorem total_decodeResizeSources (srcs : (List I.ResizeSource)) : NoPanic (decodeResizeSources srcs) :=
  noPanic_mapM fun _ => total_decodeResizeSource _ _

theorem rt_decodeResizeSources (vs : List P.ResizeSource) : decodeResizeSources (encodeResizeSources vs) = .ok (vs.map (canon_ResizeSource true)) := by
  apply mapM_map_ok
  exact fun _ => rt_decodeResizeSource _ _

theorem rt_decodeResizeInstruction (v : P.ResizeInstruction) (m : P.ResizeInstruction) : decodeResizeInstruction (some (encodeResizeInstruction v)) m = .ok (canon_ResizeInstruction true v) := by
  simp only [decodeResizeInstruction, encodeResizeInstruction, rt_decodeNode, rt_decodeResizeSources, rt_decodeNodeStatus, rt_decodeClusterStatus, Outcome.bind_ok]
  rfl

theorem rt_decodeResizeInstructionComplete (v : P.ResizeInstructionComplete) (m : P.ResizeInstructionComplete) : decodeResizeInstructionComplete (some (encodeResizeInstructionComplete v)) m = .ok (canon_ResizeInstructionComplete true v) := by
  simp only [decodeResizeInstructionComplete, encodeResizeInstructionComplete, rt_decodeNode, Outcome.bind_ok]
  rfl

theorem rt_decodeSetCoordinatorMessage (v : P.SetCoordinatorMessage) (m : P.SetCoordinatorMessage) : decodeSetCoordinatorMessage (some (encodeSetCoordinatorMessage v)) m = .ok (canon_SetCoordinatorMessage true v) := by
  simp only [decodeSetCoordinatorMessage, encodeSetCoordinatorMessage, rt_decodeNode, Outcome.bind_ok]
  rfl

theorem rt_decodeTranslateKeysRequest (v : P.TranslateKeysRequest) (m : P.TranslateKeysRequest) : decodeTranslateKeysRequest (some (encodeTranslateKeysRequest v)) m = .ok (canon_TranslateKeysRequest true v) := rfl

theorem rt_decodeTranslateKeysResponse (v : P.TranslateKeysResponse) (m : P.TranslateKeysResponse) : decodeTranslateKeysResponse (some (encodeTranslateKeysResponse v)) m = .ok (canon_TranslateKeysResponse true v) := rfl

theorem rt_decodeUpdateCoordinatorMessage (v : P.UpdateCoordinatorMessage) (m : P.UpdateCoordinatorMessage) : decodeUpdateCoordinatorMessage (some (encodeUpdateCoordinatorMessage v)) m = .ok (canon_UpdateCoordinatorMessage true v) := by
  simp only [decodeUpdateCoordinatorMessage, encodeUpdateCoordinatorMessage, rt_decodeNode, Outcome.bind_ok]
  rfl

/-! ## Per message type of Serializer.Marshal / Serializer.Unmarshal

`Unmarshal(Marshal(v))` into a fresh value, with the protobuf wire layer taken as the identity on
the model's representation (nil and empty repeated fields are the same list). -/

theorem C27_CreateShardMessage (v : P.CreateShardMessage) : decodeCreateShardMessage (some (encodeCreateShardMessage v)) ({} : P.CreateShardMessage) = .ok (canon_CreateShardMessage true v) :=
  rt_decodeCreateShardMessage v _

theorem C27_total_CreateShardMessage (pb : I.CreateShardMessage) (m : P.CreateShardMessage) : NoPanic (decodeCreateShardMessage (some pb) m) :=
  noPanic_ok _

theorem C27_CreateIndexMessage (v : P.CreateIndexMessage) : decodeCreateIndexMessage (some (encodeCreateIndexMessage v)) ({} : P.CreateIndexMessage) = .ok (canon_CreateIndexMessage true v) :=
  rt_decodeCreateIndexMessage v _

theorem C27_total_CreateIndexMessage (pb : I.CreateIndexMessage) (m : P.CreateIndexMessage) : NoPanic (decodeCreateIndexMessage (some pb) m) :=
  noPanic_bind (total_decodeIndexMeta _ _) fun _ => noPanic_ok _

theorem C27_DeleteIndexMessage (v : P.DeleteIndexMessage) : decodeDeleteIndexMessage (some (encodeDeleteIndexMessage v)) ({} : P.DeleteIndexMessage) = .ok (canon_DeleteIndexMessage true v) :=
  rt_decodeDeleteIndexMessage v _

theorem C27_total_DeleteIndexMessage (pb : I.DeleteIndexMessage) (m : P.DeleteIndexMessage) : NoPanic (decodeDeleteIndexMessage (some pb) m) :=
  noPanic_ok _

theorem C27_CreateFieldMessage (v : P.CreateFieldMessage) : decodeCreateFieldMessage (some (encodeCreateFieldMessage v)) ({} : P.CreateFieldMessage) = .ok (canon_CreateFieldMessage true v) :=
  rt_decodeCreateFieldMessage v _

theorem C27_total_CreateFieldMessage (pb : I.CreateFieldMessage) (m : P.CreateFieldMessage) : NoPanic (decodeCreateFieldMessage (some pb) m) :=
  noPanic_bind (total_decodeFieldOptions _ _) fun _ => noPanic_ok _

theorem C27_DeleteFieldMessage (v : P.DeleteFieldMessage) : decodeDeleteFieldMessage (some (encodeDeleteFieldMessage v)) ({} : P.DeleteFieldMessage) = .ok (canon_DeleteFieldMessage true v) :=
  rt_decodeDeleteFieldMessage v _

theorem C27_total_DeleteFieldMessage (pb : I.DeleteFieldMessage) (m : P.DeleteFieldMessage) : NoPanic (decodeDeleteFieldMessage (some pb) m) :=
  noPanic_ok _

theorem C27_DeleteAvailableShardMessage (v : P.DeleteAvailableShardMessage) : decodeDeleteAvailableShardMessage (some (encodeDeleteAvailableShardMessage v)) ({} : P.DeleteAvailableShardMessage) = .ok (canon_DeleteAvailableShardMessage true v) :=
  rt_decodeDeleteAvailableShardMessage v _

theorem C27_total_DeleteAvailableShardMessage (pb : I.DeleteAvailableShardMessage) (m : P.DeleteAvailableShardMessage) : NoPanic (decodeDeleteAvailableShardMessage (some pb) m) :=
  noPanic_ok _

theorem C27_CreateViewMessage (v : P.CreateViewMessage) : decodeCreateViewMessage (some (encodeCreateViewMessage v)) ({} : P.CreateViewMessage) = .ok (canon_CreateViewMessage true v) :=
  rt_decodeCreateViewMessage v _

theorem C27_total_CreateViewMessage (pb : I.CreateViewMessage) (m : P.CreateViewMessage) : NoPanic (decodeCreateViewMessage (some pb) m) :=
  noPanic_ok _

theorem C27_DeleteViewMessage (v : P.DeleteViewMessage) : decodeDeleteViewMessage (some (encodeDeleteViewMessage v)) ({} : P.DeleteViewMessage) = .ok (canon_DeleteViewMessage true v) :=
  rt_decodeDeleteViewMessage v _

theorem C27_total_DeleteViewMessage (pb : I.DeleteViewMessage) (m : P.DeleteViewMessage) : NoPanic (decodeDeleteViewMessage (some pb) m) :=
  noPanic_ok _

theorem C27_ClusterStatus (v : P.ClusterStatus) : decodeClusterStatus (some (encodeClusterStatus v)) ({} : P.ClusterStatus) = .ok (canon_ClusterStatus true v) :=
  rt_decodeClusterStatus v _

theorem C27_total_ClusterStatus (pb : I.ClusterStatus) (m : P.ClusterStatus) : NoPanic (decodeClusterStatus (some pb) m) :=
  total_decodeClusterStatus (some pb) m

theorem C27_ResizeInstruction (v : P.ResizeInstruction) : decodeResizeInstruction (some (encodeResizeInstruction v)) ({} : P.ResizeInstruction) = .ok (canon_ResizeInstruction true v) :=
  rt_decodeResizeInstruction v _

theorem C27_total_ResizeInstruction (pb : I.ResizeInstruction) (m : P.ResizeInstruction) : NoPanic (decodeResizeInstruction (some pb) m) :=
  noPanic_bind (total_decodeNode _ _) fun _ =>
  noPanic_bind (total_decodeNode _ _) fun _ =>
  noPanic_bind (total_decodeResizeSources _) fun _ =>
  noPanic_bind (total_decodeNodeStatus _ _) fun _ =>
  noPanic_bind (total_decodeClusterStatus _ _) fun _ => noPanic_ok _

theorem C27_ResizeInstructionComplete (v : P.ResizeInstructionComplete) : decodeResizeInstructionComplete (some (encodeResizeInstructionComplete v)) ({} : P.ResizeInstructionComplete) = .ok (canon_ResizeInstructionComplete true v) :=
  rt_decodeResizeInstructionComplete v _

theorem C27_total_ResizeInstructionComplete (pb : I.ResizeInstructionComplete) (m : P.ResizeInstructionComplete) : NoPanic (decodeResizeInstructionComplete (some pb) m) :=
  noPanic_bind (total_decodeNode _ _) fun _ => noPanic_ok _

theorem C27_SetCoordinatorMessage (v : P.SetCoordinatorMessage) : decodeSetCoordinatorMessage (some (encodeSetCoordinatorMessage v)) ({} : P.SetCoordinatorMessage) = .ok (canon_SetCoordinatorMessage true v) :=
  rt_decodeSetCoordinatorMessage v _

theorem C27_total_SetCoordinatorMessage (pb : I.SetCoordinatorMessage) (m : P.SetCoordinatorMessage) : NoPanic (decodeSetCoordinatorMessage (some pb) m) :=
  noPanic_bind (total_decodeNode _ _) fun _ => noPanic_ok _

theorem C27_UpdateCoordinatorMessage (v : P.UpdateCoordinatorMessage) : decodeUpdateCoordinatorMessage (some (encodeUpdateCoordinatorMessage v)) ({} : P.UpdateCoordinatorMessage) = .ok (canon_UpdateCoordinatorMessage true v) :=
  rt_decodeUpdateCoordinatorMessage v _

theorem C27_total_UpdateCoordinatorMessage (pb : I.UpdateCoordinatorMessage) (m : P.UpdateCoordinatorMessage) : NoPanic (decodeUpdateCoordinatorMessage (some pb) m) :=
  noPanic_bind (total_decodeNode _ _) fun _ => noPanic_ok _

theorem C27_NodeStateMessage (v : P.NodeStateMessage) : decodeNodeStateMessage (some (encodeNodeStateMessage v)) ({} : P.NodeStateMessage) = .ok (canon_NodeStateMessage true v) :=
  rt_decodeNodeStateMessage v _

theorem C27_total_NodeStateMessage (pb : I.NodeStateMessage) (m : P.NodeStateMessage) : NoPanic (decodeNodeStateMessage (some pb) m) :=
  noPanic_ok _

theorem C27_RecalculateCaches (v : P.RecalculateCaches) : decodeRecalculateCaches (some (encodeRecalculateCaches v)) ({} : P.RecalculateCaches) = .ok (canon_RecalculateCaches true v) :=
  rt_decodeRecalculateCaches v _

theorem C27_total_RecalculateCaches (pb : I.RecalculateCaches) (m : P.RecalculateCaches) : NoPanic (decodeRecalculateCaches (some pb) m) :=
  noPanic_ok _

theorem C27_NodeEvent (v : P.NodeEvent) : decodeNodeEventMessage (some (encodeNodeEventMessage v)) ({} : P.NodeEvent) = .ok (canon_NodeEvent true v) :=
  rt_decodeNodeEventMessage v _

theorem C27_total_NodeEvent (pb : I.NodeEventMessage) (m : P.NodeEvent) : NoPanic (decodeNodeEventMessage (some pb) m) :=
  noPanic_bind (total_decodeNode _ _) fun _ => noPanic_ok _

theorem C27_NodeStatus (v : P.NodeStatus) : decodeNodeStatus (some (encodeNodeStatus v)) ({} : P.NodeStatus) = .ok (canon_NodeStatus true v) :=
  rt_decodeNodeStatus v _

theorem C27_total_NodeStatus (pb : I.NodeStatus) (m : P.NodeStatus) : NoPanic (decodeNodeStatus (some pb) m) :=
  total_decodeNodeStatus (some pb) m

theorem C27_Node (v : P.Node) : decodeNode (some (encodeNode v)) ({} : P.Node) = .ok (canon_Node true v) :=
  rt_decodeNode v _

theorem C27_total_Node (pb : I.Node) (m : P.Node) : NoPanic (decodeNode (some pb) m) :=
  total_decodeNode (some pb) m

theorem C27_QueryRequest (v : P.QueryRequest) : decodeQueryRequest (some (encodeQueryRequest v)) ({} : P.QueryRequest) = .ok (canon_QueryRequest true v) :=
  rt_decodeQueryRequest v

theorem C27_total_QueryRequest (pb : I.QueryRequest) (m : P.QueryRequest) : NoPanic (decodeQueryRequest (some pb) m) :=
  noPanic_ok _

theorem C27_ImportRequest (v : P.ImportRequest) : decodeImportRequest (some (encodeImportRequest v)) ({} : P.ImportRequest) = .ok (canon_ImportRequest true v) :=
  rt_decodeImportRequest v _

theorem C27_total_ImportRequest (pb : I.ImportRequest) (m : P.ImportRequest) : NoPanic (decodeImportRequest (some pb) m) :=
  noPanic_ok _

theorem C27_ImportValueRequest (v : P.ImportValueRequest) : decodeImportValueRequest (some (encodeImportValueRequest v)) ({} : P.ImportValueRequest) = .ok (canon_ImportValueRequest true v) :=
  rt_decodeImportValueRequest v _

theorem C27_total_ImportValueRequest (pb : I.ImportValueRequest) (m : P.ImportValueRequest) : NoPanic (decodeImportValueRequest (some pb) m) :=
  noPanic_ok _

theorem C27_ImportRoaringRequest (v : P.ImportRoaringRequest) : decodeImportRoaringRequest (some (encodeImportRoaringRequest v)) ({} : P.ImportRoaringRequest) = .ok (canon_ImportRoaringRequest true v) :=
  rt_decodeImportRoaringRequest v _

theorem C27_total_ImportRoaringRequest (pb : I.ImportRoaringRequest) (m : P.ImportRoaringRequest) : NoPanic (decodeImportRoaringRequest (some pb) m) :=
  total_decodeImportRoaringRequest pb m

theorem C27_ImportResponse (v : P.ImportResponse) : decodeImportResponse (some (encodeImportResponse v)) ({} : P.ImportResponse) = .ok (canon_ImportResponse true v) :=
  rt_decodeImportResponse v _

theorem C27_total_ImportResponse (pb : I.ImportResponse) (m : P.ImportResponse) : NoPanic (decodeImportResponse (some pb) m) :=
  noPanic_ok _

theorem C27_BlockDataRequest (v : P.BlockDataRequest) : decodeBlockDataRequest (some (encodeBlockDataRequest v)) ({} : P.BlockDataRequest) = .ok (canon_BlockDataRequest true v) :=
  rt_decodeBlockDataRequest v _

theorem C27_total_BlockDataRequest (pb : I.BlockDataRequest) (m : P.BlockDataRequest) : NoPanic (decodeBlockDataRequest (some pb) m) :=
  noPanic_ok _

theorem C27_BlockDataResponse (v : P.BlockDataResponse) : decodeBlockDataResponse (some (encodeBlockDataResponse v)) ({} : P.BlockDataResponse) = .ok (canon_BlockDataResponse true v) :=
  rt_decodeBlockDataResponse v _

theorem C27_total_BlockDataResponse (pb : I.BlockDataResponse) (m : P.BlockDataResponse) : NoPanic (decodeBlockDataResponse (some pb) m) :=
  noPanic_ok _

theorem C27_TranslateKeysRequest (v : P.TranslateKeysRequest) : decodeTranslateKeysRequest (some (encodeTranslateKeysRequest v)) ({} : P.TranslateKeysRequest) = .ok (canon_TranslateKeysRequest true v) :=
  rt_decodeTranslateKeysRequest v _

theorem C27_total_TranslateKeysRequest (pb : I.TranslateKeysRequest) (m : P.TranslateKeysRequest) : NoPanic (decodeTranslateKeysRequest (some pb) m) :=
  noPanic_ok _

theorem C27_TranslateKeysResponse (v : P.TranslateKeysResponse) : decodeTranslateKeysResponse (some (encodeTranslateKeysResponse v)) ({} : P.TranslateKeysResponse) = .ok (canon_TranslateKeysResponse true v) :=
  rt_decodeTranslateKeysResponse v _

theorem C27_total_TranslateKeysResponse (pb : I.TranslateKeysResponse) (m : P.TranslateKeysResponse) : NoPanic (decodeTranslateKeysResponse (some pb) m) :=
  noPanic_ok _

end PV.C27
