/-
C27 — the part of the codec the translator does not translate (maps, sort, type switches on
attribute values, methods of Row), modelled by hand on the generated structures,
with their round-trip and no-panic lemmas, and the canonical-form hooks.

The translator checks the fingerprint lines below against the current Go source of each function:
after an edit of one of them it fails until the model here has been re-inspected and the line updated.

-- fingerprint decodeAttr 65e52e4a625bcdcff404917ba29ebf66803abe88
-- fingerprint decodeAttrs 0df2d14d7329ae6002b6ce25de6580d118f318d1
-- fingerprint decodeImportRoaringRequest 75af5fd9a5bbe58bd7265861050324a90b5185c0
-- fingerprint decodeRow 4e59a7948692805ae4a7b38a5321005d2f098116
-- fingerprint encodeAttr 6fef8d1a2e75fb972458e1da6c94e66f71ce5f8f
-- fingerprint encodeAttrs ac914f397f823e04b41c0a59d56aacd4322e8b62
-- fingerprint encodeImportRoaringRequest db40137ef51a5deb097dc8ce6f9c91299f9c60e7
-- fingerprint encodeRow 393980bab04146c4acbd7df46fa711085c0afa52
-/
import PV.C27.GenTypes
namespace PV.C27

/-- `encodeAttr`: the type switch on the dynamic value. `uint64` is stored as an int. -/
def encodeAttr (key : String) (value : AttrVal) : I.Attr :=
  match value with
  | .str s => { Key := key, Type_ := 1, StringValue := s }
  | .float f => { Key := key, Type_ := 4, FloatValue := f }
  | .uint u => { Key := key, Type_ := 2, IntValue := u.toInt64 }
  | .int i => { Key := key, Type_ := 2, IntValue := i }
  | .bool b => { Key := key, Type_ := 3, BoolValue := b }
  | .null => { Key := key }

/-- `encodeAttrs`: one Attr per key, keys in sorted order (the association list is kept sorted). -/
def encodeAttrs (m : Attrs) : List I.Attr := m.map (fun kv => encodeAttr kv.1 kv.2)

def decodeAttr (attr : I.Attr) : String × AttrVal :=
  if attr.Type_ = 1 then (attr.Key, .str attr.StringValue)
  else if attr.Type_ = 2 then (attr.Key, .int attr.IntValue)
  else if attr.Type_ = 3 then (attr.Key, .bool attr.BoolValue)
  else if attr.Type_ = 4 then (attr.Key, .float attr.FloatValue)
  else (attr.Key, .null)

/-- `decodeAttrs`: `m[key] = value` for every Attr in order. -/
def decodeAttrs (pb : List I.Attr) : Outcome Attrs :=
  pure (pb.foldl (fun m a => insertKey (decodeAttr a).1 (decodeAttr a).2 m) [])

/-- The dynamic value that comes back: `uint64` arrives as `int64`. -/
def canonAttrVal : AttrVal → AttrVal
  | .uint u => .int u.toInt64
  | v => v

def canonAttrs (m : Attrs) : Attrs :=
  m.foldl (fun acc kv => insertKey kv.1 (canonAttrVal kv.2) acc) []

theorem decodeAttr_encodeAttr (k : String) (v : AttrVal) :
    decodeAttr (encodeAttr k v) = (k, canonAttrVal v) := by
  cases v <;> simp [encodeAttr, decodeAttr, canonAttrVal]

@[simp] theorem rt_decodeAttrs (m : Attrs) : decodeAttrs (encodeAttrs m) = .ok (canonAttrs m) := by
  simp only [decodeAttrs, encodeAttrs, canonAttrs, List.foldl_map, decodeAttr_encodeAttr]
  rfl

theorem total_decodeAttrs (pb : List I.Attr) : NoPanic (decodeAttrs pb) := rfl

def encodeRow (r : Option P.Row) : Option I.Row :=
  r.map (fun r => { Columns := r.Columns, Keys := r.Keys, Attrs := encodeAttrs r.Attrs })

/-- `decodeRow`: `NewRow()`, attrs, keys, then `SetBit` for every column. -/
def decodeRow (pr : Option I.Row) : Outcome (Option P.Row) :=
  match pr with
  | none => pure none
  | some pr => do
    let attrs ← decodeAttrs pr.Attrs
    pure (some { Attrs := attrs, Keys := pr.Keys, Columns := setOfList pr.Columns })

def canonRow (r : P.Row) : P.Row :=
  { r with Columns := setOfList r.Columns, Attrs := canonAttrs r.Attrs }

@[simp] theorem rt_decodeRow (r : Option P.Row) : decodeRow (encodeRow r) = .ok (r.map canonRow) := by
  cases r with
  | none => rfl
  | some r =>
    simp only [encodeRow, Option.map_some, decodeRow, rt_decodeAttrs, canonRow]
    rfl

theorem total_decodeRow (pr : Option I.Row) : NoPanic (decodeRow pr) := by
  cases pr with
  | none => rfl
  | some pr => exact noPanic_bind (total_decodeAttrs _) fun _ => noPanic_ok _

/-- `encodeImportRoaringRequest`: one view message per map entry (Go iterates the map in an
arbitrary order; the decoder rebuilds a map, so the order is not observable). -/
def encodeImportRoaringRequest (m : P.ImportRoaringRequest) : I.ImportRoaringRequest :=
  { Clear := m.Clear, Views := m.Views.map (fun kv => { Name := kv.1, Data := kv.2 }) }

def decodeImportRoaringRequest (pb : Option I.ImportRoaringRequest) (m : P.ImportRoaringRequest) :
    Outcome P.ImportRoaringRequest :=
  match pb with
  | none => throw (.panic "decodeImportRoaringRequest: nil pointer dereference of pb")
  | some pb =>
    pure { m with Clear := pb.Clear,
                  Views := pb.Views.foldl (fun acc v => insertKey v.Name v.Data acc) [] }

def canonViews (m : ViewsMap) : ViewsMap := m.foldl (fun acc kv => insertKey kv.1 kv.2 acc) []

/-! ## Canonical-form hooks

`code = true`: what the codec does (the theorems are stated with it);
`code = false`: what the property allows (the specification side of the driver).
They differ exactly at the recorded findings. -/

/-- FINDING `schema-index-options-dropped`: internal.Index has no field for the index options
(keys, trackExistence) nor the shard width: a schema sent in NodeStatus / ResizeInstruction
loses them. -/
def hook_IndexInfo (code : Bool) (v : P.IndexInfo) : P.IndexInfo :=
  if code then { v with Options := {}, ShardWidth := 0 } else v

/-- Not part of the message: the index travels in the URL path. -/
def hook_QueryRequest (_code : Bool) (v : P.QueryRequest) : P.QueryRequest := { v with Index := "" }

/-- A nil `Meta` and all-default options are the same message. -/
def hook_CreateFieldMessage (_code : Bool) (v : P.CreateFieldMessage) : P.CreateFieldMessage :=
  { v with Meta := some (v.Meta.getD {}) }

/-- A FieldRow identifies its row by key or by id, not both. -/
def hook_FieldRow (_code : Bool) (v : P.FieldRow) : P.FieldRow :=
  if v.RowKey = "" then v else { v with RowID := 0 }

/-- An error travels as its text; the empty text is "no error". -/
def hook_QueryResponse (_code : Bool) (v : P.QueryResponse) : P.QueryResponse :=
  { v with Err := if v.Err = some "" then none else v.Err }

def hook_ColumnAttrSet (_code : Bool) (v : P.ColumnAttrSet) : P.ColumnAttrSet :=
  { v with Attrs := canonAttrs v.Attrs }

def hook_FieldStatus (_code : Bool) (v : P.FieldStatus) : P.FieldStatus :=
  { v with AvailableShards := setOfList v.AvailableShards }

def hook_ImportRoaringRequest (_code : Bool) (v : P.ImportRoaringRequest) : P.ImportRoaringRequest :=
  { v with Views := canonViews v.Views }

/-- FINDING `rowidentifiers-pointer`: the executor returns `pilosa.RowIdentifiers` (a value) and the
decoder yields `*pilosa.RowIdentifiers`; encodeQueryResponse does not accept the pointer. -/
def hook_Result (code : Bool) : P.Result → P.Result
  | .rowIdentifiers v => if code then .rowIdentifiersPtr v else .rowIdentifiers v
  | .row r => .row (r.map canonRow)
  | r => r

@[simp] theorem rt_decodeImportRoaringRequest (v m : P.ImportRoaringRequest) :
    decodeImportRoaringRequest (some (encodeImportRoaringRequest v)) m =
      .ok (hook_ImportRoaringRequest true v) := by
  simp only [decodeImportRoaringRequest, encodeImportRoaringRequest, List.foldl_map,
    hook_ImportRoaringRequest, canonViews]
  rfl

theorem total_decodeImportRoaringRequest (pb : I.ImportRoaringRequest) (m : P.ImportRoaringRequest) :
    NoPanic (decodeImportRoaringRequest (some pb) m) := rfl

def attrValTree : AttrVal → Tree
  | .str s => .node [.atom "str", strAtom s]
  | .int i => .node [.atom "int", .atom (toString i.toInt)]
  | .uint u => .node [.atom "uint", .atom (toString u.toNat)]
  | .bool b => .node [.atom "bool", boolAtom b]
  | .float f => .node [.atom "float", floatAtom f]
  | .null => .node [.atom "null"]

def attrValOfTree : Tree → Option AttrVal
  | .node [.atom "str", t] => (strOfAtom t).map .str
  | .node [.atom "int", t] => (intOfAtom t).map (fun i => .int i.toInt64)
  | .node [.atom "uint", t] => (natOfAtom t).map (fun n => .uint n.toUInt64)
  | .node [.atom "bool", t] => (boolOfAtom t).map .bool
  | .node [.atom "float", t] => (floatOfAtom t).map .float
  | .node [.atom "null"] => some .null
  | _ => none

def attrsTree (m : Attrs) : Tree := listTree (fun kv => .node [strAtom kv.1, attrValTree kv.2]) m

def attrsOfTree : Tree → Option Attrs :=
  listOfTree (fun t => match t with
    | .node [k, v] => do pure ((← strOfAtom k), (← attrValOfTree v))
    | _ => none)

def viewsTree (m : ViewsMap) : Tree := listTree (fun kv => .node [strAtom kv.1, bytesAtom kv.2]) m

def viewsOfTree : Tree → Option ViewsMap :=
  listOfTree (fun t => match t with
    | .node [k, v] => do pure ((← strOfAtom k), (← bytesOfAtom v))
    | _ => none)

def rowTree (r : P.Row) : Tree :=
  .node [listTree (fun v => .atom (toString v.toNat)) r.Columns, listTree strAtom r.Keys, attrsTree r.Attrs]

def rowOfTree : Tree → Option P.Row
  | .node [c, k, a] => do
    let c ← listOfTree (fun t => (natOfAtom t).map Nat.toUInt64) c
    let k ← listOfTree strOfAtom k
    let a ← attrsOfTree a
    pure { Columns := c, Keys := k, Attrs := a }
  | _ => none

end PV.C27
