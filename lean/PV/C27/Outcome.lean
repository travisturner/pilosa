/-
`Outcome`: a value, a returned Go `error`, or a panic.  `NoPanic` is closed under the forms a translated
decoder is made of; the printed no-panic proofs apply these rules along the decoder's body.
-/
namespace PV.C27

inductive Fail where
  | panic (site : String)
  | error (msg : String)
  deriving Repr

abbrev Outcome := Except Fail

def Outcome.isPanic {α : Type} : Outcome α → Bool
  | .error (.panic _) => true
  | _ => false

@[simp] theorem Outcome.pure_eq {α : Type} (a : α) : (pure a : Outcome α) = .ok a := rfl
@[simp] theorem Outcome.map_ok {α β : Type} (f : α → β) (a : α) :
    f <$> (Except.ok a : Outcome α) = .ok (f a) := rfl
@[simp] theorem Outcome.bind_ok {α β : Type} (a : α) (f : α → Outcome β) :
    (Except.ok a : Outcome α) >>= f = f a := rfl
@[simp] theorem Outcome.bind_error {α β : Type} (e : Fail) (f : α → Outcome β) :
    (Except.error e : Outcome α) >>= f = .error e := rfl
@[simp] theorem Outcome.bind_ok_right {α : Type} (a : Outcome α) :
    (a >>= fun r => (Except.ok r : Outcome α)) = a := by
  cases a <;> rfl
theorem Outcome.bind_of_eq_ok {α β : Type} {a : Outcome α} {v : α} (h : a = .ok v)
    (f : α → Outcome β) : a >>= f = f v := h ▸ rfl
@[simp] theorem Outcome.throw_eq {α : Type} (e : Fail) : (throw e : Outcome α) = .error e := rfl

/-- `xs[0]` in Go: panics on an empty slice. -/
def headOrPanic {α : Type} (site : String) : List α → Outcome α
  | [] => throw (.panic site)
  | x :: _ => pure x

/-- `NoPanic o`: the Go function returned (a value or an `error`). -/
def NoPanic {α : Type} (o : Outcome α) : Prop := o.isPanic = false

theorem noPanic_ok {α : Type} (a : α) : NoPanic (Except.ok a : Outcome α) := rfl
theorem noPanic_err {α : Type} (m : String) : NoPanic (Except.error (.error m) : Outcome α) := rfl

theorem noPanic_bind {α β : Type} {a : Outcome α} {f : α → Outcome β}
    (ha : NoPanic a) (hf : ∀ r, NoPanic (f r)) : NoPanic (a >>= f) :=
  match a, ha with
  | .ok r, _ => hf r
  | .error (.error _), _ => rfl

theorem noPanic_ite {α : Type} {c : Prop} [Decidable c] {a b : Outcome α}
    (ha : NoPanic a) (hb : NoPanic b) : NoPanic (if c then a else b) := by
  split <;> assumption

/-- The list is implicit so that the expected type fixes `f` before `hf` is elaborated. -/
theorem noPanic_mapM {α β : Type} {f : α → Outcome β} {xs : List α} (hf : ∀ x, NoPanic (f x)) :
    NoPanic (xs.mapM f) := by
  induction xs with
  | nil => rfl
  | cons x xs ih =>
    rw [List.mapM_cons]
    exact noPanic_bind (hf x) fun _ => noPanic_bind ih fun _ => rfl

theorem mapM_map_ok {α β γ : Type} (enc : α → β) (dec : β → Outcome γ) (canon : α → γ)
    (h : ∀ x, dec (enc x) = .ok (canon x)) (xs : List α) :
    (xs.map enc).mapM dec = .ok (xs.map canon) := by
  induction xs with
  | nil => rfl
  | cons x xs ih =>
    simp only [List.map_cons, List.mapM_cons, h, ih]
    rfl

end PV.C27
