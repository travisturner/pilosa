/-
The generated theorems (`C27_<Type>` and `C27_total_<Type>` per message type, the lemmas of every codec
pair) are in Gen.lean, regenerated from encoding/proto/proto.go on every check.

Full-strength statement of the property: for every message type `T` of Serializer.Marshal and every
value `v : T`, `Unmarshal(Marshal(v))` into a fresh value is `v` (up to `canon_T false`: nil and
empty collections, a field row identified by key or id, the error text, the request's index that
travels in the URL), and Unmarshal of arbitrary bytes never panics.
The codec meets it except at the two recorded findings, where `canon_T true ≠ canon_T false`:
`schema-index-options-dropped` (IndexInfo.Options, IndexInfo.ShardWidth) and
`rowidentifiers-pointer` (a RowIdentifiers result comes back as a pointer).
-/
import PV.C27.Gen
namespace PV.C27

/-! ## Coverage: the same message types everywhere -/

def sameNames (xs ys : List String) : Bool :=
  xs.all (fun x => ys.contains x) && ys.all (fun y => xs.contains y)

/-- Marshal and Unmarshal dispatch on the same set of types, each to the codec pair of that type;
getMessage and getMessageType are inverse tables; every message the server handles
(receiveMessage) has a broadcast type number and is (un)marshalable. -/
def coversOk : Bool :=
  sameNames marshalTypes unmarshalTypes &&
  marshalTypes.eraseDups.length == marshalTypes.length &&
  getMessagePairs == getMessageTypePairs &&
  (getMessagePairs.map (·.1)).eraseDups.length == getMessagePairs.length &&
  (getMessagePairs.map (·.2)).eraseDups.length == getMessagePairs.length &&
  sameNames receiveMessageTypes (getMessagePairs.map (·.2)) &&
  receiveMessageTypes.all (fun t => marshalTypes.contains t) &&
  (marshalDispatch.map (·.1)) == marshalTypes && (unmarshalDispatch.map (·.1)) == unmarshalTypes

theorem C27_covers : coversOk = true := by decide +kernel

example : marshalTypes.length = 28 ∧ getMessagePairs.length = 17 := by decide

/-! ## QueryResponse (the encoder can panic on an unknown result type, so it lives in `Outcome`) -/

/-- A result the executor can produce: every kind of the type switch of encodeQueryResponse. -/
def encodableResult : P.Result → Bool
  | .rowIdentifiersPtr _ => false
  | _ => true

theorem result_roundtrip (r : P.Result) (h : encodableResult r = true) :
    ∃ e, encodeQueryResult r = .ok e ∧
      decodeQueryResult (some e) = .ok (canon_Result true r) := by
  cases r <;> simp [encodableResult] at h <;>
    refine ⟨_, rfl, ?_⟩ <;>
    simp [decodeQueryResult, canon_Result, hook_Result, C.queryResultTypeRow, C.queryResultTypePairs,
      C.queryResultTypeValCount, C.queryResultTypeUint64, C.queryResultTypeBool, C.queryResultTypeNil,
      C.queryResultTypeRowIDs, C.queryResultTypeRowIdentifiers, C.queryResultTypeGroupCounts,
      C.queryResultTypePair, rt_decodePairs, rt_decodeValCount, rt_decodeRowIdentifiers,
      rt_decodeGroupCounts, rt_decodePair, canon_RowIdentifiers, canon_ValCount, canon_Pair]

/-- The list round trip when the encoder can fail too (a `default: panic` in its type switch). -/
theorem mapM_ok_mapM {α β γ : Type} (f : α → Outcome β) (g : β → Outcome γ) (c : α → γ) (xs : List α)
    (h : ∀ x ∈ xs, ∃ y, f x = .ok y ∧ g y = .ok (c x)) :
    ∃ ys, xs.mapM f = .ok ys ∧ ys.mapM g = .ok (xs.map c) := by
  induction xs with
  | nil => exact ⟨[], rfl, rfl⟩
  | cons x xs ih =>
    obtain ⟨y, hy, hg⟩ := h x (by simp)
    obtain ⟨ys, hys, hgs⟩ := ih (fun z hz => h z (by simp [hz]))
    refine ⟨y :: ys, ?_, ?_⟩
    · simp only [List.mapM_cons, hy, hys]; rfl
    · simp only [List.mapM_cons, hg, hgs, List.map_cons]; rfl

/-- `Unmarshal(Marshal(v))` for a QueryResponse whose results are of the kinds the executor produces. -/
theorem C27_QueryResponse (v : P.QueryResponse) (h : ∀ r ∈ v.Results, encodableResult r = true) :
    ∃ pb, encodeQueryResponse v = .ok pb ∧
      decodeQueryResponse (some pb) ({} : P.QueryResponse) = .ok (canon_QueryResponse true v) := by
  cases v with
  | mk results cas err =>
    obtain ⟨rs, hrs, hdec⟩ := mapM_ok_mapM encodeQueryResult (fun e => decodeQueryResult (some e)) (canon_Result true)
      results (fun r hr => result_roundtrip r (h r hr))
    -- the loop of decodeQueryResults binds the element decoder and returns what it gave
    have hres : decodeQueryResults rs = .ok (results.map (canon_Result true)) := by
      simpa only [decodeQueryResults, Outcome.pure_eq, Outcome.bind_ok_right] using hdec
    refine ⟨?pb, ?h1, ?h2⟩
    case h1 =>
      simp only [encodeQueryResponse, hrs]
      rfl
    case h2 =>
      cases err with
      | none =>
        simp [decodeQueryResponse, hres, rt_decodeColumnAttrSets, canon_QueryResponse, hook_QueryResponse]
      | some msg =>
        by_cases hm : msg = "" <;>
          simp [decodeQueryResponse, hres, rt_decodeColumnAttrSets, canon_QueryResponse, hook_QueryResponse, hm]

example : ∀ r ∈ ({ Results := [.uint64 5, .row none, .nil] } : P.QueryResponse).Results,
    encodableResult r = true := by simp [encodableResult]

/-- Unmarshal of any QueryResponse bytes returns a value or an error, never panics. -/
theorem C27_total_QueryResponse (pb : I.QueryResponse) (m : P.QueryResponse) :
    NoPanic (decodeQueryResponse (some pb) m) := total_decodeQueryResponse pb m

/-- The element decoder of a QueryResponse returns a value or an error on every protobuf-side result,
unknown `Type` and empty `Pairs` included. -/
theorem C27_total_result (pb : I.QueryResult) : NoPanic (decodeQueryResult (some pb)) :=
  total_decodeQueryResult pb

/-- Finding `schema-index-options-dropped`: an index with keys sent inside a Schema arrives
without keys (and without its shard width). -/
theorem C27_schema_index_options_dropped_witness :
    let w : P.IndexInfo := { Name := "i", Options := { Keys := true }, ShardWidth := 1048576 }
    (∃ r, decodeIndex (some (encodeIndexInfo w)) ({} : P.IndexInfo) = .ok r ∧ r.Options.Keys = false ∧
      r.ShardWidth = 0) ∧
    (canon_IndexInfo false w).Options.Keys = true := by
  refine ⟨⟨_, rt_decodeIndex _, ?_, ?_⟩, ?_⟩ <;> simp [canon_IndexInfo, hook_IndexInfo, canon_IndexOptions]

/-- Finding `rowidentifiers-pointer`: a `RowIdentifiers` result is decoded as a pointer, which
encodeQueryResponse does not accept (re-encoding the decoded response panics). -/
theorem C27_rowidentifiers_pointer_witness :
    let w : P.RowIdentifiers := { Rows := [1, 2] }
    canon_Result true (.rowIdentifiers w) = .rowIdentifiersPtr w ∧
    canon_Result false (.rowIdentifiers w) = .rowIdentifiers w ∧
    (encodeQueryResponse { Results := [.rowIdentifiersPtr w] }).isPanic = true := by
  refine ⟨?_, ?_, ?_⟩ <;> simp [canon_Result, hook_Result, canon_RowIdentifiers, encodeQueryResponse,
    encodeQueryResult, Outcome.isPanic]

end PV.C27
