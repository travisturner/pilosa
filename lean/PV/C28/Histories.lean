import PV.C28.Model
namespace PV.C28
open Spec Model

/-- Does writing item `it` with operation `op` touch the bit (v, r, c)? -/
def touch (f : Fld) (op : Op) (it : Item) (v : String) (r c : Nat) : Bool :=
  r == it.row && c == it.col &&
    match op with
    | .set => (setViews f it).contains v
    | .clear => if f.ft = .time then true else v == ""
    | .clearstd => !f.nostd && v == ""

def rtouch (f : Fld) (op : Op) (known : List String) (it : Item) (v : String) (r c : Nat) : Bool :=
  r == it.row && c == it.col && (roaringViews f op known it).contains v

/-- Support of a bit state lies inside the known views. -/
def Supp (s : BitSt) (known : List String) : Prop := ∀ v r c, s v r c = true → v ∈ known

def mapItem (tr tc : Nat → Nat) (it : Item) : Item := { it with row := tr it.row, col := tc it.col }

def pullBits (tr tc : Nat → Nat) (s : BitSt) : BitSt := fun v r c => s v (tr r) (tc c)

def Inj (g : Nat → Nat) : Prop := ∀ a b, g a = g b → a = b

/-- id-space state `sid` represents key-space state `sk` (mutex / bool). -/
def RelMx (tr tc : Nat → Nat) (sid sk : MxSt) : Prop := ∀ c, sid (tc c) = (sk c).map tr

/-- id-space state represents key-space state (int field: only columns are translated). -/
def RelIv (tc : Nat → Nat) (sid sk : IntSt) : Prop := ∀ c, sid (tc c) = sk c

inductive Path | pql | ids | roaring
deriving DecidableEq, Repr

structure W where
  op : Op
  items : List Item

/-- A bulk import by ids cannot express "clear in every time view". -/
def allowed (f : Fld) (p : Path) (op : Op) : Prop :=
  p = .ids → op = .clear → f.ft ≠ .time

def applyPath (f : Fld) (known : List String) : Path → W → BitSt → BitSt
  | .pql, w, s => Spec.writeBits f w.op w.items s
  | .ids, w, s => Model.importIds f w.op w.items s
  | .roaring, w, s => Model.roaringPath f w.op known w.items s

/-- Views known to a roaring client after a write (those a Set of the items touches are added). -/
def knownAfter (f : Fld) (known : List String) (w : W) : List String :=
  if w.op = .set then known ++ w.items.flatMap (setViews f) else known

def run (f : Fld) : List (Path × W) → List String → BitSt → BitSt
  | [], _, s => s
  | (p, w) :: rest, known, s =>
    run f rest (knownAfter f known w) (applyPath f (knownAfter f known w) p w s)

def runSpec (f : Fld) : List W → BitSt → BitSt
  | [], s => s
  | w :: rest, s => runSpec f rest (Spec.writeBits f w.op w.items s)

/-- Polarity of the last write of the history that touches (v, r, c). -/
def lastTouch (f : Fld) : List W → String → Nat → Nat → Option Bool
  | [], _, _, _ => none
  | w :: rest, v, r, c =>
    match lastTouch f rest v r c with
    | some b => some b
    | none => if w.items.any (fun it => touch f w.op it v r c) then some (w.op == .set) else none

/-- flag: `true` = bulk import, `false` = PQL -/
def runMx (ws : List (Bool × W)) (s : MxSt) : MxSt :=
  ws.foldl (fun s pw => if pw.1 then Model.importMx pw.2.op pw.2.items s else Spec.writeMx pw.2.op pw.2.items s) s

def runMxSpec (ws : List W) (s : MxSt) : MxSt := ws.foldl (fun s w => Spec.writeMx w.op w.items s) s

/-- The writes of a history that concern column `c`, in order. -/
def mxTrace (c : Nat) (ws : List W) : List (Op × Nat) :=
  ws.flatMap (fun w => (w.items.filter (fun it => c == it.col)).map (fun it => (w.op, it.row)))

/-- first flag: `true` = `API.ImportValue`, `false` = PQL; second: its large-batch path -/
def runIv (ws : List (Bool × Bool × W)) (s : IntSt) : IntSt :=
  ws.foldl (fun s pw =>
    if pw.1 then
      (if pw.2.1 && pw.2.2.op == .set then Model.importValueLarge pw.2.2.items s
       else Model.importValue pw.2.2.op pw.2.2.items s)
    else Spec.writeIv pw.2.2.op pw.2.2.items s) s

def runIvSpec (ws : List W) (s : IntSt) : IntSt := ws.foldl (fun s w => Spec.writeIv w.op w.items s) s

def ivTrace (c : Nat) (ws : List W) : List (Op × Int) :=
  ws.flatMap (fun w => (w.items.filter (fun it => c == it.col)).map (fun it => (w.op, it.val)))

end PV.C28
