/-
C28 property theorems: all write paths for the same bits yield the same answers.

Full-strength statement (per field type): for every sequence of logical writes and every
assignment of write paths to them (PQL Set/Clear, bulk import by ids or — through an injective key
translation — by keys, roaring import into the views a Set would touch, value import), the
abstract field state reached is the one `Spec.write*` reaches, hence any two assignments — and any
two histories with the same final per-bit outcome — give equal states and equal answers to every
query of the battery (which are functions of the abstract state).

Scope notes (see design/C28.md): `Not`/existence tracking is outside the compared answers;
the roaring encodings are abstracted to position sets (C04); TopN with `n` over several shards is
a two-pass approximation and is only compared on one shard; `allowed` excludes the one
combination the API cannot express (bulk import by ids clearing every time view).
-/
import PV.C28.Lemmas
namespace PV.C28
open Spec Model

/-! ### 1. Each path's effect equals the specification write -/

/-- set / time fields: PQL, bulk import by ids and roaring import have the effect of `Spec.writeBits`. -/
theorem C28_path_effect_bits (f : Fld) (hf : f.ft ≠ .time → f.nostd = false) (known : List String)
    (p : Path) (w : W) (s : BitSt) (hs : Supp s known) (ha : allowed f p w.op) :
    applyPath f known p w s = Spec.writeBits f w.op w.items s :=
  applyPath_eq f hf known p w s hs ha

/-- mutex / bool fields: a bulk import (last row per column wins; Clear removes the listed bits)
is the sequence of single Set/Clear calls. -/
theorem C28_path_effect_mutex (op : Op) (items : List Item) (s : MxSt) :
    Model.importMx op items s = Spec.writeMx op items s :=
  importMx_eq op items s

/-- int fields: both paths of `fragment.importValue` (small write: last occurrence wins; large:
pairs applied in order) and the clearing import are the sequence of single writes. -/
theorem C28_path_effect_int (op : Op) (items : List Item) (s : IntSt) :
    Model.importValue op items s = Spec.writeIv op items s ∧
    Model.importValueLarge items s = Spec.writeIv .set items s :=
  ⟨importValue_eq op items s, importValueLarge_eq items s⟩

/-! ### 2. Keys: an injective translation commutes with every write -/

theorem C28_keys_bits (tr tc : Nat → Nat) (htr : Inj tr) (htc : Inj tc) (f : Fld) (op : Op)
    (items : List Item) (s : BitSt) :
    pullBits tr tc (Spec.writeBits f op (items.map (mapItem tr tc)) s) =
      Spec.writeBits f op items (pullBits tr tc s) :=
  keys_bits tr tc htr htc f op items s

theorem C28_keys_mutex (tr tc : Nat → Nat) (htr : Inj tr) (htc : Inj tc) (op : Op) (items : List Item)
    (sid sk : MxSt) (h : RelMx tr tc sid sk) :
    RelMx tr tc (Spec.writeMx op (items.map (mapItem tr tc)) sid) (Spec.writeMx op items sk) :=
  keys_mx tr tc htr htc op items sid sk h

theorem C28_keys_int (tc : Nat → Nat) (htc : Inj tc) (op : Op) (items : List Item)
    (sid sk : IntSt) (h : RelIv tc sid sk) :
    RelIv tc (Spec.writeIv op (items.map (mapItem id tc)) sid) (Spec.writeIv op items sk) :=
  keys_iv tc htc op items sid sk h

/-- The ids handed out by the translate store (`Tr.id`: position of first use + 1) are injective
on the keys it has seen. -/
theorem C28_keys_alloc_injective (l : Model.Tr) (a b : Nat) (ha : a ∈ l) (hb : b ∈ l)
    (h : Model.Tr.id l a = Model.Tr.id l b) : a = b := by
  have h' : l.idxOf a = l.idxOf b := Nat.add_right_cancel h
  -- a key in `l` is the entry of `l` at its index
  rw [← List.getElem_idxOf (List.idxOf_lt_length_of_mem ha),
    ← List.getElem_idxOf (List.idxOf_lt_length_of_mem hb)]
  simp only [h']

/-! ### 3. C28_paths: any two path assignments (mixtures) give the same state and answers -/

/-- set / time fields. `ws₁`, `ws₂` are the same logical writes with arbitrary paths attached. -/
theorem C28_paths (f : Fld) (hf : f.ft ≠ .time → f.nostd = false) (ws₁ ws₂ : List (Path × W))
    (hsame : ws₁.map (·.2) = ws₂.map (·.2)) (known : List String) (s : BitSt) (hs : Supp s known)
    (ha₁ : ∀ pw ∈ ws₁, allowed f pw.1 pw.2.op) (ha₂ : ∀ pw ∈ ws₂, allowed f pw.1 pw.2.op) :
    run f ws₁ known s = run f ws₂ known s := by
  rw [run_eq_runSpec f hf ws₁ known s hs ha₁, run_eq_runSpec f hf ws₂ known s hs ha₂, hsame]

/-- Hence every answer of the battery (any function of the abstract state: `rowQ`, `countQ`,
`rowsQ`, `topnQ`, `topnIdsQ`, `topkQ`, `trangeQ` with any universe and arguments) agrees. -/
theorem C28_paths_answers {α : Type} (Q : BitSt → α) (f : Fld) (hf : f.ft ≠ .time → f.nostd = false)
    (ws₁ ws₂ : List (Path × W)) (hsame : ws₁.map (·.2) = ws₂.map (·.2)) (known : List String)
    (s : BitSt) (hs : Supp s known)
    (ha₁ : ∀ pw ∈ ws₁, allowed f pw.1 pw.2.op) (ha₂ : ∀ pw ∈ ws₂, allowed f pw.1 pw.2.op) :
    Q (run f ws₁ known s) = Q (run f ws₂ known s) := by
  rw [C28_paths f hf ws₁ ws₂ hsame known s hs ha₁ ha₂]

/-- mutex / bool fields (`true` = bulk import, `false` = PQL). -/
theorem C28_paths_mutex (ws₁ ws₂ : List (Bool × W)) (hsame : ws₁.map (·.2) = ws₂.map (·.2)) (s : MxSt) :
    runMx ws₁ s = runMx ws₂ s := by
  rw [runMx_eq, runMx_eq, hsame]

/-- int fields (first flag: value import instead of PQL; second: its large-batch path). -/
theorem C28_paths_int (ws₁ ws₂ : List (Bool × Bool × W)) (hsame : ws₁.map (·.2.2) = ws₂.map (·.2.2))
    (s : IntSt) : runIv ws₁ s = runIv ws₂ s := by
  rw [runIv_eq, runIv_eq, hsame]

/-! ### 4. Same final per-bit outcome ⇒ same state (different logical histories) -/

/-- set / time fields: the state after a history is, bit by bit, the polarity of the last write
touching that bit (or the initial state). -/
theorem C28_outcome_bits (f : Fld) (ws₁ ws₂ : List W) (s : BitSt)
    (h : ∀ v r c, lastTouch f ws₁ v r c = lastTouch f ws₂ v r c) :
    runSpec f ws₁ s = runSpec f ws₂ s := by
  funext v r c
  rw [runSpec_apply, runSpec_apply, h]

/-- … and with arbitrary paths attached to both histories. -/
theorem C28_paths_outcome (f : Fld) (hf : f.ft ≠ .time → f.nostd = false) (ws₁ ws₂ : List (Path × W))
    (known : List String) (s : BitSt) (hs : Supp s known)
    (ha₁ : ∀ pw ∈ ws₁, allowed f pw.1 pw.2.op) (ha₂ : ∀ pw ∈ ws₂, allowed f pw.1 pw.2.op)
    (h : ∀ v r c, lastTouch f (ws₁.map (·.2)) v r c = lastTouch f (ws₂.map (·.2)) v r c) :
    run f ws₁ known s = run f ws₂ known s := by
  rw [run_eq_runSpec f hf ws₁ known s hs ha₁, run_eq_runSpec f hf ws₂ known s hs ha₂]
  exact C28_outcome_bits f _ _ s h

/-- mutex / bool fields: a column's value depends only on the writes that name this column. -/
theorem C28_outcome_mutex (ws₁ ws₂ : List W) (s : MxSt) (h : ∀ c, mxTrace c ws₁ = mxTrace c ws₂) :
    runMxSpec ws₁ s = runMxSpec ws₂ s := by
  funext c
  rw [runMxSpec_col, runMxSpec_col, h]

theorem C28_outcome_int (ws₁ ws₂ : List W) (s : IntSt) (h : ∀ c, ivTrace c ws₁ = ivTrace c ws₂) :
    runIvSpec ws₁ s = runIvSpec ws₂ s := by
  funext c
  rw [runIvSpec_col, runIvSpec_col, h]

/-! ### 5. The battery reads exactly the abstract set -/

/-- With every populated column inside the universe, `Row` lists exactly the members of the row. -/
theorem C28_rowQ_exact (s : BitSt) (u : Univ) (v : String) (r c : Nat)
    (hu : ∀ c, s v r c = true → c ∈ u.cols) :
    c ∈ rowQ s u v r ↔ s v r c = true := by
  simp only [rowQ, List.mem_filter]
  exact ⟨fun h => h.2, fun h => ⟨hu c h, h⟩⟩

theorem C28_trangeQ_exact (s : BitSt) (u : Univ) (r c : Nat) (views : List String)
    (hu : ∀ v c, s v r c = true → c ∈ u.cols) :
    c ∈ trangeQ s u r views ↔ ∃ v ∈ views, s v r c = true := by
  simp only [trangeQ, List.mem_filter, List.any_eq_true]
  constructor
  · rintro ⟨_, v, hv, h⟩; exact ⟨v, hv, h⟩
  · rintro ⟨v, hv, h⟩; exact ⟨hu v c h, v, hv, h⟩

/-! ### Non-vacuity: a concrete mixed history satisfying the hypotheses -/

def exFld : Fld := { ft := .time, q := "YM", nostd := false }
def exW1 : W := { op := .set, items := [{ row := 1, col := 5, ts := "2001020304" }, { row := 2, col := 1048581 }] }
def exW2 : W := { op := .clear, items := [{ row := 1, col := 5 }] }

example : Supp BitSt.empty [] := by intro v r c h; simp [BitSt.empty] at h
example : ∀ pw ∈ [(Path.ids, exW1), (Path.roaring, exW2)], allowed exFld pw.1 pw.2.op := by
  intro pw h; simp at h; rcases h with rfl | rfl <;> simp [allowed, exW1, exW2]
example : rowQ (run exFld [(Path.ids, exW1), (Path.roaring, exW2)] [] BitSt.empty)
    { rows := [1, 2], cols := [5, 1048581] } "2001" 1 = [] := by decide
example : rowQ (run exFld [(Path.roaring, exW1)] [] BitSt.empty)
    { rows := [1, 2], cols := [5, 1048581] } "200102" 1 = [5] := by decide
example : Inj (fun n => n + 1) := fun a b h => by simp at h; exact h

end PV.C28
