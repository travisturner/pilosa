/-
`Inv`: the ghost log is a legal sequential run reproducing the shared state and holding every returned result.
Real-time order is not in it: returned ⇒ logged, logged ⇒ invoked, and the log only grows.
-/
import PV.C29.Model
namespace PV.C29
variable {σ α Res Op : Type}

def ids (L : List (Nat × Op × Res)) : List Nat := L.map (·.1)

def replayState (sem : Op → Prog σ α Res) (s0 : σ) (L : List (Nat × Op × Res)) : σ :=
  L.foldl (fun s e => ((sem e.2.1).runSeq s).1) s0

theorem legal_append (sem : Op → Prog σ α Res) (s0 : σ) (L : List (Nat × Op × Res)) (e : Nat × Op × Res) :
    Legal sem s0 (L ++ [e]) ↔ Legal sem s0 L ∧ ((sem e.2.1).runSeq (replayState sem s0 L)).2 = e.2.2 := by
  induction L generalizing s0 with
  | nil =>
    obtain ⟨i, o, r⟩ := e
    simp [Legal, replayState]
  | cons x L ih =>
    obtain ⟨i, o, r⟩ := x
    simp only [List.cons_append, Legal, ih, replayState, List.foldl_cons, and_assoc]

theorem replayState_append (sem : Op → Prog σ α Res) (s0 : σ) (L : List (Nat × Op × Res)) (e : Nat × Op × Res) :
    replayState sem s0 (L ++ [e]) = ((sem e.2.1).runSeq (replayState sem s0 L)).1 := by
  simp [replayState, List.foldl_append]

theorem exec_append [DecidableEq Res] (sem : Op → Prog σ α Res) (s : Sys σ α Res Op) (x y : List (Ev Op Res)) :
    exec sem s (x ++ y) = (exec sem s x).bind (fun s' => exec sem s' y) := by
  induction x generalizing s with
  | nil => simp [exec]
  | cons e x ih =>
    simp only [List.cons_append, exec]
    cases h : exec1 sem s e with
    | none => simp
    | some s1 => simp [ih]

structure Inv (sem : Op → Prog σ α Res) (s0 : σ) (pre : List (Ev Op Res)) (s : Sys σ α Res Op) : Prop where
  -- a running thread has not stepped yet: under `SingleSection` its next step is the whole operation
  run_inv : ∀ t ∈ s.running, t.id ∈ s.invoked ∧ t.id ∉ ids s.log ∧ t.rest = (sem t.op).steps ∧
    t.acc = (sem t.op).acc0 ∧ t.result = (sem t.op).result ∧ Ev.inv t.id t.op ∈ pre
  log_sub : ∀ id ∈ ids s.log, id ∈ s.invoked
  log_nodup : (ids s.log).Nodup
  legal : Legal sem s0 s.log
  state : replayState sem s0 s.log = s.g
  log_inv : ∀ e ∈ s.log, Ev.inv e.1 e.2.1 ∈ pre
  ret_log : ∀ id r, Ev.ret id r ∈ pre → ∃ op, (id, op, r) ∈ s.log

theorem inv_init (sem : Op → Prog σ α Res) (s0 : σ) : Inv sem s0 [] ({ g := s0 } : Sys σ α Res Op) := by
  constructor <;> simp [ids, Legal, replayState]

theorem Inv.snoc {sem : Op → Prog σ α Res} {s0 : σ} {pre : List (Ev Op Res)} {s : Sys σ α Res Op}
    (hI : Inv sem s0 pre s) (e : Ev Op Res) (hret : ∀ id r, e = .ret id r → ∃ op, (id, op, r) ∈ s.log) :
    Inv sem s0 (pre ++ [e]) s where
  run_inv t ht := by
    obtain ⟨a, b, c, d, f, g⟩ := hI.run_inv t ht
    exact ⟨a, b, c, d, f, List.mem_append_left _ g⟩
  log_sub := hI.log_sub
  log_nodup := hI.log_nodup
  legal := hI.legal
  state := hI.state
  log_inv x hx := List.mem_append_left _ (hI.log_inv x hx)
  ret_log id r hr := by
    rcases List.mem_append.mp hr with hr | hr
    · exact hI.ret_log id r hr
    · exact hret id r (List.mem_singleton.mp hr).symm

theorem step_inv [DecidableEq Res] (sem : Op → Prog σ α Res) (hss : SingleSection sem) (s0 : σ)
    (pre : List (Ev Op Res)) (s s' : Sys σ α Res Op) (e : Ev Op Res)
    (hI : Inv sem s0 pre s) (h : exec1 sem s e = some s') :
    Inv sem s0 (pre ++ [e]) s' ∧ (∃ ext, s'.log = s.log ++ ext) ∧ (∀ i ∈ s.invoked, i ∈ s'.invoked) := by
  cases e with
  | inv id op =>
    have hI' := hI.snoc (.inv id op) nofun
    simp only [exec1] at h
    split at h
    · cases h
    · rename_i hfresh
      have hfresh' : id ∉ s.invoked := by simpa using hfresh
      simp only [Option.some.injEq] at h
      subst h
      refine ⟨{ hI' with run_inv := ?_, log_sub := ?_ }, ⟨[], by simp⟩, fun i hi => List.mem_cons_of_mem _ hi⟩
      · intro t ht
        rcases List.mem_cons.mp ht with rfl | ht
        · exact ⟨List.mem_cons_self, fun hmem => hfresh' (hI.log_sub _ hmem), rfl, rfl, rfl,
            List.mem_append_right _ (List.mem_singleton_self _)⟩
        · obtain ⟨a, b⟩ := hI'.run_inv t ht
          exact ⟨List.mem_cons_of_mem _ a, b⟩
      · exact fun i hi => List.mem_cons_of_mem _ (hI.log_sub i hi)
  | step id =>
    have hI' := hI.snoc (.step id) nofun
    simp only [exec1] at h
    split at h
    · cases h
    · rename_i t hfind
      have htmem : t ∈ s.running := List.mem_of_find?_eq_some hfind
      have htid : t.id = id := by
        have := List.find?_some hfind
        simpa using this
      subst htid
      obtain ⟨hinvk, hnotlog, hrest, hacc, hres, hpre⟩ := hI'.run_inv t htmem
      obtain ⟨st, hst⟩ := hss t.op
      rw [hrest, hst] at h
      simp only [List.isEmpty_nil, if_true, Option.some.injEq] at h
      subst h
      refine ⟨?_, ⟨_, rfl⟩, fun i hi => hi⟩
      have hrun : (sem t.op).runSeq s.g = ((st s.g t.acc).1, t.result (st s.g t.acc).2) := by
        simp [Prog.runSeq, hst, hacc, hres]
      constructor
      case run_inv =>
        intro t' ht'
        simp only [List.mem_filter] at ht'
        obtain ⟨a, b, c⟩ := hI'.run_inv t' ht'.1
        refine ⟨a, ?_, c⟩
        simp only [ids, List.map_append, List.mem_append, List.map_cons, List.map_nil, List.mem_singleton]
        rintro (h1 | h1)
        · exact b h1
        · have : (t'.id != t.id) = true := ht'.2
          simp [h1] at this
      case log_sub =>
        intro i hi
        simp only [ids, List.map_append, List.mem_append, List.map_cons, List.map_nil, List.mem_singleton] at hi
        rcases hi with hi | hi
        · exact hI.log_sub i hi
        · rw [hi]; exact hinvk
      case log_nodup =>
        simp only [ids, List.map_append, List.map_cons, List.map_nil]
        rw [List.nodup_append]
        refine ⟨hI.log_nodup, by simp, ?_⟩
        intro a ha b hb
        simp only [List.mem_singleton] at hb
        subst hb
        intro hab
        subst hab
        exact hnotlog ha
      case legal =>
        rw [legal_append]
        refine ⟨hI.legal, ?_⟩
        simp only [hI.state, hrun]
      case state =>
        rw [replayState_append]
        simp only [hI.state, hrun]
      case log_inv =>
        intro e he
        rcases List.mem_append.mp he with he | he
        · exact hI'.log_inv e he
        · rw [List.mem_singleton.mp he]
          exact hpre
      case ret_log =>
        intro i r hr
        obtain ⟨op, hop⟩ := hI'.ret_log i r hr
        exact ⟨op, List.mem_append_left _ hop⟩
  | ret id r =>
    simp only [exec1] at h
    split at h
    · cases h
    · split at h
      · rename_i i' op' r' hfind
        split at h
        · rename_i hr
          simp only [Option.some.injEq] at h
          subst h
          subst hr
          have hmem : (i', op', r') ∈ s.log := List.mem_of_find?_eq_some hfind
          have hid : i' = id := by
            have := List.find?_some hfind
            simpa using this
          subst hid
          have hI' := hI.snoc (.ret i' r') fun _ _ h => by cases h; exact ⟨op', hmem⟩
          exact ⟨{ hI' with }, ⟨[], by simp⟩, fun i hi => hi⟩
        · cases h
      · cases h

theorem exec_inv [DecidableEq Res] (sem : Op → Prog σ α Res) (hss : SingleSection sem) (s0 : σ)
    (pre tr : List (Ev Op Res)) (s s' : Sys σ α Res Op)
    (hI : Inv sem s0 pre s) (h : exec sem s tr = some s') :
    Inv sem s0 (pre ++ tr) s' ∧ (∃ ext, s'.log = s.log ++ ext) ∧ (∀ i ∈ s.invoked, i ∈ s'.invoked) := by
  induction tr generalizing pre s with
  | nil =>
    simp only [exec, Option.some.injEq] at h
    subst h
    exact ⟨by simpa using hI, ⟨[], by simp⟩, fun i hi => hi⟩
  | cons e tr ih =>
    simp only [exec] at h
    obtain ⟨s1, h1, h⟩ := Option.bind_eq_some_iff.mp h
    obtain ⟨hI1, ⟨ext1, hext1⟩, hmon1⟩ := step_inv sem hss s0 pre s s1 e hI h1
    obtain ⟨hI2, ⟨ext2, hext2⟩, hmon2⟩ := ih (pre ++ [e]) s1 hI1 h
    refine ⟨by simpa using hI2, ⟨ext1 ++ ext2, by rw [hext2, hext1, List.append_assoc]⟩, ?_⟩
    intro i hi
    exact hmon2 i (hmon1 i hi)

/-- A system whose operations are each ONE critical section is linearizable: the linearisation
order is the order in which the critical sections ran. -/
theorem atomic_linearizable [DecidableEq Res] (sem : Op → Prog σ α Res) (hss : SingleSection sem) (s0 : σ)
    (tr : List (Ev Op Res)) (sf : Sys σ α Res Op)
    (h : exec sem ({ g := s0 } : Sys σ α Res Op) tr = some sf) :
    Linearizable sem s0 tr := by
  obtain ⟨hI, _, _⟩ := exec_inv sem hss s0 [] tr _ sf (inv_init sem s0) h
  simp only [List.nil_append] at hI
  refine ⟨sf.log, hI.log_nodup, hI.log_inv, hI.ret_log, hI.legal, ?_⟩
  intro t1 t2 t3 a ra b opb htr hb
  subst htr
  rw [exec_append] at h
  obtain ⟨s2, h12, h⟩ := Option.bind_eq_some_iff.mp h
  obtain ⟨hI2, _, _⟩ := exec_inv sem hss s0 [] _ _ s2 (inv_init sem s0) h12
  have ha2 : a ∈ ids s2.log := by
    obtain ⟨op, hop⟩ := hI2.ret_log a ra (by simp)
    exact List.mem_map.mpr ⟨_, hop, rfl⟩
  -- b is fresh in s2, hence not in its log, which only grows from there
  obtain ⟨_, ⟨ext, hlog⟩, _⟩ := exec_inv sem hss s0 _ (Ev.inv b opb :: t3) s2 sf hI2 h
  have hbfresh : b ∉ s2.invoked := by
    simp only [exec, exec1] at h
    split at h
    · exact absurd h (by simp)
    · rename_i hf; simpa using hf
  have hb2 : b ∉ ids s2.log := fun hmem => hbfresh (hI2.log_sub b hmem)
  refine ⟨ids s2.log, ids ext, by rw [hlog]; simp [ids], ha2, ?_⟩
  have hb' : b ∈ ids sf.log := hb
  rw [hlog] at hb'
  simp only [ids, List.map_append, List.mem_append] at hb' hb2 ⊢
  rcases hb' with hb' | hb'
  · exact absurd hb' hb2
  · exact hb'

theorem fsemSingle_single : SingleSection fsemSingle := by
  intro ⟨o, ho⟩
  cases o <;> simp [FOp.single] at ho <;> exact ⟨_, rfl⟩


/-- The two candidate linearisations of a history of two operations. -/
theorem eq_pair_or_swap {β : Type} (L : List (Nat × β)) (hnd : (L.map (·.1)).Nodup)
    (hids : ∀ e ∈ L, e.1 = 0 ∨ e.1 = 1) (a b : Nat × β) (ha : a ∈ L) (hb : b ∈ L) (ha0 : a.1 = 0) (hb1 : b.1 = 1) :
    L = [a, b] ∨ L = [b, a] := by
  match L, hnd, hids, ha, hb with
  | [], _, _, ha, _ => cases ha
  | [x], _, _, ha, hb =>
    simp only [List.mem_singleton] at ha hb
    subst ha; subst hb; omega
  | [x, y], hnd, _, ha, hb =>
    simp only [List.mem_cons, List.not_mem_nil, or_false] at ha hb
    simp only [List.map_cons, List.map_nil, List.nodup_cons, List.mem_singleton, List.not_mem_nil,
      not_false_eq_true, List.nodup_nil, and_true] at hnd
    rcases ha with rfl | rfl <;> rcases hb with rfl | rfl
    · omega
    · exact Or.inl rfl
    · exact Or.inr rfl
    · omega
  | x :: y :: z :: rest, hnd, hids, _, _ =>
    exfalso
    simp only [List.map_cons, List.nodup_cons, List.mem_cons, not_or] at hnd
    have hx := hids x (by simp)
    have hy := hids y (by simp)
    have hz := hids z (by simp)
    omega

end PV.C29
