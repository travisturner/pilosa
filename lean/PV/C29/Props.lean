/-
C29 property theorems: concurrent requests are race-free and linearizable.  PARTIAL BY NATURE: the
theorems are about (1) the regenerated lock-discipline table and (2) the abstract protocol "one
critical section per operation"; real data races, channel/cond deadlocks and the Go scheduler are
searched for by the -race workload (harness/c29race), which is validation, not proof.

Full-strength statements kept visible:
  C29_lockset          : every access of every shared entry method obeys the lockset rule.
                         Proved as C29_lockset_partial: … except the accesses listed in `knownRacy`
                         (each proved to be a real entry of the current table by a witness theorem).
  C29_linearizable     : every history of the operations of `fsem` is linearizable.
                         FALSE for multi-section reads: `C29_multi_section_witness`.
                         Proved for single-section operations: `C29_atomic_linearizable` (generic) and
                         `C29_linearizable_partial` (its instance for the fragment model).
Assumption (not proved): under the Go memory model a consistent lockset implies data-race freedom.
-/
import PV.C29.Gen
import PV.C29.Lemmas
namespace PV.C29

/-! ### 1. Lockset discipline over the regenerated table -/

/-- Accesses of the current tree that break the lockset rule (type, method, component, is-write).
  * TranslateFile.PrimaryTranslateStore: read without the lock in Translate{Columns,Rows}ToUint64,
    written by handlePrimaryStoreEvent under the lock (cluster replication only).
  * fragment.cache in top/topBitmapPairs: `if f.CacheType == CacheTypeNone { return f.cache.Top() }`
    reads the cache without fragment.mu; in that branch the cache is the stateless nopCache
    (benign; the LRU lookup of the ids branch was a real race and is fixed, see design/C29.md).
  * rankCache.rankings: Top() returns the shared slice without rankCache.mu (all current callers
    hold fragment.mu, which also serialises the writers; recalculate installs a fresh slice). -/
def knownRacy : List (String × String × String × Bool) :=
  [("TranslateFile", "TranslateColumnsToUint64", "TranslateFile.PrimaryTranslateStore", false),
   ("TranslateFile", "TranslateRowsToUint64", "TranslateFile.PrimaryTranslateStore", false),
   ("fragment", "top", "fragment.cache", false),
   ("rankCache", "Top", "rankCache.rankings", false)]

def named (v : String × String × Nat × Bool) : String × String × String × Bool :=
  (v.1, v.2.1, Gen.comps.getD v.2.2.1 "?", v.2.2.2)

/-- Every write to a component, and every read racing with one, in every entry method of fragment,
view, Field, Holder, Index, rankCache and TranslateFile (lifecycle methods excluded, see
`lifecycle`) happens under the object's mutex in the right mode — except exactly `knownRacy`.
The quantifier is the regenerated table, so `decide` is the proof; the equality also shows that
every listed exception is a real entry of the current table (the list cannot go stale). -/
theorem C29_lockset_table : (violations Gen.table).map named = knownRacy := by
  decide +kernel

theorem C29_lockset_partial : ∀ v ∈ violations Gen.table, named v ∈ knownRacy := by
  intro v hv
  rw [← C29_lockset_table]
  exact List.mem_map.mpr ⟨v, hv, rfl⟩

theorem C29_knownRacy_witness : ∀ k ∈ knownRacy, k ∈ (violations Gen.table).map named := by
  intro k hk
  rw [C29_lockset_table]
  exact hk

/-- No entry method re-acquires a mutex it already holds (sync.RWMutex is not reentrant). -/
theorem C29_no_nested_lock : nestedLocks Gen.table = [] := by
  decide +kernel

/-- Which fragment reads consist of several critical sections (the table's view of "multi-section"):
the operations the design names are all there. -/
theorem C29_multi_section_table :
    ∀ m ∈ ["sum", "min", "max", "rangeOp", "rangeBetween", "top", "minRow", "maxRow"],
      ("fragment", m) ∈ multiSection Gen.table := by
  decide +kernel

/-- … while the bit operations are single sections. -/
theorem C29_single_section_table :
    ∀ m ∈ ["row", "setBit", "clearBit", "setRow", "clearRow", "importRoaring", "importValue", "rows", "value"],
      ("fragment", m) ∉ multiSection Gen.table := by
  decide +kernel

/-! ### 2. One critical section per operation ⇒ linearizable -/

/-- Generic: for ANY sequential specification and ANY well-formed trace of a system whose
operations are single critical sections, the invocation/response history is linearizable; the
linearisation point of an operation is its critical section. -/
theorem C29_atomic_linearizable {σ α Res Op : Type} [DecidableEq Res] (sem : Op → Prog σ α Res)
    (hss : SingleSection sem) (s0 : σ) (tr : List (Ev Op Res)) (sf : Sys σ α Res Op)
    (h : exec sem ({ g := s0 } : Sys σ α Res Op) tr = some sf) :
    Linearizable sem s0 tr :=
  atomic_linearizable sem hss s0 tr sf h

/-- The fragment model restricted to its single-section operations (Set, mutex Set, Clear, Row) is
linearizable.  Excluded region: `inter`, `union` (multi-section reads). -/
theorem C29_linearizable_partial (s0 : FS) (tr : List (Ev { o : FOp // o.single = true } FRes))
    (sf : Sys FS FAcc FRes { o : FOp // o.single = true })
    (h : exec fsemSingle ({ g := s0 } : Sys FS FAcc FRes _) tr = some sf) :
    Linearizable fsemSingle s0 tr :=
  atomic_linearizable fsemSingle fsemSingle_single s0 tr sf h

/-! ### 3. Multi-section reads are not linearizable: the witness -/

/-- Mutex field, column 0 in row 1. -/
def wS0 : FS := fun r c => r == 1 && c == 0

/-- A reads Intersect(Row 1, Row 2); between A's two sections B moves column 0 from row 1 to row 2. -/
def wTrace : List (Ev FOp FRes) :=
  [.inv 0 (.inter 1 2), .inv 1 (.mset 2 0),
   .step 0,                       -- A reads row 1 = {0}
   .step 1, .ret 1 (.changed true), -- B: Set(0, f=2) on the mutex field, one critical section
   .step 0, .ret 0 (.cols [0])]   -- A reads row 2 = {0} and returns {0}

/-- The trace is a real execution of the model (every step is enabled, results are the model's). -/
theorem C29_multi_section_trace_valid : (exec fsem ({ g := wS0 } : Sys FS FAcc FRes FOp) wTrace).isSome = true := by
  decide

/-- `C29_linearizable` fails for multi-section reads: no sequential order of A and B explains
A's answer {0} (A first: {0} ∩ ∅; B first: ∅ ∩ {0}). -/
theorem C29_multi_section_witness : ¬ Linearizable fsem wS0 wTrace := by
  rintro ⟨L, hnd, hinv, hret, hlegal, _⟩
  obtain ⟨opA, hA⟩ := hret 0 (.cols [0]) (by simp [wTrace])
  obtain ⟨opB, hB⟩ := hret 1 (.changed true) (by simp [wTrace])
  have hopA : opA = .inter 1 2 := by
    have := hinv _ hA
    simp [wTrace] at this
    exact this
  have hopB : opB = .mset 2 0 := by
    have := hinv _ hB
    simp [wTrace] at this
    exact this
  subst hopA hopB
  have hids : ∀ e ∈ L, e.1 = 0 ∨ e.1 = 1 := by
    intro e he
    have := hinv e he
    simp [wTrace] at this
    rcases this with ⟨h, _⟩ | ⟨h, _⟩
    · exact Or.inl h
    · exact Or.inr h
  rcases eq_pair_or_swap L hnd hids _ _ hA hB rfl rfl with h | h
  · subst h
    revert hlegal
    simp only [Legal]
    decide
  · subst h
    revert hlegal
    simp only [Legal]
    decide

/-- A well-formed single-section trace with overlapping operations. -/
example : (exec fsemSingle ({ g := wS0 } : Sys FS FAcc FRes _)
    [.inv 0 ⟨.row 1, rfl⟩, .inv 1 ⟨.mset 2 0, rfl⟩, .step 1, .step 0, .ret 0 (.cols []), .ret 1 (.changed true)]).isSome = true := by
  decide

end PV.C29
