/- C30: the CSV reader undoes the CSV writer whenever their settings agree (`Agree`). -/
import PV.C30.Csv
namespace PV.C30
open List

structure Agree (cfg : ReaderCfg) (w : WriterCfg) : Prop where
  comma : cfg.comma = w.comma
  commaOK : w.comma ≠ '"' ∧ w.comma ≠ '\r' ∧ w.comma ≠ '\n'
  noComment : cfg.comment = none
  lf : w.useCRLF = false
  implemented : cfg.lazyQuotes = false ∧ cfg.trimLeadingSpace = false ∧ cfg.fieldsPerRecord < 0

section
variable {cfg : ReaderCfg} {w : WriterCfg}

theorem Agree.sep_ne (hs : Agree cfg w) {sep : Char} (hsep : sep = w.comma ∨ sep = '\n') :
    sep ≠ '"' ∧ sep ≠ '\r' := by
  rcases hsep with rfl | rfl
  · exact ⟨hs.commaOK.1, hs.commaOK.2.1⟩
  · decide

theorem runG_cons_ne_cr (m : ModeG) (a : Acc) (c : Char) (rest : Str) (h : c ≠ '\r') :
    runG cfg m a (c :: rest) =
      match stepG cfg m a c with
      | .error e => ⟨a.recs.reverse, some e⟩
      | .ok (m', a') => runG cfg m' a' rest := by
  rw [runG.eq_2]
  simp only [h, false_and, if_false]
  rfl

theorem runG_cr_cons (m : ModeG) (a : Acc) (d : Char) (rest : Str) (h : d ≠ '\n') :
    runG cfg m a ('\r' :: d :: rest) =
      match stepG cfg m a '\r' with
      | .error e => ⟨a.recs.reverse, some e⟩
      | .ok (m', a') => runG cfg m' a' (d :: rest) := by
  rw [runG.eq_2]
  have h1 : ¬ (('\r' : Char) = '\r' ∧ d :: rest = []) := by simp
  have h2 : ¬ (('\r' : Char) = '\r' ∧ (d :: rest).head? = some '\n') := by simp [h]
  rw [if_neg h1, if_neg h2]
  rfl

theorem not_special {k c : Char} (h : isSpecialC k c = false) :
    c ≠ k ∧ c ≠ '"' ∧ c ≠ '\r' ∧ c ≠ '\n' := by
  simp [isSpecialC] at h
  exact ⟨h.1.1.1, h.1.1.2, h.1.2, h.2⟩

theorem runG_unq_plain (f : Str) (a : Acc) (rest : Str) (hf : f.any (isSpecialC cfg.comma) = false) :
    runG cfg .unq a (f ++ rest) = runG cfg .unq { a with fld := f.reverse ++ a.fld } rest := by
  induction f generalizing a with
  | nil => simp
  | cons c cs ih =>
    simp only [any_cons, Bool.or_eq_false_iff] at hf
    obtain ⟨h1, h2, h3, h4⟩ := not_special hf.1
    rw [cons_append, runG_cons_ne_cr _ _ _ _ h3]
    simp only [stepG, stepUnqG, h1, h2, h4, if_false]
    rw [ih _ hf.2]
    simp [Acc.push]

theorem escapeW_cons (hlf : w.useCRLF = false) (c : Char) (cs : Str) :
    escapeW w (c :: cs) = if c = '"' then '"' :: '"' :: escapeW w cs else c :: escapeW w cs := by
  simp [escapeW, hlf]

theorem escapeW_head_ne_lf (hlf : w.useCRLF = false) (cs : Str) (rest : Str) (h : cs.head? ≠ some '\n') :
    ∃ d t, escapeW w cs ++ '"' :: rest = d :: t ∧ d ≠ '\n' := by
  cases cs with
  | nil => exact ⟨'"', rest, rfl, by decide⟩
  | cons d ds =>
    simp only [head?_cons, ne_eq, Option.some.injEq] at h
    rw [escapeW_cons hlf]
    by_cases hq : d = '"'
    · subst hq; exact ⟨'"', _, rfl, by decide⟩
    · rw [if_neg hq]; exact ⟨d, _, rfl, h⟩

theorem runG_quo_body (hlf : w.useCRLF = false) (f : Str) (a : Acc) (rest : Str) (hf : noCRLF f = true) :
    runG cfg .quo a (escapeW w f ++ '"' :: rest) = runG cfg .qq { a with fld := f.reverse ++ a.fld } rest := by
  induction f generalizing a with
  | nil =>
    simp only [escapeW, nil_append, reverse_nil]
    rw [runG_cons_ne_cr _ _ _ _ (by decide)]
    simp [stepG]
  | cons c cs ih =>
    simp only [noCRLF, Bool.and_eq_true, Bool.not_eq_true', Bool.and_eq_false_iff] at hf
    obtain ⟨hc, hcs⟩ := hf
    rw [escapeW_cons hlf]
    by_cases hq : c = '"'
    · subst hq
      simp only [if_true, cons_append]
      rw [runG_cons_ne_cr _ _ _ _ (by decide)]
      simp only [stepG, if_true]
      rw [runG_cons_ne_cr _ _ _ _ (by decide)]
      simp only [stepG, if_true]
      rw [ih _ hcs]
      simp [Acc.push]
    · simp only [hq, if_false, cons_append]
      by_cases hr : c = '\r'
      · subst hr
        -- no LF after this CR in the field, hence none in its escaped text
        have hne : cs.head? ≠ some '\n' := by
          rcases hc with h | h
          · simp at h
          · simpa using h
        obtain ⟨d, t, hd, hdn⟩ := escapeW_head_ne_lf hlf cs rest hne
        rw [hd, runG_cr_cons _ _ _ _ hdn]
        simp only [stepG]
        rw [if_neg (by decide)]
        show runG cfg ModeG.quo (a.push '\r') (d :: t) = _
        rw [← hd, ih _ hcs]
        simp [Acc.push]
      · rw [runG_cons_ne_cr _ _ _ _ hr]
        simp only [stepG, hq, if_false]
        rw [ih _ hcs]
        simp [Acc.push]

/-- Where the reader is after a field and the separator `sep` that follows it. -/
def afterSep (k sep : Char) (recs : List (List Str)) (cur : List Str) (f : Str) : ModeG × Acc :=
  if sep = k then (.fieldStart, ⟨recs, f :: cur, []⟩)
  else (.recStart, ⟨(f :: cur).reverse :: recs, [], []⟩)

theorem run_field (hs : Agree cfg w) (f : Str) (sep : Char) (hsep : sep = w.comma ∨ sep = '\n')
    (recs cur) (rest : Str) (hf : noCRLF f = true) :
    runG cfg .fieldStart ⟨recs, cur, []⟩ (writeFieldW w f ++ sep :: rest) =
      runG cfg (afterSep w.comma sep recs cur f).1 (afterSep w.comma sep recs cur f).2 rest := by
  have hk := hs.comma
  have hlf := hs.lf
  obtain ⟨hkq, -, hkn⟩ := hs.commaOK
  obtain ⟨hs2, hs1⟩ := hs.sep_ne hsep
  have sepUnq : ∀ fl : Str, stepUnqG cfg ⟨recs, cur, fl⟩ sep = .ok (afterSep w.comma sep recs cur fl.reverse) := by
    intro fl
    rcases hsep with h | h <;> subst h <;>
      simp [stepUnqG, afterSep, Acc.endField, Acc.endRecord, hk, hkn.symm]
  have sepQq : ∀ fl : Str, stepG cfg .qq ⟨recs, cur, fl⟩ sep = .ok (afterSep w.comma sep recs cur fl.reverse) := by
    intro fl
    rcases hsep with h | h <;> subst h <;>
      simp [stepG, afterSep, Acc.endField, Acc.endRecord, hk, hkn.symm, hkq]
  unfold writeFieldW
  cases hq : needsQuotesW w f with
  | true =>
    simp only [if_true, cons_append, append_assoc]
    rw [runG_cons_ne_cr _ _ _ _ (by decide)]
    simp only [stepG, stepStartG, if_true]
    rw [runG_quo_body hlf f _ _ hf]
    simp only [nil_append, append_nil]
    rw [runG_cons_ne_cr _ _ _ _ hs1, sepQq]
    simp
  | false =>
    simp only [Bool.false_eq_true, if_false]
    cases f with
    | nil =>
      simp only [nil_append]
      rw [runG_cons_ne_cr _ _ _ _ hs1]
      simp only [stepG, stepStartG, hs2, if_false]
      rw [sepUnq]
      simp
    | cons c cs =>
      simp only [needsQuotesW, Bool.or_eq_false_iff, any_cons] at hq
      obtain ⟨h1, h2, h3, h4⟩ := not_special hq.1.2.1
      rw [← hk] at hq h1
      rw [cons_append, runG_cons_ne_cr _ _ _ _ h3]
      simp only [stepG, stepStartG, stepUnqG, h1, h2, h4, if_false]
      rw [runG_unq_plain cs _ _ hq.1.2.2, runG_cons_ne_cr _ _ _ _ hs1]
      simp only [stepG, Acc.push]
      rw [sepUnq]
      simp

/-- At the start of a record the reader behaves like at the start of a field unless the line is
empty or a comment. -/
theorem run_recStart_eq (hc : cfg.comment = none) (a : Acc) (c : Char) (t : Str) (h1 : c ≠ '\n')
    (h2 : c ≠ '\r') : runG cfg .recStart a (c :: t) = runG cfg .fieldStart a (c :: t) := by
  rw [runG_cons_ne_cr _ _ _ _ h2, runG_cons_ne_cr _ _ _ _ h2]
  simp [stepG, h1, hc]

theorem writeFieldW_head (hs : Agree cfg w) (f : Str) (sep : Char) (hsep : sep = w.comma ∨ sep = '\n')
    (rest : Str) (hne : ¬ (f = [] ∧ sep = '\n')) :
    ∃ c t, writeFieldW w f ++ sep :: rest = c :: t ∧ c ≠ '\n' ∧ c ≠ '\r' := by
  unfold writeFieldW
  cases hq : needsQuotesW w f with
  | true => exact ⟨'"', escapeW w f ++ '"' :: sep :: rest, by simp, by decide, by decide⟩
  | false =>
    simp only [Bool.false_eq_true, if_false]
    cases f with
    | nil =>
      exact ⟨sep, rest, rfl, fun h => hne ⟨rfl, h⟩, (hs.sep_ne hsep).2⟩
    | cons c cs =>
      simp only [needsQuotesW, Bool.or_eq_false_iff, any_cons] at hq
      obtain ⟨_, _, h3, h4⟩ := not_special hq.1.2.1
      exact ⟨c, _, rfl, h4, h3⟩

theorem run_record_fields (hs : Agree cfg w) (fs : List Str) (f : Str) (recs cur) (rest : Str)
    (hok : ∀ g ∈ f :: fs, noCRLF g = true) :
    runG cfg .fieldStart ⟨recs, cur, []⟩ (writeRecordW w (f :: fs) ++ rest) =
      runG cfg .recStart ⟨(cur.reverse ++ f :: fs) :: recs, [], []⟩ rest := by
  have hlf : lineEnd w = ['\n'] := by simp [lineEnd, hs.lf]
  have hkn : ('\n' : Char) ≠ w.comma := hs.commaOK.2.2.symm
  induction fs generalizing f cur with
  | nil =>
    simp only [writeRecordW, hlf, append_assoc, singleton_append]
    rw [run_field hs f '\n' (Or.inr rfl) _ _ _ (hok f (by simp))]
    simp [afterSep, hkn]
  | cons g gs ih =>
    simp only [writeRecordW, append_assoc, cons_append]
    rw [run_field hs f w.comma (Or.inl rfl) _ _ _ (hok f (by simp))]
    simp only [afterSep, if_true]
    rw [ih g (f :: cur) (fun x hx => hok x (by simp [hx]))]
    simp

theorem run_record (hs : Agree cfg w) (r : List Str) (recs) (rest : Str) (hok : recOK r = true) :
    runG cfg .recStart ⟨recs, [], []⟩ (writeRecordW w r ++ rest) =
      runG cfg .recStart ⟨r :: recs, [], []⟩ rest := by
  simp only [recOK, Bool.and_eq_true, decide_eq_true_eq, all_eq_true] at hok
  obtain ⟨⟨hne, hne1⟩, hall⟩ := hok
  cases r with
  | nil => exact absurd rfl hne
  | cons f fs =>
    -- the first written character is neither LF nor CR
    refine .trans ?_ (run_record_fields hs fs f recs [] rest hall)
    have hlf : lineEnd w = ['\n'] := by simp [lineEnd, hs.lf]
    cases fs with
    | nil =>
      have hf : f ≠ [] := by intro h; subst h; exact hne1 rfl
      simp only [writeRecordW, hlf, append_assoc, singleton_append]
      obtain ⟨c, t, hct, h1, h2⟩ := writeFieldW_head hs f '\n' (Or.inr rfl) rest (fun h => hf h.1)
      rw [hct]; exact run_recStart_eq hs.noComment _ c t h1 h2
    | cons g gs =>
      simp only [writeRecordW, append_assoc, cons_append]
      obtain ⟨c, t, hct, h1, h2⟩ := writeFieldW_head hs f w.comma (Or.inl rfl)
        (writeRecordW w (g :: gs) ++ rest) (fun h => hs.commaOK.2.2 h.2)
      rw [hct]; exact run_recStart_eq hs.noComment _ c t h1 h2

theorem run_writeAll (hs : Agree cfg w) (recs acc : List (List Str)) (hok : ∀ r ∈ recs, recOK r = true) :
    runG cfg .recStart ⟨acc, [], []⟩ (writeAllW w recs) = ⟨acc.reverse ++ recs, none⟩ := by
  induction recs generalizing acc with
  | nil => simp [writeAllW, runG, eofG]
  | cons r rs ih =>
    simp only [writeAllW]
    rw [run_record hs r acc _ (hok r (by simp)), ih (r :: acc) (fun x hx => hok x (by simp [hx]))]
    simp

theorem parseG_writeAllW (hs : Agree cfg w) (recs : List (List Str)) (hok : ∀ r ∈ recs, recOK r = true) :
    parseG cfg (writeAllW w recs) = ⟨recs, none⟩ := by
  obtain ⟨h1, h2, h3⟩ := hs.implemented
  have : ¬ cfg.fieldsPerRecord ≥ 0 := by omega
  simp only [parseG, h1, h2, this, Bool.or_self, decide_false, Bool.false_eq_true, if_false]
  rw [run_writeAll hs recs [] hok]
  simp

end

/-! `run` / `parse` / `writeAll` of Csv.lean are the machine with the code's settings written out;
`C30_csv` does not go through this section. -/

theorem run_nil (m : Mode) (a : Acc) : run m a [] = eof m a := rfl

def embed : Mode → ModeG
  | .recStart => .recStart | .fieldStart => .fieldStart | .unq => .unq | .quo => .quo | .qq => .qq

def liftStep : Except CsvErr (Mode × Acc) → Except CsvErr (ModeG × Acc)
  | .error e => .error e
  | .ok (m, a) => .ok (embed m, a)

theorem stepUnqG_code (a : Acc) (c : Char) : stepUnqG codeReader a c = liftStep (stepUnq a c) := by
  unfold stepUnqG stepUnq codeReader
  simp only
  split
  · rfl
  · split
    · rfl
    · split <;> rfl

theorem stepStartG_code (a : Acc) (c : Char) : stepStartG codeReader a c = liftStep (stepStart a c) := by
  unfold stepStartG stepStart
  split
  · rfl
  · exact stepUnqG_code a c

theorem stepG_code (m : Mode) (a : Acc) (c : Char) :
    stepG codeReader (embed m) a c = liftStep (step m a c) := by
  cases m with
  | recStart =>
    have hc : codeReader.comment ≠ some c := by simp [codeReader]
    simp only [embed, stepG, step, hc, if_false]
    split
    · rfl
    · exact stepStartG_code a c
  | fieldStart => exact stepStartG_code a c
  | unq => exact stepUnqG_code a c
  | quo => simp only [embed, stepG, step]; split <;> rfl
  | qq =>
    simp only [embed, stepG, step, codeReader]
    by_cases h1 : c = '"'
    · simp [h1, liftStep, embed]
    · by_cases h2 : c = ','
      · simp [h2, liftStep, embed]
      · by_cases h3 : c = '\n'
        · simp [h3, liftStep, embed]
        · simp [h1, h2, h3, liftStep]

theorem eofG_code (m : Mode) (a : Acc) : eofG (embed m) a = eof m a := by
  cases m <;> rfl

theorem runG_code : ∀ (s : Str) (m : Mode) (a : Acc), runG codeReader (embed m) a s = run m a s
  | [], m, a => by simp [runG, run, eofG_code]
  | c :: rest, m, a => by
    rw [runG.eq_2, run.eq_2, eofG_code, runG_code rest m a, stepG_code]
    cases h : step m a c with
    | error e => rfl
    | ok p =>
      obtain ⟨m', a'⟩ := p
      simp only [liftStep, runG_code rest m' a']

theorem parseG_code (s : Str) : parseG codeReader s = parse s := by
  unfold parseG parse
  have : (codeReader.lazyQuotes || codeReader.trimLeadingSpace || decide (codeReader.fieldsPerRecord ≥ 0)) = false := by
    decide
  rw [this]
  exact runG_code s .recStart _

theorem isSpecialC_code : isSpecialC codeWriter.comma = isSpecial := by
  funext c; rfl

theorem needsQuotesW_code (f : Str) : needsQuotesW codeWriter f = needsQuotes f := by
  cases f with
  | nil => rfl
  | cons c cs => simp only [needsQuotesW, needsQuotes, isSpecialC_code]

theorem escapeW_code : ∀ f : Str, escapeW codeWriter f = escape f
  | [] => rfl
  | c :: cs => by rw [escapeW_cons rfl, escape, escapeW_code cs]

theorem writeFieldW_code (f : Str) : writeFieldW codeWriter f = writeField f := by
  simp only [writeFieldW, writeField, needsQuotesW_code, escapeW_code]

theorem writeRecordW_code : ∀ r : List Str, writeRecordW codeWriter r = writeRecord r
  | [] => rfl
  | [f] => by simp only [writeRecordW, writeRecord, writeFieldW_code]; rfl
  | f :: g :: fs => by
    simp only [writeRecordW, writeRecord, writeFieldW_code, writeRecordW_code (g :: fs)]
    rfl

theorem writeAllW_code : ∀ rs : List (List Str), writeAllW codeWriter rs = writeAll rs
  | [] => rfl
  | r :: rs => by simp only [writeAllW, writeAll, writeRecordW_code, writeAllW_code rs]

end PV.C30
