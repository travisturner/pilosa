/- C30: importing exported records: one batch in normal form, then the buffer loop. -/
import PV.C30.Model
namespace PV.C30
open List

theorem toDec_ne_nil (n : Nat) : toDec n ≠ [] := Nat.toDigits_ne_nil

theorem toDec_digits (n : Nat) : ∀ c ∈ toDec n, c.isDigit = true :=
  fun _ hc => Nat.isDigit_of_mem_toDigits (by decide) (by decide) hc

theorem parseUint_toDec (n : Nat) (h : n < 2 ^ 64) : parseUint (toDec n) = some n := by
  unfold parseUint
  rw [if_neg (toDec_ne_nil n), if_pos (all_eq_true.mpr (toDec_digits n))]
  simp only [toDec, Nat.ofDigitChars_ten_toDigits]
  rw [if_pos h]

theorem noCRLF_of_no_cr : ∀ (s : Str), (∀ c ∈ s, c ≠ '\r') → noCRLF s = true
  | [], _ => rfl
  | c :: cs, h => by
    have hc : c ≠ '\r' := h c (by simp)
    simp only [noCRLF, Bool.and_eq_true, Bool.not_eq_true', Bool.and_eq_false_iff,
      decide_eq_false_iff_not]
    exact ⟨Or.inl hc, noCRLF_of_no_cr cs (fun x hx => h x (by simp [hx]))⟩

theorem noCRLF_toDec (n : Nat) : noCRLF (toDec n) = true := by
  apply noCRLF_of_no_cr
  intro c hc h
  subst h
  exact absurd (toDec_digits n _ hc) (by decide)

theorem Store.idOf_spec : ∀ (s : Store) (k : Str) (id : Nat), s.idOf k = some id →
    1 ≤ id ∧ id ≤ s.length ∧ s.keyOf id = k
  | [], _, _, h => by simp [Store.idOf] at h
  | x :: xs, k, id, h => by
    simp only [Store.idOf] at h
    split at h
    · rename_i hx
      cases h
      simp [Store.keyOf, hx]
    · cases h2 : Store.idOf xs k with
      | none => simp [h2] at h
      | some j =>
        simp only [h2, Option.map_some, Option.some.injEq] at h
        subst h
        obtain ⟨h1, h3, h4⟩ := Store.idOf_spec xs k j h2
        refine ⟨by omega, by simp; omega, ?_⟩
        have : j + 1 - 1 = (j - 1) + 1 := by omega
        simp only [Store.keyOf] at h4 ⊢
        rw [if_neg (by omega)] at h4
        rw [if_neg (by omega), this]
        simpa using h4

theorem Store.idOf_append : ∀ (s t : Store) (k : Str),
    (s ++ t).idOf k = match s.idOf k with
      | some id => some id
      | none => (t.idOf k).map (· + s.length)
  | [], t, k => by simp [Store.idOf]
  | x :: xs, t, k => by
    simp only [Store.idOf, cons_append]
    by_cases hx : x = k
    · simp [hx]
    · rw [if_neg hx, if_neg hx, Store.idOf_append xs t k]
      cases Store.idOf xs k with
      | some j => rfl
      | none => cases Store.idOf t k <;> simp [Nat.add_assoc]

/-- Id of a key once it is known to be allocated. -/
def Store.idD (s : Store) (k : Str) : Nat := (s.idOf k).getD 0

theorem Store.translate_spec : ∀ (keys : List Str) (s : Store),
    (∃ t, (s.translate keys).1 = s ++ t) ∧
    (s.translate keys).2 = keys.map (s.translate keys).1.idD ∧
    (∀ k ∈ keys, ∃ id, (s.translate keys).1.idOf k = some id)
  | [], s => ⟨⟨[], by simp [Store.translate]⟩, by simp [Store.translate], by simp⟩
  | k :: ks, s => by
    cases hk : s.idOf k with
    | some id =>
      obtain ⟨⟨t, ht⟩, h2, h3⟩ := Store.translate_spec ks s
      have e : s.translate (k :: ks) = ((s.translate ks).1, id :: (s.translate ks).2) := by
        simp [Store.translate, hk]
      have hid : (s.translate ks).1.idOf k = some id := by
        rw [ht, Store.idOf_append, hk]
      rw [e]
      refine ⟨⟨t, ht⟩, ?_, ?_⟩
      · simp only [map_cons, Store.idD, hid, Option.getD_some]
        rw [h2]
      · intro x hx
        rcases mem_cons.mp hx with rfl | hx
        · exact ⟨id, hid⟩
        · exact h3 x hx
    | none =>
      obtain ⟨⟨t, ht⟩, h2, h3⟩ := Store.translate_spec ks (s ++ [k])
      have e : s.translate (k :: ks) =
          (((s ++ [k]).translate ks).1, (s.length + 1) :: ((s ++ [k]).translate ks).2) := by
        simp [Store.translate, hk]
      have hid : ((s ++ [k]).translate ks).1.idOf k = some (s.length + 1) := by
        rw [ht, append_assoc, Store.idOf_append, hk]
        simp [Store.idOf, Nat.add_comm]
      rw [e]
      refine ⟨⟨[k] ++ t, by rw [ht, append_assoc]⟩, ?_, ?_⟩
      · simp only [map_cons, Store.idD, hid, Option.getD_some]
        rw [h2]
      · intro x hx
        rcases mem_cons.mp hx with rfl | hx
        · exact ⟨_, hid⟩
        · exact h3 x hx

theorem Store.keyOf_append (s t : Store) (id : Nat) (h : id ≤ s.length) :
    (s ++ t).keyOf id = s.keyOf id := by
  unfold Store.keyOf
  split
  · rfl
  · rename_i h0
    have : id - 1 < s.length := by omega
    simp [List.getD, List.getElem?_append_left this]

theorem Store.keyOf_idD (s : Store) (k : Str) (h : ∃ id, s.idOf k = some id) :
    s.keyOf (s.idD k) = k ∧ s.idD k ≤ s.length := by
  obtain ⟨id, hid⟩ := h
  obtain ⟨_, h2, h3⟩ := Store.idOf_spec s k id hid
  simp [Store.idD, hid, h2, h3]

theorem mem_insertBit (x b : Bit) : ∀ (l : List Bit), x ∈ insertBit b l ↔ x = b ∨ x ∈ l
  | [] => by simp [insertBit]
  | y :: ys => by
    simp only [insertBit]
    split
    · rename_i h; subst h; simp
    · split
      · simp
      · simp only [mem_cons, mem_insertBit x b ys, or_left_comm]

theorem mem_foldl_insertBit (x : Bit) : ∀ (bs acc : List Bit),
    x ∈ bs.foldl (fun acc b => insertBit b acc) acc ↔ x ∈ bs ∨ x ∈ acc
  | [], acc => by simp
  | b :: bs, acc => by
    simp only [foldl_cons, mem_foldl_insertBit x bs, mem_insertBit, mem_cons, or_assoc, or_left_comm]

theorem mem_setBits (f : Field) (bs : List Bit) (x : Bit) :
    x ∈ (f.setBits bs).bits ↔ x ∈ bs ∨ x ∈ f.bits := by
  simp [Field.setBits, mem_foldl_insertBit]

theorem mem_shardsOf : ∀ (bs : List Bit) (b : Bit), b ∈ bs → b.col / SW ∈ shardsOf bs
  | [], _, h => by cases h
  | y :: ys, b, h => by
    simp only [shardsOf]
    rcases mem_cons.mp h with rfl | h
    · split
      · assumption
      · simp
    · have := mem_shardsOf ys b h
      split
      · exact this
      · exact mem_cons_of_mem _ this

/-- `importGrouped` restricted to a list of shards. -/
def importShards (bs : List Bit) (L : List Nat) (f : Field) : Field :=
  L.foldl (fun f s => f.setBits (bs.filter (fun b => b.col / SW = s))) f

theorem importShards_spec (bs : List Bit) : ∀ (L : List Nat) (f : Field),
    (importShards bs L f).rowKeys = f.rowKeys ∧ (importShards bs L f).colKeys = f.colKeys ∧
    (importShards bs L f).rows = f.rows ∧ (importShards bs L f).cols = f.cols ∧
    ∀ x, x ∈ (importShards bs L f).bits ↔ (x ∈ bs ∧ x.col / SW ∈ L) ∨ x ∈ f.bits
  | [], f => by simp [importShards]
  | s :: L, f => by
    obtain ⟨h1, h2, h3, h4, h5⟩ :=
      importShards_spec bs L (f.setBits (bs.filter (fun b => b.col / SW = s)))
    simp only [importShards, foldl_cons] at h1 h2 h3 h4 h5 ⊢
    refine ⟨h1, h2, h3, h4, ?_⟩
    intro x
    rw [h5 x, mem_setBits]
    simp only [mem_filter, decide_eq_true_eq, mem_cons, and_or_left, or_assoc, or_left_comm]

theorem importGrouped_spec (f : Field) (bs : List Bit) :
    (importGrouped f bs).rowKeys = f.rowKeys ∧ (importGrouped f bs).colKeys = f.colKeys ∧
    (importGrouped f bs).rows = f.rows ∧ (importGrouped f bs).cols = f.cols ∧
    ∀ x, x ∈ (importGrouped f bs).bits ↔ x ∈ bs ∨ x ∈ f.bits := by
  obtain ⟨h1, h2, h3, h4, h5⟩ := importShards_spec bs (shardsOf bs) f
  refine ⟨h1, h2, h3, h4, ?_⟩
  intro x
  rw [show importGrouped f bs = importShards bs (shardsOf bs) f from rfl, h5 x,
    and_iff_left_of_imp (mem_shardsOf bs x)]

/-- The user-visible pair a buffered bit stands for. -/
def ibLabel (rk ck : Bool) (b : IBit) : Str × Str :=
  (if rk then b.rowKey else toDec b.rowID, if ck then b.colKey else toDec b.colID)

/-- What bufferBits produces for a field with these key options, minus the excluded empty keys. -/
def BatchOK (rk ck : Bool) (a : List IBit) : Prop :=
  ∀ b ∈ a, (if rk then b.rowKey ≠ [] else b.rowKey = []) ∧
           (if ck then b.colKey ≠ [] else b.colKey = [])

/-- Keyed ids of stored bits are allocated ids (so extending a store keeps their keys). -/
def IdsAllocated (f : Field) : Prop :=
  (f.rowKeys = true → ∀ b ∈ f.bits, b.row ≤ f.rows.length) ∧
  (f.colKeys = true → ∀ b ∈ f.bits, b.col ≤ f.cols.length)

theorem hasKeys_true (a : List IBit) (g : IBit → Str) (h : ∀ b ∈ a, g b ≠ []) (hne : a ≠ []) :
    a.any (fun b => g b ≠ []) = true := by
  cases a with
  | nil => exact absurd rfl hne
  | cons x xs => rw [any_cons]; simp [h x (by simp)]

theorem hasKeys_false (a : List IBit) (g : IBit → Str) (h : ∀ b ∈ a, g b = []) :
    a.any (fun b => g b ≠ []) = false := by
  rw [any_eq_false]
  intro b hb
  simp [h b hb]

theorem req_row_keyed (a : List IBit) (h : ∀ b ∈ a, b.rowKey ≠ []) :
    reqRowIDs a = [] ∧ reqRowKeys a = a.map (·.rowKey) := by
  unfold reqRowIDs reqRowKeys hasRowKeys
  by_cases hne : a = []
  · subst hne; simp
  · rw [hasKeys_true a (·.rowKey) h hne]; simp

theorem req_row_unkeyed (a : List IBit) (h : ∀ b ∈ a, b.rowKey = []) :
    reqRowIDs a = a.map (·.rowID) := by
  unfold reqRowIDs hasRowKeys
  rw [hasKeys_false a (·.rowKey) h]; simp

theorem req_col_keyed (a : List IBit) (h : ∀ b ∈ a, b.colKey ≠ []) :
    reqColIDs a = [] ∧ reqColKeys a = a.map (·.colKey) := by
  unfold reqColIDs reqColKeys hasColKeys
  by_cases hne : a = []
  · subst hne; simp
  · rw [hasKeys_true a (·.colKey) h hne]; simp

theorem req_col_unkeyed (a : List IBit) (h : ∀ b ∈ a, b.colKey = []) :
    reqColIDs a = a.map (·.colID) := by
  unfold reqColIDs hasColKeys
  rw [hasKeys_false a (·.colKey) h]; simp

/-! One dimension (rows or columns) of `API.Import`; `k`: keyed. -/

def storeAfter (k : Bool) (st : Store) (keys : List Str) : Store :=
  if k then (st.translate keys).1 else st

def idIn (k : Bool) (st : Store) (key : Str) (id : Nat) : Nat := if k then st.idD key else id

def label (k : Bool) (st : Store) (id : Nat) : Str := if k then st.keyOf id else toDec id

theorem storeAfter_spec (k : Bool) (st : Store) (keys : List Str) :
    (∃ t, storeAfter k st keys = st ++ t) ∧
    ∀ key ∈ keys, ∀ id, label k (storeAfter k st keys) (idIn k (storeAfter k st keys) key id) =
        (if k then key else toDec id) ∧
      (k = true → idIn k (storeAfter k st keys) key id ≤ (storeAfter k st keys).length) := by
  cases k with
  | false => exact ⟨⟨[], by simp [storeAfter]⟩, fun _ _ _ => ⟨rfl, fun h => by cases h⟩⟩
  | true =>
    obtain ⟨e1, -, e3⟩ := Store.translate_spec keys st
    simp only [storeAfter, idIn, label, if_true]
    exact ⟨e1, fun key hk _ => ⟨(Store.keyOf_idD _ _ (e3 key hk)).1, fun _ => (Store.keyOf_idD _ _ (e3 key hk)).2⟩⟩

theorem label_append (k : Bool) (st t : Store) (id : Nat) (h : k = true → id ≤ st.length) :
    label k (st ++ t) id = label k st id := by
  cases k with
  | false => rfl
  | true => exact Store.keyOf_append st t id (h rfl)

theorem importBits_normalForm (rk ck : Bool) (rows cols : Store) (bits : List Bit) (ms : Nat)
    (a : List IBit) (hok : BatchOK rk ck a) :
    importBits ⟨rk, ck, rows, cols, bits, ms⟩ a =
      (importGrouped ⟨rk, ck, storeAfter rk rows (a.map (·.rowKey)), storeAfter ck cols (a.map (·.colKey)),
          bits, ms⟩
        (a.map (fun b => ⟨idIn rk (storeAfter rk rows (a.map (·.rowKey))) b.rowKey b.rowID,
          idIn ck (storeAfter ck cols (a.map (·.colKey))) b.colKey b.colID⟩)), none) := by
  have hr := fun b hb => (hok b hb).1
  have hc := fun b hb => (hok b hb).2
  cases rk <;> cases ck <;> simp only [if_true, if_false, Bool.false_eq_true] at hr hc
  · simp [importBits, storeAfter, idIn]
  · obtain ⟨hk1, hk2⟩ := req_col_keyed a hc
    have hk3 := req_row_unkeyed a hr
    obtain ⟨-, hids, -⟩ := Store.translate_spec (a.map (·.colKey)) cols
    simp only [importBits, hk1, hk2, hk3, Bool.true_or, if_true, Bool.false_and,
      Bool.true_and, ne_eq, not_true_eq_false, decide_false, Bool.false_eq_true, if_false, hids,
      length_map, Nat.lt_irrefl, storeAfter, idIn, zip_map', map_map]
    rfl
  · obtain ⟨hk1, hk2⟩ := req_row_keyed a hr
    have hk3 := req_col_unkeyed a hc
    obtain ⟨-, hids, -⟩ := Store.translate_spec (a.map (·.rowKey)) rows
    simp only [importBits, hk1, hk2, hk3, Bool.or_true, if_true, Bool.false_and,
      Bool.true_and, ne_eq, not_true_eq_false, decide_false, Bool.false_eq_true, if_false, hids,
      length_map, Nat.lt_irrefl, storeAfter, idIn, zip_map', map_map]
    rfl
  · obtain ⟨hk1, hk2⟩ := req_row_keyed a hr
    obtain ⟨hk3, hk4⟩ := req_col_keyed a hc
    obtain ⟨-, hidr, -⟩ := Store.translate_spec (a.map (·.rowKey)) rows
    obtain ⟨-, hidc, -⟩ := Store.translate_spec (a.map (·.colKey)) cols
    simp only [importBits, hk1, hk2, hk3, hk4, Bool.or_true, if_true,
      Bool.true_and, ne_eq, not_true_eq_false, decide_false, Bool.false_eq_true, if_false, hidr, hidc,
      length_map, Nat.lt_irrefl, storeAfter, idIn, zip_map', map_map]
    rfl

theorem importBits_ok (f : Field) (a : List IBit) (hok : BatchOK f.rowKeys f.colKeys a)
    (hinv : IdsAllocated f) :
    ∃ f', importBits f a = (f', none) ∧ f'.rowKeys = f.rowKeys ∧ f'.colKeys = f.colKeys ∧ IdsAllocated f' ∧
      ∀ p, p ∈ f'.contents ↔ p ∈ f.contents ∨ p ∈ a.map (ibLabel f.rowKeys f.colKeys) := by
  obtain ⟨rk, ck, rows, cols, bits, ms⟩ := f
  obtain ⟨hi1, hi2⟩ := hinv
  simp only at hok hi1 hi2
  have nf := importBits_normalForm rk ck rows cols bits ms a hok
  obtain ⟨⟨tr, htr⟩, newR⟩ := storeAfter_spec rk rows (a.map (·.rowKey))
  obtain ⟨⟨tc, htc⟩, newC⟩ := storeAfter_spec ck cols (a.map (·.colKey))
  generalize storeAfter rk rows (a.map (·.rowKey)) = rows' at *
  generalize storeAfter ck cols (a.map (·.colKey)) = cols' at *
  obtain ⟨g1, g2, g3, g4, g5⟩ := importGrouped_spec ⟨rk, ck, rows', cols', bits, ms⟩
    (a.map (fun b => ⟨idIn rk rows' b.rowKey b.rowID, idIn ck cols' b.colKey b.colID⟩))
  generalize importGrouped ⟨rk, ck, rows', cols', bits, ms⟩
    (a.map (fun b => ⟨idIn rk rows' b.rowKey b.rowID, idIn ck cols' b.colKey b.colID⟩)) = f' at *
  simp only at g1 g2 g3 g4 g5
  -- new and old bits keep their labels under the grown stores
  have lab : ∀ x : Bit, (f'.rowLabel x.row, f'.colLabel x.col) = (label rk rows' x.row, label ck cols' x.col) := by
    intro x; simp only [Field.rowLabel, Field.colLabel, label, g1, g2, g3, g4]
  have new : ∀ b ∈ a, (label rk rows' (idIn rk rows' b.rowKey b.rowID),
      label ck cols' (idIn ck cols' b.colKey b.colID)) = ibLabel rk ck b := fun b hb => by
    rw [(newR _ (mem_map.mpr ⟨b, hb, rfl⟩) _).1, (newC _ (mem_map.mpr ⟨b, hb, rfl⟩) _).1]; rfl
  have old : ∀ x ∈ bits, (label rk rows' x.row, label ck cols' x.col) =
      (Field.rowLabel ⟨rk, ck, rows, cols, bits, ms⟩ x.row, Field.colLabel ⟨rk, ck, rows, cols, bits, ms⟩ x.col) :=
    fun x hx => by
      rw [htr, htc, label_append rk rows tr _ (fun h => hi1 h x hx), label_append ck cols tc _ (fun h => hi2 h x hx)]
      rfl
  refine ⟨f', nf, g1, g2, ⟨?_, ?_⟩, ?_⟩
  · intro h x hx
    rw [g1] at h
    rw [g3]
    rcases (g5 x).mp hx with hx | hx
    · obtain ⟨b, hb, rfl⟩ := mem_map.mp hx
      exact (newR _ (mem_map.mpr ⟨b, hb, rfl⟩) _).2 h
    · have := hi1 h x hx
      rw [htr, length_append]; omega
  · intro h x hx
    rw [g2] at h
    rw [g4]
    rcases (g5 x).mp hx with hx | hx
    · obtain ⟨b, hb, rfl⟩ := mem_map.mp hx
      exact (newC _ (mem_map.mpr ⟨b, hb, rfl⟩) _).2 h
    · have := hi2 h x hx
      rw [htc, length_append]; omega
  · intro p
    simp only [Field.contents, mem_map]
    constructor
    · rintro ⟨x, hx, rfl⟩
      rcases (g5 x).mp hx with hx | hx
      · obtain ⟨b, hb, rfl⟩ := mem_map.mp hx
        exact Or.inr ⟨b, hb, by rw [lab, new b hb]⟩
      · exact Or.inl ⟨x, hx, by rw [lab, old x hx]⟩
    · rintro (⟨x, hx, rfl⟩ | ⟨b, hb, rfl⟩)
      · exact ⟨x, (g5 x).mpr (Or.inr hx), by rw [lab, old x hx]⟩
      · exact ⟨⟨idIn rk rows' b.rowKey b.rowID, idIn ck cols' b.colKey b.colID⟩,
          (g5 _).mpr (Or.inl (mem_map.mpr ⟨b, hb, rfl⟩)), by rw [lab, new b hb]⟩

def recOf (src : Field) (b : Bit) : List Str := [src.rowLabel b.row, src.colLabel b.col]

def srcLabel (src : Field) (b : Bit) : Str × Str := (src.rowLabel b.row, src.colLabel b.col)

/-- The buffered bit a source bit becomes after export, CSV and bufferBits. -/
def ibOf (src : Field) (b : Bit) : IBit :=
  ⟨if src.rowKeys then src.rowLabel b.row else [], if src.rowKeys then 0 else b.row,
   if src.colKeys then src.colLabel b.col else [], if src.colKeys then 0 else b.col⟩

/-- A source bit whose record becomes a buffered bit the server accepts. -/
def BitOK (src : Field) (b : Bit) : Prop :=
  (src.rowKeys = true → src.rowLabel b.row ≠ []) ∧ (src.colKeys = true → src.colLabel b.col ≠ []) ∧
  (src.rowKeys = false → b.row < 2 ^ 64) ∧ (src.colKeys = false → b.col < 2 ^ 64)

theorem recToBit_bitOK (src : Field) (b : Bit) (h : BitOK src b) :
    recToBit src.rowKeys src.colKeys (recOf src b) = .bit (ibOf src b) := by
  obtain ⟨h1, h2, h3, h4⟩ := h
  have hr0 : src.rowLabel b.row ≠ [] := by
    cases hrk : src.rowKeys with
    | true => exact h1 hrk
    | false => simp [Field.rowLabel, hrk, toDec_ne_nil]
  cases hrk : src.rowKeys <;> cases hck : src.colKeys <;>
    simp only [recToBit, recOf, ibOf, hr0, if_false, hrk, hck, if_true, Bool.false_eq_true]
  · have e1 : src.rowLabel b.row = toDec b.row := by simp [Field.rowLabel, hrk]
    have e2 : src.colLabel b.col = toDec b.col := by simp [Field.colLabel, hck]
    simp [e1, e2, parseUint_toDec _ (h3 hrk), parseUint_toDec _ (h4 hck)]
  · have e1 : src.rowLabel b.row = toDec b.row := by simp [Field.rowLabel, hrk]
    simp [e1, parseUint_toDec _ (h3 hrk)]
  · have e2 : src.colLabel b.col = toDec b.col := by simp [Field.colLabel, hck]
    simp [e2, parseUint_toDec _ (h4 hck)]

theorem ibLabel_ibOf (src : Field) (b : Bit) :
    ibLabel src.rowKeys src.colKeys (ibOf src b) = srcLabel src b := by
  cases hrk : src.rowKeys <;> cases hck : src.colKeys <;>
    simp [ibLabel, ibOf, srcLabel, Field.rowLabel, Field.colLabel, hrk, hck]

theorem batchOK_ibOf (src : Field) (b : Bit) (h : BitOK src b) :
    BatchOK src.rowKeys src.colKeys [ibOf src b] := by
  intro x hx
  obtain rfl := mem_singleton.mp hx
  obtain ⟨h1, h2, -, -⟩ := h
  constructor
  · cases hrk : src.rowKeys with
    | false => simp [ibOf, hrk]
    | true => simpa [ibOf, hrk] using h1 hrk
  · cases hck : src.colKeys with
    | false => simp [ibOf, hck]
    | true => simpa [ibOf, hck] using h2 hck

theorem batchOK_append {rk ck : Bool} {a b : List IBit} (ha : BatchOK rk ck a) (hb : BatchOK rk ck b) :
    BatchOK rk ck (a ++ b) := by
  intro x hx
  rcases mem_append.mp hx with h | h
  · exact ha x h
  · exact hb x h

theorem batchOK_nil (rk ck : Bool) : BatchOK rk ck [] := by intro x hx; cases hx

theorem bufferLoop_ok (src : Field) (n : Nat) : ∀ (bs : List Bit), (∀ b ∈ bs, BitOK src b) →
    ∀ (f : Field) (buf : List IBit), IdsAllocated f → f.rowKeys = src.rowKeys → f.colKeys = src.colKeys →
    BatchOK src.rowKeys src.colKeys buf →
    ∃ f' buf', bufferLoop n f buf (bs.map (recOf src)) = (f', buf', none) ∧ IdsAllocated f' ∧
      f'.rowKeys = src.rowKeys ∧ f'.colKeys = src.colKeys ∧ BatchOK src.rowKeys src.colKeys buf' ∧
      ∀ p, (p ∈ f'.contents ∨ p ∈ buf'.map (ibLabel src.rowKeys src.colKeys)) ↔
        (p ∈ f.contents ∨ p ∈ buf.map (ibLabel src.rowKeys src.colKeys) ∨ p ∈ bs.map (srcLabel src))
  | [], _, f, buf, hinv, hr, hc, hb => by
    refine ⟨f, buf, by simp [bufferLoop], hinv, hr, hc, hb, ?_⟩
    intro p; simp
  | b :: bs, hgood, f, buf, hinv, hr, hc, hb => by
    have hg := hgood b (by simp)
    have hgs : ∀ x ∈ bs, BitOK src x := fun x hx => hgood x (by simp [hx])
    have hbuf' : BatchOK src.rowKeys src.colKeys (buf ++ [ibOf src b]) :=
      batchOK_append hb (batchOK_ibOf src b hg)
    simp only [map_cons, bufferLoop, hr, hc, recToBit_bitOK src b hg]
    by_cases hlen : (buf ++ [ibOf src b]).length = n
    · rw [if_pos hlen]
      obtain ⟨f1, e1, r1, c1, inv1, cont1⟩ :=
        importBits_ok f (buf ++ [ibOf src b]) (by rw [hr, hc]; exact hbuf') hinv
      rw [e1]
      obtain ⟨f', buf', e2, inv2, r2, c2, ok2, cont2⟩ :=
        bufferLoop_ok src n bs hgs f1 [] inv1 (r1.trans hr) (c1.trans hc) (batchOK_nil _ _)
      refine ⟨f', buf', e2, inv2, r2, c2, ok2, ?_⟩
      intro p
      rw [cont2 p, cont1 p, hr, hc]
      simp only [map_nil, not_mem_nil, false_or, or_false, map_append, map_cons, mem_append, mem_cons,
        ibLabel_ibOf, or_assoc]
    · rw [if_neg hlen]
      obtain ⟨f', buf', e2, inv2, r2, c2, ok2, cont2⟩ :=
        bufferLoop_ok src n bs hgs f (buf ++ [ibOf src b]) hinv hr hc hbuf'
      refine ⟨f', buf', e2, inv2, r2, c2, ok2, ?_⟩
      intro p
      rw [cont2 p]
      simp only [map_append, map_cons, map_nil, mem_append, mem_cons, not_mem_nil, or_false,
        ibLabel_ibOf, or_assoc]

theorem importCSV_exported (src dst : Field) (bufSize : Nat) (text : Str) (L : List Bit)
    (hparse : parseG codeReader text = ⟨L.map (recOf src), none⟩) (hgood : ∀ b ∈ L, BitOK src b)
    (hinv : IdsAllocated dst) (hr : dst.rowKeys = src.rowKeys) (hc : dst.colKeys = src.colKeys) :
    ∃ f, importCSV bufSize dst text = (f, none) ∧
      ∀ p, p ∈ f.contents ↔ p ∈ dst.contents ∨ p ∈ L.map (srcLabel src) := by
  obtain ⟨f', buf', e, inv', r', c', ok', cont'⟩ :=
    bufferLoop_ok src bufSize L hgood dst [] hinv hr hc (batchOK_nil _ _)
  obtain ⟨f'', e2, _, _, _, cont''⟩ := importBits_ok f' buf' (by rw [r', c']; exact ok') inv'
  refine ⟨f'', by simp only [importCSV, hparse, e, e2], fun p => ?_⟩
  rw [cont'' p, r', c', cont' p]
  simp

end PV.C30
