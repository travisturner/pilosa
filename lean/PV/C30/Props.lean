/-
C30 property theorems.  Core Lean only.

Full-strength statement (the property): for ANY set-field contents, keyed or not,
    importCSV bufSize (src.emptyLike cols) src.exportCSV = (dst, none)  and  dst.contents ≈ src.contents.
The current code does not satisfy it on three input classes; each is excluded below by an explicit
hypothesis, is proved to fail on the model by a witness theorem, and is replayed on the real code by
the harness (tags in known_findings.jsonl):
  * a key containing CR LF       - encoding/csv folds CR LF to LF inside quoted fields (`key-crlf-folded`);
  * an empty row key             - bufferBits skips records whose first field is "" (`empty-row-key-skipped`);
  * a batch whose column keys are all empty - http.Bits.ColumnIDs() sends ids, API.Import refuses them
                                   (`empty-col-key-batch-rejected`).  The hypothesis used here (no empty
                                   column key at all) is slightly stronger than forced: an empty column
                                   key in a batch with a non-empty one imports fine (example below).
-/
import PV.C30.Model
import PV.C30.Spec
import PV.C30.LemmasCsv
import PV.C30.LemmasImport
import PV.C30.Gen
namespace PV.C30
open List

/-! ### CSV: the reader undoes the writer -/

/-- `read (write recs) = recs` for every list of records that have at least one field, are not the
single empty field, and contain no CR LF (`recOK`, decidable).  Bare CR, LF, quotes, commas, leading
spaces, `\.`, Unicode are all covered. -/
theorem C30_csv (recs : List (List Str)) (h : ∀ r ∈ recs, recOK r = true) :
    parseG codeReader (writeAllW codeWriter recs) = ⟨recs, none⟩ :=
  parseG_writeAllW ⟨rfl, by decide, rfl, rfl, by decide⟩ recs h

/-- The settings found in the source (regenerated `Gen.lean`: every assignment to a field of the
`csv.Reader` of `ImportCommand.bufferBits` and of the `csv.Writer` of `API.ExportCSV`) are the ones
`C30_csv` and the round-trip theorem are stated for. -/
theorem C30_settings : Gen.importReader = codeReader ∧ Gen.exportWriter = codeWriter := by decide

/-- With another setting the statement is false, e.g. a reader with `Comment = '#'` drops every record
whose first field starts with `#` (written unquoted): -/
theorem C30_csv_comment_setting_witness :
    parseG { codeReader with comment := some '#' } (writeAllW codeWriter [[['#', 'a'], ['1']], [['b'], ['2']]])
      = ⟨[[['b'], ['2']]], none⟩ := by decide

example : recOK [[' ', 'a'], ['"', ',', '\n', '\r'], [], ['\\', '.'], ['é', '\r']] = true := by decide

/-- Excluded point 1 of C30_csv: CR LF inside a field comes back as LF. -/
theorem C30_csv_crlf_witness :
    parseG codeReader (writeAllW codeWriter [[['a', '\r', '\n', 'b']]]) = ⟨[[['a', '\n', 'b']]], none⟩ := by decide

/-- Excluded point 2 of C30_csv: the record holding one empty field is written as an empty line,
which the reader skips. -/
theorem C30_csv_empty_record_witness :
    parseG codeReader (writeAllW codeWriter [[[]]]) = ⟨[], none⟩ := by decide

/-! ### export covers every bit -/

theorem mem_shardRange (s : Nat) : ∀ n, s ∈ shardRange n ↔ s < n
  | 0 => by simp [shardRange]
  | n + 1 => by
    simp only [shardRange, mem_append, mem_singleton, mem_shardRange s n]
    omega

/-- The exported records are the records of a list holding exactly the field's bits, provided the
index's max shard bounds the field's shards (an invariant of the holder). -/
theorem C30_export_covers (src : Field) (h : ∀ b ∈ src.bits, b.col / SW ≤ src.maxShard) :
    ∃ L : List Bit, src.exportRecords = L.map (recOf src) ∧ ∀ b, b ∈ L ↔ b ∈ src.bits := by
  refine ⟨(shardRange (src.maxShard + 1)).flatMap
      (fun s => src.bits.filter (fun b => b.col / SW = s)), ?_, ?_⟩
  · simp only [Field.exportRecords, map_flatMap]
    rfl
  · intro b
    simp only [mem_flatMap, mem_filter, decide_eq_true_eq, mem_shardRange]
    constructor
    · rintro ⟨s, _, hb, _⟩; exact hb
    · intro hb; exact ⟨b.col / SW, by have := h b hb; omega, hb, rfl⟩

/-! ### the round trip -/

/--
Export then import reproduces the field (bits and keys), for every field contents keyed or not, every
BufferSize, every destination whose index already knows arbitrary column keys - EXCEPT the three
classes named at the top of this file (hypotheses `hcsv`, `hrow`, `hcol`).  `hshard` and `hu64` are
invariants of any real field (max shard of the index bounds the field's shards; ids are uint64).
-/
theorem C30_roundtrip_partial (src : Field) (cols0 : Store) (bufSize : Nat)
    (hshard : ∀ b ∈ src.bits, b.col / SW ≤ src.maxShard)
    (hu64 : ∀ b ∈ src.bits, (src.rowKeys = false → b.row < 2 ^ 64) ∧ (src.colKeys = false → b.col < 2 ^ 64))
    (hcsv : ∀ p ∈ src.contents, noCRLF p.1 = true ∧ noCRLF p.2 = true)
    (hrow : src.rowKeys = true → ∀ p ∈ src.contents, p.1 ≠ [])
    (hcol : src.colKeys = true → ∀ p ∈ src.contents, p.2 ≠ []) :
    (importCSV bufSize (src.emptyLike cols0) src.exportCSV).2 = none ∧
    ∀ p, p ∈ (importCSV bufSize (src.emptyLike cols0) src.exportCSV).1.contents ↔ p ∈ src.contents := by
  obtain ⟨L, hL, hmem⟩ := C30_export_covers src hshard
  have hcont : ∀ b ∈ L, srcLabel src b ∈ src.contents := by
    intro b hb
    exact mem_map.mpr ⟨b, (hmem b).mp hb, rfl⟩
  -- the CSV text parses back to the exported records
  have hparse : parseG codeReader src.exportCSV = ⟨L.map (recOf src), none⟩ := by
    unfold Field.exportCSV
    rw [hL]
    apply C30_csv
    intro r hr
    obtain ⟨b, hb, rfl⟩ := mem_map.mp hr
    have := hcsv _ (hcont b hb)
    simp [recOK, recOf, srcLabel] at this ⊢
    exact this
  -- every exported bit is good
  have hgood : ∀ b ∈ L, BitOK src b := by
    intro b hb
    have hb' := (hmem b).mp hb
    exact ⟨fun h => hrow h _ (hcont b hb), fun h => hcol h _ (hcont b hb), (hu64 b hb').1, (hu64 b hb').2⟩
  have hinv0 : IdsAllocated (src.emptyLike cols0) := by
    constructor <;> intro _ b hb <;> cases hb
  obtain ⟨f, himp, cont⟩ :=
    importCSV_exported src (src.emptyLike cols0) bufSize _ L hparse hgood hinv0 rfl rfl
  rw [himp]
  refine ⟨rfl, fun p => ?_⟩
  rw [cont p]
  simp only [Field.emptyLike, Field.contents, map_nil, not_mem_nil, false_or, mem_map, hmem, srcLabel]

/-- The hypotheses are satisfiable by a non-trivial field: row and column keys with a comma, a quote,
a leading space, a bare CR, a newline and Unicode, two bits. -/
example :
    let src : Field := ⟨true, true, [['a', ',', '"'], [' ', 'é', '\r']], [['x', '\n'], ['☃']],
      [⟨1, 1⟩, ⟨2, 2⟩], 0⟩
    (∀ b ∈ src.bits, b.col / SW ≤ src.maxShard) ∧
    (∀ p ∈ src.contents, noCRLF p.1 = true ∧ noCRLF p.2 = true) ∧
    (∀ p ∈ src.contents, p.1 ≠ []) ∧ (∀ p ∈ src.contents, p.2 ≠ []) := by decide

/-! ### witnesses: the three recorded defect classes (model = code, both differ from the property) -/

/-- A key containing CR LF comes back with LF only (encoding/csv newline folding). -/
theorem C30_key_crlf_folded_witness :
    let src : Field := ⟨true, false, [['a', '\r', '\n', 'b']], [], [⟨1, 3⟩], 0⟩
    (importCSV 10 (src.emptyLike []) src.exportCSV).1.contents = [(['a', '\n', 'b'], ['3'])] ∧
    src.contents = [(['a', '\r', '\n', 'b'], ['3'])] := by decide

/-- A bit whose row key is the empty string is dropped silently by the import. -/
theorem C30_empty_row_key_skipped_witness :
    let src : Field := ⟨true, false, [[], ['b']], [], [⟨1, 3⟩, ⟨2, 4⟩], 0⟩
    importCSV 10 (src.emptyLike []) src.exportCSV =
      (⟨true, false, [['b']], [], [⟨1, 4⟩], 0⟩, none) ∧
    src.contents = [([], ['3']), (['b'], ['4'])] := by decide

/-- A batch whose column keys are all empty is refused by the server; nothing is imported. -/
theorem C30_empty_col_key_batch_rejected_witness :
    let src : Field := ⟨true, true, [['a']], [[]], [⟨1, 1⟩], 0⟩
    (importCSV 10 (src.emptyLike []) src.exportCSV).2 = some .server ∧
    (importCSV 10 (src.emptyLike []) src.exportCSV).1.contents = [] ∧
    src.contents = [(['a'], [])] := by decide

/-- ... whereas an empty column key next to a non-empty one in the same batch round-trips. -/
example :
    let src : Field := ⟨true, true, [['a'], ['b']], [[], ['y']], [⟨1, 1⟩, ⟨2, 2⟩], 0⟩
    (importCSV 10 (src.emptyLike []) src.exportCSV).2 = none ∧
    (importCSV 10 (src.emptyLike []) src.exportCSV).1.contents = src.contents := by decide

end PV.C30
