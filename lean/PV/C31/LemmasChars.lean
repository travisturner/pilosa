import PV.C31.Model
namespace PV.C31
open List

theorem span_append (p : Char → Bool) : ∀ (k rest : Str), (∀ c ∈ k, p c = true) →
    (∀ c, rest.head? = some c → p c = false) →
    (k ++ rest).takeWhile p = k ∧ (k ++ rest).dropWhile p = rest
  | [], rest, _, hr => by
    cases rest with
    | nil => simp
    | cons c cs => simp [hr c rfl]
  | c :: cs, rest, hk, hr => by
    have hc := hk c (by simp)
    obtain ⟨i1, i2⟩ := span_append p cs rest (fun d hd => hk d (by simp [hd])) hr
    simp [hc, i1, i2]

theorem digits_all (n : Nat) : ∀ c ∈ Nat.toDigits 10 n, c.isDigit = true :=
  fun _ hc => Nat.isDigit_of_mem_toDigits (by decide) (by decide) hc

theorem digits_head (n : Nat) : ∃ c t, Nat.toDigits 10 n = c :: t ∧ c.isDigit = true := by
  cases h : Nat.toDigits 10 n with
  | nil => exact absurd h Nat.toDigits_ne_nil
  | cons c t => exact ⟨c, t, rfl, digits_all n c (by simp [h])⟩

end PV.C31
