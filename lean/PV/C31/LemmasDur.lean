/- C31: `time.ParseDuration` reads back what `time.Duration.String` prints. -/
import PV.C31.Model
import PV.C31.LemmasChars
namespace PV.C31
open List

def digitsVal (ds : Str) : Nat := Nat.ofDigitChars 10 ds 0

theorem digitsVal_cons (c : Char) (cs : Str) :
    digitsVal (c :: cs) = 10 ^ cs.length * (c.toNat - 48) + digitsVal cs := by
  unfold digitsVal
  rw [Nat.ofDigitChars_cons, Nat.ofDigitChars_eq_ofDigitChars_zero]
  simp

theorem digitChar_isDigit (d : Nat) (h : d < 10) : (Nat.digitChar d).isDigit = true := by
  revert d; decide

theorem digitChar_val (d : Nat) (h : d < 10) : (Nat.digitChar d).toNat - 48 = d := by
  revert d; decide

theorem digit_shift_add (a b t z : Nat) : a * (t * 10) + (t * b + z) = (b + 10 * a) * t + z := by
  have h1 : a * (t * 10) = 10 * a * t := by ac_rfl
  have h2 : t * b = b * t := Nat.mul_comm _ _
  rw [Nat.add_mul, h1, h2]; omega

theorem ten_mul_mul (a b : Nat) : 10 * (a * b) = a * (b * 10) := by ac_rfl

theorem mod_pow_succ (v p : Nat) : v % 10 ^ (p + 1) = v % 10 + 10 * (v / 10 % 10 ^ p) := by
  rw [Nat.pow_succ, Nat.mul_comm, Nat.mod_mul]

theorem div_pow_succ (v p : Nat) : v / 10 ^ (p + 1) = v / 10 / 10 ^ p := by
  rw [Nat.pow_succ, Nat.mul_comm, Nat.div_div_eq_div_mul]

/-- What `fmtFrac` leaves: nothing for a zero fraction, otherwise `.` and 1..p digits whose value,
shifted to p digits, is the fraction. -/
def FracOK (p : Nat) (fr : Str) (x : Nat) : Prop :=
  (x = 0 ∧ fr = []) ∨
  ∃ ds, fr = '.' :: ds ∧ (∀ c ∈ ds, c.isDigit = true) ∧ 1 ≤ ds.length ∧ ds.length ≤ p ∧
    digitsVal ds * 10 ^ (p - ds.length) = x

theorem fmtFrac_print : ∀ (p v : Nat) (acc : Str), (∀ c ∈ acc, c.isDigit = true) →
    ∃ ds, fmtFrac p v true acc = ('.' :: ds, v / 10 ^ p) ∧ (∀ c ∈ ds, c.isDigit = true) ∧
      ds.length = p + acc.length ∧ digitsVal ds = (v % 10 ^ p) * 10 ^ acc.length + digitsVal acc
  | 0, v, acc, h => ⟨acc, by simp [fmtFrac], h, by simp, by simp [Nat.mod_one]⟩
  | p + 1, v, acc, h => by
    have hd : v % 10 < 10 := Nat.mod_lt _ (by decide)
    have hacc : ∀ c ∈ Nat.digitChar (v % 10) :: acc, c.isDigit = true :=
      forall_mem_cons.mpr ⟨digitChar_isDigit _ hd, h⟩
    obtain ⟨ds, e, hds, hl, hv⟩ := fmtFrac_print p (v / 10) (Nat.digitChar (v % 10) :: acc) hacc
    refine ⟨ds, ?_, hds, by simp [hl]; omega, ?_⟩
    · simp only [fmtFrac, Bool.true_or, if_true]
      rw [e, div_pow_succ]
    · rw [hv, digitsVal_cons, digitChar_val _ hd, length_cons, Nat.pow_succ, mod_pow_succ]
      exact digit_shift_add _ _ _ _

theorem fmtFrac_spec : ∀ (p v : Nat),
    (fmtFrac p v false []).2 = v / 10 ^ p ∧ FracOK p (fmtFrac p v false []).1 (v % 10 ^ p)
  | 0, v => by simp [fmtFrac, FracOK, Nat.mod_one]
  | p + 1, v => by
    have hd : v % 10 < 10 := Nat.mod_lt _ (by decide)
    have hmod := mod_pow_succ v p
    have hdiv := div_pow_succ v p
    by_cases h0 : v % 10 = 0
    · obtain ⟨e1, e2⟩ := fmtFrac_spec p (v / 10)
      have step : fmtFrac (p + 1) v false [] = fmtFrac p (v / 10) false [] := by
        simp [fmtFrac, h0]
      rw [step]
      refine ⟨by rw [e1, hdiv], ?_⟩
      rcases e2 with ⟨z, hfr⟩ | ⟨ds, hfr, hds, l1, l2, hv⟩
      · left; exact ⟨by rw [hmod, h0, z], hfr⟩
      · right
        refine ⟨ds, hfr, hds, l1, by omega, ?_⟩
        rw [hmod, h0, ← hv, show p + 1 - ds.length = (p - ds.length) + 1 by omega, Nat.pow_succ,
          Nat.zero_add]
        exact (ten_mul_mul _ _).symm
    · have hacc : ∀ c ∈ [Nat.digitChar (v % 10)], c.isDigit = true :=
        forall_mem_cons.mpr ⟨digitChar_isDigit _ hd, fun _ hc => nomatch hc⟩
      obtain ⟨ds, e, hds, hl, hv⟩ := fmtFrac_print p (v / 10) [Nat.digitChar (v % 10)] hacc
      have step : fmtFrac (p + 1) v false [] = fmtFrac p (v / 10) true [Nat.digitChar (v % 10)] := by
        simp [fmtFrac, h0]
      rw [step, e]
      refine ⟨hdiv.symm, Or.inr ⟨ds, rfl, hds, by simp at hl; omega, by simp at hl; omega, ?_⟩⟩
      simp only [length_singleton] at hl
      rw [hl, Nat.sub_self, Nat.pow_zero, Nat.mul_one, hv, hmod, digitsVal_cons, digitChar_val _ hd]
      simp [digitsVal]
      omega

theorem pow63 : (2 : Nat) ^ 63 = 9223372036854775808 := by decide

theorem isDigit_val_lt {c : Char} (h : c.isDigit = true) : c.toNat - 48 < 10 := by
  simp only [Char.isDigit, Bool.and_eq_true, decide_eq_true_eq] at h
  have h2 : c.val ≤ 57 := h.2
  have h2' : c.toNat ≤ 57 := UInt32.le_iff_toNat_le.mp h2
  omega

theorem fracAcc_small : ∀ (ds : Str) (x k : Nat), (∀ c ∈ ds, c.isDigit = true) →
    x * 10 ^ ds.length + digitsVal ds < 10 ^ 17 →
    fracAcc ds x k false = (x * 10 ^ ds.length + digitsVal ds, k + ds.length)
  | [], x, k, _, _ => by simp [fracAcc, digitsVal]
  | c :: cs, x, k, hd, hb => by
    have hc := isDigit_val_lt (hd c (by simp))
    have e : x * 10 ^ (c :: cs).length + digitsVal (c :: cs) =
        (x * 10 + (c.toNat - 48)) * 10 ^ cs.length + digitsVal cs := by
      rw [digitsVal_cons, length_cons, Nat.pow_succ, Nat.add_mul]
      have : x * (10 ^ cs.length * 10) = x * 10 * 10 ^ cs.length := by ac_rfl
      rw [this, Nat.mul_comm (10 ^ cs.length) (c.toNat - 48)]; omega
    rw [e] at hb ⊢
    have hpos : 1 ≤ 10 ^ cs.length := Nat.pow_pos (by decide)
    have hy : x * 10 + (c.toNat - 48) < 10 ^ 17 := by
      have : x * 10 + (c.toNat - 48) ≤ (x * 10 + (c.toNat - 48)) * 10 ^ cs.length :=
        Nat.le_mul_of_pos_right _ hpos
      omega
    have h17 : (10 : Nat) ^ 17 = 100000000000000000 := by decide
    have hx1 : ¬ x > (2 ^ 63 - 1) / 10 := by rw [pow63]; omega
    have hy1 : ¬ x * 10 + (c.toNat - 48) > 2 ^ 63 := by rw [pow63]; omega
    simp only [fracAcc, Bool.false_eq_true, if_false, hx1, hy1]
    rw [fracAcc_small cs _ (k + 1) (fun d hd' => hd d (by simp [hd'])) hb]
    simp only [length_cons]
    congr 1; omega

theorem splitFrac_other (c : Char) (r : Str) (h : c ≠ '.') : splitFrac (c :: r) = ([], c :: r) := by
  unfold splitFrac
  split
  · rename_i heq; simp only [cons.injEq] at heq; exact absurd heq.1 h
  · rfl

theorem not_num_not_digit {c : Char} (h : isNumChar c = false) : c.isDigit = false ∧ c ≠ '.' := by
  simp only [isNumChar, Bool.or_eq_false_iff, decide_eq_false_iff_not] at h
  exact h

theorem parseGroup_fmt (i : Nat) (fr u rest : Str) (unit p x : Nat)
    (hfr : FracOK p fr x) (hp : p ≤ 9) (hx : x < 10 ^ p)
    (hunit : unitOf u = some unit) (hu1 : u ≠ []) (hu2 : ∀ c ∈ u, isNumChar c = false)
    (hrest : ∀ c, rest.head? = some c → c.isDigit = true)
    (hfrac : fr ≠ [] → unit = 10 ^ p) (hunit1 : 1 ≤ unit)
    (hbound : i * unit + x ≤ 2 ^ 63) :
    parseGroup (Nat.toDigits 10 i ++ (fr ++ (u ++ rest))) = some (i * unit + x, rest) := by
  obtain ⟨c, t, hI, hc⟩ := digits_head i
  have hIall := digits_all i
  obtain ⟨c0, u', hu⟩ : ∃ c0 u', u = c0 :: u' := by
    cases u with
    | nil => exact absurd rfl hu1
    | cons a b => exact ⟨a, b, rfl⟩
  have hc0 := not_num_not_digit (hu2 c0 (by rw [hu]; simp))
  have hspanU : (u ++ rest).takeWhile (fun c => !isNumChar c) = u ∧
      (u ++ rest).dropWhile (fun c => !isNumChar c) = rest := by
    apply span_append
    · intro d hd; simp [hu2 d hd]
    · intro d hd; simp [isNumChar, hrest d hd]
  have hival : Nat.ofDigitChars 10 (Nat.toDigits 10 i) 0 = i := Nat.ofDigitChars_ten_toDigits
  have hi63 : ¬ i > 2 ^ 63 := by
    have : i ≤ i * unit := Nat.le_mul_of_pos_right _ hunit1
    omega
  have hidiv : ¬ i > 2 ^ 63 / unit := by
    have : i ≤ 2 ^ 63 / unit := (Nat.le_div_iff_mul_le hunit1).mpr (by omega)
    omega
  -- the fraction
  have key : ∃ fd, splitFrac (fr ++ (u ++ rest)) = (fd, u ++ rest) ∧ groupValue i unit fd = i * unit + x ∧
      (∀ d, (fr ++ (u ++ rest)).head? = some d → d.isDigit = false) := by
    rcases hfr with ⟨hx0, hfr0⟩ | ⟨ds, hfrd, hds, l1, l2, hv⟩
    · subst hfr0
      refine ⟨[], ?_, ?_, ?_⟩
      · simp only [nil_append, hu, cons_append]; exact splitFrac_other c0 _ hc0.2
      · simp [groupValue, fracAcc, hx0]
      · intro d hd; simp only [nil_append, hu, cons_append, head?_cons, Option.some.injEq] at hd
        subst hd; exact hc0.1
    · subst hfrd
      have hun : unit = 10 ^ p := hfrac (by simp)
      have hspanD : (ds ++ (u ++ rest)).takeWhile Char.isDigit = ds ∧
          (ds ++ (u ++ rest)).dropWhile Char.isDigit = u ++ rest := by
        apply span_append _ _ _ hds
        intro d hd; simp only [hu, cons_append, head?_cons, Option.some.injEq] at hd
        subst hd; exact hc0.1
      have hpos : 1 ≤ 10 ^ (p - ds.length) := Nat.pow_pos (by decide)
      have hle : digitsVal ds ≤ x := by
        rw [← hv]; exact Nat.le_mul_of_pos_right _ hpos
      have h9 : (10 : Nat) ^ p ≤ 10 ^ 9 := Nat.pow_le_pow_right (by decide) hp
      have hsmall : 0 * 10 ^ ds.length + digitsVal ds < 10 ^ 17 := by
        have : (10 : Nat) ^ 9 < 10 ^ 17 := by decide
        omega
      have hacc := fracAcc_small ds 0 0 hds hsmall
      simp only [Nat.zero_mul, Nat.zero_add] at hacc
      refine ⟨ds, ?_, ?_, ?_⟩
      · simp only [cons_append, splitFrac, hspanD.1, hspanD.2]
      · simp only [groupValue, hacc]
        by_cases hz : digitsVal ds > 0
        · rw [if_pos hz, hun]
          have hsplit : (10 : Nat) ^ p = 10 ^ (p - ds.length) * 10 ^ ds.length := by
            rw [← Nat.pow_add]; congr 1; omega
          have hq : digitsVal ds * 10 ^ p / 10 ^ ds.length = x := by
            rw [hsplit, ← Nat.mul_assoc,
              Nat.mul_div_cancel _ (Nat.pow_pos (by decide : 0 < 10)), hv]
          rw [hq]
        · have : digitsVal ds = 0 := by omega
          rw [if_neg hz]
          rw [this] at hv
          simp at hv
          omega
      · intro d hd; simp only [cons_append, head?_cons, Option.some.injEq] at hd
        subst hd; decide
  obtain ⟨fd, hsf, hgv, hhead⟩ := key
  have hspanI : (Nat.toDigits 10 i ++ (fr ++ (u ++ rest))).takeWhile Char.isDigit = Nat.toDigits 10 i ∧
      (Nat.toDigits 10 i ++ (fr ++ (u ++ rest))).dropWhile Char.isDigit = fr ++ (u ++ rest) :=
    span_append _ _ _ hIall hhead
  have hne : Nat.toDigits 10 i ≠ [] := Nat.toDigits_ne_nil
  have hnum : isNumChar c = true := by simp [isNumChar, hc]
  have hshape : Nat.toDigits 10 i ++ (fr ++ (u ++ rest)) = c :: (t ++ (fr ++ (u ++ rest))) := by
    rw [hI]; rfl
  unfold parseGroup
  rw [hshape] at hspanI ⊢
  simp only [hnum, Bool.not_true, Bool.false_eq_true, if_false, hspanI.1, hspanI.2, hival, hi63,
    hsf, hspanU.1, hspanU.2, hne, false_and, hu1, hunit, hidiv, hgv]
  have : ¬ i * unit + x > 2 ^ 63 := by omega
  simp only [this, if_false]

/-- The text `s` stands for `v` ns: it adds `v` to the sum so far, while that stays within `2 ^ 63`. -/
def Adds (s : Str) (v : Nat) : Prop :=
  ∀ d fuel, d + v ≤ 2 ^ 63 → s.length < fuel → parseGroups fuel s d = some (d + v)

def Printed (s : Str) (v : Nat) : Prop :=
  Adds s v ∧ (∀ c, s.head? = some c → c.isDigit = true) ∧ 2 ≤ s.length

theorem parseGroups_nil (fuel d : Nat) (h : 0 < fuel) : parseGroups fuel [] d = some d := by
  cases fuel with
  | zero => omega
  | succ f => simp [parseGroups]

theorem parseGroups_step (fuel : Nat) (s rest : Str) (d v : Nat) (h : 0 < fuel) (hs : s ≠ [])
    (hg : parseGroup s = some (v, rest)) (hb : d + v ≤ 2 ^ 63) :
    parseGroups fuel s d = parseGroups (fuel - 1) rest (d + v) := by
  cases fuel with
  | zero => omega
  | succ f =>
    have : ¬ d + v > 2 ^ 63 := by omega
    simp [parseGroups, hs, hg, this]

theorem Adds.nil : Adds [] 0 := fun d fuel _ hf => parseGroups_nil fuel d (by omega)

/-- `hu` is one conjunction so that callers discharge it by a single `by decide`. -/
theorem Printed.group {i : Nat} {fr u rest : Str} {unit p x v : Nat}
    (hfr : FracOK p fr x) (hp : p ≤ 9) (hx : x < 10 ^ p)
    (hu : unitOf u = some unit ∧ u ≠ [] ∧ (∀ c ∈ u, isNumChar c = false) ∧ 1 ≤ unit)
    (hrest : ∀ c, rest.head? = some c → c.isDigit = true) (hfrac : fr ≠ [] → unit = 10 ^ p)
    (h : Adds rest v) : Printed (Nat.toDigits 10 i ++ (fr ++ (u ++ rest))) (i * unit + x + v) := by
  have hlen := @Nat.length_toDigits_pos 10 i
  have hulen := length_pos_iff.mpr hu.2.1
  refine ⟨?_, ?_, by simp only [length_append]; omega⟩
  · intro d fuel hb hf
    have hg := parseGroup_fmt i fr u rest unit p x hfr hp hx hu.1 hu.2.1 hu.2.2.1 hrest hfrac hu.2.2.2
      (by omega)
    simp only [length_append] at hf
    rw [parseGroups_step fuel _ rest d _ (by omega) (by simp [Nat.toDigits_ne_nil]) hg (by omega),
      h _ _ (by omega) (by omega)]
    congr 1; omega
  · obtain ⟨c, t, e, hc⟩ := digits_head i
    intro d hd
    rw [e] at hd
    cases hd; exact hc

theorem fracOK_nil : FracOK 0 [] 0 := Or.inl ⟨rfl, rfl⟩

theorem Printed.int (i : Nat) (u : Str) (unit : Nat) {rest : Str} {v : Nat}
    (hu : unitOf u = some unit ∧ u ≠ [] ∧ (∀ c ∈ u, isNumChar c = false) ∧ 1 ≤ unit)
    (hrest : ∀ c, rest.head? = some c → c.isDigit = true) (h : Adds rest v) :
    Printed (Nat.toDigits 10 i ++ (u ++ rest)) (i * unit + v) :=
  Printed.group fracOK_nil (by decide) (by decide) hu hrest (fun h => absurd rfl h) h

theorem Printed.frac (i w p : Nat) (u : Str) {rest : Str} {v : Nat} (hp : p ≤ 9)
    (hu : unitOf u = some (10 ^ p) ∧ u ≠ [] ∧ (∀ c ∈ u, isNumChar c = false) ∧ 1 ≤ 10 ^ p)
    (hrest : ∀ c, rest.head? = some c → c.isDigit = true) (h : Adds rest v) :
    Printed (Nat.toDigits 10 i ++ ((fmtFrac p w false []).1 ++ (u ++ rest))) (i * 10 ^ p + w % 10 ^ p + v) :=
  Printed.group (fmtFrac_spec p w).2 hp (Nat.mod_lt _ (Nat.pow_pos (by decide))) hu hrest (fun _ => rfl) h

theorem printed_durFormat (u : Nat) : Printed (durFormat u) u := by
  have hnil : ∀ c, ([] : Str).head? = some c → c.isDigit = true := by intro c h; cases h
  have cast : ∀ {s : Str} {v : Nat}, Printed s v → v = u → Printed s u := fun h e => e ▸ h
  unfold durFormat
  simp only [fmtInt, (fmtFrac_spec _ u).1]
  split
  · split
    · subst u
      exact Printed.int 0 ['s'] 1000000000 (by decide) hnil .nil
    split
    · exact cast (Printed.int u ['n', 's'] 1 (by decide) hnil .nil) (by omega)
    split
    · exact cast (Printed.frac _ u 3 ['µ', 's'] (by decide) (by decide) hnil .nil) (by omega)
    · exact cast (Printed.frac _ u 6 ['m', 's'] (by decide) (by decide) hnil .nil) (by omega)
  · have S := Printed.frac (u / 10 ^ 9 % 60) u 9 ['s'] (by decide) (by decide) hnil .nil
    split
    · have M := Printed.int (u / 10 ^ 9 / 60 % 60) ['m'] 60000000000 (by decide) S.2.1 S.1
      split
      · exact cast (Printed.int _ ['h'] 3600000000000 (by decide) M.2.1 M.1) (by omega)
      · exact cast M (by omega)
    · exact cast S (by omega)

theorem parseGroups_durFormat (u : Nat) (hu : u ≤ 2 ^ 63) :
    parseGroups ((durFormat u).length + 1) (durFormat u) 0 = some u ∧
    (∀ c, (durFormat u).head? = some c → c.isDigit = true) ∧ 2 ≤ (durFormat u).length := by
  obtain ⟨h, hd, hl⟩ := printed_durFormat u
  exact ⟨by simpa using h 0 _ (by omega) (Nat.lt_succ_self _), hd, hl⟩

theorem parseDur_digit_head (c : Char) (t : Str) (hc : c.isDigit = true) :
    parseDur (c :: t) = parseBody false (c :: t) := by
  have h1 : c ≠ '-' := by intro e; subst e; revert hc; decide
  have h2 : c ≠ '+' := by intro e; subst e; revert hc; decide
  unfold parseDur
  split
  · rename_i heq; simp only [cons.injEq] at heq; exact absurd heq.1 h1
  · rename_i heq; simp only [cons.injEq] at heq; exact absurd heq.1 h2
  · rfl

theorem parseBody_durFormat (neg : Bool) (u : Nat) (hu : u ≤ 2 ^ 63) :
    parseBody neg (durFormat u) =
      if neg then some (-(u : Int)) else if u > 2 ^ 63 - 1 then none else some (u : Int) := by
  obtain ⟨hp, _, hl⟩ := parseGroups_durFormat u hu
  have h1 : durFormat u ≠ ['0'] := by intro e; rw [e] at hl; simp at hl
  have h2 : durFormat u ≠ [] := by intro e; rw [e] at hl; simp at hl
  unfold parseBody
  rw [if_neg h1, if_neg h2, hp]

theorem parseDur_durString (d : Int) (h1 : -(2 ^ 63 : Int) ≤ d) (h2 : d < (2 ^ 63 : Int)) :
    parseDur (durString d) = some d := by
  unfold durString
  by_cases hn : d < 0
  · rw [if_pos hn]
    have hu : d.natAbs ≤ 2 ^ 63 := by omega
    show parseBody true (durFormat d.natAbs) = some d
    rw [parseBody_durFormat true _ hu]
    simp only [if_true]
    congr 1; omega
  · rw [if_neg hn]
    have hu : d.natAbs ≤ 2 ^ 63 := by omega
    obtain ⟨_, hh, hl⟩ := parseGroups_durFormat d.natAbs hu
    cases hdf : durFormat d.natAbs with
    | nil => rw [hdf] at hl; simp at hl
    | cons c t =>
      have hc : c.isDigit = true := hh c (by rw [hdf]; rfl)
      rw [parseDur_digit_head c t hc, ← hdf, parseBody_durFormat false _ hu]
      have : ¬ d.natAbs > 2 ^ 63 - 1 := by omega
      simp only [Bool.false_eq_true, if_false, this]
      congr 1; omega

end PV.C31
