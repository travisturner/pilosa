/- C31: the TOML subset reads back what it renders, level by level of the grammar. -/
import PV.C31.Model
import PV.C31.LemmasChars
namespace PV.C31
open List

/-- `encodeTomlString`'s backslash-letter escapes. -/
def shortEsc : List (Char × Char) :=
  [('\x08', 'b'), ('\t', 't'), ('\n', 'n'), ('\x0c', 'f'), ('\r', 'r'), ('"', '"'), ('\\', '\\')]

theorem escChar_cases (c : Char) :
    (∃ p ∈ shortEsc, c = p.1 ∧ escChar c = ['\\', p.2]) ∨
    (c ≠ '\n' ∧ c ≠ '"' ∧ c ≠ '\\' ∧ escChar c = if c.toNat % 65536 < 31 then
      ['\\', 'u', '0', '0', hexDigit (c.toNat % 65536 / 16), hexDigit (c.toNat % 65536 % 16)] else [c]) := by
  by_cases hs : ∃ p ∈ shortEsc, c = p.1
  · obtain ⟨p, hp, rfl⟩ := hs
    have : ∀ p ∈ shortEsc, escChar p.1 = ['\\', p.2] := by decide
    exact .inl ⟨p, hp, rfl, this p hp⟩
  · simp [shortEsc] at hs
    exact .inr ⟨hs.2.2.1, hs.2.2.2.2.2.1, hs.2.2.2.2.2.2, by simp [escChar, hs]⟩

theorem unescape_short : ∀ p ∈ shortEsc, ∀ X : Str,
    unescape ('\\' :: p.2 :: X) = (unescape X).map (fun q => (p.1 :: q.1, q.2)) := by
  intro p hp X
  simp only [shortEsc, mem_cons, not_mem_nil, or_false] at hp
  rcases hp with rfl | rfl | rfl | rfl | rfl | rfl | rfl <;> rfl

theorem unescape_raw (c : Char) (X : Str) (h1 : c ≠ '"') (h2 : c ≠ '\\') (h3 : 31 < c.toNat) :
    unescape (c :: X) = (unescape X).map (fun p => (c :: p.1, p.2)) := by
  rw [unescape]
  · rw [if_neg (by omega)]
  all_goals simp [h1, h2]

theorem hex_roundtrip : ∀ n, n < 31 →
    hexVal (hexDigit (n / 16)) = some (n / 16) ∧ hexVal (hexDigit (n % 16)) = some (n % 16) := by
  decide

theorem unescape_escChar (c : Char) (h : charOK c = true) (X : Str) :
    unescape (escChar c ++ X) = (unescape X).map (fun p => (c :: p.1, p.2)) := by
  rcases escChar_cases c with ⟨p, hp, rfl, e⟩ | ⟨_, c6, c7, e⟩
  · rw [e]; exact unescape_short p hp X
  rw [e]
  unfold charOK at h
  by_cases hn : c.toNat % 65536 < 31
  · rw [if_pos hn] at h ⊢
    -- `charOK`: the rune is below U+10000, so its low 16 bits are the rune
    have hmod : c.toNat % 65536 = c.toNat := Nat.mod_eq_of_lt (by simpa using h)
    rw [hmod] at hn ⊢
    obtain ⟨e1, e2⟩ := hex_roundtrip c.toNat hn
    have hz : hexVal '0' = some 0 := by decide
    simp only [cons_append, nil_append]
    rw [unescape.eq_def]
    simp only [hz, e1, e2]
    have : c.toNat / 16 * 16 + c.toNat % 16 = c.toNat := by omega
    simp [this, Char.ofNat_toNat]
  · rw [if_neg hn] at h ⊢
    have hne : c.toNat ≠ 31 := by simpa using h
    exact unescape_raw c X c6 c7 (by omega)

theorem unescape_escape : ∀ (s rest : Str), (∀ c ∈ s, charOK c = true) →
    unescape (escape s ++ '"' :: rest) = some (s, rest)
  | [], rest, _ => by simp [escape, unescape]
  | c :: cs, rest, h => by
    simp only [escape, append_assoc]
    rw [unescape_escChar c (h c (by simp)), unescape_escape cs rest (fun d hd => h d (by simp [hd]))]
    simp

theorem parseNat_digits (n : Nat) : parseNat (Nat.toDigits 10 n) = some n := by
  have hne : Nat.toDigits 10 n ≠ [] := Nat.toDigits_ne_nil
  have hall : (Nat.toDigits 10 n).all Char.isDigit = true := all_eq_true.mpr (digits_all n)
  simp [parseNat, hne, hall]

theorem parseInt_renderInt (n : Int) (h1 : -(2 ^ 63 : Int) ≤ n) (h2 : n < (2 ^ 63 : Int)) :
    parseInt (renderInt n) = some n := by
  unfold renderInt
  by_cases hn : n < 0
  · rw [if_pos hn]
    simp only [parseInt, parseNat_digits]
    rw [if_pos (by omega)]
    congr 1; omega
  · rw [if_neg hn]
    obtain ⟨c, t, hct, hc⟩ := digits_head n.natAbs
    have hp := parseNat_digits n.natAbs
    rw [hct] at hp ⊢
    have hm : c ≠ '-' := by intro e; subst e; revert hc; decide
    rw [parseInt]
    · simp only [hp]
      rw [if_pos (by omega)]
      congr 1; omega
    · intro r e; exact hm (cons.inj e).1

def strOK (s : Str) : Prop := ∀ c ∈ s, charOK c = true

theorem parseElems_render : ∀ (xs : List Str) (fuel : Nat) (rest : Str), xs ≠ [] →
    (∀ x ∈ xs, strOK x) → xs.length ≤ fuel →
    parseElems fuel (renderStrs xs ++ ']' :: rest) = some (xs, rest)
  | [], _, _, h, _, _ => absurd rfl h
  | [x], fuel, rest, _, hok, hf => by
    cases fuel with
    | zero => simp at hf
    | succ f =>
      simp only [renderStrs, cons_append, append_assoc, nil_append, parseElems]
      rw [unescape_escape x _ (hok x (by simp))]
      rfl
  | x :: y :: r, fuel, rest, _, hok, hf => by
    cases fuel with
    | zero => simp at hf
    | succ f =>
      simp only [renderStrs, cons_append, append_assoc, parseElems]
      rw [unescape_escape x _ (hok x (by simp))]
      simp only
      rw [parseElems_render (y :: r) f rest (by simp) (fun z hz => hok z (by simp [hz]))
        (by simp at hf ⊢; omega)]
      simp

theorem renderStrs_length : ∀ (xs : List Str), xs.length ≤ (renderStrs xs).length
  | [] => by simp
  | [x] => by simp [renderStrs]
  | x :: y :: r => by
    have := renderStrs_length (y :: r)
    simp only [renderStrs, length_cons, length_append] at this ⊢
    omega

def valOK : TVal → Prop
  | .str s => strOK s
  | .int n => -(2 ^ 63 : Int) ≤ n ∧ n < (2 ^ 63 : Int)
  | .bool _ => True
  | .float t => isFloatTok t = true
  | .strs xs => ∀ x ∈ xs, strOK x

theorem floatTok_chars {t : Str} (h : isFloatTok t = true) :
    ∀ c ∈ t, c.isDigit = true ∨ c = '.' ∨ c = '-' := by
  intro c hc
  simp only [isFloatTok, Bool.and_eq_true, all_eq_true] at h
  simpa [or_assoc] using h.2 c hc

theorem renderInt_chars (n : Int) : ∀ c ∈ renderInt n, c.isDigit = true ∨ c = '-' := by
  intro c hc
  unfold renderInt at hc
  split at hc
  · rcases mem_cons.mp hc with rfl | hc
    · exact .inr rfl
    · exact .inl (digits_all _ c hc)
  · exact .inl (digits_all _ c hc)

theorem parseVal_scalar (c : Char) (r : Str) (hc : c.isDigit = true ∨ c = '.' ∨ c = '-') :
    parseVal (c :: r) =
      if isFloatTok (c :: r) then some (.float (c :: r)) else (parseInt (c :: r)).map .int := by
  have hne : c ≠ '"' ∧ c ≠ '[' ∧ c ≠ 't' ∧ c ≠ 'f' := by
    rcases hc with h | rfl | rfl
    · refine ⟨?_, ?_, ?_, ?_⟩ <;> (intro e; subst e; revert h; decide)
    · decide
    · decide
  simp [parseVal, hne]

theorem parseVal_renderVal (v : TVal) (h : valOK v) : parseVal (renderVal v) = some v := by
  cases v with
  | str s =>
    simp only [renderVal, parseVal, if_true]
    rw [unescape_escape s [] h]
  | bool b => cases b <;> decide
  | float t =>
    cases t with
    | nil => simp [valOK, isFloatTok] at h
    | cons c r =>
      have h' : isFloatTok (c :: r) = true := h
      simp only [renderVal]
      rw [parseVal_scalar c r (floatTok_chars h' c (by simp)), if_pos h']
  | int n =>
    have hch := renderInt_chars n
    have nofloat : isFloatTok (renderInt n) = false := by
      have : (renderInt n).any (· = '.') = false := by
        rw [any_eq_false]
        intro x hx
        rcases hch x hx with h | rfl
        · simp only [decide_eq_true_eq]; intro e; subst e; revert h; decide
        · decide
      simp [isFloatTok, this]
    have key := parseInt_renderInt n h.1 h.2
    simp only [renderVal]
    cases hcr : renderInt n with
    | nil => rw [hcr] at key; simp [parseInt, parseNat] at key
    | cons c r =>
      rw [hcr] at key nofloat hch
      rw [parseVal_scalar c r ((hch c (by simp)).elim .inl (fun h => .inr (.inr h))), nofloat, key]
      rfl
  | strs xs =>
    cases xs with
    | nil => simp [renderVal, renderStrs, parseVal]
    | cons x r =>
      have hlen := renderStrs_length (x :: r)
      obtain ⟨t, ht⟩ : ∃ t, renderStrs (x :: r) = '"' :: t := by
        cases r <;> exact ⟨_, rfl⟩
      have hp := parseElems_render (x :: r) ((renderStrs (x :: r) ++ [']']).length + 1) [] (by simp) h
        (by simp only [length_append]; omega)
      have hnot : renderStrs (x :: r) ++ [']'] ≠ [']'] := by
        rw [ht]; simp
      have hq : ('[' : Char) ≠ '"' := by decide
      simp only [renderVal, parseVal, if_true, hnot, if_false, hp, hq]

def keyOK (k : Str) : Prop := k ≠ [] ∧ ∀ c ∈ k, c ≠ ' ' ∧ c ≠ '[' ∧ c ≠ '\n'

def nameOK (n : Str) : Prop := n ≠ [] ∧ ∀ c ∈ n, c ≠ ']' ∧ c ≠ '\n'

def entryOK (e : Entry) : Prop := keyOK e.key ∧ valOK e.val

theorem parseEntry_render (e : Entry) (h : entryOK e) :
    parseEntry (e.key ++ ' ' :: '=' :: ' ' :: renderVal e.val) = some e := by
  obtain ⟨⟨hne, hk⟩, hv⟩ := h
  obtain ⟨t1, t2⟩ := span_append (fun c => decide (c ≠ ' ')) e.key
    (' ' :: '=' :: ' ' :: renderVal e.val) (fun c hc => by simpa using (hk c hc).1) (by simp)
  unfold parseEntry
  simp only [t1, t2, hne, if_false, parseVal_renderVal e.val hv, Option.map_some]

theorem dropSpaces_indent : ∀ (ind : Str) (c : Char) (r : Str), (∀ x ∈ ind, x = ' ') → c ≠ ' ' →
    dropSpaces (ind ++ c :: r) = c :: r
  | [], c, r, _, hc => by
    rw [nil_append, dropSpaces]
    intro r' e; exact hc (cons.inj e).1
  | x :: xs, c, r, h, hc => by
    have hx : x = ' ' := h x (by simp)
    subst hx
    simp only [cons_append, dropSpaces]
    exact dropSpaces_indent xs c r (fun y hy => h y (by simp [hy])) hc

theorem parseLine_entry (ind : Str) (e : Entry) (hind : ∀ x ∈ ind, x = ' ') (h : entryOK e) :
    parseLine (renderEntry ind e) = some (.entry e) := by
  have hp := parseEntry_render e h
  obtain ⟨⟨hne, hk⟩, _⟩ := h
  cases hkey : e.key with
  | nil => exact absurd hkey hne
  | cons c k' =>
    have hc := hk c (by rw [hkey]; simp)
    rw [hkey, cons_append] at hp
    unfold parseLine renderEntry
    rw [hkey, cons_append, dropSpaces_indent ind c _ hind hc.1]
    split
    · rename_i heq; cases heq
    · rename_i r heq; exact absurd (cons.inj heq).1 hc.2.1
    · rw [hp]; rfl

theorem parseLine_blank : parseLine [] = some .blank := by
  simp [parseLine, dropSpaces]

theorem parseLine_header (n : Str) (h : nameOK n) :
    parseLine ('[' :: (n ++ [']'])) = some (.header n) := by
  obtain ⟨hne, hn⟩ := h
  obtain ⟨t1, t2⟩ := span_append (fun c => decide (c ≠ ']')) n [']']
    (fun c hc => by simpa using (hn c hc).1) (by simp)
  have : dropSpaces ('[' :: (n ++ [']'])) = '[' :: (n ++ [']']) := by
    rw [dropSpaces]
    intro r e; exact absurd (cons.inj e).1 (by decide)
  unfold parseLine
  rw [this]
  simp only [t1, t2, hne, ne_eq, not_false_eq_true, and_self, if_true]

theorem parseLines_entries_top (rest : List Str) : ∀ (es : List Entry) (top : List Entry),
    (∀ e ∈ es, entryOK e) →
    parseLines (es.map (renderEntry []) ++ rest) ⟨top, []⟩ = parseLines rest ⟨top ++ es, []⟩
  | [], top, _ => by simp
  | e :: es, top, h => by
    simp only [map_cons, cons_append, parseLines]
    rw [parseLine_entry [] e (by simp) (h e (by simp))]
    simp only [addLine, reverse_nil]
    rw [parseLines_entries_top rest es (top ++ [e]) (fun x hx => h x (by simp [hx]))]
    simp

theorem parseLines_entries_tab (rest : List Str) (top : List Entry) (tabs : List (Str × List Entry))
    (n : Str) : ∀ (es acc : List Entry), (∀ e ∈ es, entryOK e) →
    parseLines (es.map (renderEntry [' ', ' ']) ++ rest) ⟨top, tabs ++ [(n, acc)]⟩ =
      parseLines rest ⟨top, tabs ++ [(n, acc ++ es)]⟩
  | [], acc, _ => by simp
  | e :: es, acc, h => by
    simp only [map_cons, cons_append, parseLines]
    rw [parseLine_entry [' ', ' '] e (by simp) (h e (by simp))]
    simp only [addLine, reverse_append, reverse_cons, reverse_nil, nil_append, singleton_append,
      reverse_reverse]
    rw [parseLines_entries_tab rest top tabs n es (acc ++ [e]) (fun x hx => h x (by simp [hx]))]
    simp

/-- A TOML table; unrelated to the model's `tableOK`. -/
def tableOK' (t : Str × List Entry) : Prop := nameOK t.1 ∧ ∀ e ∈ t.2, entryOK e

theorem parseLines_table (rest : List Str) (top : List Entry) (tabs : List (Str × List Entry))
    (t : Str × List Entry) (h : tableOK' t) :
    parseLines (renderTable t ++ rest) ⟨top, tabs⟩ = parseLines rest ⟨top, tabs ++ [t]⟩ := by
  obtain ⟨hn, he⟩ := h
  simp only [renderTable, cons_append, parseLines, parseLine_blank, addLine]
  rw [parseLine_header t.1 hn]
  simp only
  rw [parseLines_entries_tab _ top tabs t.1 t.2 [] he]
  simp only [nil_append]

def docOK (d : Doc) : Prop := (∀ e ∈ d.top, entryOK e) ∧ ∀ t ∈ d.tables, tableOK' t

theorem parseLines_tables (top : List Entry) : ∀ (ts tabs : List (Str × List Entry)),
    (∀ t ∈ ts, tableOK' t) →
    parseLines (ts.map renderTable).flatten ⟨top, tabs⟩ = some ⟨top, tabs ++ ts⟩
  | [], tabs, _ => by simp [parseLines]
  | t :: ts, tabs, h => by
    simp only [map_cons, flatten_cons]
    rw [parseLines_table _ top tabs t (h t (by simp)),
      parseLines_tables top ts (tabs ++ [t]) (fun x hx => h x (by simp [hx]))]
    simp

theorem parseDoc_renderDoc (d : Doc) (h : docOK d) : parseDoc (renderDoc d) = some d := by
  obtain ⟨h1, h2⟩ := h
  unfold parseDoc renderDoc
  rw [parseLines_entries_top _ d.top [] h1]
  simp only [nil_append]
  rw [parseLines_tables d.top d.tables [] h2]
  simp

/-! No rendered line holds a raw LF, so splitting the joined text gives the lines back. -/

theorem splitLines_joinLines : ∀ (ls : List Str), (∀ l ∈ ls, '\n' ∉ l) →
    splitLines (joinLines ls) = ls
  | [], _ => rfl
  | l :: ls, h => by
    have ih := splitLines_joinLines ls (fun x hx => h x (by simp [hx]))
    have hl := h l (by simp)
    simp only [joinLines]
    clear h
    induction l with
    | nil => simp [splitLines, ih]
    | cons c cs ihc =>
      have hc : c ≠ '\n' := fun e => hl (by simp [e])
      have := ihc (fun hd => hl (by simp [hd]))
      simp only [cons_append, splitLines, hc, if_false, this]

theorem hexDigit_ne_lf : ∀ n, n < 16 → hexDigit n ≠ '\n' := by decide

theorem escChar_noLF (c : Char) : '\n' ∉ escChar c := by
  rcases escChar_cases c with ⟨p, hp, rfl, e⟩ | ⟨hlf, _, _, e⟩
  · rw [e]; revert p; decide
  · rw [e]
    split
    · have h1 := hexDigit_ne_lf (c.toNat % 65536 / 16) (by omega)
      have h2 := hexDigit_ne_lf (c.toNat % 65536 % 16) (by omega)
      simp only [mem_cons, not_mem_nil, or_false, not_or]
      exact ⟨by decide, by decide, by decide, by decide, h1.symm, h2.symm⟩
    · simpa using hlf.symm

theorem escape_noLF : ∀ s : Str, '\n' ∉ escape s
  | [] => by simp [escape]
  | c :: cs => by simp [escape, escChar_noLF c, escape_noLF cs]

theorem renderStrs_noLF : ∀ xs : List Str, '\n' ∉ renderStrs xs
  | [] => by simp [renderStrs]
  | [x] => by simp [renderStrs, escape_noLF]
  | x :: y :: r => by simp [renderStrs, escape_noLF, renderStrs_noLF (y :: r)]

theorem renderVal_noLF (v : TVal) (h : valOK v) : '\n' ∉ renderVal v := by
  cases v with
  | str s => simp [renderVal, escape_noLF]
  | int n =>
    intro hc
    rcases renderInt_chars n _ hc with h | h
    · revert h; decide
    · revert h; decide
  | bool b => cases b <;> decide
  | float t =>
    intro hc
    have := floatTok_chars h _ hc
    revert this; decide
  | strs xs => simp [renderVal, renderStrs_noLF]

theorem renderEntry_noLF (ind : Str) (e : Entry) (hind : ∀ x ∈ ind, x = ' ') (h : entryOK e) :
    '\n' ∉ renderEntry ind e := by
  have h1 : '\n' ∉ ind := fun hc => absurd (hind _ hc) (by decide)
  have h2 : '\n' ∉ e.key := fun hc => (h.1.2 _ hc).2.2 rfl
  simp [renderEntry, h1, h2, renderVal_noLF e.val h.2]

theorem renderDoc_noLF (d : Doc) (h : docOK d) : ∀ l ∈ renderDoc d, '\n' ∉ l := by
  intro l hl
  simp only [renderDoc, mem_append, mem_map, mem_flatten] at hl
  rcases hl with ⟨e, he, rfl⟩ | ⟨ls, ⟨t, ht, rfl⟩, hl⟩
  · exact renderEntry_noLF [] e (by simp) (h.1 e he)
  · simp only [renderTable, mem_cons, mem_map] at hl
    rcases hl with rfl | rfl | ⟨e, he, rfl⟩
    · simp
    · have : '\n' ∉ t.1 := fun hc => ((h.2 t ht).1.2 _ hc).2 rfl
      simp [this]
    · exact renderEntry_noLF [' ', ' '] e (by simp) ((h.2 t ht).2 e he)

theorem parseText_renderText (d : Doc) (h : docOK d) :
    parseDoc (splitLines (joinLines (renderDoc d))) = some d := by
  rw [splitLines_joinLines _ (renderDoc_noLF d h)]
  exact parseDoc_renderDoc d h

end PV.C31
