/-
C31 property theorems.  Core Lean only.  PARTIAL BY NATURE: viper / pflag / go-toml are third-party;
their behaviour enters as the recorded assumptions of Model.lean (viperGet's lookup order, identity of
ToString+Set on canonical scalars, the go-toml writer/lexer rules transcribed in Part C) and is
validated differentially on every run by harness/cmd/c31.

Full-strength statements (the property):
  (P)  ∀ s, resolve s = some (Spec.expected s)                     -- every option, every subset of sources
  (R)  ∀ d, parseDoc (renderDoc d) = some d                        -- every configuration
The current code does not meet them on the inputs excluded below; each exclusion has a witness theorem
and a tag in known_findings.jsonl, and is replayed on the real code by the harness:
  (P)  a string-slice value taken from env/file/default with an element containing `,` (or being the
       single empty string) is re-split by `strings.Join` + pflag's CSV parsing   (`strslice-resplit`);
  (R)  strings containing U+001F or a rune above U+FFFF whose low 16 bits are < 0x1F (go-toml's escape
       test `uint16(rr) < 0x001F`)                                                (`toml-string-escape`);
       uint64 options above 2^63-1: rendered in full, refused by the TOML reader  (`uint-above-int64`);
       float64 options are rendered with float32 precision (`FormatFloat(.., 32)`): the float formatter
       is a parameter of the model (DESIGN section 9)                             (`float-rendered-float32`).
-/
import PV.C31.Model
import PV.C31.Spec
import PV.C31.Gen
import PV.C31.LemmasPrec
import PV.C31.LemmasToml
import PV.C31.LemmasDur
namespace PV.C31
open List

/-! ### the regenerated option table (the quantifier is the table) -/

/-- Every leaf field of server.Config carries toml tags, sits at most one table deep, has exactly one
flag, that flag is named like the toml path and has the same kind; every flag writes to a Config
field and its environment variable is PILOSA_ + upper(flag with '-' and '.' replaced by '_'); no two
flags share a name or an environment variable; no two fields share a toml path. -/
theorem C31_table : tableOK Gen.fields Gen.flags = true := by decide +kernel

/-- The statements of setAllConfig the model relies on are present in the source. -/
theorem C31_rule :
    Gen.envPrefix = "PILOSA" ∧ Gen.replacer = [("-", "_"), (".", "_")] ∧ Gen.bindPFlags = true ∧
    Gen.automaticEnv = true ∧ Gen.keyValidation = true ∧ Gen.sliceSpecialCase = true ∧
    Gen.changedShortCircuit = true := by decide

example : Gen.fields.length ≥ 40 ∧ Gen.flags.length = Gen.fields.length := by decide

/-! ### precedence -/

/-- For every option and every subset of {flag, env, file} supplying values, setAllConfig leaves the
highest-priority supplied value in the flag variable - provided the value that has to travel through
`Join` + `Set` (i.e. when no flag was given) is a scalar or a simple string list. -/
theorem C31_precedence_partial (s : Sources)
    (h : s.flag.isSome = true ∨ (viperGet s).simple = true) :
    resolve s = some (Spec.expected s) := by
  obtain ⟨fl, en, fi, d⟩ := s
  cases fl with
  | some v => simp [resolve, Spec.expected]
  | none =>
    have hs : (viperGet ⟨none, en, fi, d⟩).simple = true := by
      rcases h with h | h
      · simp at h
      · exact h
    have hv : viperGet ⟨none, en, fi, d⟩ = Spec.expected ⟨none, en, fi, d⟩ := by
      cases en <;> cases fi <;> rfl
    simp only [resolve]
    rw [← hv]
    generalize viperGet ⟨none, en, fi, d⟩ = v at hs
    cases v with
    | scalar x => rfl
    | list xs =>
      simp only [Val.simple] at hs
      simp [throughSet, readAsCSV_join xs hs]

/-- All eight subsets of sources are instances (non-vacuity): -/
example : ∀ (a b c : Option Val) (d : Val), (a.isSome ∨ (viperGet ⟨a, b, c, d⟩).simple) →
    resolve ⟨a, b, c, d⟩ = some (Spec.expected ⟨a, b, c, d⟩) :=
  fun a b c d h => C31_precedence_partial ⟨a, b, c, d⟩ h

example : (viperGet ⟨none, none, some (.list [['a'], [], ['b', ' ']]), .list []⟩).simple = true := by decide

/-- Witness: a file value `["a,b"]` (one host) arrives as two hosts; `[""]` arrives as `[]`. -/
theorem C31_strslice_resplit_witness :
    resolve ⟨none, none, some (.list [['a', ',', 'b']]), .list []⟩ = some (.list [['a'], ['b']]) ∧
    Spec.expected ⟨none, none, some (.list [['a', ',', 'b']]), .list []⟩ = .list [['a', ',', 'b']] ∧
    resolve ⟨none, none, some (.list [[]]), .list []⟩ = some (.list []) := by decide

/-! ### render / parse -/

/-- Rendering a document to text (lines joined by LF), splitting the text at LF and parsing the lines
gives the document back, for every document whose keys are bare keys (no blank, `[`, LF), whose table
names contain no `]` / LF, whose strings consist of `charOK` characters, whose integers fit int64 and
whose floats are decimal tokens (`docOK`). -/
theorem C31_render_parse_partial (d : Doc) (h : docOK d) :
    parseDoc (splitLines (joinLines (renderDoc d))) = Spec.readBack d :=
  parseText_renderText d h

/-- `docOK` is satisfiable by a document with every kind of value, a table, quotes, backslashes,
newlines, control characters, Unicode, negative and extreme integers, an empty list and a list with a
comma element. -/
example : docOK ⟨[⟨['d', '-', 'k'], .str ['a', '"', '\\', '\n', '\x01', 'é']⟩, ⟨['n'], .int (-9223372036854775808)⟩],
    [(['t', 'l', 's'], [⟨['b'], .bool true⟩, ⟨['f'], .float ['0', '.', '5']⟩,
      ⟨['l'], .strs [['a', ','], []]⟩, ⟨['m'], .int 9223372036854775807⟩, ⟨['e'], .strs []⟩])]⟩ := by
  refine ⟨?_, ?_⟩
  · intro e he
    simp only [mem_cons, not_mem_nil, or_false] at he
    rcases he with rfl | rfl
    · exact ⟨⟨by decide, by decide⟩, by intro c hc; revert c; decide⟩
    · exact ⟨⟨by decide, by decide⟩, by simp only [valOK]; omega⟩
  · intro t ht
    simp only [mem_singleton] at ht
    subst ht
    refine ⟨⟨by decide, by decide⟩, ?_⟩
    intro e he
    simp only [mem_cons, not_mem_nil, or_false] at he
    rcases he with rfl | rfl | rfl | rfl | rfl
    · exact ⟨⟨by decide, by decide⟩, trivial⟩
    · exact ⟨⟨by decide, by decide⟩, by simp only [valOK]; decide⟩
    · exact ⟨⟨by decide, by decide⟩, by intro x hx c hc; revert c; revert x; decide⟩
    · exact ⟨⟨by decide, by decide⟩, by simp only [valOK]; omega⟩
    · exact ⟨⟨by decide, by decide⟩, by intro x hx; cases hx⟩

/-! ### durations (full): `time.ParseDuration (time.Duration(d).String()) = d` for every int64 d

`durString` transcribes `Duration.format` / `fmtFrac` / `fmtInt` digit for digit, `parseDur` transcribes
`ParseDuration` (`leadingInt`, `leadingFraction` with its overflow rule, `unitMap`, the overflow checks);
the fraction product, float64 in Go, is computed in naturals (exact for every text `String` prints).
`toml.Duration.String/MarshalTOML` must be this function: the tie compares the rendered text. -/

theorem C31_duration (d : Int) (h1 : -(2 ^ 63 : Int) ≤ d) (h2 : d < (2 ^ 63 : Int)) :
    parseDur (durString d) = some d :=
  parseDur_durString d h1 h2

example : durString 600000000213 = "10m0.000000213s".toList ∧ durString 2000500000 = "2.0005s".toList ∧
    durString (-9223372036854775808) = "-2562047h47m16.854775808s".toList ∧ durString 1500 = "1.5µs".toList ∧
    durString 0 = "0s".toList := by decide

/-- Every string of quotes, backslashes, control characters (except U+001F), DEL, Latin-1, BMP and
astral characters with low 16 bits >= 0x1F is covered: -/
example : (['"', '\\', '\n', '\r', '\t', '\x00', '\x1e', '\x7f', 'é', '☃', Char.ofNat 0x1F600]).all charOK = true := by
  decide

/-- Witness: U+001F is written raw and refused by the lexer; U+1000A is written as `\u000A`. -/
theorem C31_toml_string_escape_witness :
    parseVal (renderVal (.str ['a', '\x1f'])) = none ∧
    parseVal (renderVal (.str [Char.ofNat 0x1000A])) = some (.str ['\n']) := by decide

/-- Witness: a uint64 option above 2^63-1 is rendered in full and refused on reading. -/
theorem C31_uint_above_int64_witness :
    renderVal (.int 9223372036854775808) = "9223372036854775808".toList ∧
    parseVal (renderVal (.int 9223372036854775808)) = none := by decide

/-- Witness (float formatter as a parameter): whenever the formatter shortens the token of a value -
as `strconv.FormatFloat(v, 'f', -1, 32)` does for 0.123456789012 -> 0.12345679, observed on every run -
the document read back differs from the configuration that was rendered. -/
theorem C31_float_rendered_float32_witness (fmt : Str → Str)
    (hobs : fmt "0.123456789012".toList = "0.12345679".toList) :
    parseVal (renderVal (.float (fmt "0.123456789012".toList))) ≠ some (.float "0.123456789012".toList) := by
  rw [hobs]; decide

end PV.C31
