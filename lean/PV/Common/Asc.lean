/-
Strictly ascending lists of naturals read as finite sets.  Everything rests on `Asc.ext` (two ascending
lists with the same members are equal): an operation is known once its members (`mem_*`) and its order
(`asc_*`) are, and every equation between results is then an equation between membership predicates.
`ins`, `merge` are the generic insertion and the generic linear merge; a model's own copy is identified
with them by one equation and inherits the rest.
-/
namespace PV.Common
open List

/-- Lists ordered by an asymmetric relation are determined by their members. -/
theorem pairwise_ext {α : Type} {R : α → α → Prop} (asymm : ∀ a b, R a b → ¬ R b a) {l₁ l₂ : List α}
    (h₁ : l₁.Pairwise R) (h₂ : l₂.Pairwise R) (h : ∀ x, x ∈ l₁ ↔ x ∈ l₂) : l₁ = l₂ :=
  have nd {l : List α} (hl : l.Pairwise R) : l.Nodup := hl.imp fun hab e => by subst e; exact asymm _ _ hab hab
  Perm.eq_of_pairwise (fun _ _ _ _ hab hba => absurd hba (asymm _ _ hab)) h₁ h₂
    ((perm_ext_iff_of_nodup (nd h₁) (nd h₂)).mpr h)

/-- Along a list ordered by `R`, a predicate that can only switch from true to false splits the list like
`filter`. -/
theorem span_eq_filter {α : Type} {R : α → α → Prop} {l : List α} (P : α → Bool) (hs : l.Pairwise R)
    (hP : ∀ a ∈ l, ∀ b ∈ l, R a b → P b = true → P a = true) :
    l.takeWhile P = l.filter P ∧ l.dropWhile P = l.filter (fun x => !P x) := by
  induction l with
  | nil => exact ⟨rfl, rfl⟩
  | cons a t ih =>
    have hp := pairwise_cons.mp hs
    have ih' := ih hp.2 (fun x hx y hy => hP x (mem_cons_of_mem _ hx) y (mem_cons_of_mem _ hy))
    by_cases ha : P a = true
    · simp [ha, ih']
    · have hall : ∀ b ∈ t, P b = false := fun b hb =>
        Bool.eq_false_iff.mpr fun hb' => ha (hP a mem_cons_self b (mem_cons_of_mem _ hb) (hp.1 b hb) hb')
      have h1 : t.filter P = [] := filter_eq_nil_iff.mpr fun b hb => by simp [hall b hb]
      have h2 : t.filter (fun x => !P x) = t := filter_eq_self.mpr fun b hb => by simp [hall b hb]
      simp [ha, h1, h2]

abbrev Asc (l : List Nat) : Prop := l.Pairwise (· < ·)

namespace Asc

theorem ext {l₁ l₂ : List Nat} (h₁ : Asc l₁) (h₂ : Asc l₂) (h : ∀ x, x ∈ l₁ ↔ x ∈ l₂) : l₁ = l₂ :=
  pairwise_ext (fun _ _ => Nat.lt_asymm) h₁ h₂ h

theorem cons {a : Nat} {l : List Nat} : Asc (a :: l) ↔ (∀ x ∈ l, a < x) ∧ Asc l := pairwise_cons

theorem nodup {l : List Nat} (h : Asc l) : l.Nodup := h.imp Nat.ne_of_lt

theorem head_not_mem {a : Nat} {l : List Nat} (h : Asc (a :: l)) : a ∉ l :=
  fun hm => Nat.lt_irrefl a ((cons.mp h).1 a hm)

/-- Ascending values from `[lo, n)` number at most `n - lo`. -/
theorem length_le {l : List Nat} {lo n : Nat} (h : Asc l) (hb : ∀ x ∈ l, lo ≤ x ∧ x < n) (hlo : lo ≤ n) :
    l.length + lo ≤ n := by
  induction l generalizing lo with
  | nil => simpa
  | cons a t ih =>
    rw [cons] at h
    have ha := hb a mem_cons_self
    have := ih (lo := a + 1) h.2 (fun x hx => ⟨h.1 x hx, (hb x (mem_cons_of_mem _ hx)).2⟩) (by omega)
    simp only [length_cons]; omega

/-! ### insertion -/

def ins (x : Nat) : List Nat → List Nat
  | [] => [x]
  | y :: ys => if x < y then x :: y :: ys else if x = y then y :: ys else y :: ins x ys

theorem mem_ins {x y : Nat} {l : List Nat} : y ∈ ins x l ↔ y = x ∨ y ∈ l := by
  induction l with
  | nil => simp [ins]
  | cons a t ih =>
    unfold ins
    split
    · exact mem_cons
    · split
      · subst_vars; simp
      · rw [mem_cons, ih, mem_cons]; exact or_left_comm

theorem asc_ins {x : Nat} {l : List Nat} (h : Asc l) : Asc (ins x l) := by
  induction l with
  | nil => simp [ins]
  | cons a t ih =>
    have ha := cons.mp h
    unfold ins
    split
    · exact cons.mpr ⟨fun y hy => by rcases mem_cons.mp hy with rfl | hy; assumption; have := ha.1 y hy; omega, h⟩
    · split
      · exact h
      · refine cons.mpr ⟨fun y hy => ?_, ih ha.2⟩
        rcases mem_ins.mp hy with rfl | hy
        · omega
        · exact ha.1 y hy

theorem ins_of_mem {x : Nat} {l : List Nat} (h : Asc l) (hx : x ∈ l) : ins x l = l :=
  ext (asc_ins h) h fun v => by rw [mem_ins]; exact ⟨fun o => o.elim (· ▸ hx) id, Or.inr⟩

theorem ins_cons_of_lt {x a : Nat} {l : List Nat} (h : a < x) : ins x (a :: l) = a :: ins x l := by
  rw [ins, if_neg (by omega), if_neg (by omega)]

theorem length_ins {x : Nat} {l : List Nat} (hx : x ∉ l) : (ins x l).length = l.length + 1 := by
  induction l with
  | nil => rfl
  | cons a t ih =>
    have hne : ¬ x = a := fun e => hx (e ▸ mem_cons_self)
    unfold ins
    split
    · rfl
    · rw [length_cons, ih (fun hm => hx (mem_cons_of_mem _ hm)), length_cons]

/-- A list of `n` ascending values below `n` holds every value below `n`. -/
theorem mem_of_full {l : List Nat} {n x : Nat} (h : Asc l) (hb : ∀ y ∈ l, y < n) (hl : l.length = n)
    (hx : x < n) : x ∈ l :=
  Decidable.by_contra fun hm => by
    have := length_le (lo := 0) (n := n) (asc_ins (x := x) h)
      (fun y hy => ⟨Nat.zero_le _, (mem_ins.mp hy).elim (· ▸ hx) (hb y)⟩) (Nat.zero_le _)
    rw [length_ins hm] at this
    omega

/-! ### removal: a filter -/

theorem mem_filter_ne {x y : Nat} {l : List Nat} : y ∈ l.filter (· != x) ↔ y ∈ l ∧ y ≠ x := by simp

theorem filter_ne_of_not_mem {x : Nat} {l : List Nat} (hx : x ∉ l) : l.filter (· != x) = l :=
  filter_eq_self.mpr fun _ hy => bne_iff_ne.mpr fun e => hx (e ▸ hy)

theorem length_filter_ne {l : List Nat} {x : Nat} (hl : Asc l) (hx : x ∈ l) :
    (l.filter (· != x)).length + 1 = l.length := by
  induction l with
  | nil => cases hx
  | cons a r ih =>
    have ha := cons.mp hl
    by_cases e : a = x
    · subst e
      rw [filter_cons_of_neg (by simp), filter_ne_of_not_mem (head_not_mem hl), length_cons]
    · rw [filter_cons_of_pos (by simpa using e), length_cons,
        ih ha.2 ((mem_cons.mp hx).resolve_left (Ne.symm e)), length_cons]

/-! ### folds of insertions -/

def insAll (s vs : List Nat) : List Nat := vs.foldl (fun acc v => ins v acc) s

theorem mem_insAll {s vs : List Nat} {v : Nat} : v ∈ insAll s vs ↔ v ∈ s ∨ v ∈ vs := by
  induction vs generalizing s with
  | nil => simp [insAll]
  | cons x t ih => exact ih.trans (by rw [mem_ins, mem_cons, or_comm (a := v = x), or_assoc])

theorem asc_insAll {s vs : List Nat} (h : Asc s) : Asc (insAll s vs) := by
  induction vs generalizing s with
  | nil => exact h
  | cons x t ih => exact ih (asc_ins h)

theorem mem_foldr_ins {l : List Nat} {v : Nat} : v ∈ l.foldr ins [] ↔ v ∈ l := by
  induction l with
  | nil => exact Iff.rfl
  | cons x t ih => rw [foldr_cons, mem_ins, ih, mem_cons]

theorem asc_foldr_ins (l : List Nat) : Asc (l.foldr ins []) := by
  induction l with
  | nil => exact Pairwise.nil
  | cons x t ih => exact asc_ins ih

/-! ### the linear merge: `v` is kept iff `f (v ∈ a) (v ∈ b)` -/

def keep (c : Bool) (u : Nat) (r : List Nat) : List Nat := if c then u :: r else r

def merge (f : Bool → Bool → Bool) : List Nat → List Nat → List Nat
  | [], b => if f false true then b else []
  | a, [] => if f true false then a else []
  | x :: xs, y :: ys =>
    if x < y then keep (f true false) x (merge f xs (y :: ys))
    else if y < x then keep (f false true) y (merge f (x :: xs) ys)
    else keep (f true true) x (merge f xs ys)
termination_by a b => a.length + b.length

/-- One step of a merge decides its head `u`, which lies in the first list iff `c`, in the second iff `d`,
and in neither tail. -/
theorem mem_merge_step {f : Bool → Bool → Bool} (hf : f false false = false) {c d : Bool} {u : Nat}
    {a b r : List Nat} (hr : ∀ v, v ∈ r ↔ f (decide (v ∈ a)) (decide (v ∈ b)) = true) (hua : u ∉ a) (hub : u ∉ b)
    (v : Nat) : v ∈ keep (f c d) u r ↔
      f (decide (v ∈ if c then u :: a else a)) (decide (v ∈ if d then u :: b else b)) = true := by
  unfold keep
  by_cases hv : v = u
  · subst hv
    have hur : v ∉ r := by rw [hr v, decide_eq_false hua, decide_eq_false hub, hf]; exact Bool.false_ne_true
    have e1 : decide (v ∈ if c then v :: a else a) = c := by cases c <;> simp [hua]
    have e2 : decide (v ∈ if d then v :: b else b) = d := by cases d <;> simp [hub]
    rw [e1, e2]
    by_cases hcd : f c d = true
    · rw [if_pos hcd]; exact ⟨fun _ => hcd, fun _ => mem_cons_self⟩
    · rw [if_neg hcd]; exact ⟨fun h => absurd h hur, fun h => absurd h hcd⟩
  · have e1 : decide (v ∈ if c then u :: a else a) = decide (v ∈ a) := by cases c <;> simp [hv]
    have e2 : decide (v ∈ if d then u :: b else b) = decide (v ∈ b) := by cases d <;> simp [hv]
    rw [e1, e2, ← hr v]
    by_cases hcd : f c d = true
    · rw [if_pos hcd, mem_cons]; exact ⟨fun h => h.resolve_left hv, Or.inr⟩
    · rw [if_neg hcd]

theorem not_mem_of_lt_head {u y : Nat} {ys : List Nat} (h : Asc (y :: ys)) (hu : u < y) : u ∉ y :: ys :=
  fun hm => (mem_cons.mp hm).elim (fun e => by omega) fun hm => by have := (cons.mp h).1 u hm; omega

theorem mem_merge {f : Bool → Bool → Bool} (hf : f false false = false) {a b : List Nat} (ha : Asc a)
    (hb : Asc b) : ∀ v, v ∈ merge f a b ↔ f (decide (v ∈ a)) (decide (v ∈ b)) = true := by
  fun_induction merge f a b with
  | case1 b h => intro v; by_cases hv : v ∈ b <;> simp [h, hf, hv]
  | case2 b h => intro v; by_cases hv : v ∈ b <;> simp [h, hf, hv]
  | case3 a _ h => intro v; by_cases hv : v ∈ a <;> simp [h, hf, hv]
  | case4 a _ h => intro v; by_cases hv : v ∈ a <;> simp [h, hf, hv]
  | case5 x xs y ys hlt ih =>
    exact mem_merge_step hf (c := true) (d := false) (ih (cons.mp ha).2 hb) (head_not_mem ha)
      (not_mem_of_lt_head hb hlt)
  | case6 x xs y ys _ hlt ih =>
    exact mem_merge_step hf (c := false) (d := true) (ih ha (cons.mp hb).2) (not_mem_of_lt_head ha hlt)
      (head_not_mem hb)
  | case7 x xs y ys h1 h2 ih =>
    obtain rfl : x = y := by omega
    exact mem_merge_step hf (c := true) (d := true) (ih (cons.mp ha).2 (cons.mp hb).2) (head_not_mem ha)
      (head_not_mem hb)

theorem mem_keep {c : Bool} {u v : Nat} {r : List Nat} (h : v ∈ keep c u r) : v = u ∨ v ∈ r := by
  unfold keep at h; split at h
  · exact mem_cons.mp h
  · exact Or.inr h

theorem asc_keep {c : Bool} {u : Nat} {r : List Nat} (hr : Asc r) (hu : ∀ v ∈ r, u < v) : Asc (keep c u r) := by
  unfold keep; split
  · exact cons.mpr ⟨hu, hr⟩
  · exact hr

theorem merge_subset (f : Bool → Bool → Bool) (a b : List Nat) : ∀ v ∈ merge f a b, v ∈ a ∨ v ∈ b := by
  fun_induction merge f a b with
  | case1 b h => exact fun _ => Or.inr
  | case2 b h => exact fun _ h => nomatch h
  | case3 a _ h => exact fun _ => Or.inl
  | case4 a _ h => exact fun _ h => nomatch h
  | case5 x xs y ys _ ih =>
    exact fun v hv => (mem_keep hv).elim (fun e => Or.inl (e ▸ mem_cons_self)) fun hv =>
      (ih v hv).imp_left (mem_cons_of_mem _)
  | case6 x xs y ys _ _ ih =>
    exact fun v hv => (mem_keep hv).elim (fun e => Or.inr (e ▸ mem_cons_self)) fun hv =>
      (ih v hv).imp_right (mem_cons_of_mem _)
  | case7 x xs y ys _ _ ih =>
    exact fun v hv => (mem_keep hv).elim (fun e => Or.inl (e ▸ mem_cons_self)) fun hv =>
      (ih v hv).imp (mem_cons_of_mem _) (mem_cons_of_mem _)

theorem asc_merge (f : Bool → Bool → Bool) {a b : List Nat} (ha : Asc a) (hb : Asc b) : Asc (merge f a b) := by
  -- what is merged from lists above `u` lies above `u`
  have above {u : Nat} {a b : List Nat} (hua : ∀ v ∈ a, u < v) (hub : ∀ v ∈ b, u < v) :
      ∀ v ∈ merge f a b, u < v := fun v hv => (merge_subset f a b v hv).elim (hua v) (hub v)
  fun_induction merge f a b with
  | case1 b h => exact hb
  | case2 b h => exact Pairwise.nil
  | case3 a _ h => exact ha
  | case4 a _ h => exact Pairwise.nil
  | case5 x xs y ys hlt ih =>
    have hx := cons.mp ha
    exact asc_keep (ih hx.2 hb) (above hx.1 fun v hv =>
      (mem_cons.mp hv).elim (· ▸ hlt) fun hv => Nat.lt_trans hlt ((cons.mp hb).1 v hv))
  | case6 x xs y ys _ hlt ih =>
    have hy := cons.mp hb
    exact asc_keep (ih ha hy.2) (above (fun v hv =>
      (mem_cons.mp hv).elim (· ▸ hlt) fun hv => Nat.lt_trans hlt ((cons.mp ha).1 v hv)) hy.1)
  | case7 x xs y ys h1 h2 ih =>
    obtain rfl : x = y := by omega
    exact asc_keep (ih (cons.mp ha).2 (cons.mp hb).2) (above (cons.mp ha).1 (cons.mp hb).1)

end Asc
end PV.Common
