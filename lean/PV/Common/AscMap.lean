/-
Association lists with strictly ascending `Nat` keys read as finite maps: `put` is the sorted
insert-or-replace every model writes out for itself, the read is core `List.lookup`.  `lookup_put`
needs no order; order is what makes a list determined by its reads (`ext`).
-/
import PV.Common.Asc
namespace PV.Common
open List

abbrev KeysAsc {β : Type} (l : List (Nat × β)) : Prop := l.Pairwise (fun a b => a.1 < b.1)

namespace AscMap
variable {β : Type}

def put (k : Nat) (v : β) : List (Nat × β) → List (Nat × β)
  | [] => [(k, v)]
  | e :: r => if k < e.1 then (k, v) :: e :: r else if k = e.1 then (k, v) :: r else e :: put k v r

theorem lookup_cons (k : Nat) (e : Nat × β) (r : List (Nat × β)) :
    lookup k (e :: r) = if k = e.1 then some e.2 else lookup k r := by
  obtain ⟨a, b⟩ := e
  rw [List.lookup_cons]
  by_cases h : k = a
  · rw [if_pos h, beq_iff_eq.mpr h]
  · rw [if_neg h, beq_eq_false_iff_ne.mpr h]

theorem lookup_put (l : List (Nat × β)) (k k' : Nat) (v : β) :
    lookup k' (put k v l) = if k' = k then some v else lookup k' l := by
  induction l with
  | nil => exact lookup_cons ..
  | cons e r ih =>
    unfold put
    split
    · exact lookup_cons ..
    · split
      · next h => rw [lookup_cons, lookup_cons, ← h]; split <;> rfl
      · next hne =>
        rw [lookup_cons, lookup_cons, ih]
        by_cases e' : k' = k
        · rw [if_pos e', if_neg (fun h => hne (e' ▸ h)), if_pos e']
        · rw [if_neg e', if_neg e']

theorem mem_put {l : List (Nat × β)} {k : Nat} {v : β} {e : Nat × β} (h : e ∈ put k v l) :
    e = (k, v) ∨ e ∈ l := by
  induction l with
  | nil => exact Or.inl (mem_singleton.mp h)
  | cons x r ih =>
    unfold put at h
    split at h
    · exact mem_cons.mp h
    · split at h
      · exact (mem_cons.mp h).imp_right (mem_cons_of_mem _)
      · exact (mem_cons.mp h).elim (fun e => Or.inr (e ▸ mem_cons_self)) fun h => (ih h).imp_right (mem_cons_of_mem _)

theorem keysAsc_put {l : List (Nat × β)} (k : Nat) (v : β) (h : KeysAsc l) : KeysAsc (put k v l) := by
  induction l with
  | nil => exact pairwise_singleton _ _
  | cons x r ih =>
    have hx := pairwise_cons.mp h
    unfold put
    split
    · next hlt =>
      exact pairwise_cons.mpr ⟨fun y hy => (mem_cons.mp hy).elim (· ▸ hlt) fun hy => Nat.lt_trans hlt (hx.1 y hy), h⟩
    · split
      · next h2 => exact pairwise_cons.mpr ⟨fun y hy => h2 ▸ hx.1 y hy, hx.2⟩
      · refine pairwise_cons.mpr ⟨fun y hy => (mem_put hy).elim (fun e => e ▸ ?_) (hx.1 y), ih hx.2⟩
        show x.1 < k; omega

theorem lookup_filter_ne (l : List (Nat × β)) (k k' : Nat) :
    lookup k' (l.filter (fun e => e.1 != k)) = if k' = k then none else lookup k' l := by
  induction l with
  | nil => simp
  | cons e r ih =>
    rw [filter_cons, lookup_cons]
    by_cases hak : e.1 = k
    · rw [if_neg (by simpa using hak), ih]; subst hak; split <;> rfl
    · rw [if_pos (by simpa using hak), lookup_cons, ih]
      by_cases e' : k' = e.1
      · rw [if_pos e', if_pos e', if_neg (fun h => hak (e' ▸ h))]
      · rw [if_neg e', if_neg e']

theorem lookup_eq_none_of_lt {l : List (Nat × β)} {k : Nat} (h : ∀ e ∈ l, k < e.1) : lookup k l = none := by
  induction l with
  | nil => rfl
  | cons e r ih =>
    rw [lookup_cons, if_neg (Nat.ne_of_lt (h e mem_cons_self))]
    exact ih fun e he => h e (mem_cons_of_mem _ he)

theorem mem_of_lookup {l : List (Nat × β)} {k : Nat} {v : β} (h : lookup k l = some v) : (k, v) ∈ l := by
  induction l with
  | nil => cases h
  | cons e r ih =>
    rw [lookup_cons] at h
    split at h
    · next hk => cases h; exact hk ▸ mem_cons_self
    · exact mem_cons_of_mem _ (ih h)

theorem lookup_of_mem {l : List (Nat × β)} {k : Nat} {v : β} (h : KeysAsc l) (hm : (k, v) ∈ l) :
    lookup k l = some v := by
  induction l with
  | nil => cases hm
  | cons e r ih =>
    have he := pairwise_cons.mp h
    rw [lookup_cons]
    rcases mem_cons.mp hm with rfl | hm
    · rw [if_pos rfl]
    · rw [if_neg (Nat.ne_of_gt (he.1 _ hm)), ih he.2 hm]

/-- A key-ascending list is determined by its reads. -/
theorem ext {l₁ l₂ : List (Nat × β)} (h₁ : KeysAsc l₁) (h₂ : KeysAsc l₂)
    (h : ∀ k, lookup k l₁ = lookup k l₂) : l₁ = l₂ :=
  pairwise_ext (fun _ _ => Nat.lt_asymm) h₁ h₂ fun e =>
    ⟨fun he => mem_of_lookup (h e.1 ▸ lookup_of_mem h₁ he), fun he => mem_of_lookup (h e.1 ▸ lookup_of_mem h₂ he)⟩

/-- Writing back what is read changes nothing. -/
theorem put_of_lookup {l : List (Nat × β)} {k : Nat} {v : β} (h : KeysAsc l) (hl : lookup k l = some v) :
    put k v l = l :=
  ext (keysAsc_put k v h) h fun k' => by
    rw [lookup_put]; split
    · next e => rw [e, hl]
    · rfl

end AscMap
end PV.Common
